import CaresLemmas.ChanSockInv
/-!
# `ares_getsock` / `ares_fds` (C10): the descriptor set the driver renders after every op

`Driver/SimMain.lean`'s `finishOp` renders `fds=[…]` from the channel state exactly as `ares_getsock` computes its
result: walk the servers in list order and their connections in list order, skip a connection unless the channel has
active queries or the connection is TCP, at most 16 entries; read interest always, write interest iff the
connection's WRITE flag (`Conn.notW`) is set.  Restated here as a pure function.
-/
namespace Cares.Chan

/-- the connections `ares_getsock` looks at, in its order -/
def getsockConns (s : St) : List Conn := (s.sortedServers.map (·.conns)).flatten.filterMap s.conn?

/-- `(fd, read interest, write interest)` for every connection that matters, before truncation -/
def getsockAll (s : St) : List (Nat × Bool × Bool) :=
  ((getsockConns s).filter fun c => decide (s.all.length > 0) || c.tcp).map fun c => (c.fd, true, c.notW)

/-- the result of `ares_getsock(channel, socks, 16)` -/
def getsock (s : St) : List (Nat × Bool × Bool) := (getsockAll s).take 16

theorem mem_getsockConns {s : St} {c : Conn} :
    c ∈ getsockConns s ↔ ∃ fd ∈ (s.sortedServers.map (·.conns)).flatten, s.conn? fd = some c := by
  simp only [getsockConns, List.mem_filterMap]

theorem conn?_eq_of_mem {s : St} (hn : (s.conns.map (·.fd)).Nodup) {c : Conn} (hc : c ∈ s.conns) :
    s.conn? c.fd = some c :=
  Cares.find?_of_nodup_map hn hc

/-- **`getsock_set`.**  In a state satisfying the socket invariant, the set `ares_getsock` reports (before the 16-entry
    cut) is exactly: the connections on the servers' lists that are TCP or — when the channel has active queries — any;
    each is an open socket, with read interest, and with write interest iff the connection's WRITE flag is set, which
    is the write interest last announced through the socket-state callback. -/
theorem getsock_set (s : St) (h : SInv none s) :
    (∀ e ∈ getsockAll s, ∃ c ∈ s.conns, e = (c.fd, true, c.notW) ∧ (s.all ≠ [] ∨ c.tcp = true) ∧
        c.fd ∈ (s.sortedServers.map (·.conns)).flatten ∧ fdState s.sockLog c.fd = .opened ∧
        ((nproj s.notifyLog c.fd).getLast?.getD (false, false)).2 = e.2.2) ∧
    (∀ c ∈ s.conns, c.fd ∈ (s.sortedServers.map (·.conns)).flatten → (s.all ≠ [] ∨ c.tcp = true) →
        (c.fd, true, c.notW) ∈ getsockAll s) ∧
    getsock s = (getsockAll s).take 16 := by
  have hnd : (s.conns.map (·.fd)).Nodup := by
    have := h.nodup
    simp only [St.sview, List.map_map] at this
    exact this
  refine ⟨?_, ?_, rfl⟩
  · intro e he
    simp only [getsockAll, List.mem_map, List.mem_filter] at he
    obtain ⟨c, ⟨hc, hcond⟩, rfl⟩ := he
    obtain ⟨fd, hfd, hconn⟩ := mem_getsockConns.mp hc
    have hm := List.mem_of_find?_eq_some hconn
    have hfd' : c.fd = fd := find?_key_eq hconn
    refine ⟨c, hm, rfl, ?_, by rw [hfd']; exact hfd, h.connOpen (ckey c) (List.mem_map_of_mem hm), ?_⟩
    · simp only [Bool.or_eq_true, decide_eq_true_eq] at hcond
      rcases hcond with h1 | h1
      · left; intro h0; rw [h0] at h1; simp at h1
      · exact .inr h1
    · have := h.nLast (ckey c) (List.mem_map_of_mem hm)
      have e : nproj s.sview.nlog (ckey c).1 = nproj s.notifyLog c.fd := rfl
      rw [e] at this
      rw [this]; rfl
  · intro c hc hfd hcond
    simp only [getsockAll, List.mem_map, List.mem_filter]
    refine ⟨c, ⟨mem_getsockConns.mpr ⟨c.fd, hfd, conn?_eq_of_mem hnd hc⟩, ?_⟩, rfl⟩
    simp only [Bool.or_eq_true, decide_eq_true_eq]
    rcases hcond with h1 | h1
    · left; cases hl : s.all with
      | nil => exact absurd hl h1
      | cons x r => simp
    · exact .inr h1

end Cares.Chan
