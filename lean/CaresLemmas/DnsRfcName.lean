import CaresModel.Dns.Rfc
import CaresLemmas.DnsName
import CaresLemmas.DnsShape
import CaresLemmas.DnsEscape
/-!
# The operational name parser equals the declarative RFC name decoder (helper lemmas for C04)
-/
namespace Cares.Dns
open Cares.Generated


/-- `fail:` of `ares_dns_name_parse`: EBADRESP becomes EBADNAME -/
def mapErr (r : Res BStr) : Res BStr :=
  match r with
  | .err .ebadresp => .err .ebadname
  | r => r

theorem lsNext_of_le {L p : Nat} (h : L ≤ p) : lsNext L p = L := by
  unfold lsNext; split <;> omega

/-- what one run of the loop does, given how the declarative `labelRun` reads the same bytes -/
def RunSpec (bs : Bytes) (L save : Nat) (acc : BStr) (r : Option (List Rfc.Label × Rfc.Term))
    (out : Res BStr) : Prop :=
  match r with
  | none => mapErr out = .err .ebadname
  | some (ls, .zero next) => out = .ok (accAddAll acc ls) (if save ≠ 0 then save else next)
  | some (ls, .ptr tgt next) =>
    (tgt < L → ∃ it' j', out =
      (nameLoop bs false tgt L (if save = 0 then next else save) (accAddAll acc ls) it' j').out) ∧
    (¬ tgt < L → out = .err .ebadname)

theorem nameLoop_run (bs : Bytes) (p : Nat) (L : Nat) (hL : L ≤ p) (hp : p ≤ bs.size) :
    ∀ save acc it j, RunSpec bs L save acc (Rfc.labelRun bs p) (nameLoop bs false p L save acc it j).out := by
  fun_induction Rfc.labelRun bs p
  -- the leaves of `Rfc.labelRun` in source order: zero octet, label (the rest decodes / does not), label too long,
  -- pointer, pointer cut off, reserved bits, end of the buffer
  all_goals intro save acc it j
  case case1 p hlt c hc =>
    have hc0 : bs[p] = 0 := UInt8.toNat_inj.1 (by simpa using hc)
    rw [nameLoop_end hlt hc0]
    simp [RunSpec, accAddAll]
  case case2 p hlt c hc0 hc64 hfit ls t hrec ih =>
    have hne : bs[p] ≠ 0 := by intro h0; apply hc0; simp [c, h0]
    have hlab : bs[p] &&& 0xC0 = 0 := (byte_lab_iff _).2 hc64
    rw [nameLoop_label hlt hne hlab hfit (by simp), lsNext_of_le hL]
    have := ih (by omega) (by omega) save (accAdd acc (slice bs (p + 1) c)) (it + 1) j
    rw [hrec] at this
    unfold RunSpec at this ⊢
    cases t with
    | zero next => simpa [accAddAll, accAdd] using this
    | ptr tgt next => simpa [accAddAll, accAdd] using this
  case case3 p hlt c hc0 hc64 hfit hrec ih =>
    have hne : bs[p] ≠ 0 := by intro h0; apply hc0; simp [c, h0]
    have hlab : bs[p] &&& 0xC0 = 0 := (byte_lab_iff _).2 hc64
    rw [nameLoop_label hlt hne hlab hfit (by simp), lsNext_of_le hL]
    have := ih (by omega) (by omega) save (accAdd acc (slice bs (p + 1) c)) (it + 1) j
    rw [hrec] at this
    exact this
  case case4 p hlt c hc0 hc64 hfit =>
    have hne : bs[p] ≠ 0 := by intro h0; apply hc0; simp [c, h0]
    have hlab : bs[p] &&& 0xC0 = 0 := (byte_lab_iff _).2 hc64
    rw [nameLoop_step _ _ _ _ _ _ _ _ hp, dif_pos hlt, if_neg (by rw [hlab]; decide), if_neg (fun h => h hlab),
      if_neg hne, fetchLabel_eq (by omega), if_neg (by omega)]
    simp [RunSpec, mapErr]
  case case5 p hlt c hc0 hc64 hc192 h2 =>
    have hptr : bs[p] &&& 0xC0 = 0xC0 := (byte_ptr_iff _).2 hc192
    have hoff : ptrOffset bs[p] bs[p + 1] = (c - 192) * 256 + bs[p + 1].toNat := by
      have := bs[p].toNat_lt
      rw [ptrOffset_eq]; omega
    unfold RunSpec
    simp only
    refine ⟨?_, ?_⟩
    · intro htgt
      rw [nameLoop_ptr h2 hptr (by rw [lsNext_of_le hL, hoff]; exact htgt), lsNext_of_le hL, hoff]
      exact ⟨_, _, rfl⟩
    · intro htgt
      rw [nameLoop_ptr_reject h2 hptr (by rw [lsNext_of_le hL, hoff]; omega)]
  case case6 p hlt c hc0 hc64 hc192 h2 =>
    have hptr : bs[p] &&& 0xC0 = 0xC0 := (byte_ptr_iff _).2 hc192
    rw [nameLoop_step _ _ _ _ _ _ _ _ hp, dif_pos hlt, if_pos hptr, dif_neg h2]
    simp [RunSpec, mapErr]
  case case7 p hlt c hc0 hc64 hc192 =>
    have h1 : ¬ (bs[p] &&& 0xC0 = 0xC0) := fun h => hc192 ((byte_ptr_iff _).1 h)
    have h2 : bs[p] &&& 0xC0 ≠ 0 := fun h => hc64 ((byte_lab_iff _).1 h)
    rw [nameLoop_step _ _ _ _ _ _ _ _ hp, dif_pos hlt, if_neg h1, if_pos h2]
    simp [RunSpec, mapErr]
  case case8 p hlt =>
    rw [nameLoop_step _ _ _ _ _ _ _ _ hp, dif_neg hlt]
    simp [RunSpec, mapErr]

/-- the loop replaces `label_start` by `min label_start pos` before it looks at it, so a run may be started with
    either: this is what lets `nameLoop_name` take `L = p` whatever `label_start` a jump hands over -/
theorem nameLoop_ls_norm (bs : Bytes) (isHost : Bool) (p L save : Nat) (acc : BStr) (it : Nat)
    (j : List (Nat × Nat × Nat)) :
    nameLoop bs isHost p L save acc it j = nameLoop bs isHost p (lsNext L p) save acc it j := by
  have h : (if lsNext L p > p then p else lsNext L p) = (if L > p then p else L) := by
    unfold lsNext; split <;> (try split) <;> omega
  rw [nameLoop]
  conv => rhs; rw [nameLoop]
  simp only [h]

theorem mapErr_ok {a : BStr} {o : Nat} : mapErr (.ok a o) = .ok a o := rfl

theorem nameLoop_norm_run (bs : Bytes) (p L : Nat) (hL : p ≤ L) (hp : p ≤ bs.size) (save : Nat) (acc : BStr)
    (it : Nat) (j : List (Nat × Nat × Nat)) :
    RunSpec bs p save acc (Rfc.labelRun bs p) (nameLoop bs false p L save acc it j).out := by
  rw [nameLoop_ls_norm]
  have hn : lsNext L p = p := by unfold lsNext; split <;> omega
  rw [hn]
  exact nameLoop_run bs p p (Nat.le_refl _) hp save acc it j

theorem labelRun_ptr_next {bs : Bytes} {p : Nat} {ls : List Rfc.Label} {tgt next : Nat}
    (h : Rfc.labelRun bs p = some (ls, .ptr tgt next)) : next ≠ 0 := by
  fun_induction Rfc.labelRun bs p generalizing ls
  all_goals (try (simp at h; done))
  case case2 ih =>  -- a label, the rest decodes
    rename_i hrec
    simp only [Option.some.injEq, Prod.mk.injEq] at h
    obtain ⟨_, ht⟩ := h
    subst ht
    exact ih hrec
  case case5 =>  -- the pointer
    simp only [Option.some.injEq, Prod.mk.injEq, Rfc.Term.ptr.injEq] at h
    omega

theorem nameLoop_name (bs : Bytes) (p : Nat) (hp : p ≤ bs.size) :
    ∀ L, p ≤ L → ∀ save acc it j, mapErr (nameLoop bs false p L save acc it j).out =
      match Rfc.name bs p with
      | some (ls, next) => .ok (accAddAll acc ls) (if save ≠ 0 then save else next)
      | none => .err .ebadname := by
  induction p using Nat.strongRecOn with
  | _ p ih =>
    intro L hL save acc it j
    have hrun := nameLoop_norm_run bs p L hL hp save acc it j
    rw [Rfc.name]
    cases hlr : Rfc.labelRun bs p with
    | none =>
      rw [hlr] at hrun
      exact hrun
    | some r =>
      obtain ⟨ls, t⟩ := r
      rw [hlr] at hrun
      cases t with
      | zero next =>
        unfold RunSpec at hrun
        simp only at hrun ⊢
        rw [hrun]; rfl
      | ptr tgt next =>
        unfold RunSpec at hrun
        simp only at hrun ⊢
        by_cases htgt : tgt < p
        · rw [dif_pos htgt]
          obtain ⟨it', j', ho⟩ := hrun.1 htgt
          rw [ho, ih tgt htgt (by omega) p (by omega)]
          have hnext := labelRun_ptr_next hlr
          cases hrec : Rfc.name bs tgt with
          | none => rfl
          | some r2 =>
            obtain ⟨ls', x⟩ := r2
            simp only [accAddAll_append]
            congr 1
            by_cases hs : save = 0 <;> simp [hs, hnext]
        · rw [dif_neg htgt, hrun.2 htgt]; rfl

theorem labelRun_labels_ne {bs : Bytes} {p : Nat} {ls : List Rfc.Label} {t : Rfc.Term}
    (h : Rfc.labelRun bs p = some (ls, t)) : ∀ l ∈ ls, l ≠ [] := by
  fun_induction Rfc.labelRun bs p generalizing ls t
  all_goals (try (simp at h; done))
  case case1 =>  -- the zero octet
    simp only [Option.some.injEq, Prod.mk.injEq] at h
    obtain ⟨h1, _⟩ := h; subst h1; simp
  case case2 p hlt c hc0 hc64 hfit ls' t' hrec ih =>  -- a label, the rest decodes
    simp only [Option.some.injEq, Prod.mk.injEq] at h
    obtain ⟨h1, _⟩ := h
    subst h1
    intro l hl
    rcases List.mem_cons.1 hl with rfl | hm
    · intro h0
      have := slice_length (bs := bs) (off := p + 1) (len := c) hfit
      rw [h0] at this
      simp at this
      omega
    · exact ih hrec l hm
  case case5 =>  -- the pointer
    simp only [Option.some.injEq, Prod.mk.injEq] at h
    obtain ⟨h1, _⟩ := h; subst h1; simp

theorem name_labels_ne {bs : Bytes} {p : Nat} : ∀ {ls : List Rfc.Label} {next : Nat},
    Rfc.name bs p = some (ls, next) → ∀ l ∈ ls, l ≠ [] := by
  induction p using Nat.strongRecOn with
  | _ p ih =>
    intro ls next h
    rw [Rfc.name] at h
    cases hlr : Rfc.labelRun bs p with
    | none => rw [hlr] at h; simp at h
    | some r =>
      obtain ⟨ls1, t⟩ := r
      rw [hlr] at h
      cases t with
      | zero nx =>
        simp only [Option.some.injEq, Prod.mk.injEq] at h
        obtain ⟨h1, _⟩ := h; subst h1
        exact labelRun_labels_ne hlr
      | ptr tgt nx =>
        simp only at h
        by_cases htgt : tgt < p
        · rw [dif_pos htgt] at h
          cases hrec : Rfc.name bs tgt with
          | none => rw [hrec] at h; simp at h
          | some r2 =>
            obtain ⟨ls2, x⟩ := r2
            rw [hrec] at h
            simp only [Option.some.injEq, Prod.mk.injEq] at h
            obtain ⟨h1, _⟩ := h; subst h1
            intro l hl
            rcases List.mem_append.1 hl with hm | hm
            · exact labelRun_labels_ne hlr l hm
            · exact ih tgt htgt hrec l hm
        · rw [dif_neg htgt] at h; simp at h

/-- **`ares_dns_name_parse` equals the declarative name decoder**: same acceptance, the text is the
    presentation form of the decoded labels, the cursor ends right after the wire form -/
theorem parseName_eq_rfc (bs : Bytes) (p : Nat) (hp : p ≤ bs.size) :
    parseName bs false p = match Rfc.name bs p with
      | some (ls, next) => .ok (escapeName ls) next
      | none => .err .ebadname := by
  have h := nameLoop_name bs p hp p (Nat.le_refl _) 0 [] 0 []
  have hpn : parseName bs false p = mapErr (nameLoop bs false p p 0 [] 0 []).out := by
    unfold parseName parseNameRun mapErr
    rfl
  rw [hpn, h]
  cases hn : Rfc.name bs p with
  | none => rfl
  | some r =>
    obtain ⟨ls, next⟩ := r
    have := accAddAll_escapeName ls [] (by simpa using name_labels_ne hn)
    rw [escapeName_nil] at this
    simp [this]

end Cares.Dns
