import CaresLemmas.ClientWalk
import CaresLemmas.ClientWalkHex
/-!
# A client that walks the candidates

`search_callback` and `host_callback` take the same decision once the outcome `o` of the candidate in progress is
known (`verdict`): a hard outcome ends the request with it; a soft one moves on to the next candidate, or, on the last
one, ends the request with "no data" if any candidate had none.  `searchLoop true` of model (A) iterates exactly this
decision (`searchLoop_step`).

A `Walker` is a client seen through that decision: a candidate costs `grp` completions, whose outcome is `out`; fed
the whole group, the client does what `verdict` says (`step`); fed fewer, it shows nothing (`idle`, which `sim` uses
for the trailing incomplete group only).  An instance with `grp > 1` proves its own lemma on a proper prefix of a group
(`gai_pre`) and gets both `idle` and the first part of `step` from it.  `Walker.sim`: such a client, run as the fold
`walkFrom`, starts the sub-requests of the candidates `searchLoop true` walks and finishes with its status.  The two
instances: `searchWalker` (ClientWalkSearch, one completion per candidate) and `gaiWalker` (ClientWalkGaiSim, one per
requested family).

A theorem about whole runs (`search_run`, `gai_run` in ClientWalkRun) needs besides the `Walker`: the dispatch
`clientOnCb_<kind>` (used inside the instance), that `clientStart` emits `specs cand` for the first candidate and
yields a record satisfying `At`, and on the side of model (A) that its walk is `searchLoop true …` (`gaiLoop_eq`).
-/
namespace Cares.ClientWalk
open Cares.Chan Cares.Text Cares.Proto

inductive Verdict where
  | fin (st : Chan.Status)
  | next (n : Name) (rest : List Name) (ever : Bool)

def verdict (cand : Name) (rest : List Name) (ever : Bool) (o : Chan.Status) : Verdict :=
  if softB (hex cand) o then
    match rest with
    | [] => .fin (if ever || o == .nodata then .nodata else o)
    | n :: r => .next n r (ever || o == .nodata)
  else .fin o

theorem verdict_fin {cand rest ever o st} (h : verdict cand rest ever o = .fin st) :
    st = o ∨ (st = .nodata ∧ softB (hex cand) o = true) := by
  unfold verdict at h
  split at h
  · cases rest with
    | nil => cases h; split <;> simp [*]
    | cons => cases h
  · cases h; exact .inl rfl

theorem verdict_next {cand rest ever o n r e} (h : verdict cand rest ever o = .next n r e) :
    softB (hex cand) o = true ∧ rest = n :: r ∧ e = (ever || o == .nodata) := by
  unfold verdict at h
  split at h
  · cases rest with
    | nil => cases h
    | cons => cases h; exact ⟨‹_›, rfl, rfl⟩
  · cases h

theorem soft_stMap (cand : Name) (h : Ser cand) (my : Chan.Status) :
    soft cand (stMap my) = softB (hex cand) my := by
  unfold soft softB
  rw [labelCnt_hex cand h]
  generalize (Cares.Proto.labelCnt cand == 1) = x
  cases my <;> cases x <;> rfl

theorem stMap_beq_nodata (my : Chan.Status) : (stMap my == Text.Status.enodata) = (my == Chan.Status.nodata) := by
  cases my <;> rfl

theorem searchLoop_acc (n : Name) (ns : List Name) (os : List Outcome) (ever : Bool) (sent : List Name) :
    searchLoop true (n :: ns) os ever sent =
      (sent ++ (searchLoop true (n :: ns) os ever []).1, (searchLoop true (n :: ns) os ever []).2) := by
  rw [searchLoop_spec true _ (List.cons_ne_nil _ _) os ever sent, searchLoop_spec true _ (List.cons_ne_nil _ _) os ever []]
  rfl

theorem searchLoop_step (cand : Name) (hc : Ser cand) (rest : List Name) (o : Chan.Status) (os : List Outcome)
    (ever : Bool) :
    searchLoop true (cand :: rest) (stMap o :: os) ever [] =
      match verdict cand rest ever o with
      | .fin st => ([cand], stMap st)
      | .next n r e => (cand :: (searchLoop true (n :: r) os e []).1, (searchLoop true (n :: r) os e []).2) := by
  conv => lhs; unfold searchLoop
  unfold verdict
  simp only [List.headD_cons, soft_stMap cand hc, stMap_beq_nodata, List.nil_append]
  cases softB (hex cand) o with
  | false => rfl
  | true =>
    cases rest with
    | nil => simp only [Bool.not_true, Bool.false_eq_true, ↓reduceIte]; split <;> rfl
    | cons n r =>
      simp only [Bool.not_true, Bool.false_eq_true, ↓reduceIte, List.drop_one, List.tail_cons]
      rw [searchLoop_acc]
      rfl

theorem soft_timeout (cand : Name) : soft cand .etimeout = false := rfl

theorem searchLoop_nil_os (cand : Name) (rest : List Name) (ever : Bool) :
    searchLoop true (cand :: rest) [] ever [] = ([cand], .etimeout) := by
  unfold searchLoop; simp [soft_timeout]

theorem searchLoop_len_pos (cand : Name) (rest : List Name) (os : List Outcome) (ever : Bool) :
    0 < (searchLoop true (cand :: rest) os ever []).1.length := by
  unfold searchLoop
  simp only [List.nil_append]
  split
  · exact Nat.zero_lt_one
  · cases rest with
    | nil => exact Nat.zero_lt_one
    | cons m ms => simp only; rw [searchLoop_acc]; simp

structure Walker (cfg : Cfg) where
  /-- the client has started the sub-requests of `cand` and received none of their completions -/
  At : Client → Name → List Name → Bool → Prop
  /-- completions per candidate: a constant, so a client whose count varies from candidate to candidate does not fit -/
  grp : Nat
  /-- the candidate's outcome, read off its group of completions alone -/
  out : List Ev → Chan.Status
  /-- the sub-requests (name, type) the client starts for a candidate -/
  specs : Name → List (String × Nat)
  /-- what is known of the digest of a request that ends at the candidate whose completions are `g` -/
  Dg : String → List Ev → Prop
  /-- fewer completions than a group change nothing that is visible -/
  idle : ∀ {c cand rest ever} (tail : List Ev) (w : Walk), At c cand rest ever → tail.length < grp → w.fin = none →
    walkFrom cfg c tail w = w
  /-- a whole group `g` (followed by anything): the request ends as `verdict` says, or the next candidate's
      sub-requests are started and the client is `At` it -/
  step : ∀ {c cand rest ever} (g es : List Ev) (w : Walk), At c cand rest ever → g.length = grp → w.fin = none →
    match verdict cand rest ever (out g) with
    | .fin st => ∃ t dg, walkFrom cfg c (g ++ es) w = { w with fin := some (st, t, dg) } ∧ Dg dg g
    | .next n r e => ∃ c', walkFrom cfg c (g ++ es) w = walkFrom cfg c' es { w with sent := w.sent ++ specs n } ∧
        At c' n r e

/-- In the last conjunct `cand'` is left free: the clause `softB (hex cand') (W.out win)` only serves to conclude that
    the digest is empty, which holds of a soft outcome whatever the name (`grpDigest_soft`). -/
theorem Walker.sim {cfg : Cfg} (W : Walker cfg) (grps : List (List Ev)) (tail : List Ev)
    (hlen : ∀ g ∈ grps, g.length = W.grp) (htail : tail.length < W.grp) :
    ∀ (cand : Name) (rest : List Name) (c : Client) (ever : Bool) (S : List (String × Nat)),
      Ser cand → (∀ n ∈ rest, Ser n) → W.At c cand rest ever →
      (walkFrom cfg c (grps.flatten ++ tail) ⟨S ++ W.specs cand, none⟩).sent =
          S ++ (searchLoop true (cand :: rest) (grps.map fun g => stMap (W.out g)) ever []).1.flatMap W.specs ∧
      (walkFrom cfg c (grps.flatten ++ tail) ⟨S ++ W.specs cand, none⟩).fin.map (fun f => stMap f.1) =
          (if (searchLoop true (cand :: rest) (grps.map fun g => stMap (W.out g)) ever []).1.length ≤ grps.length
           then some (searchLoop true (cand :: rest) (grps.map fun g => stMap (W.out g)) ever []).2 else none) ∧
      ∀ f, (walkFrom cfg c (grps.flatten ++ tail) ⟨S ++ W.specs cand, none⟩).fin = some f →
        ∃ win cand', grps[(searchLoop true (cand :: rest) (grps.map fun g => stMap (W.out g)) ever []).1.length - 1]?
            = some win ∧ W.Dg f.2.2 win ∧
          (f.1 = W.out win ∨ (f.1 = .nodata ∧ softB (hex cand') (W.out win) = true)) := by
  induction grps with
  | nil =>
    intro cand rest c ever S _ _ hat
    rw [List.flatten_nil, List.nil_append, W.idle tail _ hat htail rfl, List.map_nil, searchLoop_nil_os]
    exact ⟨by simp, rfl, fun _ h => nomatch h⟩
  | cons g grps ih =>
    intro cand rest c ever S hc hr hat
    have hst := W.step g (grps.flatten ++ tail) ⟨S ++ W.specs cand, none⟩ hat (hlen g List.mem_cons_self) rfl
    rw [List.flatten_cons, List.append_assoc, List.map_cons, searchLoop_step cand hc]
    cases hv : verdict cand rest ever (W.out g) with
    | fin st =>
      rw [hv] at hst
      obtain ⟨t, dg, hw, hdg⟩ := hst
      rw [hw]
      refine ⟨by simp, by simp, fun f hf => ⟨g, cand, rfl, ?_, ?_⟩⟩ <;> cases hf
      · exact hdg
      · exact verdict_fin hv
    | next n r e =>
      rw [hv] at hst
      obtain ⟨c', hw, hat'⟩ := hst
      obtain ⟨_, rfl, _⟩ := verdict_next hv
      obtain ⟨h1, h2, h3⟩ := ih (fun g' hg' => hlen g' (List.mem_cons_of_mem _ hg')) n r c' e (S ++ W.specs cand)
        (hr n List.mem_cons_self) (fun x hx => hr x (List.mem_cons_of_mem _ hx)) hat'
      rw [hw]
      refine ⟨by rw [h1]; simp, by rw [h2]; simp, fun f hf => ?_⟩
      obtain ⟨win, cand', hwin, hd⟩ := h3 f hf
      refine ⟨win, cand', ?_, hd⟩
      have hpos := searchLoop_len_pos n r (grps.map fun g => stMap (W.out g)) e
      rw [← hwin, List.length_cons, Nat.add_sub_cancel]
      generalize (searchLoop true (n :: r) _ e []).1.length = k at hpos
      cases k with
      | zero => omega
      | succ k => rfl

end Cares.ClientWalk
