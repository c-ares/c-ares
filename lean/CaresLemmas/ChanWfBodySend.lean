import CaresLemmas.ChanWfMid
import CaresLemmas.ChanWfNewQ
/-!
# C01 and C12c — body lemmas: `sendNolock`, `probe`, `flush`
-/
namespace Cares.Chan

theorem sk_addQuery_st (s : St) (nk qid : Nat) (q : Query) (hnk : nk = s.nextKey) (hk : q.key = nk)
    (hc : q.conn = none) (hq : q.qid = qid) :
    ({ s with lastQid := qid, nextKey := nk + 1, qs := s.qs ++ [q], all := s.all ++ [nk],
              byQid := s.byQid ++ [(qid, nk)] } : St).sk = s.sk.addQuery qid q.owner := by
  subst hnk
  unfold St.sk Sk.addQuery
  simp only [List.map_append, List.map_cons, List.map_nil, Sk.mk.injEq, and_true]
  unfold Query.sk
  rw [hk, hc, hq]

theorem sk_snCreate (s : St) (qid : Nat) (noretry : Bool) (spec : ReqSpec) (owner : Owner) (react : List Nat) :
    (snCreate s qid noretry spec owner react).sk = s.sk.addQuery qid owner := by
  obtain ⟨o, f, q, hk, hq, ho, hc, e⟩ := snCreate_shape s qid noretry spec owner react
  rw [e, ← ho]
  exact sk_addQuery_st { s with obs := o, obsFaults := f } s.nextKey qid q rfl hk hc hq

@[simp] theorem sk_modConn_out (s : St) (fd : Nat) (x : List OutFrame) :
    (s.modConn fd fun c => { c with out := x }).sk = s.sk := by
  rw [sk_modConn_same]; intro; rfl

variable {cid : Nat}

theorem good_sendNolock {goC : GoC} (h : GoGood cid goC) {d reqSrv nocache noretry spec owner react s L}
    (hpre : Pre d s (.sendNolock reqSrv nocache noretry spec owner react))
    (hL : LG cid L (xtra cid (.sendNolock reqSrv nocache noretry spec owner react)) s) :
    GoodL cid d (.sendNolock reqSrv nocache noretry spec owner react) s L
      (bodySendNolockC goC reqSrv nocache noretry spec owner react s) := by
  obtain ⟨hw, hof, hdf⟩ := hpre
  have hLo : LG cid L (ownerX cid owner) s := hL
  unfold bodySendNolockC
  have hsk0 := sk_genQid 70000 s
  generalize genQid 70000 s = r0 at hsk0
  obtain ⟨qid, s0⟩ := r0
  simp only at hsk0 ⊢
  -- the early-failure paths hand the callback over in a state with the same skeleton
  have early : ∀ (s1 : St) (st : Status) (rec : Option Reply) (ret : Ret), s1.sk = s.sk →
      GoodL cid d (.sendNolock reqSrv nocache noretry spec owner react) s L
        (((goC (.callback owner react st 0 rec) s1).1.1, ret), (goC (.callback owner react st 0 rec) s1).2) := by
    intro s1 st rec ret h1
    refine (h.callL (d := d) (c := .callback owner react st 0 rec) (s := s1)
      ⟨Wf.of_sk_eq h1 hw, by rw [h1]; exact hof, by rw [h1]; exact hdf⟩ (hLo.sk_eq h1)).tail
      (by rw [h1]; exact StepS.refl _ _ _ _) (Or.inl rfl) (Or.inr ?_) (fun _ => trivial)
    rw [exId_callback, exId_sendNolock]
  ite_split
  · exact early s0 _ _ _ hsk0
  · have hsk1 : (if nocache = true then s0 else s0.cacheExpire).sk = s.sk :=
      ite_both (fun x : St => x.sk = s.sk) hsk0 ((sk_cacheExpire s0).trans hsk0)
    generalize (if nocache = true then s0 else s0.cacheExpire) = s1 at hsk1
    split
    · exact early s1 _ _ _ hsk1
    · ite_split
      · exact early s1 _ _ _ hsk1
      · -- the query is created: the hand-over in flight becomes a linked sub-request
        show GoodL cid d _ s L (goC (.sendQuery reqSrv s1.nextKey) (snCreate s1 qid noretry spec owner react))
        have hsk3 := sk_snCreate s1 qid noretry spec owner react
        rw [hsk1] at hsk3
        rw [show s1.nextKey = s.sk.nextKey from congrArg Sk.nextKey hsk1]
        generalize snCreate s1 qid noretry spec owner react = s3 at hsk3 ⊢
        refine (h.callL (d := d) (c := .sendQuery reqSrv s.sk.nextKey)
          ⟨by unfold Wf; rw [hsk3]; exact wf_addQuery hw hof, by rw [hsk3]; exact idx_addQuery,
           by rw [hsk3]; exact debt_addQuery hw hof hdf⟩ ?_).tail'
          (by rw [hsk3, exId_sendNolock]; exact step_addQuery hw) (Or.inl rfl) (Or.inl rfl) (fun _ => trivial)
        refine (show LG cid L 0 _ from hLo.of_cnt ?_)
        rw [hsk3, subs_addQuery hw cid, ownerX_eq]
        omega

theorem good_probe {goC : GoC} (h : GoGood cid goC) {d srvId key s L} (hpre : Pre d s (.probe srvId key))
    (hL : LG cid L (xtra cid (.probe srvId key)) s) : GoodL cid d (.probe srvId key) s L (bodyProbeC goC srvId key s) := by
  obtain ⟨hw, hd⟩ := hpre
  have hm0 : MidL cid d s L s := MidL.refl hw hd hL
  unfold bodyProbeC
  split
  · exact hm0.ret trivial
  · simp only
    split
    · exact hm0.ret trivial
    · split
      · exact hm0.ret trivial
      · have hsk0 := sk_draw2 s
        generalize s.draw2 = r0 at hsk0
        obtain ⟨rnd, s0⟩ := r0
        simp only at hsk0 ⊢
        split
        · exact (hm0.sk_eq hsk0).ret trivial
        · split
          · exact (hm0.sk_eq hsk0).ret trivial
          · split
            · exact (hm0.sk_eq hsk0).ret trivial
            · rename_i pv _ _
              have hsk1 : (s0.modServer pv.id fun v => { v with probePending := true }).sk = s.sk := by
                rw [sk_modServer_same]; exact hsk0; intro; rfl
              generalize (s0.modServer pv.id fun v => { v with probePending := true }) = s1 at hsk1
              have hm1 := hm0.sk_eq hsk1
              refine GoodL.tail (h.callL (d := d) ?_ ?_) hm1.mid.step (Or.inl rfl) (Or.inl rfl) (fun _ => trivial)
              · exact ⟨hm1.mid.wf, trivial, hm1.mid.debt⟩
              · exact hm1.lg

theorem good_flush {goC : GoC} (h : GoGood cid goC) {d fd s L} (hpre : Pre d s (.flush fd))
    (hL : LG cid L (xtra cid (.flush fd)) s) : GoodL cid d (.flush fd) s L (bodyFlushC goC fd s) := by
  obtain ⟨hw, hl, hd⟩ := hpre
  have hm0 : MidL cid d s L s := MidL.refl hw hd hL
  have same : ∀ {s1 : St} {ret : Ret}, s1.sk = s.sk → GoodL cid d (.flush fd) s L ((s1, ret), []) :=
    fun hX => (hm0.sk_eq hX).ret hX
  unfold bodyFlushC
  split
  · -- the connection is live
    rename_i hnone
    obtain ⟨c, hc⟩ := conn?_of_live hl
    rw [hc] at hnone; cases hnone
  · split
    · exact same (by simp)
    · ite_split
      · have hsk0 := sk_fault s "sendto"
        generalize s.fault "sendto" = r0 at hsk0
        obtain ⟨e, s0⟩ := r0
        simp only at hsk0 ⊢
        split
        · ite_split
          · exact same (by simp [hsk0])
          · exact same (by simp [hsk0])
        · have hsk1 : ∀ (f : OutFrame) (rest : List OutFrame),
              (((s0.recordTx fd false f).notify fd true false).modConn fd fun c => { c with out := rest }).sk = s.sk := by
            intros; simp [hsk0]
          rename_i f rest _ _
          have hm1 := hm0.sk_eq (hsk1 f rest)
          exact (h.callL (d := d) (c := .flush fd)
            ⟨hm1.mid.wf, by unfold Sk.liveConn; rw [hsk1]; exact hl, hm1.mid.debt⟩ hm1.lg).tail' hm1.mid.step
            (Or.inl rfl) (Or.inl rfl) (fun hg => hg.post.trans (hsk1 f rest))
      · ite_split
        · exact same (by simp)
        · have hsk0 := sk_fault s "sendto"
          generalize s.fault "sendto" = r0 at hsk0
          obtain ⟨e, s0⟩ := r0
          simp only at hsk0 ⊢
          split
          · ite_split
            · exact same (by simp [hsk0])
            · exact same (by simp [hsk0])
          · generalize tcpAccept _ _ = r1
            obtain ⟨acc, v⟩ := r1
            simp only
            split
            · exact same (by simp [hsk0, sk_setSock])
            · refine same ?_
              simp only [sk_notify]
              split <;> split <;> simp [hsk0, sk_setSock]

end Cares.Chan
