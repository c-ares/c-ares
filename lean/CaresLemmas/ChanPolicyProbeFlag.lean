import CaresLemmas.ChanPolicyProbeEnd
import CaresLemmas.ChanLeaf
/-!
# C09 — `probe_pending` is set only while a probe query exists (invariant `PXo`, state-level lemmas)

`server_probe_cb` resets `probe_pending` of the probed server on every way a probe query can end (the repair of finding
F49-C09), so the flag satisfies an invariant of the whole model: **a server is marked as being probed only while a query
owned by `probe <that server>` is in the query store.**  This file defines the invariant with its ghost parameters
and proves it for every state helper; `ChanPolicyProbeFlagExec.lean` carries it through every procedure body and `exec`.

The invariant reads `qs` (only through "who owns key `k`": `owner?`), `nextKey`, `servers`, `listCopy` and the length of
`modelFaults` (`pview`).  Ghost parameters (`Gh`), all universally quantified in the induction:

* hole `H` (separate argument): the one server id that may be flagged without a query — between
  `ares_probe_failed_server` setting the flag and `ares_send_nolock` creating the query, and for the callback of a
  probe whose query has already been released (`ares_cancel` walk);
* `D` *doomed* keys with their owners: queries between `ares_detach_query` and `ares_free_query` in an `end_query`
  frame below on the C stack — their owner cannot change and their key cannot be linked again;
* `m` height of the `listCopy` stack (every procedure leaves it as it found it);
* `C`, `n` *condemned* keys: the list an `ares_cancel` below on the stack is walking, at position `n` of the stack
  (from the bottom) — a condemned key that is still stored is still in that list (or doomed);
* `Z` released keys stay released; `K0`, `O0` the keys below `K0` keep the owners they had (`O0`) at the start;
* `L` the model-fault log does not shrink (used to tell a completed walk from one aborted by a model fault).
-/
namespace Cares.Chan

/-- what the invariant reads of a state -/
structure PV where
  qs : List Query
  nextKey : Nat
  servers : List Server
  listCopy : List (List Nat)
  mf : Nat

def pview (s : St) : PV := ⟨s.qs, s.nextKey, s.servers, s.listCopy, s.modelFaults.length⟩

/-- owner of the query stored under key `k` (the first entry with that key: what `St.query?` finds) -/
def PV.owner? (p : PV) (k : Nat) : Option Owner := (p.qs.find? (·.key == k)).map (·.owner)

theorem owner?_pview (s : St) (k : Nat) : (pview s).owner? k = (s.query? k).map (·.owner) := rfl

structure Gh where
  D : List (Nat × Owner)
  m : Nat
  C : List Nat
  n : Nat
  Z : List Nat
  K0 : Nat
  O0 : Nat → Option Owner
  L : Nat

/-- the server a completion callback with this owner releases -/
def holeOf : Owner → Option Nat
  | .probe pid => some pid
  | _ => none

theorem holeOf_some {o : Owner} {pid : Nat} (h : holeOf o = some pid) : o = .probe pid := by
  cases o <;> simp [holeOf] at h
  subst h; rfl

structure PXv (g : Gh) (H : Option Nat) (p : PV) : Prop where
  keys : ∀ k, (p.owner? k).isSome → k < p.nextKey
  base : g.K0 ≤ p.nextKey ∧ ∀ k o, k < g.K0 → p.owner? k = some o → g.O0 k = some o
  doom : ∀ e ∈ g.D, e.1 < p.nextKey ∧ ∀ o, p.owner? e.1 = some o → o = e.2
  flag : ∀ v ∈ p.servers, v.probePending = true → some v.id = H ∨ ∃ k, p.owner? k = some (.probe v.id)
  depth : p.listCopy.length = g.m
  lt : g.C ≠ [] → g.n < g.m
  cond : ∀ k ∈ g.C, k < p.nextKey ∧
    ((p.owner? k).isSome → k ∈ g.D.map (·.1) ∨ ∃ l, p.listCopy.reverse[g.n]? = some l ∧ k ∈ l)
  gone : ∀ k ∈ g.Z, k < p.nextKey ∧ p.owner? k = none
  mf : g.L ≤ p.mf

/-- the invariant modulo fuel (the flag is sticky; a run that ran out of fuel stopped in the middle of a C function) -/
def PXo (g : Gh) (H : Option Nat) (s : St) : Prop := s.outOfFuel = true ∨ PXv g H (pview s)

theorem PXo.live {g : Gh} {H : Option Nat} {s : St} (h : PXo g H s) (hf : s.outOfFuel = false) : PXv g H (pview s) :=
  h.resolve_left (by rw [hf]; exact Bool.false_ne_true)

section
variable {g : Gh} {H : Option Nat} {p p' : PV}

/-- old keys keep their owners, no flag is set, the stack and the fault log are as before (or longer) -/
theorem PXv.transfer (h : PXv g H p) (hn : p.nextKey ≤ p'.nextKey)
    (hk : ∀ k, (p'.owner? k).isSome → k < p'.nextKey)
    (ho : ∀ k, k < p.nextKey → p'.owner? k = p.owner? k)
    (hs : ∀ v ∈ p'.servers, v.probePending = true → ∃ w ∈ p.servers, w.id = v.id ∧ w.probePending = true)
    (hl : p'.listCopy = p.listCopy) (hm : p.mf ≤ p'.mf) : PXv g H p' := by
  refine ⟨hk, ⟨Nat.le_trans h.base.1 hn, ?_⟩, ?_, ?_, ?_, h.lt, ?_, ?_, Nat.le_trans h.mf hm⟩
  · intro k o hlt hko
    rw [ho k (Nat.lt_of_lt_of_le hlt h.base.1)] at hko
    exact h.base.2 k o hlt hko
  · intro e he
    obtain ⟨h1, h2⟩ := h.doom e he
    refine ⟨Nat.lt_of_lt_of_le h1 hn, fun o ho' => ?_⟩
    rw [ho _ h1] at ho'
    exact h2 o ho'
  · intro v hv hp
    obtain ⟨w, hw, hid, hwp⟩ := hs v hv hp
    rcases h.flag w hw hwp with hh | ⟨k, hk'⟩
    · exact Or.inl (by rw [← hid]; exact hh)
    · right
      have hlt : k < p.nextKey := h.keys k (by rw [hk']; rfl)
      exact ⟨k, by rw [ho k hlt, hk', hid]⟩
  · rw [hl]; exact h.depth
  · intro k hk'
    obtain ⟨h1, h2⟩ := h.cond k hk'
    refine ⟨Nat.lt_of_lt_of_le h1 hn, ?_⟩
    rw [ho k h1, hl]
    exact h2
  · intro k hk'
    obtain ⟨h1, h2⟩ := h.gone k hk'
    exact ⟨Nat.lt_of_lt_of_le h1 hn, by rw [ho k h1]; exact h2⟩

theorem owner?_map {f : Query → Query} (hf : ∀ q, (f q).key = q.key ∧ (f q).owner = q.owner)
    (p : PV) (k : Nat) : ({ p with qs := p.qs.map f } : PV).owner? k = p.owner? k := by
  unfold PV.owner?
  dsimp only
  rw [find?_map_keep (key := Query.key) (fun q => (hf q).1)]
  cases p.qs.find? (·.key == k) with
  | none => rfl
  | some q => simp [(hf q).2]

theorem PXv.mapQs {f : Query → Query} (hf : ∀ q, (f q).key = q.key ∧ (f q).owner = q.owner) (h : PXv g H p) :
    PXv g H { p with qs := p.qs.map f } := by
  have ho := owner?_map hf p
  refine h.transfer (Nat.le_refl _) ?_ (fun k _ => ho k) (fun v hv hp => ⟨v, hv, rfl, hp⟩) rfl (Nat.le_refl _)
  intro k hk; rw [ho] at hk; exact h.keys k hk

theorem PXv.setServers {sv : List Server}
    (hs : ∀ v ∈ sv, v.probePending = true → ∃ w ∈ p.servers, w.id = v.id ∧ w.probePending = true) (h : PXv g H p) :
    PXv g H { p with servers := sv } :=
  h.transfer (Nat.le_refl _) h.keys (fun _ _ => rfl) hs rfl (Nat.le_refl _)

theorem PXv.moreFaults {n : Nat} (hn : p.mf ≤ n) (h : PXv g H p) : PXv g H { p with mf := n } :=
  h.transfer (Nat.le_refl _) h.keys (fun _ _ => rfl) (fun v hv hp => ⟨v, hv, rfl, hp⟩) rfl hn

/-- a hole may be forgotten when no server with that id is flagged, and may always be added -/
theorem PXv.weaken (H' : Option Nat) (h : PXv g none p) : PXv g H' p := by
  refine ⟨h.keys, h.base, h.doom, fun v hv hp => ?_, h.depth, h.lt, h.cond, h.gone, h.mf⟩
  rcases h.flag v hv hp with hh | hh
  · cases hh
  · exact Or.inr hh

theorem PXv.fill {pid : Nat} (h : PXv g (some pid) p)
    (hf : (∀ v ∈ p.servers, v.id = pid → v.probePending = false) ∨ ∃ k, p.owner? k = some (.probe pid)) :
    PXv g none p := by
  refine ⟨h.keys, h.base, h.doom, fun v hv hp => ?_, h.depth, h.lt, h.cond, h.gone, h.mf⟩
  rcases h.flag v hv hp with hh | hh
  · right
    have hid : v.id = pid := by cases hh; rfl
    rcases hf with hf | hf
    · rw [hf v hv hid] at hp; cases hp
    · rw [hid]; exact hf
  · exact Or.inr hh

theorem owner?_append_lt {q : Query} (hq : q.key = p.nextKey)
    (k : Nat) (hk : k ≠ p.nextKey) :
    ({ p with qs := p.qs ++ [q], nextKey := p.nextKey + 1 } : PV).owner? k = p.owner? k := by
  unfold PV.owner?
  dsimp only
  rw [List.find?_append]
  cases hf : p.qs.find? (·.key == k) with
  | some x => rfl
  | none =>
    have : (q.key == k) = false := by rw [hq]; simpa using fun e => hk e.symm
    simp [this]

theorem owner?_append_new {q : Query} (hq : q.key = p.nextKey) (hkeys : ∀ k, (p.owner? k).isSome → k < p.nextKey) :
    ({ p with qs := p.qs ++ [q], nextKey := p.nextKey + 1 } : PV).owner? p.nextKey = some q.owner := by
  unfold PV.owner?
  dsimp only
  rw [List.find?_append]
  cases hf : p.qs.find? (·.key == p.nextKey) with
  | some x =>
    have := hkeys p.nextKey (by unfold PV.owner?; rw [hf]; rfl)
    exact absurd this (Nat.lt_irrefl _)
  | none => simp [hq]

/-- `ares_send_nolock` stores a new query under the next key; if it is the probe the hole was waiting for, the hole
    is filled -/
theorem PXv.addQuery {q : Query} (hq : q.key = p.nextKey) (hH : ∀ pid, H = some pid → q.owner = .probe pid)
    (h : PXv g H p) : PXv g none { p with qs := p.qs ++ [q], nextKey := p.nextKey + 1 } := by
  have ho := owner?_append_lt (p := p) hq
  have hnew := owner?_append_new (p := p) hq h.keys
  have hk' : ∀ k, (({ p with qs := p.qs ++ [q], nextKey := p.nextKey + 1 } : PV).owner? k).isSome →
      k < p.nextKey + 1 := by
    intro k hk
    by_cases e : k = p.nextKey
    · omega
    · rw [ho k e] at hk; have := h.keys k hk; omega
  have h1 : PXv g H { p with qs := p.qs ++ [q], nextKey := p.nextKey + 1 } :=
    h.transfer (Nat.le_succ _) hk' (fun k hk => ho k (Nat.ne_of_lt hk)) (fun v hv hp => ⟨v, hv, rfl, hp⟩) rfl
      (Nat.le_refl _)
  cases H with
  | none => exact h1
  | some pid =>
    refine h1.fill (Or.inr ⟨p.nextKey, ?_⟩)
    rw [hnew, hH pid rfl]

/-- the view after `ares_free_query k0` of a stored query: the entries with that key leave the store, the key leaves
    every list of the stack -/
def PV.free (p : PV) (k0 : Nat) (lc : List (List Nat)) : PV :=
  { p with qs := p.qs.filter (·.key != k0), listCopy := lc }

/-- the stack after a release: untouched (no such query) or the key erased from every list -/
def FreeLc (p : PV) (k0 : Nat) (lc : List (List Nat)) : Prop :=
  lc = p.listCopy ∨ lc = p.listCopy.map (·.erase k0)

theorem FreeLc.length {p : PV} {k0 : Nat} {lc : List (List Nat)} (h : FreeLc p k0 lc) :
    lc.length = p.listCopy.length := by
  rcases h with h | h <;> rw [h]
  rw [List.length_map]

theorem owner?_free (p : PV) (k0 k : Nat) (lc : List (List Nat)) :
    (p.free k0 lc).owner? k = if k = k0 then none else p.owner? k := by
  unfold PV.owner? PV.free
  dsimp only
  rw [find?_remove (key := Query.key)]
  split <;> rfl

theorem owner?_free_self (p : PV) (k0 : Nat) (lc : List (List Nat)) : (p.free k0 lc).owner? k0 = none := by
  rw [owner?_free, if_pos rfl]

theorem owner?_free_ne (p : PV) {k0 k : Nat} (lc : List (List Nat)) (hne : k ≠ k0) :
    (p.free k0 lc).owner? k = p.owner? k := by
  rw [owner?_free, if_neg hne]

theorem reverse_map_getElem? {α β : Type} (f : α → β) (l : List α) (n : Nat) :
    (l.map f).reverse[n]? = (l.reverse[n]?).map f := by
  rw [← List.map_reverse, List.getElem?_map]

/-- the list part of `cond` survives erasing another key -/
theorem cond_list_erase {lc : List (List Nat)} {n k k0 : Nat} (hne : k ≠ k0)
    (h : ∃ l, lc.reverse[n]? = some l ∧ k ∈ l) : ∃ l, (lc.map (·.erase k0)).reverse[n]? = some l ∧ k ∈ l := by
  obtain ⟨l, hl, hk⟩ := h
  refine ⟨l.erase k0, ?_, (List.mem_erase_of_ne hne).2 hk⟩
  rw [reverse_map_getElem?, hl]; rfl

theorem cond_list_free {p : PV} {lc : List (List Nat)} {n k k0 : Nat} (hlc : FreeLc p k0 lc) (hne : k ≠ k0)
    (h : ∃ l, p.listCopy.reverse[n]? = some l ∧ k ∈ l) : ∃ l, lc.reverse[n]? = some l ∧ k ∈ l := by
  rcases hlc with e | e <;> rw [e]
  · exact h
  · exact cond_list_erase hne h

/-- `ares_free_query k0`: the key leaves the store and the stack.  `D'` are the doomed keys before (`k0` may be one
    of them); a server whose flag rested on the released query must be the hole afterwards (`hfl`). -/
theorem PXv.released {k0 : Nat} {lc : List (List Nat)} {D' : List (Nat × Owner)} {H' : Option Nat}
    (hlc : FreeLc p k0 lc) (hlt : k0 < p.nextKey) (hD : ∀ e ∈ g.D, e ∈ D')
    (hC : ∀ k ∈ D'.map (·.1), k ≠ k0 → k ∈ g.D.map (·.1))
    (hfl : ∀ v ∈ p.servers, v.probePending = true → p.owner? k0 = some (.probe v.id) → some v.id = H')
    (h : PXv { g with D := D' } none p) : PXv g H' (p.free k0 lc) := by
  refine ⟨?_, ⟨h.base.1, ?_⟩, ?_, ?_, ?_, h.lt, ?_, ?_, h.mf⟩
  · intro k hk
    by_cases e : k = k0
    · subst e; exact hlt
    · rw [owner?_free_ne p lc e] at hk; exact h.keys k hk
  · intro k o' hk hko'
    by_cases e : k = k0
    · subst e; rw [owner?_free_self] at hko'; cases hko'
    · rw [owner?_free_ne p lc e] at hko'; exact h.base.2 k o' hk hko'
  · intro e he
    obtain ⟨h1, h2⟩ := h.doom e (hD e he)
    refine ⟨h1, fun o' ho' => ?_⟩
    by_cases e' : e.1 = k0
    · rw [e', owner?_free_self] at ho'; cases ho'
    · rw [owner?_free_ne p lc e'] at ho'; exact h2 o' ho'
  · intro v hv hp
    rcases h.flag v hv hp with hh | ⟨k, hk⟩
    · cases hh
    · by_cases e : k = k0
      · subst e; exact Or.inl (hfl v hv hp hk)
      · exact Or.inr ⟨k, by rw [owner?_free_ne p lc e]; exact hk⟩
  · show lc.length = g.m
    rw [hlc.length]; exact h.depth
  · intro k hk
    obtain ⟨h1, h2⟩ := h.cond k hk
    refine ⟨h1, fun hs => ?_⟩
    by_cases e : k = k0
    · subst e; rw [owner?_free_self] at hs; cases hs
    · rw [owner?_free_ne p lc e] at hs
      rcases h2 hs with hd | hl
      · exact Or.inl (hC k hd e)
      · exact Or.inr (cond_list_free hlc e hl)
  · intro k hk
    obtain ⟨h1, h2⟩ := h.gone k hk
    refine ⟨h1, ?_⟩
    by_cases e : k = k0
    · subst e; exact owner?_free_self p k lc
    · rw [owner?_free_ne p lc e]; exact h2

/-- `ares_free_query k0` in the `ares_cancel` / `ares_destroy` walk: the callback that follows is the one that
    releases the owner's server -/
theorem PXv.free {k0 : Nat} {o : Owner} {lc : List (List Nat)} (hlc : FreeLc p k0 lc)
    (hko : p.owner? k0 = some o) (h : PXv g none p) : PXv g (holeOf o) (p.free k0 lc) :=
  PXv.released hlc (h.keys k0 (by rw [hko]; rfl)) (fun _ he => he) (fun _ hk _ => hk)
    (fun v _ _ hk => by rw [hko] at hk; cases hk; rfl) h

/-- the view after `ares_detach_query k0` of a stored query (the query stays in the store) -/
def PV.detached (p : PV) (k0 : Nat) (f : Query → Query) : PV :=
  { p with qs := p.qs.map f, listCopy := p.listCopy.map (·.erase k0) }

/-- `end_query`: the query is detached and becomes doomed -/
theorem PXv.detached {k0 : Nat} {o : Owner} {f : Query → Query}
    (hf : ∀ q, (f q).key = q.key ∧ (f q).owner = q.owner) (hko : p.owner? k0 = some o) (h : PXv g none p) :
    PXv { g with D := (k0, o) :: g.D } none (p.detached k0 f) := by
  have hlt : k0 < p.nextKey := h.keys k0 (by rw [hko]; rfl)
  have ho : ∀ k, (p.detached k0 f).owner? k = p.owner? k := owner?_map hf p
  refine ⟨?_, ⟨h.base.1, ?_⟩, ?_, ?_, ?_, h.lt, ?_, ?_, h.mf⟩
  · intro k hk; rw [ho] at hk; exact h.keys k hk
  · intro k o' hk hko'; rw [ho] at hko'; exact h.base.2 k o' hk hko'
  · intro e he
    rcases List.mem_cons.1 he with rfl | he
    · refine ⟨hlt, fun o' ho' => ?_⟩
      rw [ho, hko] at ho'; cases ho'; rfl
    · obtain ⟨h1, h2⟩ := h.doom e he
      exact ⟨h1, fun o' ho' => h2 o' (by rw [ho] at ho'; exact ho')⟩
  · intro v hv hp
    rcases h.flag v hv hp with hh | ⟨k, hk⟩
    · cases hh
    · exact Or.inr ⟨k, by rw [ho]; exact hk⟩
  · show (p.listCopy.map _).length = g.m
    rw [List.length_map]; exact h.depth
  · intro k hk
    obtain ⟨h1, h2⟩ := h.cond k hk
    refine ⟨h1, fun hs => ?_⟩
    rw [ho] at hs
    by_cases e : k = k0
    · subst e; exact Or.inl (by simp)
    · rcases h2 hs with hd | hl
      · exact Or.inl (by simp only [List.map_cons, List.mem_cons]; exact Or.inr hd)
      · exact Or.inr (cond_list_erase e hl)
  · intro k hk
    obtain ⟨h1, h2⟩ := h.gone k hk
    exact ⟨h1, by rw [ho]; exact h2⟩

/-- `end_query`, after the callback: the doomed query is released.  `hrel`: if it was a probe, the callback has reset
    the flag of its server -/
theorem PXv.undoom {k0 : Nat} {o : Owner} {lc : List (List Nat)} {g' : Gh} (hlc : FreeLc p k0 lc)
    (hg : g' = { g with D := (k0, o) :: g.D })
    (hrel : ∀ pid, o = .probe pid → ∀ v ∈ p.servers, v.id = pid → v.probePending = false)
    (h : PXv g' none p) : PXv g none (p.free k0 lc) := by
  subst hg
  have hd0 := h.doom (k0, o) (by simp)
  refine PXv.released hlc hd0.1 (fun _ he => List.mem_cons_of_mem _ he) (fun k hk e => ?_) (fun v hv hp hk => ?_) h
  · simp only [List.map_cons, List.mem_cons] at hk
    exact hk.resolve_left e
  · rw [hrel v.id (hd0.2 _ hk).symm v hv rfl] at hp; cases hp

theorem reverse_cons_getElem?_lt {α : Type} (a : α) (l : List α) {n : Nat} (hn : n < l.length) :
    (a :: l).reverse[n]? = l.reverse[n]? := by
  rw [List.reverse_cons, List.getElem?_append_left (by rw [List.length_reverse]; exact hn)]

/-- `ares_cancel` pushes the list it is going to walk -/
theorem PXv.push (l : List Nat) (h : PXv g H p) :
    PXv { g with m := g.m + 1 } H { p with listCopy := l :: p.listCopy } := by
  refine ⟨h.keys, h.base, h.doom, h.flag, ?_, fun hc => Nat.lt_succ_of_lt (h.lt hc), ?_, h.gone, h.mf⟩
  · show (l :: p.listCopy).length = g.m + 1
    rw [List.length_cons, h.depth]
  · intro k hk
    obtain ⟨h1, h2⟩ := h.cond k hk
    refine ⟨h1, fun hs => ?_⟩
    rcases h2 hs with hd | ⟨l', hl', hkl⟩
    · exact Or.inl hd
    · right
      refine ⟨l', ?_, hkl⟩
      show (l :: p.listCopy).reverse[g.n]? = some l'
      have hn : g.n < p.listCopy.length := by
        rw [h.depth]; exact h.lt (fun e => by rw [e] at hk; cases hk)
      rw [reverse_cons_getElem?_lt l p.listCopy hn]; exact hl'

theorem reverse_drop_one_getElem? {α : Type} (l : List α) {n : Nat} (hn : n + 1 < l.length) :
    (l.drop 1).reverse[n]? = l.reverse[n]? := by
  cases l with
  | nil => cases hn
  | cons a r =>
    show r.reverse[n]? = (a :: r).reverse[n]?
    rw [reverse_cons_getElem?_lt a r (by simpa using hn)]

/-- … and pops it when the walk is over -/
theorem PXv.pop {g' : Gh} (hg : g' = { g with m := g.m + 1 }) (h : PXv g' H p) (hlt : g.C ≠ [] → g.n < g.m) :
    PXv g H { p with listCopy := p.listCopy.drop 1 } := by
  subst hg
  refine ⟨h.keys, h.base, h.doom, h.flag, ?_, hlt, ?_, h.gone, h.mf⟩
  · show (p.listCopy.drop 1).length = g.m
    rw [List.length_drop, h.depth]; rfl
  · intro k hk
    obtain ⟨h1, h2⟩ := h.cond k hk
    refine ⟨h1, fun hs => ?_⟩
    rcases h2 hs with hd | ⟨l', hl', hkl⟩
    · exact Or.inl hd
    · right
      refine ⟨l', ?_, hkl⟩
      show (p.listCopy.drop 1).reverse[g.n]? = some l'
      have hn : g.n + 1 < p.listCopy.length := by
        rw [h.depth]
        have := hlt (fun e => by rw [e] at hk; cases hk)
        show g.n + 1 < g.m + 1
        omega
      rw [reverse_drop_one_getElem? p.listCopy hn]; exact hl'

end

namespace PXo
variable {g : Gh} {H : Option Nat}

theorem lift {H' : Option Nat} {g' : Gh} {s s' : St} (ho : s'.outOfFuel = s.outOfFuel)
    (hv : PXv g H (pview s) → PXv g' H' (pview s')) (h : PXo g H s) : PXo g' H' s' := by
  rcases h with h | h
  · exact Or.inl (by rw [ho]; exact h)
  · exact Or.inr (hv h)

theorem congr {s s' : St} (hv : pview s' = pview s) (ho : s'.outOfFuel = s.outOfFuel)
    (h : PXo g H s) : PXo g H s' :=
  lift ho (fun h => by rw [hv]; exact h) h

theorem oof {s : St} : PXo g H s.oof.1 := Or.inl rfl

theorem weaken {s : St} (H' : Option Nat) (h : PXo g none s) : PXo g H' s := lift (s := s) rfl (PXv.weaken H') h

theorem mapQs {s : St} {f : Query → Query} (hf : ∀ q, (f q).key = q.key ∧ (f q).owner = q.owner) (h : PXo g H s) :
    PXo g H { s with qs := s.qs.map f } :=
  lift (s := s) rfl (fun h => PXv.mapQs hf h) h

theorem modQuery {s : St} {k : Nat} {f : Query → Query} (hf : ∀ q, (f q).key = q.key ∧ (f q).owner = q.owner)
    (h : PXo g H s) : PXo g H (s.modQuery k f) := by
  unfold St.modQuery
  apply mapQs _ h
  intro q
  by_cases hq : q.key == k <;> simp [hq, hf]

theorem nameOnly {s : St} {f : Query → Query} (hf : NameOnly f) (h : PXo g H s) :
    PXo g H { s with qs := s.qs.map f } := by
  apply mapQs _ h
  intro q
  obtain ⟨nm, e⟩ := hf q
  rw [e]; exact ⟨rfl, rfl⟩

theorem setServers {s : St} {sv : List Server}
    (hs : ∀ v ∈ sv, v.probePending = true → ∃ w ∈ s.servers, w.id = v.id ∧ w.probePending = true) (h : PXo g H s) :
    PXo g H { s with servers := sv } :=
  lift (s := s) rfl (fun h => PXv.setServers (p := pview s) hs h) h

theorem modServer {s : St} {id : Nat} {f : Server → Server}
    (hf : ∀ v, (f v).id = v.id ∧ ((f v).probePending = true → v.probePending = true)) (h : PXo g H s) :
    PXo g H (s.modServer id f) := by
  unfold St.modServer
  apply setServers _ h
  intro v hv hp
  obtain ⟨x, hx, rfl⟩ := List.mem_map.1 hv
  by_cases hq : x.id == id
  · simp only [hq, ↓reduceIte] at hp ⊢
    exact ⟨x, hx, ((hf x).1).symm, (hf x).2 hp⟩
  · simp only [hq, Bool.false_eq_true, ↓reduceIte] at hp ⊢
    exact ⟨x, hx, rfl, hp⟩

theorem incFailures {s : St} {id : Nat} {tcp : Bool} (h : PXo g H s) : PXo g H (s.incFailures id tcp) := by
  unfold St.incFailures
  split
  · exact h
  · rename_i v hv
    refine congr (s := { s with servers := _ }) rfl rfl (setServers ?_ h)
    intro w hw hp
    obtain ⟨x, hx, rfl⟩ := List.mem_map.1 hw
    by_cases hq : x.id == v.id
    · simp only [hq, ↓reduceIte] at hp; cases hp
    · simp only [hq, Bool.false_eq_true, ↓reduceIte] at hp ⊢
      exact ⟨x, hx, rfl, hp⟩

theorem setGood {s : St} {id : Nat} {tcp : Bool} (h : PXo g H s) : PXo g H (s.setGood id tcp) := by
  unfold St.setGood
  split
  · exact h
  · rename_i v hv
    have hvm : v ∈ s.servers := List.mem_of_find?_eq_some hv
    refine congr (s := { s with servers := _ }) rfl rfl (setServers ?_ h)
    intro w hw hp
    obtain ⟨x, hx, rfl⟩ := List.mem_map.1 hw
    by_cases hq : x.id == v.id
    · simp only [hq, ↓reduceIte] at hp ⊢
      exact ⟨v, hvm, rfl, hp⟩
    · simp only [hq, Bool.false_eq_true, ↓reduceIte] at hp ⊢
      exact ⟨x, hx, rfl, hp⟩

theorem metricsRecord {s : St} {q : Query} {srv : Option Nat} {st : Status} {rec : Option Reply} (h : PXo g H s) :
    PXo g H (s.metricsRecord q srv st rec) := by
  unfold St.metricsRecord
  split
  · split
    · exact h
    · exact modServer (fun _ => ⟨rfl, fun h => h⟩) h
  · exact h

theorem mfault {s : St} {e : String} (h : PXo g H s) : PXo g H (s.mfault e) := by
  refine lift (s := s) rfl (fun h => ?_) h
  have := PXv.moreFaults (p := pview s) (n := (s.modelFaults ++ [e]).length) (by
    show s.modelFaults.length ≤ _
    rw [List.length_append]; exact Nat.le_add_right _ _) h
  exact this

theorem removeFromConn {s : St} {k : Nat} (h : PXo g H s) : PXo g H (s.removeFromConn k) := by
  rw [St.removeFromConn_eq]
  rcases removeFromConn_qs s k with hq | ⟨_, hq⟩
  · rw [hq]
    refine congr (s := { s with qs := s.qs.map (fun x => if x.key == k then unlinkQ x else x) }) rfl rfl ?_
    apply mapQs _ h
    intro q
    by_cases hk : q.key == k <;> simp [hk, unlinkQ]
  · rw [hq]
    exact congr (s := s) rfl rfl h

theorem recordTx {s : St} {fd : Nat} {tcp : Bool} {f : OutFrame} (h : PXo g H s) : PXo g H (s.recordTx fd tcp f) := by
  obtain ⟨t, f', ev, sl, hf, _, e⟩ := recordTx_shape s fd tcp f
  rw [e]
  exact congr (s := { s with qs := s.qs.map f' }) rfl rfl (nameOnly hf h)

theorem advanceOut {s : St} {fuel fd n : Nat} (h : PXo g H s) : PXo g H (Cares.Chan.advanceOut fuel fd s n) :=
  advanceOut_induct (fun _ _ _ _ _ _ h => recordTx (congr rfl rfl h)) (fun _ _ h => congr rfl rfl h) fuel s n h

end PXo

section
variable {g : Gh} {H : Option Nat}
chan_simple_lemmas PXo : (PXo g H) =>
  modConn modClient cacheExpire
end

/-- strip one layer of structure update that leaves `qs`, `nextKey`, `servers`, `listCopy`, `modelFaults`,
    `outOfFuel` alone -/
macro "px_congr" : tactic => `(tactic| (
  refine PXo.congr (s := ?s0) ?h1 ?h2 ?hI
  -- reducing the projection of the outer structure update is what finds `?s0`
  case h2 => (dsimp only; exact rfl)
  case h1 => exact rfl))

/-- `ares_probe_failed_server` marks the server: the flag is set before the probe query exists (hole) -/
theorem PXo.setFlag {g : Gh} {s : St} (id : Nat) (h : PXo g none s) :
    PXo g (some id) (s.modServer id fun v => { v with probePending := true }) := by
  refine PXo.lift (s := s) rfl (fun h => ?_) h
  refine ⟨h.keys, h.base, h.doom, fun v hv hp => ?_, h.depth, h.lt, h.cond, h.gone, h.mf⟩
  obtain ⟨x, hx, rfl⟩ := List.mem_map.1 hv
  by_cases hq : x.id == id
  · simp only [hq, ↓reduceIte]
    exact Or.inl (by rw [beq_iff_eq.1 hq])
  · simp only [hq, Bool.false_eq_true, ↓reduceIte] at hp ⊢
    rcases h.flag x hx hp with hh | hh
    · cases hh
    · exact Or.inr hh

/-- `server_probe_cb`: the flag of the probed server is reset; its hole closes -/
theorem PXo.release {g : Gh} {s : St} (pid : Nat) (h : PXo g (some pid) s) : PXo g none (releaseProbe pid s) := by
  refine PXo.lift (s := s) rfl (fun h => ?_) h
  obtain ⟨h1, _, h3, _⟩ := releaseProbe_spec pid s
  have h' : PXv g (some pid) (pview (releaseProbe pid s)) :=
    PXv.setServers (p := pview s) (sv := (releaseProbe pid s).servers)
      (fun v hv hp => by obtain ⟨w, hw, hid, hwp⟩ := h3 v hv hp; exact ⟨w, hw, hid, hwp⟩) h
  exact h'.fill (Or.inl h1)

/-- `ares_send_nolock` stores the new query under the next key (after the random draws of `ares_apply_dns0x20`, which
    do not move the key counter); if it is the probe the hole was waiting for, the hole is filled -/
theorem PXo.snCreate {g : Gh} {H : Option Nat} {s : St} (qid : Nat) (noretry : Bool) (spec : ReqSpec) {owner : Owner}
    (react : List Nat) (hH : ∀ pid, H = some pid → owner = .probe pid) (h : PXo g H s) :
    PXo g none (snCreate s qid noretry spec owner react) := by
  obtain ⟨o, f, q, hk, _, ho, _, e⟩ := snCreate_shape s qid noretry spec owner react
  rw [e]
  exact PXo.lift (s := s) rfl (fun hv => PXv.addQuery (p := pview s) (q := q) hk (fun pid hp => ho.trans (hH pid hp)) hv) h

theorem pview_detach (s : St) (k : Nat) (q : Query) (hq : s.query? k = some q) :
    pview (s.detach k) = (pview s).detached k (fun x => if x.key == k then unlinkQ x else x) := by
  unfold St.detach
  rw [hq]
  dsimp only
  rw [St.removeFromConn_eq]
  rcases removeFromConn_qs s k with hqs | ⟨hn, _⟩
  · rw [hqs]; rfl
  · rw [hq] at hn; cases hn

theorem pview_freeQuery (s : St) (k : Nat) :
    ∃ lc, FreeLc (pview s) k lc ∧ pview (s.freeQuery k) = (pview s).free k lc := by
  cases hq : s.query? k with
  | none =>
    refine ⟨s.listCopy, Or.inl rfl, ?_⟩
    have : s.detach k = s := by unfold St.detach; rw [hq]
    unfold St.freeQuery; rw [this]; rfl
  | some q =>
    refine ⟨s.listCopy.map (·.erase k), Or.inr rfl, ?_⟩
    have hd := pview_detach s k q hq
    have e : pview (s.freeQuery k) = { pview (s.detach k) with qs := (pview (s.detach k)).qs.filter (·.key != k) } := rfl
    rw [e, hd]
    unfold PV.detached PV.free
    dsimp only
    rw [filter_map_unlink]
    rfl

theorem owner?_of_query? {s : St} {k : Nat} {q : Query} (hq : s.query? k = some q) :
    (pview s).owner? k = some q.owner := by
  rw [owner?_pview, hq]; rfl

/-- `ares_free_query` in the cancel / destroy walk -/
theorem PXo.freeQuery {g : Gh} {s : St} {k : Nat} {q : Query} (hq : s.query? k = some q) (h : PXo g none s) :
    PXo g (holeOf q.owner) (s.freeQuery k) := by
  refine PXo.lift (s := s) (St.freeQuery_outOfFuel s k) (fun h => ?_) h
  obtain ⟨lc, hlc, e⟩ := pview_freeQuery s k
  rw [e]
  exact PXv.free hlc (owner?_of_query? hq) h

/-- `ares_detach_query` in `end_query` -/
theorem PXo.detach {g : Gh} {s : St} {k : Nat} {q : Query} (hq : s.query? k = some q) (h : PXo g none s) :
    PXo { g with D := (k, q.owner) :: g.D } none (s.detach k) := by
  refine PXo.lift (s := s) (St.detach_outOfFuel s k) (fun h => ?_) h
  rw [pview_detach s k q hq]
  refine PXv.detached ?_ (owner?_of_query? hq) h
  intro x
  by_cases hk : x.key == k <;> simp [hk, unlinkQ]

/-- `ares_free_query` at the end of `end_query` -/
theorem PXo.undoom {g : Gh} {s : St} {k : Nat} {o : Owner}
    (hrel : s.outOfFuel = true ∨ ∀ pid, o = .probe pid → ∀ v ∈ s.servers, v.id = pid → v.probePending = false)
    (h : PXo { g with D := (k, o) :: g.D } none s) : PXo g none (s.freeQuery k) := by
  rcases hrel with hrel | hrel
  · exact Or.inl (by rw [St.freeQuery_outOfFuel]; exact hrel)
  refine PXo.lift (s := s) (St.freeQuery_outOfFuel s k) (fun h => ?_) h
  obtain ⟨lc, hlc, e⟩ := pview_freeQuery s k
  rw [e]
  exact PXv.undoom hlc rfl hrel h

/-- `ares_cancel` swaps the list of all queries onto the stack -/
theorem PXo.push {g : Gh} {H : Option Nat} {s s' : St} {l : List Nat} (h1 : s'.qs = s.qs) (h2 : s'.nextKey = s.nextKey)
    (h3 : s'.servers = s.servers) (h4 : s'.listCopy = l :: s.listCopy) (h5 : s'.modelFaults = s.modelFaults)
    (h6 : s'.outOfFuel = s.outOfFuel) (h : PXo g H s) : PXo { g with m := g.m + 1 } H s' := by
  refine PXo.lift (s := s) h6 (fun h => ?_) h
  have e : pview s' = { pview s with listCopy := l :: (pview s).listCopy } := by
    unfold pview; rw [h1, h2, h3, h4, h5]
  rw [e]; exact PXv.push l h

theorem PXo.pop {g : Gh} {H : Option Nat} {s : St} (hlt : g.C ≠ [] → g.n < g.m)
    (h : PXo { g with m := g.m + 1 } H s) : PXo g H { s with listCopy := s.listCopy.drop 1 } := by
  refine PXo.lift (s := s) rfl (fun h => ?_) h
  exact PXv.pop rfl h hlt

end Cares.Chan
