import CaresModel.Proto.Timeout
import Mathlib.Tactic.Ring
/-!
# The exact binary32 jitter lies in its interval (helper for C06a)

Values are `m · 2^e` with an integer exponent; `SLe a x b` says `a · 2^x ≤ b` without division, and such comparisons
multiply (`SLe.mul`).  `floorLog2Ratio_spec` (the exponent brackets the ratio), `roundF32_le` (rounding to nearest adds at
most the relative error 2⁻²⁴), `mul_leRat`, `trunc_le`, `fr_le_one`, and the result `jitterExact_ok`:
`jitterExact tp r · 2⁴⁹ ≤ tp · (2²⁴+1)²` for every `tp` and every 16-bit `r`.
The last section gives `ares_calc_query_timeout` in closed form (`calcWith_eq`, `calcWith_first`), for C06a and for
`ChanPolicyCalc`.
(One Mathlib module, `Mathlib.Tactic.Ring`, is imported here, as allowed for `CaresLemmas`; the proofs use `ring` and what
comes with that import, `norm_num` and `Eq.trans_le`.  The model is core-only.)
-/
namespace Cares.Proto.Timeout

theorem log2Aux_spec (f : Nat) : ∀ n, 1 ≤ n → n ≤ f → 2 ^ (log2Aux f n) ≤ n ∧ n < 2 ^ (log2Aux f n + 1) := by
  induction f with
  | zero => intro n h1 h2; omega
  | succ f ih =>
    intro n h1 h2
    simp only [log2Aux]
    by_cases h : n ≥ 2
    · simp only [h, ↓reduceIte]
      have := ih (n / 2) (by omega) (by omega)
      generalize log2Aux f (n / 2) = k at this
      rw [Nat.pow_succ, Nat.pow_succ]
      rw [Nat.pow_succ] at this
      omega
    · simp only [h, ↓reduceIte]; omega

theorem log2_spec (n : Nat) (h : 1 ≤ n) : 2 ^ (log2 n) ≤ n ∧ n < 2 ^ (log2 n + 1) :=
  log2Aux_spec n n h (Nat.le_refl n)

/-- `a · 2^x ≤ b`, written without division (one of the two powers is `2^0`) -/
def SLe (a : Nat) (x : Int) (b : Nat) : Prop := a * 2 ^ x.toNat ≤ b * 2 ^ (-x).toNat

instance (a : Nat) (x : Int) (b : Nat) : Decidable (SLe a x b) := Nat.decLe _ _

theorem toNat_eq_add (z : Int) : (z.toNat : Int) = z + (-z).toNat :=
  Int.sub_eq_iff_eq_add.mp (Int.toNat_sub_toNat_neg z)

theorem pow_toNat_add (x y : Int) :
    2 ^ (x + y).toNat * (2 ^ (-x).toNat * 2 ^ (-y).toNat) = 2 ^ (-(x + y)).toNat * (2 ^ x.toNat * 2 ^ y.toNat) := by
  rw [← Nat.pow_add, ← Nat.pow_add, ← Nat.pow_add, ← Nat.pow_add]
  congr 1
  apply Int.ofNat.inj
  simp only [Int.ofNat_eq_natCast, Int.natCast_add]
  rw [toNat_eq_add x, toNat_eq_add y, toNat_eq_add (x + y)]
  ac_rfl

theorem SLe.mul {a b a' b' : Nat} {x y : Int} (h : SLe a x b) (h' : SLe a' y b') : SLe (a * a') (x + y) (b * b') := by
  unfold SLe at *
  have e := pow_toNat_add x y
  have hx := Nat.two_pow_pos (-x).toNat
  have hy := Nat.two_pow_pos (-y).toNat
  generalize 2 ^ (x + y).toNat = U, 2 ^ (-(x + y)).toNat = D, 2 ^ x.toNat = ux, 2 ^ (-x).toNat = dx,
    2 ^ y.toNat = uy, 2 ^ (-y).toNat = dy at *
  apply Nat.le_of_mul_le_mul_right _ (Nat.mul_pos hx hy)
  calc a * a' * U * (dx * dy) = a * a' * (U * (dx * dy)) := Nat.mul_assoc ..
    _ = (a * ux) * (a' * uy) * D := by rw [e]; ring
    _ ≤ (b * dx) * (b' * dy) * D := Nat.mul_le_mul_right _ (Nat.mul_le_mul h h')
    _ = b * b' * D * (dx * dy) := by ring

theorem sle_of_le {b J : Nat} (h : 2 ^ J ≤ b) : SLe 1 J b := by
  unfold SLe
  rwa [Int.toNat_natCast, Int.toNat_neg_natCast, Nat.pow_zero, Nat.mul_one, Nat.one_mul]

theorem sle_neg_of_le {a K : Nat} (h : a ≤ 2 ^ K) : SLe a (-(K : Int)) 1 := by
  unfold SLe
  rwa [Int.neg_neg, Int.toNat_natCast, Int.toNat_neg_natCast, Nat.pow_zero, Nat.mul_one, Nat.one_mul]

theorem SLe.shift {a b : Nat} {x : Int} (c : Nat) (h : SLe a x b) : SLe (2 ^ c * a) (x - c) b := by
  have := (sle_neg_of_le (Nat.le_refl (2 ^ c))).mul h
  rwa [Nat.one_mul, Int.add_comm, ← Int.sub_eq_add_neg] at this

theorem not_sle_of_succ {n d : Nat} {y : Int} (h : SLe (n + 1) (-y) d) : ¬ SLe d y n := by
  intro h'
  unfold SLe at h h'
  rw [Int.neg_neg] at h
  exact Nat.lt_irrefl _ (Nat.lt_of_lt_of_le
    (Nat.mul_lt_mul_of_pos_right (Nat.lt_succ_self n) (Nat.two_pow_pos _)) (Nat.le_trans h h'))

theorem SLe.mono {a b b' : Nat} {x : Int} (h : SLe a x b) (hb : b ≤ b') : SLe a x b' :=
  Nat.le_trans h (Nat.mul_le_mul_right _ hb)

theorem SLe.cancel {a b c : Nat} {x : Int} (hc : 0 < c) (h : SLe (a * c) x (b * c)) : SLe a x b := by
  unfold SLe at *
  rw [Nat.mul_right_comm a, Nat.mul_right_comm b] at h
  exact Nat.le_of_mul_le_mul_right h hc

theorem floorLog2Ratio_eq (n d : Nat) : floorLog2Ratio n d =
    if SLe d ((log2 n : Int) - log2 d) n then (log2 n : Int) - log2 d else (log2 n : Int) - log2 d - 1 := by
  unfold floorLog2Ratio pow2
  generalize (log2 n : Int) - log2 d = s
  simp only []
  split
  next h =>
    refine if_congr ?_ rfl rfl
    rw [SLe, Int.toNat_eq_zero.mpr (by omega : -s ≤ 0), Nat.pow_zero, Nat.mul_one]
  next h =>
    refine if_congr ?_ rfl rfl
    rw [SLe, Int.toNat_eq_zero.mpr (by omega : s ≤ 0), Nat.pow_zero, Nat.mul_one]

/-- `2^L ≤ n/d < 2^(L+1)` -/
def Brackets (n d : Nat) (L : Int) : Prop := SLe d L n ∧ ¬ SLe d (L + 1) n

theorem floorLog2Ratio_spec (n d : Nat) (hn : 1 ≤ n) (hd : 1 ≤ d) : Brackets n d (floorLog2Ratio n d) := by
  obtain ⟨a1, a2⟩ := log2_spec n hn
  obtain ⟨b1, b2⟩ := log2_spec d hd
  -- the difference `s` of the two logarithms is within one of the answer: `2^(s-1) ≤ n/d < 2^(s+1)`
  have lo := (sle_neg_of_le (Nat.le_of_lt b2)).mul (sle_of_le a1)
  have hi := not_sle_of_succ (y := (log2 n : Int) - log2 d + 1) (by
    have := (sle_neg_of_le a2).mul (sle_of_le b1)
    rwa [Nat.mul_one, Nat.one_mul, show -((log2 n + 1 : Nat) : Int) + log2 d = -((log2 n : Int) - log2 d + 1) by omega] at this)
  rw [Nat.mul_one, Nat.one_mul, show -((log2 d + 1 : Nat) : Int) + log2 n = (log2 n : Int) - log2 d - 1 by omega] at lo
  rw [floorLog2Ratio_eq]
  split
  next h => exact ⟨h, hi⟩
  next h => exact ⟨lo, by rwa [Int.sub_add_cancel]⟩

/-- `a ≤ N/D` for the value `a = m·2^e` -/
def F32.LeRat (a : F32) (N D : Nat) : Prop := SLe (a.m * D) a.e N

theorem numden_bracket (n d : Nat) (hn : 1 ≤ n) (hd : 1 ≤ d) :
    let e : Int := floorLog2Ratio n d - 23
    2 ^ 23 * (d * 2 ^ e.toNat) ≤ n * 2 ^ (-e).toNat := by
  have := (floorLog2Ratio_spec n d hn hd).1.shift 23
  rwa [SLe, Nat.mul_assoc] at this

/-- `roundF32 n d` is the quotient of the scaled fraction or, when the remainder is at least half the divisor, the next
    integer -/
theorem roundF32_cases (n d : Nat) :
    let e : Int := floorLog2Ratio n d - 23
    let num := n * 2 ^ (-e).toNat
    let den := d * 2 ^ e.toNat
    ∃ q', roundF32 n d = ⟨q', e⟩ ∧ (q' = num / den ∨ q' = num / den + 1 ∧ den ≤ 2 * (num % den)) := by
  intro e num den
  unfold roundF32 pow2
  refine ⟨_, rfl, ?_⟩
  split
  next hc => exact .inr ⟨rfl, hc.elim Nat.le_of_lt (fun h => Nat.le_of_eq h.1.symm)⟩
  · exact .inl rfl

/-- a quotient rounded to nearest exceeds the fraction by at most half a unit, and that is at most 2⁻²⁴ of a fraction
    that is at least 2²³ -/
theorem round_nearest_le (num den q' : Nat) (hb : 2 ^ 23 * den ≤ num)
    (hq' : q' = num / den ∨ q' = num / den + 1 ∧ den ≤ 2 * (num % den)) : q' * den * 2 ^ 24 ≤ num * (2 ^ 24 + 1) := by
  have hdm := Nat.div_add_mod num den
  rcases hq' with rfl | ⟨rfl, hup⟩
  · rw [Nat.mul_comm _ den]; omega
  · rw [Nat.add_mul, Nat.one_mul, Nat.mul_comm _ den]; omega

/-- rounding never adds more than the relative error 2⁻²⁴ -/
theorem roundF32_le (n d : Nat) (hn : 1 ≤ n) (hd : 1 ≤ d) :
    (roundF32 n d).LeRat (n * (2 ^ 24 + 1)) (d * 2 ^ 24) := by
  obtain ⟨q', hq, hc⟩ := roundF32_cases n d
  have h := round_nearest_le _ _ q' (numden_bracket n d hn hd) hc
  rw [hq]
  unfold F32.LeRat SLe
  generalize floorLog2Ratio n d - 23 = e at h ⊢
  calc q' * (d * 2 ^ 24) * 2 ^ e.toNat = q' * (d * 2 ^ e.toNat) * 2 ^ 24 := by ring
    _ ≤ n * 2 ^ (-e).toNat * (2 ^ 24 + 1) := h
    _ = n * (2 ^ 24 + 1) * 2 ^ (-e).toNat := by ring

theorem roundF32_m_ge (n d : Nat) (hn : 1 ≤ n) (hd : 1 ≤ d) : 2 ^ 23 ≤ (roundF32 n d).m := by
  obtain ⟨q', hq, hc⟩ := roundF32_cases n d
  rw [hq]
  have : 2 ^ 23 ≤ _ / _ :=
    (Nat.le_div_iff_mul_le (Nat.mul_pos hd (Nat.two_pow_pos _))).mpr (numden_bracket n d hn hd)
  rcases hc with rfl | ⟨rfl, _⟩
  · exact this
  · exact Nat.le_succ_of_le this

theorem leRat_half (a : F32) (h : a.LeRat 1 1) : (⟨a.m, a.e - 1⟩ : F32).LeRat 1 2 := by
  have := SLe.shift 1 h
  rwa [Nat.pow_one, Nat.mul_one, Nat.mul_comm] at this

theorem mul_leRat (a b : F32) (Na Da Nb Db : Nat) (ha : a.LeRat Na Da) (hb : b.LeRat Nb Db)
    (hma : 1 ≤ a.m) (hmb : 1 ≤ b.m) :
    (a.mul b).LeRat (Na * Nb * (2 ^ 24 + 1)) (Da * Db * 2 ^ 24) := by
  unfold F32.mul pow2
  have hprod := SLe.mul ha hb
  generalize a.e + b.e = E at hprod ⊢
  have hd := Nat.two_pow_pos (-E).toNat
  have hr := roundF32_le _ _ (Nat.mul_pos (Nat.mul_pos hma hmb) (Nat.two_pow_pos E.toNat)) hd
  generalize roundF32 (a.m * b.m * 2 ^ E.toNat) (2 ^ (-E).toNat) = R at hr ⊢
  unfold F32.LeRat SLe at *
  generalize 2 ^ E.toNat = P, 2 ^ (-E).toNat = M, 2 ^ R.e.toNat = U, 2 ^ (-R.e).toNat = D at *
  apply Nat.le_of_mul_le_mul_right _ hd
  calc R.m * (Da * Db * 2 ^ 24) * U * M = (R.m * (M * 2 ^ 24) * U) * (Da * Db) := by ring
    _ ≤ (a.m * b.m * P * (2 ^ 24 + 1) * D) * (Da * Db) := Nat.mul_le_mul_right _ hr
    _ = (a.m * Da * (b.m * Db) * P) * ((2 ^ 24 + 1) * D) := by ring
    _ ≤ (Na * Nb * M) * ((2 ^ 24 + 1) * D) := Nat.mul_le_mul_right _ hprod
    _ = Na * Nb * (2 ^ 24 + 1) * D * M := by ring

theorem trunc_le (a : F32) (N D : Nat) (h : a.LeRat N D) : a.trunc * D ≤ N := by
  apply Nat.le_of_mul_le_mul_right _ (Nat.two_pow_pos (-a.e).toNat)
  calc a.trunc * D * 2 ^ (-a.e).toNat = a.trunc * 2 ^ (-a.e).toNat * D := Nat.mul_right_comm ..
    _ ≤ a.m * 2 ^ a.e.toNat * D := Nat.mul_le_mul_right _ (Nat.div_mul_le_self ..)
    _ = a.m * D * 2 ^ a.e.toNat := Nat.mul_right_comm ..
    _ ≤ N * 2 ^ (-a.e).toNat := h

theorem fr_le_one (r : Nat) (h1 : 1 ≤ r) (h2 : r ≤ 65535) : (roundF32 r 65535).LeRat 1 1 := by
  by_cases h : r = 65535
  · subst h; unfold F32.LeRat SLe; decide +kernel
  · -- below 1 the rounding error is absorbed: `r·(2²⁴+1) ≤ 65535·2²⁴` for `r ≤ 65534`
    have hr := roundF32_le r 65535 h1 (by decide)
    have hr2 : r * (2 ^ 24 + 1) ≤ 1 * (65535 * 2 ^ 24) := by omega
    unfold F32.LeRat at hr ⊢
    rw [Nat.mul_one]
    exact SLe.cancel (b := 1) (Nat.mul_pos (by decide) (Nat.two_pow_pos 24)) (hr.mono hr2)

/-- **the exact jitter lies in the interval**: for every 64-bit (indeed every) `timeplus` and every 16-bit draw the
    amount taken away is at most `timeplus · (1/2 + 2⁻²⁴ + 2⁻⁴⁹)` -/
theorem jitterExact_ok (tp r : Nat) (hr : r ≤ 65535) : jitterExact tp r * 2 ^ 49 ≤ tp * (2 ^ 24 + 1) ^ 2 := by
  unfold jitterExact
  split
  · exact (Nat.zero_mul _).trans_le (Nat.zero_le _)
  next h =>
    have hr1 : 1 ≤ r := by omega
    have ht1 : 1 ≤ tp := by omega
    simp only []
    have hU : Cares.Generated.Proto.USHRT_MAX = 65535 := rfl
    rw [hU]
    have hdm := leRat_half _ (fr_le_one r hr1 hr)
    have hfm : 1 ≤ (roundF32 r 65535).m := Nat.le_trans (Nat.two_pow_pos 23) (roundF32_m_ge r 65535 hr1 (by decide))
    have hft := roundF32_le tp 1 ht1 (Nat.le_refl 1)
    have hftm : 1 ≤ (roundF32 tp 1).m := Nat.le_trans (Nat.two_pow_pos 23) (roundF32_m_ge tp 1 ht1 (Nat.le_refl 1))
    have := trunc_le _ _ _ (mul_leRat _ _ _ _ _ _ hft hdm hftm (by dsimp only; exact hfm))
    generalize F32.trunc _ = T at this ⊢
    calc T * 2 ^ 49 = T * (1 * 2 ^ 24 * 2 * 2 ^ 24) := by norm_num
      _ ≤ tp * (2 ^ 24 + 1) * 1 * (2 ^ 24 + 1) := this
      _ = tp * (2 ^ 24 + 1) ^ 2 := by ring

theorem jitterExact_zero (tp : Nat) : jitterExact tp 0 = 0 := by
  unfold jitterExact; simp

/-- the closed form: when the jitter amount `d` does not exceed the doubled and capped value `p.1`, the subtraction
    does not wrap and the result is `p.1 - d`, floored at the base timeout; the flags are those of the doubling.
    `p`, `d` and `jit` are fixed only through `hp` and `hd`: call it as `calcWith_eq hn rfl (if_pos hr) hle` (or
    `if_neg hr`, or `rfl` for `hd`, which leaves the `if` in `d` and in `hle`). -/
theorem calcWith_eq {g : Bool} {jit : Nat → Nat} {timeout maxtimeout tryCount nservers d : Nat} {p : Nat × Bool × Bool}
    (hn : nservers ≠ 0) (hp : preJitter g timeout maxtimeout (tryCount / nservers) = p)
    (hd : (if tryCount / nservers > 0 then jit p.1 else 0) = d) (hle : d ≤ p.1) :
    calcWith g jit timeout maxtimeout tryCount nservers =
      ⟨max timeout (p.1 - d), p.2.1, p.2.2, decide (tryCount / nservers > 0)⟩ := by
  simp only [calcWith, hn, ↓reduceIte, hp, hd, Nat.not_lt.mpr hle, decide_false, Bool.or_false]
  congr 1
  generalize p.1 - d = x
  rw [Nat.max_def]
  split <;> split <;> omega

/-- the first pass through the server list: no doubling, no jitter -/
theorem calcWith_first {g : Bool} {jit : Nat → Nat} {timeout maxtimeout tryCount nservers : Nat} (hn : nservers ≠ 0)
    (hr : tryCount / nservers = 0) (hb : maxtimeout ≠ 0 → timeout ≤ maxtimeout) :
    calcWith g jit timeout maxtimeout tryCount nservers = ⟨timeout, false, false, false⟩ := by
  have hp : preJitter g timeout maxtimeout (tryCount / nservers) = (timeout, false, false) := by
    simp only [hr, preJitter, shiftStep, ↓reduceIte, Prod.mk.injEq, and_true, ite_eq_right_iff]
    exact fun ⟨hm, hgt⟩ => absurd (hb hm) (Nat.not_le.mpr hgt)
  rw [calcWith_eq hn hp rfl (by simp [hr]), hr]
  simp

end Cares.Proto.Timeout
