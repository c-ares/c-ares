import CaresLemmas.ChanSockInv
/-!
# `ares_destroy` closes every socket (C10) — given the ownership facts of C01

`ares_destroy` cancels every query, then closes every connection on the servers' lists.  That this reaches *every*
connection, and that closing them does not open new ones, needs two facts about the state after the cancel loop that
belong to the ownership invariant of C01 (every connection is on its server's list; no connection still lists a
query once all queries are gone).  Given these, everything is proved here.
-/
namespace Cares.Chan

/-- closing a connection that lists no queries makes no recursive call besides `ares_requeue_queries`' (empty) loop:
    with two units of fuel it completes, removing exactly the connections with that descriptor -/
theorem exec_closeConn_idle (f : Nat) (fd : Nat) (st : Status) (t : St) (hq : ∀ c ∈ t.conns, c.queries = []) :
    (exec (f + 2) (.closeConn fd st) t).1.conns = t.conns.filter (·.fd != fd) ∧
      (exec (f + 2) (.closeConn fd st) t).1.outOfFuel = t.outOfFuel := by
  simp only [exec, execBody]
  unfold bodyCloseConn
  cases hc : t.conn? fd with
  | none =>
    simp only [chan_frame, and_true]
    rw [List.filter_eq_self.mpr]
    intro c hcm
    have := List.find?_eq_none.mp hc c hcm
    simpa using this
  | some c =>
    simp only []
    generalize ht1 : ((t.modServer c.srv fun v =>
        { v with conns := v.conns.erase fd, tcpConn := if c.tcp then none else v.tcpConn }).modConn fd fun c =>
        { c with unlinked := true, out := [], outOff := 0, inBytes := 0, inMsgs := [] }) = t1
    have hc1 : ∃ c1, t1.conn? fd = some c1 ∧ c1.queries = [] := by
      rw [← ht1]
      have hm := List.mem_of_find?_eq_some hc
      refine ⟨_, (conn?_modConn_self _ _ _ (by intro; rfl)).trans (congrArg (Option.map _) (by simpa only [St.conn?, chan_frame] using hc)), ?_⟩
      exact hq c hm
    obtain ⟨c1, hc1, hq1⟩ := hc1
    unfold bodyCloseLoop
    simp only [hc1, hq1]
    have he : ∀ x : St × Ret, x = (closeFinal t1 fd, Status.ok) → x.1.conns = t.conns.filter (·.fd != fd) ∧
        x.1.outOfFuel = t.outOfFuel := by
      intro x hx
      subst hx
      rw [closeFinal_conns, closeFinal_outOfFuel, ← ht1]
      refine ⟨?_, by simp only [chan_frame]⟩
      rw [conns_modConn_ne]
      · simp only [chan_frame]
      · intro c; rfl
    exact he _ rfl

theorem filter_filter_ne (l : List Conn) (fd : Nat) (p : Conn → Bool) :
    (l.filter p).filter (·.fd != fd) = l.filter (fun c => p c && (c.fd != fd)) := by
  rw [List.filter_filter]
  congr 1
  funext c
  exact Bool.and_comm _ _

theorem foldl_closeConn_idle (f : Nat) : ∀ (fds : List Nat) (t : St), (∀ c ∈ t.conns, c.queries = []) →
    (fds.foldl (fun s fd => (exec (f + 2) (.closeConn fd .ok) s).1) t).conns =
        t.conns.filter (fun c => !fds.contains c.fd) ∧
      (fds.foldl (fun s fd => (exec (f + 2) (.closeConn fd .ok) s).1) t).outOfFuel = t.outOfFuel
  | [], t, _ => by
    refine ⟨?_, rfl⟩
    simp only [List.foldl_nil]
    exact (List.filter_eq_self.mpr (fun _ _ => by simp)).symm
  | fd :: rest, t, hq => by
    obtain ⟨h1, h2⟩ := exec_closeConn_idle f fd .ok t hq
    have hq' : ∀ c ∈ (exec (f + 2) (.closeConn fd .ok) t).1.conns, c.queries = [] := by
      intro c hc; rw [h1] at hc; exact hq c (List.mem_filter.mp hc).1
    obtain ⟨h3, h4⟩ := foldl_closeConn_idle f rest _ hq'
    simp only [List.foldl_cons]
    refine ⟨?_, by rw [h4, h2]⟩
    rw [h3, h1, List.filter_filter]
    apply List.filter_congr
    intro c _
    simp only [List.contains_cons, Bool.not_or, bne_iff_ne, ne_eq]
    by_cases hcf : c.fd = fd
    · simp [hcf]
    · have : (c.fd == fd) = false := by simpa using hcf
      simp [this, hcf]

/-- **`ares_destroy` closes every socket** (given the two ownership facts about the state `t` after the cancel loop) -/
theorem exec_destroy_closes_all (f : Nat) (s : St) (h : SInv none s)
    (hq : ∀ c ∈ (exec (f + 2) (.cancelLoop .destruction true) { s with destroying := true }).1.conns, c.queries = [])
    (hl : ∀ c ∈ (exec (f + 2) (.cancelLoop .destruction true) { s with destroying := true }).1.conns,
      c.fd ∈ ((exec (f + 2) (.cancelLoop .destruction true) { s with destroying := true }).1.sortedServers.map
        (·.conns)).flatten) :
    (exec (f + 3) .destroy s).1.conns = [] ∧
      (∀ fd, fdState (exec (f + 3) .destroy s).1.sockLog fd ≠ .opened) ∧
      (exec (f + 3) .destroy s).1.outOfFuel =
        (exec (f + 2) (.cancelLoop .destruction true) { s with destroying := true }).1.outOfFuel := by
  have hinv := exec_SInv none (f + 3) .destroy s h
  have hconns : (exec (f + 3) .destroy s).1.conns = [] ∧ (exec (f + 3) .destroy s).1.outOfFuel =
        (exec (f + 2) (.cancelLoop .destruction true) { s with destroying := true }).1.outOfFuel := by
    show (execBody (exec (f + 2)) .destroy s).1.conns = [] ∧ _
    simp only [execBody, bodyDestroy]
    obtain ⟨h1, h2⟩ := foldl_closeConn_idle f
      ((exec (f + 2) (.cancelLoop .destruction true) { s with destroying := true }).1.sortedServers.map (·.conns)).flatten
      _ hq
    refine ⟨?_, h2⟩
    rw [h1, List.filter_eq_nil_iff]
    intro c hc
    have := hl c hc
    simp only [Bool.not_eq_true, Bool.not_eq_false', List.contains_iff_mem]
    simpa using this
  refine ⟨hconns.1, ?_, hconns.2⟩
  intro fd ho
  obtain ⟨k, hk, _⟩ := hinv.openHasConn fd ho
  simp only [St.sview, hconns.1, List.map_nil] at hk
  cases hk

end Cares.Chan
