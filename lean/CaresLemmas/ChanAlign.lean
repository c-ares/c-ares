import CaresLemmas.ChanSockFrame
/-!
# TCP read alignment (C20) — pure part

The inbound side of a TCP connection of the channel model is described by three numbers and a list:
`VSock.stream` (end offset of every message the peer has written), `VSock.slen` (bytes written), `VSock.spos` (bytes the
connection has read) and `Conn.inBytes` (bytes still in in_buf).  The connection has *consumed* the stream up to
`spos - inBytes`.  The alignment invariant says that this position is a message boundary of the stream.

This file: the per-connection predicates (`StreamOk`, `Boundary`, `AlignedV`), their relation to `Split` of
`ChanSockFrame.lean`, the effect of one read / one consumed frame / one message written by the peer, and the
invariant `AlCore` over *lookup functions* (descriptor ↦ view of the connection / of the socket) with its step lemmas.
`AlCore` carries a parameter `Q` (a property of every live connection together with its socket) so that one induction
over the procedures yields the invariant and the frame properties needed for whole-run statements.
-/
namespace Cares.Chan

/-- end offset of the last message of a stream (`0` for the empty stream) -/
def lastEnd (st : List (Nat × Reply)) : Nat := (st.getLast?.map (·.1)).getD 0

/-- what the invariant looks at of a virtual socket -/
structure SV where
  stream : List (Nat × Reply)
  slen : Nat
  spos : Nat

/-- … and of a connection -/
structure CV where
  tcp : Bool
  unlinked : Bool
  inBytes : Nat

/-- the views themselves (projections, whatever the names suggest) -/
def vflag (v : VSock) : SV := ⟨v.stream, v.slen, v.spos⟩
def rflag (c : Conn) : CV := ⟨c.tcp, c.unlinked, c.inBytes⟩

/-- `pos` is a message boundary of `stream`: its start, or the end offset of one of its messages -/
def Boundary (stream : List (Nat × Reply)) (pos : Nat) : Prop := pos = 0 ∨ ∃ x ∈ stream, x.1 = pos

/-- the stream is what the virtual server builds (`WfStream`), `slen` is its length in bytes, and no more has been read
    than written -/
structure StreamOk (x : SV) : Prop where
  wf : WfStream 0 x.stream
  slen : x.slen = lastEnd x.stream
  le : x.spos ≤ x.slen

/-- **alignment** of a connection with its socket: the bytes buffered have been read, and the consumed position
    `spos - inBytes` is a message boundary -/
structure AlignedV (x : SV) (y : CV) : Prop where
  le : y.inBytes ≤ x.spos
  bd : Boundary x.stream (x.spos - y.inBytes)

theorem split_of_boundary_aux : ∀ (st : List (Nat × Reply)) (base pos : Nat), WfStream base st →
    (pos = base ∨ ∃ x ∈ st, x.1 = pos) →
    ∃ done todo, st = done ++ todo ∧ (∀ x ∈ done, base < x.1 ∧ x.1 ≤ pos) ∧ WfStream pos todo ∧ base ≤ pos
  | [], base, pos, _, h => by
    rcases h with h | ⟨x, hx, _⟩
    · exact ⟨[], [], rfl, (fun _ hx => by cases hx), trivial, by omega⟩
    · cases hx
  | (e, r) :: rest, base, pos, hw, h => by
    by_cases hp : pos = base
    · subst hp
      exact ⟨[], (e, r) :: rest, rfl, (fun _ hx => by cases hx), hw, Nat.le_refl _⟩
    · have h' : pos = e ∨ ∃ x ∈ rest, x.1 = pos := by
        rcases h with h | ⟨x, hx, hxe⟩
        · exact absurd h hp
        · cases hx with
          | head => exact .inl hxe.symm
          | tail _ hx' => exact .inr ⟨x, hx', hxe⟩
      obtain ⟨done, todo, he, hd, hwt, hle⟩ := split_of_boundary_aux rest e pos hw.2 h'
      have hbe : base < e := by have := hw.1; omega
      refine ⟨(e, r) :: done, todo, by rw [he]; rfl, ?_, hwt, by omega⟩
      intro x hx
      cases hx with
      | head => exact ⟨hbe, hle⟩
      | tail _ hx' => have := hd x hx'; exact ⟨by omega, this.2⟩

/-- a boundary of a well-formed stream splits it: the messages before it end at or before it, the others follow it
    without gap (`Split` of `ChanSockFrame.lean`) -/
theorem Boundary.split {st : List (Nat × Reply)} {pos : Nat} (hw : WfStream 0 st) (hb : Boundary st pos) :
    ∃ done todo, Split st pos done todo := by
  obtain ⟨done, todo, he, hd, hwt, _⟩ := split_of_boundary_aux st 0 pos hw hb
  exact ⟨done, todo, ⟨he, fun x hx => (hd x hx).2, hwt⟩⟩

theorem AlignedV.split {x : SV} {y : CV} (hs : StreamOk x) (ha : AlignedV x y) :
    ∃ done todo, Split x.stream (x.spos - y.inBytes) done todo := ha.bd.split hs.wf

theorem Boundary.of_mem {st : List (Nat × Reply)} {e : Nat} {r : Reply} (h : (e, r) ∈ st) : Boundary st e :=
  .inr ⟨(e, r), h, rfl⟩

theorem Boundary.append {st : List (Nat × Reply)} {pos : Nat} (h : Boundary st pos) (l : List (Nat × Reply)) :
    Boundary (st ++ l) pos := by
  rcases h with h | ⟨x, hx, he⟩
  · exact .inl h
  · exact .inr ⟨x, List.mem_append_left _ hx, he⟩

/-- **one frame taken by `read_answers`** (list level): if the consumed position splits the stream and `nextTcpFrame`
    returns `r`, then `r` is the first message not yet taken, it is complete, in_buf holds it (`2 + len ≤ buffered`), and
    after removing it from in_buf the consumed position is its end offset -/
theorem consume_split {st done todo : List (Nat × Reply)} {spos ib : Nat} {r : Reply}
    (h : Split st (spos - ib) done todo) (hb : ib ≤ spos) (hn : nextTcpFrame st spos ib = some r) :
    ∃ e rest, todo = (e, r) :: rest ∧ e ≤ spos ∧ e = spos - ib + 2 + r.len ∧ 2 + r.len ≤ ib ∧
      spos - (ib - (2 + r.len)) = e ∧ Split st e (done ++ [(e, r)]) rest := by
  rw [nextTcpFrame_spec h] at hn
  cases todo with
  | nil => cases hn
  | cons x rest =>
    obtain ⟨e, r0⟩ := x
    simp only at hn
    split at hn
    · rename_i hle
      cases hn
      have he : e = spos - ib + 2 + r.len := h.wf.1
      refine ⟨e, rest, rfl, hle, he, by omega, by omega, ?_⟩
      refine ⟨by rw [h.eq]; simp, ?_, h.wf.2⟩
      intro x hx
      rw [List.mem_append] at hx
      cases hx with
      | inl hx => have := h.done_le x hx; omega
      | inr hx => simp only [List.mem_singleton] at hx; subst hx; exact Nat.le_refl _
    · cases hn

/-- … hence alignment is kept when `read_answers` takes a frame out of in_buf -/
theorem AlignedV.consume {x : SV} {y : CV} {r : Reply} (hs : StreamOk x) (ha : AlignedV x y)
    (hn : nextTcpFrame x.stream x.spos y.inBytes = some r) :
    AlignedV x { y with inBytes := y.inBytes - (2 + r.len) } := by
  obtain ⟨done, todo, hsp⟩ := ha.split hs
  obtain ⟨e, rest, hto, hle, he, h2, hc, hsp'⟩ := consume_split hsp ha.le hn
  refine ⟨by have := ha.le; show y.inBytes - (2 + r.len) ≤ x.spos; omega, ?_⟩
  show Boundary x.stream (x.spos - (y.inBytes - (2 + r.len)))
  rw [hc]
  apply Boundary.of_mem (r := r)
  rw [hsp.eq, hto]; simp

/-- one `recv` of `n` bytes (not more than the peer has written): both the read position and in_buf grow by `n` -/
theorem StreamOk.read {x : SV} (hs : StreamOk x) {n : Nat} (hn : n ≤ x.slen - x.spos) :
    StreamOk { x with spos := x.spos + n } :=
  ⟨hs.wf, hs.slen, by have := hs.le; show x.spos + n ≤ x.slen; omega⟩

theorem AlignedV.read {x : SV} {y : CV} (ha : AlignedV x y) (n : Nat) :
    AlignedV { x with spos := x.spos + n } { y with inBytes := y.inBytes + n } := by
  refine ⟨by have := ha.le; show y.inBytes + n ≤ x.spos + n; omega, ?_⟩
  show Boundary x.stream (x.spos + n - (y.inBytes + n))
  have : x.spos + n - (y.inBytes + n) = x.spos - y.inBytes := by omega
  rw [this]; exact ha.bd

theorem lastEnd_append_one (st : List (Nat × Reply)) (a : Nat × Reply) : lastEnd (st ++ [a]) = a.1 := by
  simp [lastEnd]

/-- the peer writes one more message (the driver's `reply` on a TCP socket) -/
theorem StreamOk.peer {x : SV} (hs : StreamOk x) (r : Reply) :
    StreamOk { x with stream := x.stream ++ [(x.slen + 2 + r.len, r)], slen := x.slen + 2 + r.len } := by
  refine ⟨?_, ?_, ?_⟩
  · exact WfStream.append_one r hs.wf hs.slen
  · show x.slen + 2 + r.len = lastEnd (x.stream ++ [(x.slen + 2 + r.len, r)])
    rw [lastEnd_append_one]
  · have := hs.le; show x.spos ≤ x.slen + 2 + r.len; omega

theorem AlignedV.peer {x : SV} {y : CV} (ha : AlignedV x y) (r : Reply) :
    AlignedV { x with stream := x.stream ++ [(x.slen + 2 + r.len, r)], slen := x.slen + 2 + r.len } y :=
  ⟨ha.le, ha.bd.append _⟩

theorem StreamOk.fresh : StreamOk ⟨[], 0, 0⟩ := ⟨trivial, rfl, Nat.le_refl _⟩
theorem AlignedV.fresh (tcp : Bool) : AlignedV ⟨[], 0, 0⟩ ⟨tcp, false, 0⟩ := ⟨Nat.le_refl _, .inl rfl⟩

/-- `cf fd` / `sf fd`: view of the connection / the virtual socket with descriptor `fd`; `nfd`: next unused descriptor.
    `Q fd x y` is an additional property of every connection that is not being closed (used with a snapshot of one
    connection to obtain frame properties); `N0` bounds the descriptors for which `Q` has to hold of a new connection. -/
structure AlCore (Q : Nat → SV → CV → Prop) (N0 : Nat) (cf : Nat → Option CV) (sf : Nat → Option SV) (nfd : Nat) :
    Prop where
  n0 : N0 ≤ nfd
  fresh : ∀ fd x, sf fd = some x → fd < nfd
  hasSock : ∀ fd y, cf fd = some y → ∃ x, sf fd = some x
  stream : ∀ fd x, sf fd = some x → StreamOk x
  al : ∀ fd y x, cf fd = some y → sf fd = some x → y.tcp = true → y.unlinked = false → AlignedV x y
  q : ∀ fd y x, cf fd = some y → sf fd = some x → y.unlinked = false → Q fd x y

def QFresh (Q : Nat → SV → CV → Prop) (N0 : Nat) : Prop := ∀ fd, N0 ≤ fd → ∀ tcp, Q fd ⟨[], 0, 0⟩ ⟨tcp, false, 0⟩

/-- `Q` at `fd` does not look at the read position and at the number of buffered bytes (what read calls on `fd` change) -/
def QRead (Q : Nat → SV → CV → Prop) (fd : Nat) : Prop :=
  ∀ x y sp ib, Q fd x y → Q fd { x with spos := sp } { y with inBytes := ib }

section
variable {Q : Nat → SV → CV → Prop} {N0 : Nat} {cf : Nat → Option CV} {sf : Nat → Option SV} {nfd : Nat}

/-- what `AlCore` says of one descriptor -/
structure AlAt (Q : Nat → SV → CV → Prop) (nfd fd : Nat) (oc : Option CV) (os : Option SV) : Prop where
  fresh : ∀ x, os = some x → fd < nfd
  hasSock : ∀ y, oc = some y → ∃ x, os = some x
  stream : ∀ x, os = some x → StreamOk x
  al : ∀ y x, oc = some y → os = some x → y.tcp = true → y.unlinked = false → AlignedV x y
  q : ∀ y x, oc = some y → os = some x → y.unlinked = false → Q fd x y

/-- the invariant is a property of every descriptor by itself: lookup functions that differ from `cf`, `sf` at one
    descriptor only, where they satisfy it -/
theorem AlCore.change (h : AlCore Q N0 cf sf nfd) {cf' : Nat → Option CV} {sf' : Nat → Option SV} {nfd' : Nat}
    (hn : nfd ≤ nfd') (fd : Nat) (hc : ∀ fd', fd' ≠ fd → cf' fd' = cf fd') (hs : ∀ fd', fd' ≠ fd → sf' fd' = sf fd')
    (hat : AlAt Q nfd' fd (cf' fd) (sf' fd)) : AlCore Q N0 cf' sf' nfd' := by
  have key : ∀ fd', AlAt Q nfd' fd' (cf' fd') (sf' fd') := by
    intro fd'
    by_cases hfd : fd' = fd
    · rw [hfd]; exact hat
    · rw [hc fd' hfd, hs fd' hfd]
      exact ⟨fun x hx => Nat.lt_of_lt_of_le (h.fresh fd' x hx) hn, h.hasSock fd', h.stream fd', h.al fd', h.q fd'⟩
  exact ⟨Nat.le_trans h.n0 hn, fun fd' => (key fd').fresh, fun fd' => (key fd').hasSock, fun fd' => (key fd').stream,
    fun fd' => (key fd').al, fun fd' => (key fd').q⟩

/-- connection `fd` and its socket are updated by `g` / `k` -/
theorem AlCore.upd (h : AlCore Q N0 cf sf nfd) (fd : Nat) (g : CV → CV) (k : SV → SV)
    (hk : ∀ x, sf fd = some x → StreamOk (k x))
    (hal : ∀ y x, cf fd = some y → sf fd = some x → (g y).tcp = true → (g y).unlinked = false → AlignedV (k x) (g y))
    (hq : ∀ y x, cf fd = some y → sf fd = some x → (g y).unlinked = false → Q fd (k x) (g y)) :
    AlCore Q N0 (fun fd' => if fd' = fd then (cf fd').map g else cf fd')
      (fun fd' => if fd' = fd then (sf fd').map k else sf fd') nfd := by
  refine h.change (Nat.le_refl _) fd (fun _ hfd => if_neg hfd) (fun _ hfd => if_neg hfd) ?_
  simp only [↓reduceIte]
  refine ⟨fun _ hx => ?_, fun _ hy => ?_, fun _ hx => ?_, fun _ _ hy hx => ?_, fun _ _ hy hx => ?_⟩
  · obtain ⟨x0, hx0, _⟩ := Option.map_eq_some_iff.mp hx; exact h.fresh fd x0 hx0
  · obtain ⟨y0, hy0, _⟩ := Option.map_eq_some_iff.mp hy
    obtain ⟨x0, hx0⟩ := h.hasSock fd y0 hy0
    exact ⟨k x0, by rw [hx0]; rfl⟩
  · obtain ⟨x0, hx0, rfl⟩ := Option.map_eq_some_iff.mp hx; exact hk x0 hx0
  · obtain ⟨y0, hy0, rfl⟩ := Option.map_eq_some_iff.mp hy
    obtain ⟨x0, hx0, rfl⟩ := Option.map_eq_some_iff.mp hx
    exact hal y0 x0 hy0 hx0
  · obtain ⟨y0, hy0, rfl⟩ := Option.map_eq_some_iff.mp hy
    obtain ⟨x0, hx0, rfl⟩ := Option.map_eq_some_iff.mp hx
    exact hq y0 x0 hy0 hx0

/-- connection `fd` is released -/
theorem AlCore.del (h : AlCore Q N0 cf sf nfd) (fd : Nat) :
    AlCore Q N0 (fun fd' => if fd' = fd then none else cf fd') sf nfd := by
  refine h.change (Nat.le_refl _) fd (fun _ hfd => if_neg hfd) (fun _ _ => rfl) ?_
  simp only [↓reduceIte]
  exact ⟨h.fresh fd, nofun, h.stream fd, nofun, nofun⟩

/-- `socket()`: a new virtual socket with the next descriptor -/
theorem AlCore.newSock (h : AlCore Q N0 cf sf nfd) :
    AlCore Q N0 cf (fun fd' => if fd' = nfd then some ⟨[], 0, 0⟩ else sf fd') (nfd + 1) := by
  have hcn : cf nfd = none := by
    cases hc : cf nfd with
    | none => rfl
    | some y =>
      obtain ⟨x, hx⟩ := h.hasSock nfd y hc
      exact absurd (h.fresh nfd x hx) (Nat.lt_irrefl _)
  refine h.change (Nat.le_succ _) nfd (fun _ _ => rfl) (fun _ hfd => if_neg hfd) ?_
  simp only [↓reduceIte, hcn]
  exact ⟨fun _ _ => Nat.lt_succ_self _, nofun, fun _ hx => Option.some.inj hx ▸ StreamOk.fresh, nofun, nofun⟩

/-- … and the connection on it -/
theorem AlCore.newConn (h : AlCore Q N0 cf sf nfd) (hQ : QFresh Q N0) (tcp : Bool) :
    AlCore Q N0 (fun fd' => if fd' = nfd then some ⟨tcp, false, 0⟩ else cf fd')
      (fun fd' => if fd' = nfd then some ⟨[], 0, 0⟩ else sf fd') (nfd + 1) := by
  refine h.change (Nat.le_succ _) nfd (fun _ hfd => if_neg hfd) (fun _ hfd => if_neg hfd) ?_
  simp only [↓reduceIte]
  exact ⟨fun _ _ => Nat.lt_succ_self _, fun _ _ => ⟨_, rfl⟩, fun _ hx => Option.some.inj hx ▸ StreamOk.fresh,
    fun _ _ hy hx _ _ => Option.some.inj hy ▸ Option.some.inj hx ▸ AlignedV.fresh tcp,
    fun _ _ hy hx _ => Option.some.inj hy ▸ Option.some.inj hx ▸ hQ nfd h.n0 tcp⟩

end

end Cares.Chan
