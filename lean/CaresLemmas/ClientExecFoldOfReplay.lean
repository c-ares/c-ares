import CaresLemmas.ClientExecEvents
/-!
# `fold_of_replay`: a causal log that replays is the flat fold (pure main theorem)

Before its creation a compound request has an empty view and takes part in no event (`absent_step`); from its creation on
its view satisfies `FoldInv` (`Phase`, kept along a replaying, causal log: `phase_step`, `phase_run`).
-/
namespace Cares.Chan
open Cares.ClientWalk

/-- `cid` has not been created yet: ids are handed out in order, and nothing refers to an id not handed out -/
structure Fresh (cid : Nat) (r : RSt) : Prop where
  next : r.next ≤ cid
  ids : ∀ c ∈ r.clients, c.id < r.next
  frames : ∀ f ∈ r.stack, f.1 < r.next

/-- the two phases of a log with respect to `cid` -/
inductive Phase (cfg : Cfg) (cid : Nat) (L : CLog) (r : RSt) : Prop
  | before (hv : lproj cid r = ⟨none, []⟩) (h0 : startsOf cid L = []) (h1 : evsOf cid L = [])
      (h2 : sentOf cid L = []) (h3 : finsOf cid L = [])
  | after (k : String) (tok : Nat) (re : List Nat) (sp : ReqSpec) (f : Nat)
      (hs : startsOf cid L = [(k, tok, re, sp, f)]) (hn : cid < r.next)
      (hc : FoldInv cfg (clientStart cfg cid k tok re sp f).1 (clientStart cfg cid k tok re sp f).2
        (evsOf cid L) (sentOf cid L) (finsOf cid L) (lproj cid r))

theorem evsOf_snoc (cid : Nat) (L : CLog) (i : CItem) : evsOf cid (L ++ [i]) = evsOf cid L ++ ev1 cid i := by
  simp [evsOf, List.flatMap_append]
theorem sentOf_snoc (cid : Nat) (L : CLog) (i : CItem) : sentOf cid (L ++ [i]) = sentOf cid L ++ sent1 cid i := by
  simp [sentOf, List.flatMap_append]
theorem finsOf_snoc (cid : Nat) (L : CLog) (i : CItem) : finsOf cid (L ++ [i]) = finsOf cid L ++ fin1 cid i := by
  simp [finsOf, List.flatMap_append]
theorem startsOf_snoc (cid : Nat) (L : CLog) (i : CItem) : startsOf cid (L ++ [i]) = startsOf cid L ++ start1 cid i := by
  simp [startsOf, List.flatMap_append]

theorem rstep_next_mono {cfg : Cfg} {r r1 : RSt} {i : CItem} (h : rstep cfg r i = some r1) : r.next ≤ r1.next := by
  cases RStep.of h with
  | start => exact Nat.le_succ _
  | _ => exact Nat.le_refl _

/-- a compound request that has not been created has neither a record nor a frame -/
theorem Fresh.lproj {cid : Nat} {r : RSt} (h : Fresh cid r) : lproj cid r = ⟨none, []⟩ := by
  have hn : ∀ id, id < r.next → (id == cid) = false := fun id hlt => by have := h.next; simp; omega
  simp only [Chan.lproj, LSt.mk.injEq, List.find?_eq_none, List.map_eq_nil_iff, List.filter_eq_nil_iff]
  exact ⟨fun x hx => by simp [hn _ (h.ids x hx)], fun x hx => by simp [hn _ (h.frames x hx)]⟩

/-- a compound request without record and frames takes part in no event but its creation (storing a query id for it
    does nothing) -/
theorem absent_step {cfg : Cfg} {cid : Nat} {r r1 : RSt} {i : CItem} (hv : lproj cid r = ⟨none, []⟩)
    (h : rstep cfg r i = some r1) (hw : i.who = cid) (hs : i.isStart = false) :
    ev1 cid i = [] ∧ sent1 cid i = [] ∧ fin1 cid i = [] ∧ start1 cid i = [] ∧ lproj cid r1 = ⟨none, []⟩ := by
  have hcur : r.clients.find? (·.id == cid) = none := congrArg LSt.cur hv
  have top : ∀ {x σ}, r.stack = (cid, x) :: σ → False := fun e => by
    have := congrArg LSt.stack hv
    rw [lproj_stack_cons e] at this; cases this
  cases RStep.of h with
  | start => cases hs
  | @cb _ id c st t rec hc => obtain rfl : id = cid := hw; rw [hcur] at hc; cases hc
  | @act cl nx id => obtain rfl : id = cid := hw; exact (top rfl).elim
  | slot id slot qid =>
    obtain rfl : id = cid := hw
    refine ⟨rfl, rfl, rfl, rfl, ?_⟩
    show (⟨(modC r.clients id (setSlot slot qid)).find? (·.id == id), _⟩ : LSt) = _
    rw [find?_modC _ _ _ (fun c hc => by rw [setSlot_id, hc]), if_pos rfl, hcur]
    exact congrArg (LSt.mk none) (congrArg LSt.stack hv)
  | @lost cl nx id => obtain rfl : id = cid := hw; exact (top rfl).elim
  | @rel cl nx id => obtain rfl : id = cid := hw; exact (top rfl).elim
  | @ret cl nx id => obtain rfl : id = cid := hw; exact (top rfl).elim

theorem phase_step {cfg : Cfg} {cid : Nat} {L : CLog} {r r1 : RSt} {i : CItem} (hp : Phase cfg cid L r)
    (hr : rstep cfg r i = some r1)
    (hc : (ev1 cid i).isEmpty = true ∨ (evsOf cid L).length < (sentOf cid L).length) :
    Phase cfg cid (L ++ [i]) r1 := by
  cases hp with
  | before hv h0 h1 h2 h3 =>
    have stay : ∀ {r2}, ev1 cid i = [] ∧ sent1 cid i = [] ∧ fin1 cid i = [] ∧ start1 cid i = [] →
        lproj cid r2 = ⟨none, []⟩ → Phase cfg cid (L ++ [i]) r2 := fun ⟨p1, p2, p3, p4⟩ hv2 =>
      .before hv2 (by rw [startsOf_snoc, h0, p4]; rfl) (by rw [evsOf_snoc, h1, p1]; rfl)
        (by rw [sentOf_snoc, h2, p2]; rfl) (by rw [finsOf_snoc, h3, p3]; rfl)
    by_cases hw : i.who = cid
    · cases hs : i.isStart with
      | false =>
        obtain ⟨p1, p2, p3, p4, hv1⟩ := absent_step hv hr hw hs
        exact stay ⟨p1, p2, p3, p4⟩ hv1
      | true =>
        cases RStep.of hr with
        | start k tok re sp f =>
          obtain rfl : r.next = cid := hw
          refine .after k tok re sp f (by rw [startsOf_snoc, h0]; simp [start1]) (Nat.lt_succ_self _) ?_
          have hl : lproj r.next ⟨r.clients ++ [(clientStart cfg r.next k tok re sp f).1], r.next + 1,
              (r.next, some (clientStart cfg r.next k tok re sp f).2) :: r.stack⟩ =
              ⟨some (clientStart cfg r.next k tok re sp f).1, [some (clientStart cfg r.next k tok re sp f).2]⟩ := by
            have hcur : r.clients.find? (·.id == r.next) = none := congrArg LSt.cur hv
            have hst : (r.stack.filter (·.1 == r.next)).map (·.2) = [] := congrArg LSt.stack hv
            simp only [lproj, List.find?_append, List.find?_singleton, hcur, (clientStart_ok cfg r.next k tok re sp f).id,
              beq_self_eq_true, ↓reduceIte, Option.none_or, List.filter_cons, hst, List.map_cons]
          rw [evsOf_snoc, sentOf_snoc, finsOf_snoc, h1, h2, h3, hl]
          exact FoldInv.init cfg r.next k tok re sp f
        | _ => cases hs
    · exact stay (proj_other hw) ((rstep_other cfg cid r r1 i hr hw).trans hv)
  | after k tok re sp f hs hn hcore =>
    by_cases hw : i.who = cid
    · cases hst : i.isStart with
      | true =>
        cases RStep.of hr with
        | start => exact absurd (show r.next = cid from hw) (Nat.ne_of_gt hn)
        | _ => cases hst
      | false =>
        have := hcore.step i hr hw hst hc
        refine .after k tok re sp f (by rw [startsOf_snoc, hs]; cases i <;> first | rfl | cases hst)
          (Nat.lt_of_lt_of_le hn (rstep_next_mono hr)) ?_
        rw [evsOf_snoc, sentOf_snoc, finsOf_snoc]
        exact this
    · obtain ⟨p1, p2, p3, p4⟩ := proj_other (cid := cid) (i := i) hw
      refine .after k tok re sp f (by rw [startsOf_snoc, hs, p4]; rfl)
        (Nat.lt_of_lt_of_le hn (rstep_next_mono hr)) ?_
      rw [evsOf_snoc, sentOf_snoc, finsOf_snoc, p1, p2, p3, List.append_nil, List.append_nil, List.append_nil,
        rstep_other cfg cid r r1 i hr hw]
      exact hcore

theorem phase_run {cfg : Cfg} {cid : Nat} : ∀ (L2 L1 : CLog) (r r' : RSt), Phase cfg cid L1 r →
    replay cfg r L2 = some r' →
    causalFrom cid (evsOf cid L1).length (sentOf cid L1).length L2 = true → Phase cfg cid (L1 ++ L2) r'
  | [], L1, r, r', hp, hr, _ => by
    simp only [replay, Option.some.injEq] at hr
    rw [List.append_nil, ← hr]; exact hp
  | i :: L2, L1, r, r', hp, hr, hc => by
    simp only [replay] at hr
    cases h1 : rstep cfg r i with
    | none => rw [h1] at hr; cases hr
    | some r1 =>
      rw [h1] at hr
      simp only [Option.bind_some] at hr
      simp only [causalFrom, Bool.and_eq_true, Bool.or_eq_true, decide_eq_true_eq] at hc
      have hp1 := phase_step hp h1 hc.1
      have := phase_run L2 (L1 ++ [i]) r1 r' hp1 hr (by
        rw [evsOf_snoc, sentOf_snoc, List.length_append, List.length_append]; exact hc.2)
      rw [List.append_assoc] at this
      exact this

/-- **Pure main theorem.**  A log that replays from a state in which `cid` does not exist yet, that is causal for
    `cid`, and after which no frame of `cid` is in progress, is the flat fold: the sub-requests started for `cid` are
    `clientRun`'s, and the completion handed to its user callback (if any) is `clientRun`'s. -/
theorem fold_of_replay (cfg : Cfg) (cid : Nat) (r0 r1 : RSt) (L : CLog) (hr : replay cfg r0 L = some r1)
    (hfresh : Fresh cid r0) (hcausal : Causal cid L) (hdone : ∀ f ∈ r1.stack, f.1 ≠ cid)
    (k : String) (tok : Nat) (re : List Nat) (sp : ReqSpec) (f : Nat) (hs : CItem.start cid k tok re sp f ∈ L) :
    sentOf cid L = (clientRun cfg cid k tok re sp f (evsOf cid L)).sent ∧
    finsOf cid L = (clientRun cfg cid k tok re sp f (evsOf cid L)).fin.toList := by
  have hp := phase_run L [] r0 r1 (.before hfresh.lproj rfl rfl rfl rfl) hr hcausal
  rw [List.nil_append] at hp
  have hmem : (k, tok, re, sp, f) ∈ startsOf cid L :=
    List.mem_flatMap.mpr ⟨_, hs, by simp [start1]⟩
  cases hp with
  | before _ h0 => rw [h0] at hmem; cases hmem
  | after k' tok' re' sp' f' hs' _ hcore =>
    rw [hs'] at hmem
    simp only [List.mem_singleton] at hmem
    cases hmem
    have hstack : (lproj cid r1).stack = [] := by
      simp only [lproj, List.map_eq_nil_iff, List.filter_eq_nil_iff]
      intro x hx
      simpa using hdone x hx
    have hw := hcore.walk
    rw [hstack, foldC_snd] at hw
    have hrun : clientRun cfg cid k tok re sp f (evsOf cid L) = ⟨sentOf cid L, (finsOf cid L).head?⟩ := hw
    rw [hrun]
    refine ⟨rfl, ?_⟩
    have := hcore.finsLe
    cases hfi : finsOf cid L with
    | nil => rfl
    | cons x t =>
      cases t with
      | nil => rfl
      | cons y t' => rw [hfi] at this; simp at this

end Cares.Chan
