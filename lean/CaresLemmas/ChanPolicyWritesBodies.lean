import CaresLemmas.ChanPolicyWritesSend
import CaresLemmas.CookieValidate
/-!
# C06 — the accounting through `ares_send_nolock`, `ares_requeue_query`, `process_answer`, the deferred-requeue flush;
  `exec` keeps `CInv`
-/
namespace Cares.Chan

section
variable {tr ns : Nat}

theorem bodySendQuery_c {go : Call → St → St × Ret} (hgo : GoCredit tr ns go) (reqSrv : Option Nat) (key : Nat) (s : St)
    (h : CInv tr ns (some key) none s) : CInv tr ns none none (bodySendQuery go reqSrv key s).1 := by
  rw [bodySendQuery_eq]; exact sendQueryBlocks_c hgo reqSrv key s h

theorem cproj_draw1 (s : St) : cproj s.draw1.2 = cproj s ∧ s.draw1.2.outOfFuel = s.outOfFuel := by
  unfold St.draw1; split <;> exact ⟨rfl, rfl⟩

/-- the id `generate_unique_qid` returns is new: it is not among the draws that are left, nor the id of a pending
    entry or of a live query -/
theorem genQid_fresh {s : St} (hok : COk tr ns none none (cproj s)) :
    ∃ r1, r1.Sublist s.obs.rnd2 ∧ cproj (genQid 70000 s).2 = { cproj s with rnd2 := r1 } ∧
      (genQid 70000 s).1 ∉ r1 ∧ (genQid 70000 s).1 < 70000 + s.nextKey + 1 ∧
      (∀ e ∈ s.requeueArr, e.1 ≠ (genQid 70000 s).1) ∧ ∀ a ∈ s.qs, a.qid ≠ (genQid 70000 s).1 := by
  obtain ⟨r1, hsub, hw, _, hx⟩ := genQid_spec 70000 s hok.rndLen
  refine ⟨r1, hsub, hw, ?_, ?_, fun e he => ?_, fun a ha => ?_⟩
  · rcases hx with ⟨_, hn⟩ | hf
    · exact hn hok.rndNodup
    · intro hm
      have := hok.rndLt _ (hsub.subset hm)
      omega
  · rcases hx with ⟨hm, _⟩ | hf
    · have := hok.rndLt _ hm; omega
    · omega
  · have := hok.reqFresh e he
    rcases hx with ⟨hm, _⟩ | hf
    · intro e'; exact this.1 (e' ▸ hm)
    · have h2 : e.1 < 70000 + s.nextKey := this.2
      omega
  · have := hok.qidFresh a ha
    rcases hx with ⟨hm, _⟩ | hf
    · intro e'; exact this.1 (e' ▸ hm)
    · have h2 : a.qid < 70000 + s.nextKey := this.2
      omega

theorem bodySendNolock_c {go : Call → St → St × Ret} (hgo : GoCredit tr ns go) (reqSrv : Option Nat)
    (nocache noretry : Bool) (spec : ReqSpec) (owner : Owner) (react : List Nat) (s : St)
    (h : CInv tr ns none none s) :
    CInv tr ns none none (bodySendNolock go reqSrv nocache noretry spec owner react s).1 := by
  unfold bodySendNolock
  split
  rename_i qid s1 hg
  have h1 : CInv tr ns none none s1 := pair_snd hg (CInv.genQid h)
  split
  · repeat' (c_step hgo)
  · extract_lets s2 key usingTcp sentName nbytes s3 q s4
    have h2 : CInv tr ns none none s2 := by
      show CInv tr ns none none (if nocache = true then s1 else s1.cacheExpire)
      split
      · exact h1
      · exact CInv.cacheExpire h1
    split
    · extract_lets dec
      repeat' (c_step hgo)
    · split
      · repeat' (c_step hgo)
      · -- the new query: expiring the cache and the draws for 0x20 leave the projection alone but for the draws
        have o1 : s1.outOfFuel = s.outOfFuel := by
          obtain ⟨o, f, e⟩ := genQid_writes 70000 s
          rw [show s1 = (genQid 70000 s).2 by rw [hg], e]
        have e2 : cproj s2 = cproj s1 ∧ s2.outOfFuel = s1.outOfFuel := by
          show cproj (if nocache = true then s1 else s1.cacheExpire) = _ ∧
            (if nocache = true then s1 else s1.cacheExpire).outOfFuel = _
          split <;> exact ⟨rfl, rfl⟩
        have e3 : ∃ r3 : List Nat, r3.Sublist s2.obs.rnd2 ∧ cproj s3 = { cproj s2 with rnd2 := r3 } ∧
            s3.outOfFuel = s2.outOfFuel := by
          dsimp only [s3]
          split
          · split
            · exact ⟨_, List.Sublist.refl _, (cproj_draw1 s2).1, (cproj_draw1 s2).2⟩
            · split
              · exact ⟨_, List.tail_sublist _, (cproj_draw2 s2).1, (cproj_draw2 s2).2⟩
              · exact ⟨_, List.Sublist.refl _, rfl, rfl⟩
          · exact ⟨_, List.Sublist.refl _, rfl, rfl⟩
        obtain ⟨r3, hsub3, h3, o3⟩ := e3
        refine hgo.inv (.sendQuery reqSrv key) s4 (CInv.lift h (s' := s4) (o3.trans (e2.2.trans o1)) fun hok => ?_)
        have hf := genQid_fresh hok
        rw [hg] at hf
        obtain ⟨r1, hsub1, hw1, f1, f2, f3, f4⟩ := hf
        have hr2 : s2.obs.rnd2 = r1 := congrArg CP.rnd2 (e2.1.trans hw1)
        have hkey : key = s.nextKey := congrArg CP.nextKey (e2.1.trans hw1)
        rw [hr2] at hsub3
        have := COk.shrinkRnd hsub3 (COk.newQuery q (p := { cproj s with rnd2 := r1 }) hkey f1 f2 f3 f4 rfl rfl
          (COk.shrinkRnd hsub1 hok))
        have hk3 : (cproj s3).nextKey = key := congrArg CP.nextKey h3
        show COk tr ns (some q.key) none { cproj s3 with
          qs := (cproj s3).qs ++ [q], nextKey := key + 1, byQid := (cproj s3).byQid ++ [(q.qid, q.key)] }
        rw [← hk3, h3, e2.1, hw1]
        exact this

theorem CInv.modKey {cw ex cw' ex' : Option Nat} {s : St} {key : Nat} {q0 : Query} (hq : s.query? key = some q0)
    (f : Query → Query) (hf : (f q0).key = q0.key ∧ (f q0).qid = q0.qid)
    (hcw : cw = none ∨ cw = some key) (hcw' : cw' = none ∨ cw' = some key)
    (hex : ex = none ∨ ex = some key) (hex' : ex' = none ∨ ex' = some key)
    (h : CInv tr ns cw ex s)
    (ob : COk tr ns cw ex (cproj s) → ∀ n, QOk cw ex (cproj s) n key q0 → QOk cw' ex' (cproj s) n key (f q0)) :
    CInv tr ns cw' ex' (s.modQuery key f) := by
  refine CInv.lift h rfl ?_
  intro hok
  have hk : q0.key = key := query?_key hq
  subst hk
  exact COk.modKey q0 (query?_mem hq) f cw' ex' hf hcw hcw' hex hex' hok (ob hok)

theorem bodyRequeue_c {go : Call → St → St × Ret} (hgo : GoCredit tr ns go) (key : Nat) (st : Status) (inc : Bool)
    (rec : Option Reply) (deferred : Bool) (s : St) (h : PreC tr ns (.requeue key st inc rec deferred) s) :
    CInv tr ns none none (bodyRequeue go key st inc rec deferred s).1 := by
  -- the credit the call comes with
  have hpre : CInv tr ns (if inc = true then none else some key) (if inc = true then none else some key) s := by
    cases inc
    · exact h
    · exact h
  unfold bodyRequeue
  split
  · -- the query does not exist
    rename_i hnone
    apply CInv.mfault
    refine CInv.lift hpre rfl ?_
    intro hok
    have hno : ∀ q ∈ (cproj s).qs, q.key ≠ key := by
      intro q hq e
      unfold St.query? at hnone
      rw [List.find?_eq_none] at hnone
      exact hnone q hq (by simpa using e)
    cases inc
    · exact COk.dropEx key hno hok.dropW
    · exact hok
  · rename_i q0 hq0
    extract_lets maxTries s1 s2 q es s3
    -- detached: the exemption is settled
    have h1 : CInv tr ns (if inc = true then none else some key) none s1 := by
      apply CInv.removeFromConn' _ hpre
      cases inc
      · exact Or.inr rfl
      · exact Or.inl rfl
    have hq1 : s1.query? key = some (unlinkQ q0) := query?_after_remove hq0
    have hq2 : s2.query? key = some
        { unlinkQ q0 with errorStatus := if st != .ok then st else q0.errorStatus,
                          tryCount := if inc then q0.tryCount + 1 else q0.tryCount } := query?_requeued hq0 st inc
    have hqe : q = { unlinkQ q0 with errorStatus := if st != .ok then st else q0.errorStatus,
                                      tryCount := if inc then q0.tryCount + 1 else q0.tryCount } := by
      show (s2.query? key).getD default = _
      rw [hq2]; rfl
    have hM : COk tr ns (if inc = true then none else some key) none (cproj s1) →
        maxTries = (cproj s1).nsrv * (cproj s1).tries := by
      intro hok
      show s.servers.length * s.cfg.tries = (cproj (s.removeFromConn key)).nsrv * (cproj (s.removeFromConn key)).tries
      rw [(cproj_removeFromConn s key).1]
      rfl
    split
    · -- retry: the budget allows one more write
      rename_i hcond
      have hlt : q.tryCount < maxTries := by
        simp only [Bool.and_eq_true, decide_eq_true_eq] at hcond; exact hcond.1
      have h2 : CInv tr ns (some key) none s2 := by
        refine CInv.modKey hq1 _ ⟨rfl, rfl⟩ ?_ (Or.inr rfl) (Or.inl rfl) (Or.inl rfl) h1 ?_
        · cases inc
          · exact Or.inr rfl
          · exact Or.inl rfl
        · intro hok c hq
          have hM' := hM hok
          have hc := hq.acct
          refine .detached rfl ?_ hq.ck3 hq.ck3tcp
          cases inc
          · -- the credit came with the call
            simp only [Bool.false_eq_true, ↓reduceIte] at hc ⊢
            exact hc
          · -- the try is counted: one more write is paid for
            simp only [↓reduceIte] at hc ⊢
            rw [cr1_none] at hc
            rw [cr1_self]
            rw [hqe] at hlt
            have hlt' : q0.tryCount + 1 < maxTries := by simpa [unlinkQ] using hlt
            have e : potP (cproj s1)
                { unlinkQ q0 with errorStatus := if st != .ok then st else (unlinkQ q0).errorStatus,
                                  tryCount := (unlinkQ q0).tryCount + 1 } =
                potP (cproj s1) (unlinkQ q0) + 1 := by
              unfold potP
              dsimp only [unlinkQ]
              rw [← hM', bud_succ maxTries q0.tryCount hlt']
              omega
            rw [e]
            omega
      split
      · -- deferred: an entry in the requeue array
        have hqm : q ∈ s2.qs := by rw [hqe]; exact query?_mem hq2
        have hqk : q.key = key := by rw [hqe]; exact query?_key hq2
        refine CInv.lift h2 rfl ?_
        intro hok
        exact COk.push' q hqm none key hqk hok
      · exact hgo.inv (.sendQuery none key) s2 h2
    · -- the query ends
      have h2 : CInv tr ns none none s2 := by
        refine CInv.modKey hq1 _ ⟨rfl, rfl⟩ ?_ (Or.inl rfl) (Or.inl rfl) (Or.inl rfl) h1 ?_
        · cases inc
          · exact Or.inr rfl
          · exact Or.inl rfl
        · intro hok c hq
          have hc := hq.acct
          refine .detached rfl ?_ hq.ck3 hq.ck3tcp
          rw [cr1_none]
          have hmono : potP (cproj s1) (unlinkQ q0) ≤ potP (cproj s1)
              { unlinkQ q0 with errorStatus := if st != .ok then st else (unlinkQ q0).errorStatus,
                                tryCount := if inc then (unlinkQ q0).tryCount + 1 else (unlinkQ q0).tryCount } := by
            unfold potP
            dsimp only [unlinkQ]
            have : q0.tryCount ≤ (if inc then q0.tryCount + 1 else q0.tryCount) := by
              split <;> omega
            have := bud_mono ((cproj s1).nsrv * (cproj s1).tries) this
            omega
          have : c ≤ potP (cproj s1) (unlinkQ q0) := by omega
          exact Nat.le_trans this hmono
      have h3 : CInv tr ns none none s3 := by
        show CInv tr ns none none (s2.modQuery key _)
        exact CInv.modQuery (fun _ => ⟨rfl, rfl, rfl, rfl, rfl, rfl, rfl, rfl⟩) h2
      split
      rename_i s4 r4 he
      exact pair_fst he (hgo.inv (.endQuery none key es rec) s3 h3)

theorem bodyFlushRequeue_c {go : Call → St → St × Ret} (hgo : GoCredit tr ns go) (s : St)
    (h : CInv tr ns none none s) : CInv tr ns none none (bodyFlushRequeue go s).1 := by
  unfold bodyFlushRequeue
  split
  · exact h
  · rename_i qid srv rest hreq
    extract_lets s1
    have hpop : ∀ hok : COk tr ns none none (cproj s),
        COk tr ns none none (cproj s1) ∧
        ∀ qid' key, (qid', key) ∈ s.byQid → qid' = qid → COk tr ns (some key) none (cproj s1) := by
      intro hok
      exact COk.pop (qid, srv) rest hreq hok
    have h1 : CInv tr ns none none s1 := CInv.lift h rfl (fun hok => (hpop hok).1)
    split
    · exact hgo.inv .flushRequeue s1 h1
    · rename_i qid' key hfind
      have hmem : (qid', key) ∈ s.byQid := List.mem_of_find?_eq_some hfind
      have hqid : qid' = qid := by
        have := List.find?_some hfind
        simpa using this
      have h1' : CInv tr ns (some key) none s1 :=
        CInv.lift h rfl (fun hok => (hpop hok).2 qid' key hmem hqid)
      split
      rename_i s2 r2 he
      have h2 : CInv tr ns none none s2 := pair_fst he (hgo.inv (.sendQuery srv key) s1 h1')
      exact hgo.inv .flushRequeue s2 h2

open Cares.Proto.Cookie in
/-- what `ares_cookie_validate` does to the per-query counters: it re-queues only for a BADCOOKIE reply to a request
    that carried a cookie; then the verdict is "drop", the resend counter goes up by one and TCP is forced from the
    third resend on; otherwise the counters are untouched -/
theorem validate_counters (c : CookieSt) (qs : QState) (reqCookie respCookie : Option (List UInt8)) (rcode : Nat)
    (now : TimeVal) :
    ((validate c qs reqCookie respCookie rcode now).requeue = true →
      (validate c qs reqCookie respCookie rcode now).verdict = .drop ∧
      (validate c qs reqCookie respCookie rcode now).q.cookieTry = qs.cookieTry + 1 ∧
      (validate c qs reqCookie respCookie rcode now).q.usingTcp = (qs.usingTcp || decide (qs.cookieTry + 1 ≥ 3)) ∧
      reqCookie ≠ none) ∧
    ((validate c qs reqCookie respCookie rcode now).requeue = false →
      (validate c qs reqCookie respCookie rcode now).q = qs) := by
  have h := validateWith_counters timevalIsSet c qs reqCookie respCookie rcode now
  exact ⟨fun hr => ⟨(h.1 hr).1, congrArg (·.cookieTry) (h.1 hr).2.1, congrArg (·.usingTcp) (h.1 hr).2.1,
    (h.1 hr).2.2⟩, h.2⟩

/-- `process_answer` re-sends the query in another form (EDNS downgrade, UDP→TCP upgrade): detach, rewrite by `f`,
    append the deferred entry.  `f` pays for the write to come: the potential goes up by one. -/
theorem resend_push {s : St} {key : Nat} {q0 : Query} (f : Query → Query) (srv : Option Nat)
    (h : CInv tr ns none none s) (hq : s.query? key = some q0) (hk : ∀ q, (f q).key = q.key)
    (hf : (f (unlinkQ q0)).qid = q0.qid ∧ (f (unlinkQ q0)).conn = none ∧ (f (unlinkQ q0)).cookieTry = q0.cookieTry)
    (hpot : ∀ p, potP p (unlinkQ q0) + 1 ≤ potP p (f (unlinkQ q0)))
    (htcp : q0.usingTcp = true → (f (unlinkQ q0)).usingTcp = true) :
    CInv tr ns none none
      { ((s.removeFromConn key).modQuery key f) with
        requeueArr := ((s.removeFromConn key).modQuery key f).requeueArr ++ [(q0.qid, srv)] } := by
  have h7 : CInv tr ns none none (s.removeFromConn key) := CInv.removeFromConn h
  have hq7 := query?_after_remove hq
  have h8 : CInv tr ns (some key) none ((s.removeFromConn key).modQuery key f) := by
    refine CInv.modKey hq7 _ ⟨hk _, hf.1⟩ (Or.inl rfl) (Or.inr rfl) (Or.inl rfl) (Or.inl rfl) h7 ?_
    intro hok n hq'
    refine .detached hf.2.1 ?_ (by rw [hf.2.2]; exact hq'.ck3)
      fun h3 => htcp (hq'.ck3tcp (by rw [hf.2.2] at h3; exact h3))
    have hc := hq'.acct
    rw [cr1_none] at hc
    rw [cr1_self]
    have := hpot (cproj (s.removeFromConn key))
    omega
  have hq8 : ((s.removeFromConn key).modQuery key f).query? key = some (f (unlinkQ q0)) := by
    rw [query?_modQuery_self _ _ _ hk, hq7]; rfl
  refine CInv.lift h8 rfl fun hok => ?_
  have := COk.push' _ (query?_mem hq8) srv key (query?_key hq8) hok
  rw [hf.1] at this
  exact this

theorem bodyProcessAnswer_c {go : Call → St → St × Ret} (hgo : GoCredit tr ns go) (fd : Nat) (r : Reply) (s : St)
    (h : CInv tr ns none none s) : CInv tr ns none none (bodyProcessAnswer go fd r s).1 := by
  rcases h with hoof | hok0
  · exact Or.inl ((bodyProcessAnswer_reach fd r s).invariant (fun p h => p.outOfFuel_eq.trans h) (fun c s _ => hgo.oof c s) hoof)
  have h : CInv tr ns none none s := Or.inr hok0
  unfold bodyProcessAnswer
  split
  · exact CInv.mfault h
  rename_i c hcc
  ite_split
  · exact h
  ite_split
  · exact h
  -- `ite_split` calls every hypothesis `hc`: the two conditions passed are not needed below
  clear hc
  clear hc
  split
  · exact h
  rename_i qid key hfind
  split
  · exact CInv.mfault h
  rename_i q hq
  ite_split
  · exact h
  have hconn := hc
  clear hc
  have hcn : q.conn = some fd := by simpa using hconn
  extract_lets sameQ srvNow respCk vo s1 s2
  ite_split
  · exact h
  clear hc
  have hv := validate_counters srvNow.cookie { cookieTry := q.cookieTry, usingTcp := q.usingTcp }
    (if q.edns then q.reqCookie else none) respCk r.rcode s.tv
  have h1 : CInv tr ns none none s1 := CInv.modServer (fun _ => Or.inl rfl) h
  have hq1 : s1.query? key = some q := hq
  split
  rename_i s3 r3 he3
  cases hrq : vo.requeue with
  | true =>
    obtain ⟨hvd, hvc, hvu, hvr⟩ := hv.1 hrq
    dsimp only at hvc hvu
    have h2 : CInv tr ns (some key) (some key) s2 := by
      refine CInv.modKey hq1 _ ⟨rfl, rfl⟩ (Or.inl rfl) (Or.inr rfl) (Or.inl rfl) (Or.inr rfl) h1 ?_
      intro hok c0 hq'
      have hlt : q.cookieTry < 3 := by
        apply Decidable.byContradiction
        intro hge
        rcases hq'.ckR (by simp) (by omega) with hrc | hcn'
        · apply hvr
          rw [hrc]; split <;> rfl
        · rw [hcn] at hcn'; cases hcn'
      refine ⟨?_, ?_, ?_, fun hne => absurd rfl hne, fun hne => absurd rfl hne, hq'.attLt⟩
      · have hc0 := hq'.acct
        rw [cr1_none] at hc0
        rw [cr1_self]
        have e : potP (cproj s1) q + 1 ≤
            potP (cproj s1) { q with cookieTry := vo.q.cookieTry, usingTcp := vo.q.usingTcp } := by
          unfold potP
          dsimp only
          rw [hvc, hvu]
          have : (if q.usingTcp = true then 1 else 0) ≤
              (if (q.usingTcp || decide (q.cookieTry + 1 ≥ 3)) = true then 1 else 0) := by
            cases q.usingTcp
            · simp only [Bool.false_eq_true, ↓reduceIte, Bool.false_or]; exact Nat.zero_le _
            · simp
          omega
        omega
      · show vo.q.cookieTry ≤ 3
        rw [hvc]; omega
      · show 3 ≤ vo.q.cookieTry → vo.q.usingTcp = true
        rw [hvc, hvu]
        intro h3
        have : decide (q.cookieTry + 1 ≥ 3) = true := by simpa using h3
        rw [this]; simp
    rw [hrq] at he3
    simp only [↓reduceIte] at he3
    have h3 : CInv tr ns none none s3 := pair_fst he3 (hgo.inv (.requeue key .ok false none true) s2 h2)
    split
    · exact h3
    · rename_i hnd
      exact absurd (by rw [hvd]; rfl) hnd
  | false =>
    have hvq := hv.2 hrq
    have hvc : vo.q.cookieTry = q.cookieTry := by rw [hvq]
    have hvu : vo.q.usingTcp = q.usingTcp := by rw [hvq]
    have h2 : CInv tr ns none none s2 := by
      -- the counters are written back unchanged
      refine CInv.modKey hq1 _ ⟨rfl, rfl⟩ (Or.inl rfl) (Or.inl rfl) (Or.inl rfl) (Or.inl rfl) h1 fun _ n hq' => ?_
      rw [show ({ q with cookieTry := vo.q.cookieTry, usingTcp := vo.q.usingTcp } : Query) = q by rw [hvc, hvu]]
      exact hq'
    rw [hrq] at he3
    simp only [Bool.false_eq_true, ↓reduceIte, Prod.mk.injEq] at he3
    obtain ⟨rfl, _⟩ := he3
    split
    · exact h2
    · -- the reply is accepted
      have hq2 : s2.query? key = some { q with cookieTry := vo.q.cookieTry, usingTcp := vo.q.usingTcp } := by
        show (s1.modQuery key _).query? key = _
        rw [query?_modQuery_self, hq1]
        · rfl
        · intro _; rfl
      extract_lets q' s4 s5 s6 ednsIssue
      have hq'e : q' = { q with cookieTry := vo.q.cookieTry, usingTcp := vo.q.usingTcp } := by
        show (s2.query? key).getD q = _
        rw [hq2]; rfl
      have h6 : CInv tr ns none none s6 := by
        show CInv tr ns none none (s5.modQuery key _)
        refine CInv.modQuery (fun _ => ⟨rfl, rfl, rfl, rfl, rfl, rfl, rfl, rfl⟩) ?_
        show CInv tr ns none none (s4.modConn _ _)
        refine CInv.modConn (fun _ => ⟨rfl, rfl⟩) ?_
        exact h2.ofSameProj rfl rfl
      have hq6 : s6.query? key = some { q' with inConnList := false } := by
        show (s5.modQuery key _).query? key = _
        rw [query?_modQuery_self]
        · show Option.map _ (s2.query? key) = _
          rw [hq2, hq'e]; rfl
        · intro _; rfl
      split
      · -- EDNS downgrade
        rename_i hed
        have hedns : ({ q' with inConnList := false } : Query).edns = true := by
          have hed' : (r.rcode == 1 && q'.edns && (!r.hasOpt || (q'.reqCookie.isSome && r.hasOpt))) = true := hed
          simp only [Bool.and_eq_true] at hed'
          exact hed'.1.2
        refine resend_push (q0 := { q' with inConnList := false }) _ (some c.srv) h6 hq6 (fun _ => rfl) ⟨rfl, rfl, rfl⟩ (fun p => ?_) id
        unfold potP
        simp only [unlinkQ, hedns, ↓reduceIte, Bool.false_eq_true]
        omega
      · split
        · -- truncated over UDP: upgrade to TCP
          rename_i htc
          have hctcp : c.tcp = false := by
            simp only [Bool.and_eq_true, Bool.not_eq_eq_eq_not, Bool.not_true] at htc
            exact htc.1.2
          have hnu : ({ q' with inConnList := false } : Query).usingTcp = false := by
            show q'.usingTcp = false
            rw [hq'e]
            show vo.q.usingTcp = false
            rw [hvu]
            -- a query that uses TCP is attached to TCP connections only
            apply Decidable.byContradiction
            intro hne
            have hu : q.usingTcp = true := by simpa using hne
            have := hok0.attTcp q (query?_mem hq) (by simp) hu fd hcn c.tcp (by
              rw [kindOf_conn?, hcc]; rfl)
            rw [hctcp] at this; cases this
          refine resend_push (q0 := { q' with inConnList := false }) _ none h6 hq6 (fun _ => rfl) ⟨rfl, rfl, rfl⟩ (fun p => ?_) (fun _ => rfl)
          unfold potP
          simp only [unlinkQ, hnu, ↓reduceIte, Bool.false_eq_true]
          omega
        · split
          · repeat' (c_step hgo)
          · repeat' (c_step hgo)

/-- the procedures whose bodies are proved above; every other body spends no credit and passes none on -/
def Call.spends : Call → Bool
  | .sendNolock .. | .sendQuery .. | .requeue .. | .processAnswer .. | .flushRequeue => true
  | _ => false

/-- every update of a procedure that does not spend keeps the accounting: it leaves the projection alone, rewrites
    what the accounting does not read, or removes queries, connections and index entries -/
theorem CInv.prim {c : Call} (hc : c.spends = false) {s s' : St} (p : Prim c s s') (h : CInv tr ns none none s) :
    CInv tr ns none none s' := by
  cases p
  case genQid | addQuery | enqueue | sqCommit => exact Bool.noConfusion hc
  case editQuery hr | deferRequeue hr => cases c <;> first | exact Bool.noConfusion hc | exact hr.elim
  case modQuery hf =>
    exact CInv.modQuery (fun q => ⟨hf.key q, hf.qid q, hf.tryCount q, hf.cookieTry q, hf.edns q, hf.usingTcp q,
      hf.conn q, hf.reqCookie q⟩) h
  case modConn hf => exact CInv.modConn (fun c => ⟨hf.fd c, hf.tcp c⟩) h
  case modServer hf => exact CInv.modServer hf.tcpConn h
  case setFlag => exact CInv.modServer (fun _ => Or.inl rfl) h
  case incFailures => exact CInv.incFailures h
  case setGood => exact CInv.setGood h
  case metricsRecord => exact CInv.metricsRecord h
  case notify => exact CInv.notify h
  case recvUdp | consume => exact CInv.modConn (fun _ => ⟨rfl, rfl⟩) h
  case recvTcp => exact CInv.modConn (fun _ => ⟨rfl, rfl⟩) (h.ofSameProj rfl rfl)
  case draw1 => exact CInv.draw1 h
  case draw2 => exact CInv.draw2 h
  case pop8 => exact CInv.pop8 h
  case removeFromConn => exact CInv.removeFromConn h
  case detach => exact CInv.detach h
  case freeQuery => exact CInv.freeQuery h
  case advanceOut => exact CInv.advanceOut h
  case udpSent => exact CInv.modConn (fun _ => ⟨rfl, rfl⟩) (CInv.notify (CInv.recordTx h))
  case resetConn => exact CInv.modConn (fun _ => ⟨rfl, rfl⟩) h
  case closeFinal fd _ _ _ =>
    -- by the frame lemmas: `rfl` through the four updates of `closeFinal` is slow to check
    refine CInv.closeFd (s := s.notify fd false false) fd ?_ ?_ (CInv.notify h)
    · simp only [closeFinal, cproj, chan_frame]; rfl
    · simp only [closeFinal, chan_frame]
  case openConn => exact sqOpen_cg _ _ _ none h
  case popRequeue e rest hreq => exact CInv.lift h rfl (fun hok => (COk.pop e rest hreq hok).1)
  case cacheInsert => rw [St.cacheInsert_eq]; exact h.ofSameProj rfl rfl
  case userCallback => rw [St.userCallback_eq]; exact h.ofSameProj rfl rfl
  all_goals exact h.ofSameProj rfl rfl

/-- `go` without the two calls that come with a credit: the procedures that do not spend make neither -/
def noCredit (go : Call → St → St × Ret) : Call → St → St × Ret
  | .sendQuery _ _, s => s.oof
  | .requeue _ _ false _ _, s => s.oof
  | c, s => go c s

theorem GoCredit.noCredit {go : Call → St → St × Ret} (hgo : GoCredit tr ns go) : GoInv (CInv tr ns none none) (noCredit go) := by
  intro c s h
  unfold Cares.Chan.noCredit
  split
  · exact CInv.oofSt s
  · exact CInv.oofSt s
  · rename_i h1 h2
    refine hgo.inv c s ?_
    cases c <;> first | exact h | skip
    · exact absurd rfl (h1 _ _)
    · rename_i inc _ _
      cases inc
      · exact absurd rfl (h2 _ _ _ _)
      · exact h

/-- a procedure that does not spend keeps the accounting: its body is the same function with the two calls cut off
    (by unfolding: it makes neither), and every update it makes keeps the invariant -/
theorem execBody_keeps_c {go : Call → St → St × Ret} (hgo : GoCredit tr ns go) {c : Call} (hc : c.spends = false) (s : St)
    (h : CInv tr ns none none s) : CInv tr ns none none (execBody go c s).1 := by
  have e : execBody (noCredit go) c s = execBody go c s := by
    cases c <;> first | exact Bool.noConfusion hc | rfl
  rw [← e]
  exact execBody_invariant c (CInv.prim hc) hgo.noCredit s h

theorem execBody_c {go : Call → St → St × Ret} (hgo : GoCredit tr ns go) (c : Call) (s : St) (h : PreC tr ns c s) :
    CInv tr ns none none (execBody go c s).1 := by
  cases c
  case sendNolock a1 a2 a3 a4 a5 a6 => exact bodySendNolock_c hgo a1 a2 a3 a4 a5 a6 s h
  case sendQuery a1 a2 => exact bodySendQuery_c hgo a1 a2 s h
  case requeue a1 a2 a3 a4 a5 => exact bodyRequeue_c hgo a1 a2 a3 a4 a5 s h
  case processAnswer a1 a2 => exact bodyProcessAnswer_c hgo a1 a2 s h
  case flushRequeue => exact bodyFlushRequeue_c hgo s h
  all_goals exact execBody_keeps_c hgo rfl s h

theorem exec_goc (n : Nat) : GoCredit tr ns (exec n) := by
  induction n with
  | zero =>
    exact { inv := fun c s _ => Or.inl rfl
            flush := fun fd s0 s h => exec_flush_rel 0 fd s0 s h
            oof := fun c s _ => rfl }
  | succ n ih =>
    exact { inv := fun c s h => execBody_c ih c s h
            flush := fun fd s0 s h => exec_flush_rel (n + 1) fd s0 s h
            oof := fun c s h => exec_outOfFuel (n + 1) c s h }

theorem exec_c (fuel : Nat) (c : Call) (s : St) (h : PreC tr ns c s) : CInv tr ns none none (exec fuel c s).1 :=
  (exec_goc fuel).inv c s h

end
end Cares.Chan
