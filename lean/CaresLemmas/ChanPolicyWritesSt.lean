import CaresLemmas.ChanPolicyWrites
import CaresLemmas.ChanLeaf
import CaresLemmas.ChanPolicyLookup
/-!
# C06 — the write accounting as a state invariant: helpers of the channel model

`CInv tr ns cw ex s` = "`s` ran out of fuel, or the accounting invariant `COk` holds of its projection".  (A run that
runs out of fuel stops in the middle of a procedure; nothing is claimed about such a state except that the flag is set,
and the flag is never cleared.)  One lemma per state helper; at the end the invariant between API calls: the
initial state (`CInv.init`), a new observation (`CInv.newObs`), the bound (`CInv.count_le`).
-/
namespace Cares.Chan

def cproj (s : St) : CP :=
  ⟨s.cfg.tries, s.servers.length, s.qs, s.byQid, s.nextKey, s.obs.rnd2, s.requeueArr, s.writeLog,
   s.conns.map (fun c => (c.fd, c.tcp)), s.nextFd, s.servers.map (·.tcpConn)⟩

def CInv (tr ns : Nat) (cw ex : Option Nat) (s : St) : Prop := s.outOfFuel = true ∨ COk tr ns cw ex (cproj s)

section
variable {tr ns : Nat} {cw ex : Option Nat}

/-- lift a step of the projection-level theory -/
theorem CInv.lift {cw' ex' : Option Nat} {s s' : St} (h : CInv tr ns cw ex s) (h2 : s'.outOfFuel = s.outOfFuel)
    (hok : COk tr ns cw ex (cproj s) → COk tr ns cw' ex' (cproj s')) :
    CInv tr ns cw' ex' s' := by
  rcases h with h | h
  · exact Or.inl (by rw [h2]; exact h)
  · exact Or.inr (hok h)

/-- anything that leaves the projection and the fuel flag alone (advancing the clock, queueing replies on the virtual
    sockets, scripting faults, …) keeps the invariant -/
theorem CInv.ofSameProj {tr ns : Nat} {cw ex : Option Nat} {s s' : St} (h : CInv tr ns cw ex s)
    (h1 : cproj s' = cproj s) (h2 : s'.outOfFuel = s.outOfFuel) : CInv tr ns cw ex s' :=
  CInv.lift h h2 (fun hok => by rw [h1]; exact hok)

theorem CInv.dropW {s : St} (h : CInv tr ns cw ex s) : CInv tr ns none ex s := CInv.lift h rfl COk.dropW
theorem CInv.addEx {s : St} (h : CInv tr ns cw none s) : CInv tr ns cw ex s := CInv.lift h rfl (fun h => COk.addEx h ex)
theorem CInv.oofSt (s : St) : CInv tr ns cw ex s.oof.1 := Or.inl rfl

/-- the servers change, but every `tcpConn` is an old one or `none` (and their number stays) -/
theorem CInv.servers_sub {s s' : St} (hc : cproj s' = { cproj s with tcpConns := s'.servers.map (·.tcpConn) })
    (hs : ∀ v' ∈ s'.servers, v'.tcpConn = none ∨ ∃ x ∈ s.servers, v'.tcpConn = x.tcpConn) (ho : s'.outOfFuel = s.outOfFuel)
    (h : CInv tr ns cw ex s) : CInv tr ns cw ex s' := by
  refine CInv.lift h ho fun hok => ?_
  rw [hc]
  refine COk.subTcp _ (fun o ho => ?_) hok
  obtain ⟨v', hv', rfl⟩ := List.mem_map.1 ho
  rcases hs v' hv' with e | ⟨x, hx, e⟩
  · exact .inr e
  · exact .inl (List.mem_map.2 ⟨x, hx, e.symm⟩)

theorem cproj_modServer (s : St) (id : Nat) (f : Server → Server) :
    cproj (s.modServer id f) =
      { cproj s with tcpConns := (s.servers.map fun x => if x.id == id then f x else x).map (·.tcpConn) } := by
  unfold cproj St.modServer; simp

theorem CInv.modServer {s : St} {id : Nat} {f : Server → Server}
    (hf : ∀ v, (f v).tcpConn = v.tcpConn ∨ (f v).tcpConn = none)
    (h : CInv tr ns cw ex s) : CInv tr ns cw ex (s.modServer id f) :=
  CInv.servers_sub (cproj_modServer s id f) (servers_modServer_sub s id f hf) rfl h

/-- a server record is replaced by one with the `tcpConn` of a configured server -/
theorem CInv.setServer {s : St} {v v0 : Server} (hv0 : v0 ∈ s.servers) (hv : v.tcpConn = v0.tcpConn)
    (h : CInv tr ns cw ex s) : CInv tr ns cw ex (s.setServer v) :=
  CInv.servers_sub (cproj_modServer s v.id fun _ => v) (servers_setServer_sub s v v0 hv0 hv) rfl h

theorem CInv.incFailures {s : St} {id : Nat} {tcp : Bool} (h : CInv tr ns cw ex s) :
    CInv tr ns cw ex (s.incFailures id tcp) := by
  unfold St.incFailures
  split
  · exact h
  · rename_i v hv
    refine CInv.ofSameProj (s := s.setServer _) ?_ rfl rfl
    exact CInv.setServer (v0 := v) (List.mem_of_find?_eq_some hv) rfl h

theorem CInv.setGood {s : St} {id : Nat} {tcp : Bool} (h : CInv tr ns cw ex s) :
    CInv tr ns cw ex (s.setGood id tcp) := by
  unfold St.setGood
  split
  · exact h
  · rename_i v hv
    refine CInv.ofSameProj (s := s.setServer _) ?_ rfl rfl
    exact CInv.setServer (v0 := v) (List.mem_of_find?_eq_some hv) rfl h

theorem CInv.metricsRecord {s : St} {q : Query} {srv : Option Nat} {st : Status} {rec : Option Reply}
    (h : CInv tr ns cw ex s) : CInv tr ns cw ex (s.metricsRecord q srv st rec) := by
  unfold St.metricsRecord
  split
  · split
    · exact h
    · exact CInv.modServer (fun _ => Or.inl rfl) h
  · exact h

theorem cproj_modConn (s : St) (fd : Nat) (f : Conn → Conn) (hf : ∀ c, (f c).fd = c.fd ∧ (f c).tcp = c.tcp) :
    cproj (s.modConn fd f) = cproj s := by
  unfold cproj
  rw [connsMap_modConn _ s fd f]
  · rfl
  · intro c; rw [(hf c).1, (hf c).2]

theorem cproj_notify (s : St) (fd : Nat) (r w : Bool) :
    cproj (s.notify fd r w) = cproj s ∧ (s.notify fd r w).outOfFuel = s.outOfFuel := by
  unfold St.notify
  split
  · exact ⟨rfl, rfl⟩
  · split
    · exact ⟨cproj_modConn _ _ _ (fun _ => ⟨rfl, rfl⟩), rfl⟩
    · exact ⟨cproj_modConn _ _ _ (fun _ => ⟨rfl, rfl⟩), rfl⟩

theorem CInv.modConn {s : St} {fd : Nat} {f : Conn → Conn} (hf : ∀ c, (f c).fd = c.fd ∧ (f c).tcp = c.tcp)
    (h : CInv tr ns cw ex s) : CInv tr ns cw ex (s.modConn fd f) :=
  h.ofSameProj (cproj_modConn s fd f hf) rfl

theorem CInv.notify {s : St} {fd : Nat} {r w : Bool} (h : CInv tr ns cw ex s) :
    CInv tr ns cw ex (s.notify fd r w) :=
  h.ofSameProj (cproj_notify s fd r w).1 (cproj_notify s fd r w).2

theorem CInv.draw1 {s : St} (h : CInv tr ns cw ex s) : CInv tr ns cw ex s.draw1.2 := by
  unfold St.draw1
  split
  · exact h
  · exact h

theorem CInv.pop8 {s : St} (h : CInv tr ns cw ex s) : CInv tr ns cw ex s.pop8 := by
  unfold St.pop8
  split
  · exact h
  · exact h

theorem cproj_draw2 (s : St) : cproj s.draw2.2 = { cproj s with rnd2 := s.obs.rnd2.tail } ∧
    s.draw2.2.outOfFuel = s.outOfFuel := by
  unfold St.draw2
  split
  · rename_i h; unfold cproj St.ofault; simp [h]
  · rename_i x r h; unfold cproj; simp [h]

theorem CInv.draw2 {s : St} (h : CInv tr ns cw ex s) : CInv tr ns cw ex s.draw2.2 := by
  refine CInv.lift h (cproj_draw2 s).2 ?_
  intro hok
  rw [(cproj_draw2 s).1]
  exact COk.shrinkRnd (List.tail_sublist _) hok

/-- `generate_unique_qid`: the id is one of the observed draws (consumed, so with distinct draws it cannot come again)
    or, when the observation is exhausted, the fallback `70000 + nextKey`; the draws only shrink -/
theorem genQid_spec (n : Nat) (s : St) (hlen : s.obs.rnd2.length < n) :
    (∃ r', r'.Sublist s.obs.rnd2 ∧ cproj (genQid n s).2 = { cproj s with rnd2 := r' } ∧
      (genQid n s).2.outOfFuel = s.outOfFuel ∧
      (((genQid n s).1 ∈ s.obs.rnd2 ∧ (s.obs.rnd2.Nodup → (genQid n s).1 ∉ r')) ∨
       (genQid n s).1 = 70000 + s.nextKey)) := by
  induction n generalizing s with
  | zero => omega
  | succ n ih =>
    unfold genQid
    split
    · rename_i hemp
      refine ⟨s.obs.rnd2, List.Sublist.refl _, ?_, rfl, Or.inr rfl⟩
      unfold cproj St.ofault; rfl
    · rename_i hemp
      cases hr : s.obs.rnd2 with
      | nil => rw [hr] at hemp; simp at hemp
      | cons x r =>
        have hd1 : s.draw2.1 = x := by unfold St.draw2; rw [hr]
        have hd2 : cproj s.draw2.2 = { cproj s with rnd2 := r } := by rw [(cproj_draw2 s).1, hr]; rfl
        have hd3 : s.draw2.2.obs.rnd2 = r := by
          have := congrArg CP.rnd2 hd2; exact this
        have hd4 : s.draw2.2.nextKey = s.nextKey := by
          have := congrArg CP.nextKey hd2; exact this
        dsimp only
        split
        · have hlen' : s.draw2.2.obs.rnd2.length < n := by rw [hd3]; rw [hr] at hlen; simp at hlen; omega
          obtain ⟨r', hsub, hw, hoo, hx⟩ := ih s.draw2.2 hlen'
          rw [hd3] at hsub hx
          refine ⟨r', hsub.trans (List.sublist_cons_self x r), ?_, ?_, ?_⟩
          · rw [hw, hd2]
          · rw [hoo, (cproj_draw2 s).2]
          · rcases hx with ⟨hm, hn⟩ | hf
            · left
              exact ⟨List.mem_cons_of_mem _ hm, fun hnd => hn (List.nodup_cons.1 hnd).2⟩
            · right; rw [hf, hd4]
        · refine ⟨r, List.sublist_cons_self x r, hd2, (cproj_draw2 s).2, Or.inl ?_⟩
          rw [hd1]
          exact ⟨List.mem_cons_self, fun hnd => (List.nodup_cons.1 hnd).1⟩

theorem CInv.genQid {s : St} (h : CInv tr ns cw ex s) : CInv tr ns cw ex (Cares.Chan.genQid 70000 s).2 := by
  rcases h with h | h
  · -- the flag is not touched
    have : ∀ n s, (Cares.Chan.genQid n s).2.outOfFuel = s.outOfFuel := by
      intro n s
      obtain ⟨o, f, e⟩ := genQid_writes n s
      rw [e]
    exact Or.inl (by rw [this]; exact h)
  · obtain ⟨r', hsub, hw, _, _⟩ := genQid_spec 70000 s h.rndLen
    right; rw [hw]
    exact COk.shrinkRnd hsub h

theorem CInv.mapQs {s : St} {g : Query → Query} (hg : COk.CoreEq g) (h : CInv tr ns cw ex s) :
    CInv tr ns cw ex { s with qs := s.qs.map g } := CInv.lift h rfl (COk.mapQs hg)

theorem CInv.modQuery {s : St} {k : Nat} {f : Query → Query} (hf : COk.CoreEq f) (h : CInv tr ns cw ex s) :
    CInv tr ns cw ex (s.modQuery k f) := by
  unfold St.modQuery
  apply CInv.mapQs _ h
  intro q
  by_cases hq : q.key == k
  · simp only [hq, ↓reduceIte]; exact hf q
  · simp only [hq]; exact ⟨rfl, rfl, rfl, rfl, rfl, rfl, rfl, rfl⟩

theorem coreEq_nameOnly {g : Query → Query} (hg : NameOnly g) : COk.CoreEq g := by
  intro q
  obtain ⟨nm, e⟩ := hg q
  rw [e]; exact ⟨rfl, rfl, rfl, rfl, rfl, rfl, rfl, rfl⟩

/-- `ares_query_remove_from_conn` on the projection: the query with key `k` (if any) is detached; an exemption for
    that key is no longer needed -/
theorem COk.unlink {p : CP} (k : Nat) (hex : ex = none ∨ ex = some k) (h : COk tr ns cw ex p) :
    COk tr ns cw none { p with qs := p.qs.map (fun x => if x.key == k then unlinkQ x else x) } := by
  refine h.rewrite _ cw none (fun x _ => by split <;> exact ⟨rfl, rfl⟩) fun x _ n hx => ?_
  by_cases hk : x.key == k
  · rw [if_pos hk]; exact .detached rfl hx.acct hx.ck3 hx.ck3tcp
  · -- another query: an exemption, if any, is for `k`
    have hne : ex ≠ some x.key := by
      rcases hex with rfl | rfl
      · simp
      · intro e; exact hk (by simp [Option.some.inj e])
    rw [if_neg hk]
    exact ⟨hx.acct, hx.ck3, hx.ck3tcp, fun _ => hx.ckR hne, fun _ => hx.attTcp hne, hx.attLt⟩

theorem cproj_removeFromConn (s : St) (k : Nat) :
    cproj (s.removeFromConn k) = { cproj s with qs := s.qs.map (fun x => if x.key == k then unlinkQ x else x) } ∧
    (s.removeFromConn k).outOfFuel = s.outOfFuel := by
  unfold St.removeFromConn
  split
  · rename_i hnone
    refine ⟨?_, rfl⟩
    rw [map_if_id s.qs (·.key == k) unlinkQ fun x hx hp => absurd hp (List.find?_eq_none.mp hnone x hx)]
    rfl
  · refine ⟨?_, ?_⟩
    · dsimp only
      split
      · unfold cproj
        rw [St.modQuery_conns, connsMap_modConn _ _ _ _ (by intro; rfl)]; rfl
      · rfl
    · dsimp only
      split <;> rfl

/-- detaching keeps the invariant and settles an exemption for that key -/
theorem CInv.removeFromConn' {s : St} {k : Nat} (hex : ex = none ∨ ex = some k) (h : CInv tr ns cw ex s) :
    CInv tr ns cw none (s.removeFromConn k) := by
  refine CInv.lift h (cproj_removeFromConn s k).2 ?_
  intro hok
  rw [(cproj_removeFromConn s k).1]; exact COk.unlink k hex hok

theorem CInv.removeFromConn {s : St} {k : Nat} (h : CInv tr ns cw none s) : CInv tr ns cw none (s.removeFromConn k) :=
  CInv.removeFromConn' (Or.inl rfl) h

theorem CInv.subQs {s : St} {qs' : List Query} {bq' : List (Nat × Nat)} (hq : qs'.Sublist s.qs)
    (hb : bq'.Sublist s.byQid) (h : CInv tr ns cw ex s) : CInv tr ns cw ex { s with qs := qs', byQid := bq' } :=
  CInv.lift h rfl (COk.sub hq hb)

theorem CInv.detach {s : St} {k : Nat} (h : CInv tr ns cw none s) : CInv tr ns cw none (s.detach k) := by
  unfold St.detach
  split
  · exact h
  · have h1 : CInv tr ns cw none (s.removeFromConn k) := CInv.removeFromConn h
    exact CInv.lift h1 rfl (COk.sub (p := cproj (s.removeFromConn k)) (List.Sublist.refl _) List.filter_sublist)

theorem CInv.freeQuery {s : St} {k : Nat} (h : CInv tr ns cw none s) : CInv tr ns cw none (s.freeQuery k) := by
  unfold St.freeQuery
  have h1 : CInv tr ns cw none (s.detach k) := CInv.detach h
  exact CInv.lift h1 rfl (COk.sub (p := cproj (s.detach k)) List.filter_sublist (List.Sublist.refl _))

theorem cproj_recordTx (s : St) (fd : Nat) (tcp : Bool) (f : OutFrame) :
    ∃ g, NameOnly g ∧ cproj (s.recordTx fd tcp f) = { cproj s with qs := s.qs.map g } ∧
      (s.recordTx fd tcp f).outOfFuel = s.outOfFuel := by
  obtain ⟨t, g, ev, sl, hg, _, e⟩ := recordTx_shape s fd tcp f
  exact ⟨g, hg, by rw [e]; rfl, by rw [e]⟩

theorem CInv.recordTx {s : St} {fd : Nat} {tcp : Bool} {f : OutFrame} (h : CInv tr ns cw ex s) :
    CInv tr ns cw ex (s.recordTx fd tcp f) := by
  obtain ⟨g, hg, e, ho⟩ := cproj_recordTx s fd tcp f
  refine CInv.lift h ho ?_
  intro hok; rw [e]; exact COk.mapQs (coreEq_nameOnly hg) hok

theorem cproj_map_id (s : St) : ({ cproj s with qs := s.qs.map (fun q => q) } : CP) = cproj s := by
  simp [cproj]

theorem CInv.advanceOut {s : St} {fuel fd n : Nat} (h : CInv tr ns cw ex s) :
    CInv tr ns cw ex (Cares.Chan.advanceOut fuel fd s n) :=
  advanceOut_induct (fun _ _ _ _ _ _ h => CInv.recordTx (CInv.modConn (fun _ => ⟨rfl, rfl⟩) h))
    (fun _ _ h => CInv.modConn (fun _ => ⟨rfl, rfl⟩) h) fuel s n h

/-- every connection with descriptor `fd` is dropped (`ares_close_connection`) -/
theorem CInv.closeFd {s s' : St} (fd : Nat)
    (h1 : cproj s' = cproj { s with conns := s.conns.filter (·.fd != fd) }) (h2 : s'.outOfFuel = s.outOfFuel)
    (h : CInv tr ns cw ex s) : CInv tr ns cw ex s' := by
  refine CInv.lift h h2 ?_
  intro hok
  rw [h1]
  have : cproj { s with conns := s.conns.filter (·.fd != fd) } =
      { cproj s with kinds := (cproj s).kinds.filter (fun e => e.1 != fd) } := by
    unfold cproj
    simp only [CP.mk.injEq, true_and, and_true]
    rw [List.filter_map]
    rfl
  rw [this]
  exact COk.closeFd fd hok

chan_simple_lemmas CInv : (CInv tr ns cw ex) =>
  emit slog mfault setSock modSock modClient cacheExpire

end

/-- the draws offered by an observation are usable as query ids: pairwise distinct, fewer than the fuel of
    `genQid 70000` and below its fallback ids `70000 + nextKey` (`COk.rndNodup`, `rndLen`, `rndLt`) -/
def FreshDraws (l : List Nat) : Prop := l.Nodup ∧ l.length < 70000 ∧ ∀ x ∈ l, x < 70000

theorem CInv.init (s : St) (hq : s.qs = []) (hb : s.byQid = []) (hr : s.requeueArr = []) (hw : s.writeLog = [])
    (hc : s.conns = []) (ht : ∀ v ∈ s.servers, v.tcpConn = none) (hrnd : FreshDraws s.obs.rnd2) :
    CInv s.cfg.tries s.servers.length none none s := by
  right
  have hk : (cproj s).kinds = [] := by show s.conns.map _ = []; rw [hc]; rfl
  -- every clause about a stored query holds of none
  have nq {P : Query → Prop} : ∀ q ∈ (cproj s).qs, P q := fun q hm => by
    have hm : q ∈ s.qs := hm
    rw [hq] at hm; cases hm
  exact
    { htries := rfl, hnsrv := rfl
      keysNodup := by show (s.qs.map _).Nodup; rw [hq]; exact List.nodup_nil
      keyLt := nq
      byQidLt := fun e he => by have he : e ∈ s.byQid := he; rw [hb] at he; cases he
      fresh := fun k _ => by show s.writeLog.count k = 0; rw [hw]; rfl
      qidInj := nq
      byQidOk := fun e he => by have he : e ∈ s.byQid := he; rw [hb] at he; cases he
      rndNodup := hrnd.1, rndLen := hrnd.2.1, rndLt := hrnd.2.2
      reqFresh := fun e he => by have he : e ∈ s.requeueArr := he; rw [hr] at he; cases he
      qidFresh := nq, acct := nq, ck3 := nq, ck3tcp := nq, ckR := nq
      kindLt := fun e he => by rw [hk] at he; cases he
      tcpOk := fun o ho fd hfd => by
        have ho : o ∈ s.servers.map (·.tcpConn) := ho
        obtain ⟨v, hv, rfl⟩ := List.mem_map.1 ho
        rw [ht v hv] at hfd; cases hfd
      attLt := nq, attTcp := nq
      dead := fun k _ _ => by show s.writeLog.count k ≤ _; rw [hw]; exact Nat.zero_le _ }

/-- a new API call brings a new observation: the invariant survives if its draws are fresh (distinct, and distinct
    from the ids of the live queries and of pending deferred-requeue entries) -/
theorem CInv.newObs {tr ns : Nat} (s : St) (o : Obs) (h : CInv tr ns none none s) (hrnd : FreshDraws o.rnd2)
    (hq : ∀ q ∈ s.qs, q.qid ∉ o.rnd2) (hr : ∀ e ∈ s.requeueArr, e.1 ∉ o.rnd2) :
    CInv tr ns none none { s with obs := o } := by
  refine CInv.lift h rfl ?_
  intro hok
  have : cproj { s with obs := o } = { cproj s with rnd2 := o.rnd2 } := rfl
  rw [this]
  exact { hok with
    rndNodup := hrnd.1, rndLen := hrnd.2.1, rndLt := hrnd.2.2
    reqFresh := fun e he => ⟨hr e he, (hok.reqFresh e he).2⟩
    qidFresh := fun q hm => ⟨hq q hm, (hok.qidFresh q hm).2⟩ }

/-- in a state that satisfies the invariant (and is not out of fuel) no query's frame
    has been handed to connections more than `servers × tries + 5` times -/
theorem CInv.count_le {tr ns : Nat} {cw ex : Option Nat} {s : St} (h : CInv tr ns cw ex s)
    (hf : s.outOfFuel = false) (k : Nat) : s.writeLog.count k ≤ writeBound tr ns := by
  rcases h with h | hok
  · rw [hf] at h; cases h
  · exact hok.count_le k

/-- the configuration the bound refers to is the state's -/
theorem CInv.cfg_eq {tr ns : Nat} {cw ex : Option Nat} {s : St} (h : CInv tr ns cw ex s)
    (hf : s.outOfFuel = false) : s.cfg.tries = tr ∧ s.servers.length = ns := by
  rcases h with h | hok
  · rw [hf] at h; cases h
  · exact ⟨hok.htries, hok.hnsrv⟩

end Cares.Chan
