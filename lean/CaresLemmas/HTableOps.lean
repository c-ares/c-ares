import CaresLemmas.HTableExpand
import CaresLemmas.Alloc
/-! Helper lemmas for the `ares_htable` model: expand / insert / remove / get against the invariant.  The entry points are
    `expand_any : ExpOutcome …` and `insert_any : InsOutcome …`, each one analysis under any allocation oracle;
    `insert_spec` (all allocations succeed) and the C14 / C19 theorems are projections of their fields. -/
namespace Cares.Dsa
open Cares.Generated

namespace HTable
variable {K V : Type}

/-- side conditions on the constants regenerated from ares_htable.c (discharged by `decide`: `consts_ok`) -/
structure ConstsOk : Prop where
  min_pos : 0 < HTABLE_MIN_BUCKETS
  /-- doubling from the minimum reaches the maximum exactly -/
  max_pow : ∃ j, HTABLE_MAX_BUCKETS = HTABLE_MIN_BUCKETS * 2 ^ j
  /-- the growth threshold of the smallest table is at least one key -/
  load_ok : 100 ≤ HTABLE_MIN_BUCKETS * HTABLE_EXPAND_PERCENT

theorem consts_ok : ConstsOk :=
  ⟨by decide, ⟨Nat.log2 (HTABLE_MAX_BUCKETS / HTABLE_MIN_BUCKETS), by decide⟩, by decide⟩

theorem size_pos (hc : ConstsOk) (ops : HOps K) (t : HTable K V) (h : Inv ops t) : 0 < t.size := by
  obtain ⟨k, hk⟩ := h.pow
  rw [hk]; exact Nat.mul_pos hc.min_pos (Nat.two_pow_pos k)

theorem min_le_size (ops : HOps K) (t : HTable K V) (h : Inv ops t) : HTABLE_MIN_BUCKETS ≤ t.size := by
  obtain ⟨k, hk⟩ := h.pow
  rw [hk]; exact Nat.le_mul_of_pos_right _ (Nat.two_pow_pos k)

theorem double_le_max (hc : ConstsOk) (ops : HOps K) (t : HTable K V) (h : Inv ops t)
    (hne : t.size ≠ HTABLE_MAX_BUCKETS) : t.size * 2 ≤ HTABLE_MAX_BUCKETS ∧ ∃ k, t.size * 2 = HTABLE_MIN_BUCKETS * 2 ^ k := by
  obtain ⟨k, hk⟩ := h.pow
  obtain ⟨j, hj⟩ := hc.max_pow
  have hlt : t.size < HTABLE_MAX_BUCKETS := Nat.lt_of_le_of_ne h.szmax hne
  rw [hk, hj] at hlt
  have h2 : 2 ^ k < 2 ^ j := Nat.lt_of_mul_lt_mul_left hlt
  have hkj : k < j := (Nat.pow_lt_pow_iff_right Nat.one_lt_two).1 h2
  have h3 : 2 ^ (k + 1) ≤ 2 ^ j := Nat.pow_le_pow_right Nat.two_pos hkj
  have h4 : t.size * 2 = HTABLE_MIN_BUCKETS * 2 ^ (k + 1) := by rw [hk, Nat.pow_succ, Nat.mul_assoc]
  refine ⟨?_, k + 1, h4⟩
  rw [h4, hj]; exact Nat.mul_le_mul_left _ h3

theorem xinv_init (ops : HOps K) (size : Nat) (p : Nat) :
    XInv ops size ({ nb := List.replicate size none, pre := p, coll := 0 } : XS K V) := by
  refine ⟨by simp, ?_, ?_⟩
  · intro j l hj
    simp only [List.getElem?_replicate] at hj
    split at hj <;> simp at hj
  · simp only; rw [sum_map_replicate_none bcoll rfl]

/-- the move loop of ares_htable_expand below the maximum size: with `numCollisions` llists pre-allocated it never
    takes its `goto done`, keeps every node, and the doubled table satisfies the invariant -/
theorem expand_moved (hc : ConstsOk) (ops : HOps K) (hl : Lawful ops) (t : HTable K V) (h : Inv ops t)
    (hmax : t.size ≠ HTABLE_MAX_BUCKETS) :
    ∃ x, moveAll ops (t.size * 2) t.buckets { nb := List.replicate (t.size * 2) none, pre := t.numCollisions, coll := 0 }
        = (x, none) ∧
      Inv ops { buckets := x.nb, size := t.size * 2, numKeys := t.numKeys, numCollisions := x.coll } ∧
      (entries ({ buckets := x.nb, size := t.size * 2, numKeys := t.numKeys, numCollisions := x.coll } : HTable K V)).Perm
        (entries t) := by
  have hs := size_pos hc ops t h
  obtain ⟨x, ex, ix, px⟩ := moveAll_spec ops (t.size * 2) t.buckets
    { nb := List.replicate (t.size * 2) none, pre := t.numCollisions, coll := 0 }
    (xinv_init ops _ _) (Nat.mul_pos hs Nat.two_pos) (by rw [h.ncoll]; exact Nat.le_refl _)
  obtain ⟨hd1, hd2⟩ := double_le_max hc ops t h hmax
  have hperm : (entries ({ buckets := x.nb, size := t.size * 2, numKeys := t.numKeys, numCollisions := x.coll } : HTable K V)).Perm
      (entries t) := by
    rw [ents_replicate_none, List.append_nil] at px
    exact px
  refine ⟨x, ex, ⟨ix.len, hd2, hd1, ?_, ?_, ?_, ix.coll, ?_⟩, hperm⟩
  · intro i l hi e he; exact (ix.placed i l hi).2 e he
  · exact pairwise_perm ops hl _ _ hperm.symm h.uniq
  · show t.numKeys = _; rw [h.nkeys]; exact hperm.length_eq.symm
  · left
    show t.numKeys ≤ t.size * 2 * HTABLE_EXPAND_PERCENT / 100
    refine Nat.le_trans (h.load.resolve_right hmax) (Nat.div_le_div_right ?_)
    rw [Nat.mul_right_comm]; exact Nat.le_mul_of_pos_right _ Nat.two_pos

/-- ares_htable_expand ran to completion: `t'` holds the nodes of `t`, in twice the buckets unless `t` was at the
    maximum size already -/
structure Expanded (ops : HOps K) (t t' : HTable K V) : Prop where
  inv : Inv ops t'
  perm : (entries t').Perm (entries t)
  nkeys : t'.numKeys = t.numKeys
  size : if t.size = HTABLE_MAX_BUCKETS then t' = t else t'.size = t.size * 2

/-- what ares_htable_expand may do under an arbitrary allocation oracle: complete, or fail by allocation failure with
    the table exactly as it was -/
inductive ExpOutcome (ops : HOps K) (t : HTable K V) (o : Oracle) (r : Bool × HTable K V × Oracle) : Prop where
  | done (ok : r.1 = true) (ex : Expanded ops t r.2.1) (allOk : o.AllOk → r.2.2.AllOk)
  | failed (ok : r.1 = false) (same : r.2.1 = t) (noMem : ¬ o.AllOk)

/-- ares_htable_expand, any oracle: the bucket array, the llist pointer array and `num_collisions` llists are obtained
    before any node is moved, and then the move loop never takes its `goto done` -/
theorem expand_any (hc : ConstsOk) (ops : HOps K) (hl : Lawful ops) (t : HTable K V) (o : Oracle) (h : Inv ops t) :
    ExpOutcome ops t o (expand ops t o) := by
  unfold expand
  by_cases hmax : t.size = HTABLE_MAX_BUCKETS
  · rw [if_pos hmax]
    exact .done rfl ⟨h, List.Perm.refl _, rfl, by rw [if_pos hmax]⟩ id
  rw [if_neg hmax]
  cases h1 : o.next with
  | mk b1 o1 =>
    have a1 : o.AllOk → b1 = true ∧ o1.AllOk := Oracle.next_allOk h1
    cases b1 with
    | false => exact .failed rfl rfl fun ho => Bool.noConfusion (a1 ho).1
    | true =>
      simp only
      cases h2 : (if t.numCollisions ≠ 0 then o1.next else (true, o1)) with
      | mk b2 o2 =>
        have a2 : o.AllOk → b2 = true ∧ o2.AllOk := fun ho => Oracle.cond_next_allOk h2 (a1 ho).2
        cases b2 with
        | false => exact .failed rfl rfl fun ho => Bool.noConfusion (a2 ho).1
        | true =>
          simp only
          cases h3 : o2.nextN t.numCollisions with
          | mk b3 o3 =>
            have a3 : o.AllOk → b3 = true ∧ o3.AllOk := fun ho => Oracle.nextN_allOk _ h3 (a2 ho).2
            cases b3 with
            | false => exact .failed rfl rfl fun ho => Bool.noConfusion (a3 ho).1
            | true =>
              obtain ⟨x, ex, ix, hperm⟩ := expand_moved hc ops hl t h hmax
              simp only [ex]
              exact .done rfl ⟨ix, hperm, rfl, by rw [if_neg hmax]⟩ fun ho => (a3 ho).2

theorem room_after_expand (hc : ConstsOk) (ops : HOps K) (t t1 : HTable K V) (h : Inv ops t)
    (n1 : t1.numKeys = t.numKeys) (sz1 : if t.size = HTABLE_MAX_BUCKETS then t1 = t else t1.size = t.size * 2) :
    t1.numKeys + 1 ≤ t1.size * HTABLE_EXPAND_PERCENT / 100 ∨ t1.size = HTABLE_MAX_BUCKETS := by
  by_cases hmax : t.size = HTABLE_MAX_BUCKETS
  · rw [if_pos hmax] at sz1; rw [sz1]; exact Or.inr hmax
  · rw [if_neg hmax] at sz1
    have hld : t.numKeys ≤ t.size * HTABLE_EXPAND_PERCENT / 100 := h.load.resolve_right hmax
    have h100 : 100 ≤ t.size * HTABLE_EXPAND_PERCENT :=
      Nat.le_trans hc.load_ok (Nat.mul_le_mul_right _ (min_le_size ops t h))
    left
    rw [n1, sz1, Nat.mul_right_comm]
    omega

theorem eq_congr (ops : HOps K) (hl : Lawful ops) (a b x : K) (h : ops.eq a b = true) : ops.eq a x = ops.eq b x := by
  cases h1 : ops.eq a x with
  | true => exact (hl.trans _ _ _ (hl.symm _ _ h) h1).symm
  | false =>
    cases h2 : ops.eq b x with
    | false => rfl
    | true => rw [hl.trans _ _ _ h h2] at h1; cases h1

theorem eq_congr_right (ops : HOps K) (hl : Lawful ops) (q a b : K) (h : ops.eq a b = true) :
    ops.eq q a = ops.eq q b := by
  cases hq : ops.eq q a with
  | true => exact (hl.trans _ _ _ hq h).symm
  | false =>
    cases hq2 : ops.eq q b with
    | false => rfl
    | true => rw [hl.trans _ _ _ hq2 (hl.symm _ _ h)] at hq; cases hq

theorem abs_congr (ops : HOps K) (hl : Lawful ops) (t : HTable K V) (q k : K) (h : ops.eq q k = true) :
    abs ops t q = abs ops t k := by
  unfold abs
  congr 1
  funext e
  exact eq_congr ops hl q k e.1 h

theorem get_spec (ops : HOps K) (hl : Lawful ops) (t : HTable K V) (k : K) (h : Inv ops t)
    (hk : ops.isNull k = false) : get ops t k = abs ops t k := by
  unfold get abs entries
  rw [hk]
  exact find_bucket_eq_find_all ops hl t.buckets t.size h.placed h.uniq k

/-- linking a new node (key not present) at the front of its bucket -/
theorem add_node (ops : HOps K) (hl : Lawful ops) (t1 : HTable K V) (h1 : Inv ops t1) (k : K) (v : V)
    (hlt : hidx ops t1.size k < t1.size) (hnone : abs ops t1 k = none)
    (hroom : t1.numKeys + 1 ≤ t1.size * HTABLE_EXPAND_PERCENT / 100 ∨ t1.size = HTABLE_MAX_BUCKETS) :
    Inv ops ({ buckets := t1.buckets.set (hidx ops t1.size k) (some ((k, v) :: bucketAt t1.buckets (hidx ops t1.size k))),
               size := t1.size, numKeys := t1.numKeys + 1,
               numCollisions := if ((k, v) :: bucketAt t1.buckets (hidx ops t1.size k)).length > 1
                                then t1.numCollisions + 1 else t1.numCollisions } : HTable K V) ∧
    (ents (t1.buckets.set (hidx ops t1.size k) (some ((k, v) :: bucketAt t1.buckets (hidx ops t1.size k))))).Perm
      ((k, v) :: entries t1) := by
  have hlen : hidx ops t1.size k < t1.buckets.length := by rw [h1.len]; exact hlt
  have hperm := ents_push_perm t1.buckets _ hlen (k, v)
  refine ⟨⟨by simp [h1.len], h1.pow, h1.szmax, ?_, ?_, ?_, ?_, ?_⟩, hperm⟩
  · refine forall_set_bucket t1.buckets _ hlen _ h1.placed ?_
    intro e he
    rcases List.mem_cons.1 he with rfl | hm
    · rfl
    · exact h1.placed _ _ (getElem?_of_bucketAt_ne_nil _ _ (List.ne_nil_of_mem hm)) e hm
  · unfold entries; simp only
    refine pairwise_perm ops hl _ _ hperm.symm ?_
    exact keysDiffer_add ops _ (k, v) h1.uniq hnone
  · unfold entries; simp only
    rw [hperm.length_eq, List.length_cons, h1.nkeys]; rfl
  · show (if ((k, v) :: bucketAt t1.buckets (hidx ops t1.size k)).length > 1 then _ else _) = _
    rw [sum_bcoll_push t1.buckets _ hlen (k, v), h1.ncoll, List.length_cons]
    by_cases hb : (bucketAt t1.buckets (hidx ops t1.size k)).length = 0
    · rw [if_pos hb, hb, if_neg (Nat.lt_irrefl 1)]; rfl
    · rw [if_neg hb, if_pos (Nat.succ_lt_succ (Nat.pos_of_ne_zero hb))]
  · simp only; exact hroom

/-- what a table means once `(k, v)` is linked in front of a bucket of `t1`, a regrouping of `t` -/
theorem abs_of_add (ops : HOps K) (hl : Lawful ops) (t t1 t' : HTable K V) (k : K) (v : V)
    (bs' : List (Option (List (K × V)))) (perm2 : (ents bs').Perm ((k, v) :: entries t1))
    (p1 : (entries t1).Perm (entries t)) (hb : t'.buckets = bs') (hu : KeysDiffer ops (entries t')) (q : K) :
    abs ops t' q = if ops.eq q k then some (k, v) else abs ops t q := by
  unfold abs
  have hp' : (entries t').Perm ((k, v) :: entries t) := by
    unfold entries; rw [hb]; exact perm2.trans (List.Perm.cons _ p1)
  rw [find?_cons_perm ops hl _ _ (k, v) hp' hu q]

/-- creating the (empty) llist of a NULL bucket changes nothing observable -/
theorem set_empty_bucket (ops : HOps K) (t : HTable K V) (idx : Nat) (h : Inv ops t) (hlt : idx < t.size)
    (hnull : slotNull t.buckets idx = true) :
    Inv ops { t with buckets := t.buckets.set idx (some []) } ∧
      entries ({ t with buckets := t.buckets.set idx (some []) } : HTable K V) = entries t := by
  have hlen : idx < t.buckets.length := by rw [h.len]; exact hlt
  have hb := bucketAt_of_slotNull t.buckets idx hnull
  have he : entries ({ t with buckets := t.buckets.set idx (some []) } : HTable K V) = entries t := by
    unfold entries
    simp only
    rw [ents_set t.buckets idx hlen [], ents_split t.buckets idx hlen, hb]
  refine ⟨⟨by simp [h.len], h.pow, h.szmax, ?_, ?_, ?_, ?_, h.load⟩, he⟩
  · exact forall_set_bucket t.buckets idx hlen [] h.placed (fun e hm => nomatch hm)
  · rw [he]; exact h.uniq
  · rw [he]; exact h.nkeys
  · simp only
    have hs := sum_map_set bcoll t.buckets idx hlen (some [])
    rw [h.ncoll]
    have : bcoll t.buckets[idx] = 0 := by
      unfold slotNull at hnull
      rw [List.getElem?_eq_getElem hlen] at hnull
      cases hh : t.buckets[idx] with
      | none => rfl
      | some b => rw [hh] at hnull; simp at hnull
    rw [this] at hs
    simp only [bcoll, List.length_nil] at hs
    omega

theorem lazy_bucket (ops : HOps K) (t1 : HTable K V) (idx : Nat) (i1 : Inv ops t1) (hlt : idx < t1.size)
    (t2 : HTable K V) (e : t2 = if slotNull t1.buckets idx then { t1 with buckets := t1.buckets.set idx (some []) } else t1) :
    Inv ops t2 ∧ entries t2 = entries t1 ∧ t2.size = t1.size ∧ t2.numKeys = t1.numKeys := by
  subst e
  by_cases hnull : slotNull t1.buckets idx = true
  · rw [if_pos hnull]
    obtain ⟨a, b⟩ := set_empty_bucket ops t1 idx i1 hlt hnull
    exact ⟨a, b, rfl, rfl⟩
  · rw [if_neg hnull]; exact ⟨i1, rfl, rfl, rfl⟩

/-- the last step of ares_htable_insert: the node is linked in front of its bucket, in a table `t2` that holds the
    nodes of `t` (the grown table, with the bucket's llist created if need be) -/
theorem insert_link (hc : ConstsOk) (ops : HOps K) (hl : Lawful ops) (t t2 : HTable K V) (k : K) (v : V) (sz : Nat)
    (i2 : Inv ops t2) (p2 : (entries t2).Perm (entries t)) (hsz : t2.size = sz) (hnone : abs ops t k = none)
    (room : t2.numKeys + 1 ≤ t2.size * HTABLE_EXPAND_PERCENT / 100 ∨ t2.size = HTABLE_MAX_BUCKETS)
    (t3 : HTable K V)
    (e3 : t3 = { buckets := t2.buckets.set (hidx ops sz k) (some ((k, v) :: bucketAt t2.buckets (hidx ops sz k))),
                 size := t2.size, numKeys := t2.numKeys + 1,
                 numCollisions := if ((k, v) :: bucketAt t2.buckets (hidx ops sz k)).length > 1
                                  then t2.numCollisions + 1 else t2.numCollisions }) :
    Inv ops t3 ∧ ∀ q, abs ops t3 q = if ops.eq q k then some (k, v) else abs ops t q := by
  subst e3
  subst hsz
  have hnone2 : abs ops t2 k = none := by
    unfold abs at hnone ⊢
    rw [find?_perm ops hl _ _ p2 i2.uniq k]; exact hnone
  obtain ⟨inv, perm⟩ := add_node ops hl t2 i2 k v (hidx_lt ops t2.size k (size_pos hc ops t2 i2)) hnone2 room
  exact ⟨inv, abs_of_add ops hl t t2 _ k v _ perm p2 rfl inv.uniq⟩

/-- ares_htable_insert on a key that is present: the node is replaced in place (no allocation) -/
theorem insert_replace (ops : HOps K) (hl : Lawful ops) (t : HTable K V) (k : K) (v : V) (h : Inv ops t)
    (hlen : hidx ops t.size k < t.buckets.length) (old : K × V)
    (hf : findIn ops k (bucketAt t.buckets (hidx ops t.size k)) = some old) (t' : HTable K V)
    (e' : t' = { t with buckets := t.buckets.set (hidx ops t.size k)
                                     (some (replaceFirst ops k (k, v) (bucketAt t.buckets (hidx ops t.size k)))) }) :
    Inv ops t' ∧ ∀ q, abs ops t' q = if ops.eq q k then some (k, v) else abs ops t q := by
  subst e'
  obtain ⟨he, p1, p2, l2, l1, m2, m1⟩ := findIn_some_split ops k _ old hf
  obtain ⟨rest, q1, q2⟩ := ents_set_perm t.buckets _ hlen
    (replaceFirst ops k (k, v) (bucketAt t.buckets (hidx ops t.size k)))
  -- all nodes before / after, with the replaced node in front
  have r1 : (entries t).Perm (old :: (removeFirst ops k (bucketAt t.buckets (hidx ops t.size k)) ++ rest)) :=
    q1.trans (List.Perm.append_right rest p1)
  have r2 : (ents (t.buckets.set (hidx ops t.size k)
      (some (replaceFirst ops k (k, v) (bucketAt t.buckets (hidx ops t.size k)))))).Perm
      ((k, v) :: (removeFirst ops k (bucketAt t.buckets (hidx ops t.size k)) ++ rest)) :=
    q2.trans (List.Perm.append_right rest (p2 (k, v)))
  have u1 := pairwise_perm ops hl _ _ r1 h.uniq
  have u2 : KeysDiffer ops ((k, v) :: (removeFirst ops k (bucketAt t.buckets (hidx ops t.size k)) ++ rest)) :=
    keysDiffer_replace ops hl _ old (k, v) u1 he
  have u3 := pairwise_perm ops hl _ _ r2.symm u2
  have hne : bucketAt t.buckets (hidx ops t.size k) ≠ [] := by
    intro hnil; rw [hnil] at hf; simp [findIn] at hf
  have hget := getElem?_of_bucketAt_ne_nil _ _ hne
  refine ⟨⟨by simp [h.len], h.pow, h.szmax, ?_, u3, ?_, ?_, h.load⟩, ?_⟩
  · refine forall_set_bucket t.buckets _ hlen _ h.placed ?_
    intro e hm
    rcases m2 (k, v) e hm with rfl | hm'
    · rfl
    · exact h.placed _ _ hget e hm'
  · unfold entries; simp only
    rw [r2.length_eq, h.nkeys, r1.length_eq]; simp
  · simp only
    have hsum := sum_map_set bcoll t.buckets _ hlen
      (some (replaceFirst ops k (k, v) (bucketAt t.buckets (hidx ops t.size k))))
    obtain ⟨_, hbe⟩ := List.getElem?_eq_some_iff.1 hget
    rw [h.ncoll]
    rw [hbe] at hsum
    simp only [bcoll, l2 (k, v)] at hsum
    omega
  · intro q
    have a1 : abs ops t q = if ops.eq q old.1 then some old else
        (removeFirst ops k (bucketAt t.buckets (hidx ops t.size k)) ++ rest).find? (fun e => ops.eq q e.1) :=
      find?_cons_perm ops hl _ _ old r1 h.uniq q
    have a2 := find?_cons_perm ops hl _ _ (k, v) r2 u3 q
    rw [a1]
    unfold abs entries
    simp only
    rw [a2]
    have hqq : ops.eq q k = ops.eq q old.1 := eq_congr_right ops hl q k old.1 he
    simp only [hqq]
    split <;> rfl

theorem abs_of_entries_perm (ops : HOps K) (hl : Lawful ops) (t t' : HTable K V) (hp : (entries t').Perm (entries t))
    (hu : KeysDiffer ops (entries t')) (q : K) : abs ops t' q = abs ops t q := by
  unfold abs; exact find?_perm ops hl _ _ hp hu q

theorem grow_any (hc : ConstsOk) (ops : HOps K) (hl : Lawful ops) (t : HTable K V) (o : Oracle) (h : Inv ops t)
    (r : Bool × HTable K V × Oracle)
    (hr : (if t.numKeys + 1 > t.size * HTABLE_EXPAND_PERCENT / 100 then expand ops t o else (true, t, o)) = r) :
    (r.1 = true ∧ Inv ops r.2.1 ∧ (entries r.2.1).Perm (entries t) ∧ r.2.1.numKeys = t.numKeys ∧
      (r.2.1.numKeys + 1 ≤ r.2.1.size * HTABLE_EXPAND_PERCENT / 100 ∨ r.2.1.size = HTABLE_MAX_BUCKETS) ∧
      r.2.1.size = (if t.numKeys + 1 > t.size * HTABLE_EXPAND_PERCENT / 100 ∧ t.size ≠ HTABLE_MAX_BUCKETS
                    then t.size * 2 else t.size) ∧ (o.AllOk → r.2.2.AllOk)) ∨
    (r.1 = false ∧ r.2.1 = t ∧ ¬ o.AllOk) := by
  subst hr
  by_cases hg : t.numKeys + 1 > t.size * HTABLE_EXPAND_PERCENT / 100
  · rw [if_pos hg]
    rcases expand_any hc ops hl t o h with ⟨e1, ⟨i1, p1, n1, sz1⟩, ho1⟩ | ⟨e1, same, hno⟩
    · refine Or.inl ⟨e1, i1, p1, n1, room_after_expand hc ops t _ h n1 sz1, ?_, ho1⟩
      by_cases hmax : t.size = HTABLE_MAX_BUCKETS
      · rw [if_pos hmax] at sz1; rw [sz1, if_neg (fun hh => hh.2 hmax)]
      · rw [if_neg hmax] at sz1; rw [if_pos ⟨hg, hmax⟩]; exact sz1
    · exact Or.inr ⟨e1, same, hno⟩
  · rw [if_neg hg]
    exact Or.inl ⟨rfl, h, List.Perm.refl _, rfl, Or.inl (Nat.le_of_not_gt hg), by rw [if_neg (fun hh => hg hh.1)], id⟩

/-- what ares_htable_insert may do under an arbitrary allocation oracle: the invariant always holds afterwards; on
    success the table maps `k` to the new node; on failure (possible only if an allocation fails) every key maps to
    what it mapped to before (the table may have grown, which is not observable) -/
structure InsOutcome (ops : HOps K) (t : HTable K V) (k : K) (v : V) (o : Oracle) (r : Bool × HTable K V × Oracle) :
    Prop where
  inv : Inv ops r.2.1
  maps : r.1 = true → ∀ q, abs ops r.2.1 q = if ops.eq q k then some (k, v) else abs ops t q
  nkeys : r.1 = true → r.2.1.numKeys = (if (abs ops t k).isSome then t.numKeys else t.numKeys + 1)
  size : r.1 = true →
    r.2.1.size = (if (abs ops t k).isNone ∧ t.numKeys + 1 > t.size * HTABLE_EXPAND_PERCENT / 100 ∧
                     t.size ≠ HTABLE_MAX_BUCKETS then t.size * 2 else t.size)
  fail : r.1 = false → (∀ q, abs ops r.2.1 q = abs ops t q) ∧ r.2.1.numKeys = t.numKeys
  allOk : o.AllOk → r.1 = true ∧ r.2.2.AllOk

theorem insOutcome_fail (ops : HOps K) (t t1 : HTable K V) (k : K) (v : V) (o o1 : Oracle) (i1 : Inv ops t1)
    (ha : ∀ q, abs ops t1 q = abs ops t q) (hn : t1.numKeys = t.numKeys) (hno : ¬ o.AllOk) :
    InsOutcome ops t k v o (false, t1, o1) :=
  ⟨i1, fun hh => Bool.noConfusion hh, fun hh => Bool.noConfusion hh, fun hh => Bool.noConfusion hh, fun _ => ⟨ha, hn⟩,
    fun ho => absurd ho hno⟩

theorem insert_any (hc : ConstsOk) (ops : HOps K) (hl : Lawful ops) (t : HTable K V) (k : K) (v : V) (o : Oracle)
    (h : Inv ops t) : InsOutcome ops t k v o (insert ops t k v o) := by
  have hlt := hidx_lt ops t.size k (size_pos hc ops t h)
  have hfind : findIn ops k (bucketAt t.buckets (hidx ops t.size k)) = abs ops t k :=
    find_bucket_eq_find_all ops hl t.buckets t.size h.placed h.uniq k
  unfold insert
  simp only
  cases hf : findIn ops k (bucketAt t.buckets (hidx ops t.size k)) with
  | some old =>
    obtain ⟨inv, habs⟩ := insert_replace ops hl t k v h (by rw [h.len]; exact hlt) old hf _ rfl
    have hsome : abs ops t k = some old := by rw [← hfind, hf]
    exact ⟨inv, fun _ => habs, fun _ => by rw [hsome]; rfl, fun _ => by rw [hsome]; simp, fun hh => Bool.noConfusion hh,
      fun ho => ⟨rfl, ho⟩⟩
  | none =>
    have hnone : abs ops t k = none := by rw [← hfind, hf]
    simp only
    generalize hr : (if t.numKeys + 1 > t.size * HTABLE_EXPAND_PERCENT / 100 then expand ops t o else (true, t, o)) = r
    obtain ⟨b1, t1, o1⟩ := r
    rcases grow_any hc ops hl t o h _ hr with ⟨e1, i1, p1, n1, room1, sz1, ho1⟩ | ⟨e1, e2, hno⟩
    · have e1' : b1 = true := e1
      subst e1'
      simp only at i1 p1 n1 room1 sz1 ho1 ⊢
      have habs1 : ∀ q, abs ops t1 q = abs ops t q := abs_of_entries_perm ops hl t t1 p1 i1.uniq
      obtain ⟨i2, ee, s2, n2⟩ := lazy_bucket ops t1 _ i1 (hidx_lt ops t1.size k (size_pos hc ops t1 i1)) _ rfl
      obtain ⟨inv, habs⟩ := insert_link hc ops hl t _ k v t1.size i2 (ee ▸ p1) s2 hnone (by rw [n2, s2]; exact room1)
        _ rfl
      cases ha : (if slotNull t1.buckets (hidx ops t1.size k) = true then o1.next else (true, o1)) with
      | mk b2 o2 =>
        have a2 : o.AllOk → b2 = true ∧ o2.AllOk := fun ho => Oracle.cond_next_allOk ha (ho1 ho)
        cases b2 with
        | false => exact insOutcome_fail ops t t1 k v o o2 i1 habs1 n1 (fun ho => Bool.noConfusion (a2 ho).1)
        | true =>
          simp only
          cases hb' : o2.next with
          | mk b3 o3 =>
            have a3 : o.AllOk → b3 = true ∧ o3.AllOk := fun ho => Oracle.next_allOk hb' (a2 ho).2
            cases b3 with
            | false =>
              refine insOutcome_fail ops t _ k v o o3 i2 (fun q => ?_) (n2.trans n1) (fun ho => Bool.noConfusion (a3 ho).1)
              rw [← habs1 q]
              exact abs_of_entries_perm ops hl t1 _ (by rw [ee]) i2.uniq q
            | true =>
              refine ⟨inv, fun _ => habs, fun _ => ?_, fun _ => ?_, fun hh => Bool.noConfusion hh, fun ho => ⟨rfl, (a3 ho).2⟩⟩
              · show _ + 1 = _
                rw [n2, n1, hnone]; rfl
              · show _ = _
                rw [s2, hnone]; simp only [Option.isNone_none, true_and]; exact sz1
    · have e1' : b1 = false := e1
      have e2' : t1 = t := e2
      subst e1'; subst e2'
      exact insOutcome_fail ops t1 t1 k v o o1 h (fun _ => rfl) rfl hno

theorem insert_spec (hc : ConstsOk) (ops : HOps K) (hl : Lawful ops) (t : HTable K V) (k : K) (v : V) (o : Oracle)
    (h : Inv ops t) (ho : o.AllOk) :
    ∃ t' o', insert ops t k v o = (true, t', o') ∧ o'.AllOk ∧ Inv ops t' ∧
      (∀ q, abs ops t' q = if ops.eq q k then some (k, v) else abs ops t q) ∧
      t'.numKeys = (if (abs ops t k).isSome then t.numKeys else t.numKeys + 1) ∧
      t'.size = (if (abs ops t k).isNone ∧ t.numKeys + 1 > t.size * HTABLE_EXPAND_PERCENT / 100 ∧
                    t.size ≠ HTABLE_MAX_BUCKETS then t.size * 2 else t.size) := by
  have r := insert_any hc ops hl t k v o h
  obtain ⟨e, ho'⟩ := r.allOk ho
  exact ⟨_, _, Prod.ext e.symm.symm rfl, ho', r.inv, r.maps e, r.nkeys e, r.size e⟩

theorem remove_spec (hc : ConstsOk) (ops : HOps K) (hl : Lawful ops) (t : HTable K V) (k : K) (h : Inv ops t)
    (hk : ops.isNull k = false) :
    Inv ops (remove ops t k).2 ∧ (remove ops t k).1 = (abs ops t k).isSome ∧
      (∀ q, abs ops (remove ops t k).2 q = if ops.eq q k then none else abs ops t q) ∧
      (remove ops t k).2.numKeys = (if (abs ops t k).isSome then t.numKeys - 1 else t.numKeys) ∧
      (remove ops t k).2.size = t.size := by
  have hs := size_pos hc ops t h
  have hlt := hidx_lt ops t.size k hs
  have hlen : hidx ops t.size k < t.buckets.length := by rw [h.len]; exact hlt
  have hfind : findIn ops k (bucketAt t.buckets (hidx ops t.size k)) = abs ops t k :=
    find_bucket_eq_find_all ops hl t.buckets t.size h.placed h.uniq k
  unfold remove
  simp only [hk, Bool.false_eq_true, ↓reduceIte]
  cases hf : findIn ops k (bucketAt t.buckets (hidx ops t.size k)) with
  | none =>
    have hnone : abs ops t k = none := by rw [← hfind, hf]
    simp only [hnone, Option.isSome_none, Bool.false_eq_true, ↓reduceIte]
    refine ⟨h, trivial, ?_, trivial, trivial⟩
    intro q
    by_cases hq : ops.eq q k = true
    · rw [if_pos hq, abs_congr ops hl t q k hq, hnone]
    · rw [if_neg hq]
  | some old =>
    have hsome : abs ops t k = some old := by rw [← hfind, hf]
    simp only [hsome, Option.isSome_some, ↓reduceIte]
    have hne : bucketAt t.buckets (hidx ops t.size k) ≠ [] := by
      intro hnil; rw [hnil] at hf; simp [findIn] at hf
    have hget := getElem?_of_bucketAt_ne_nil _ _ hne
    generalize hidx ops t.size k = i at *
    generalize hb : bucketAt t.buckets i = b at *
    obtain ⟨he, p1, p2, l2, l1, m2, m1⟩ := findIn_some_split ops k _ old hf
    obtain ⟨rest, q1, q2⟩ := ents_set_perm t.buckets _ hlen (removeFirst ops k b)
    rw [hb] at q1
    have r1 : (entries t).Perm (old :: (removeFirst ops k b ++ rest)) := q1.trans (List.Perm.append_right rest p1)
    have u1 := pairwise_perm ops hl _ _ r1 h.uniq
    have u2 : KeysDiffer ops (removeFirst ops k b ++ rest) := (List.pairwise_cons.1 u1).2
    have u3 := pairwise_perm ops hl _ _ q2.symm u2
    have hcnt : t.numKeys = (removeFirst ops k b ++ rest).length + 1 := by
      rw [h.nkeys, r1.length_eq]; rfl
    refine ⟨⟨by simp [h.len], h.pow, h.szmax, ?_, u3, ?_, ?_, ?_⟩, trivial, ?_, trivial, trivial⟩
    · exact forall_set_bucket t.buckets _ hlen _ h.placed (fun e hm => h.placed _ _ hget e (m1 e hm))
    · unfold entries; simp only
      rw [q2.length_eq, hcnt]; simp
    · obtain ⟨_, hbe⟩ := List.getElem?_eq_some_iff.1 hget
      show (if _ then t.numCollisions - 1 else t.numCollisions) = _
      rw [sum_bcoll_shrink t.buckets _ hlen _ _ hbe l1, h.ncoll]
    · simp only
      rcases h.load with hld | hld
      · left; exact Nat.le_trans (Nat.sub_le _ _) hld
      · right; exact hld
    · intro q
      have a1 : abs ops t q = if ops.eq q old.1 then some old else
          (removeFirst ops k b ++ rest).find? (fun e => ops.eq q e.1) := find?_cons_perm ops hl _ _ old r1 h.uniq q
      unfold abs entries at a1 ⊢
      simp only
      rw [find?_perm ops hl _ _ q2 u3 q, a1]
      have hqq : ops.eq q k = ops.eq q old.1 := eq_congr_right ops hl q k old.1 he
      rw [hqq]
      by_cases hq : ops.eq q old.1 = true
      · simp only [hq, ↓reduceIte]
        exact find?_rest_none ops hl _ old u1 q hq
      · simp only [hq, Bool.false_eq_true, ↓reduceIte]

end HTable
end Cares.Dsa
