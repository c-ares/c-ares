import CaresLemmas.ChanWfMid
import CaresLemmas.ChanWfLookup
import CaresLemmas.ChanWfNewConn
/-!
# C01 — pieces of `ares_send_query`

The instrumented body `bodySendQueryC` is written over the stages `pickServer`, `fetchConn`, `openConn`, `sqPrepare`,
`sqLinkPre` of `ChanExec`.  `sqConn` names the connection step; `sqAttachSt` is definitionally `sqLinkPre` followed
by the link, in the blocks `sqDeadline`, `sqCommit`.  Then what each piece does to the skeleton.  `sqPrep` is
`sqPrepare` with its arguments in another order (`sqPrep_eq`); the proofs speak of `sqPrepare`, only `sqPrep_q` of `sqPrep`.
-/
namespace Cares.Chan

/-- `ares_fetch_connection`, else `ares_open_connection` -/
def sqConn (s : St) (q : Query) (srv : Server) : (Except Status Nat) × St :=
    match fetchConn s q srv with
    | some fd => (.ok fd, s)
    | none => openConn s q.usingTcp srv

/-- ares_conn_query_write up to the point where the frame sits in the out buffer -/
def sqPrep (s : St) (q : Query) (srv : Server) (key fd : Nat) : St × Query :=
  let cTcp := ((s.conn? fd).map (·.tcp)).getD q.usingTcp
  let cSelf := ((s.conn? fd).map (·.selfIp)).getD 0
  let srvNow0 := (s.server? srv.id).getD srv
  let reqOpt : Cares.Proto.Cookie.ReqOpt := if q.edns then some q.reqCookie else none
  let ao := Cares.Proto.Cookie.apply srvNow0.cookie { selfIp := selfAddr cSelf, tcp := cTcp } s.tv s.peek8 reqOpt
  let s := if ao.draws > 0 then s.pop8 else s
  let s := s.modServer srv.id fun v => { v with cookie := ao.ck }
  let newCk : Option (List UInt8) := ao.req.join
  let cookie := match newCk with
    | some b => bytesToHex b
    | none => "-"
  let s := s.modQuery key fun q => { q with reqCookie := newCk, cookie := cookie }
  let q := { q with reqCookie := newCk, cookie := cookie }
  let frame : OutFrame := { len := frameLen q.name q.edns cookie, key := key, qid := q.qid, name := q.name,
                            qtype := q.qtype, qclass := q.qclass, rd := q.rd, edns := q.edns, cookie := cookie }
  let s := s.modConn fd fun c => { c with out := c.out ++ [frame] }
  let s := { s with writeLog := s.writeLog ++ [key] }
  (s, q)

/-- with or without a jitter draw -/
theorem sqDeadline_snd (s : St) (srvNow : Server) (tryCount : Nat) :
    (sqDeadline s srvNow tryCount).2 = s.draw2.2 ∨ (sqDeadline s srvNow tryCount).2 = s :=
  ite_both (fun r : Deadline × St => r.2 = s.draw2.2 ∨ r.2 = s) (Or.inl rfl) (Or.inr rfl)

/-- the state after the query was put on the connection (write succeeded) -/
def sqAttachSt (s : St) (q : Query) (srv : Server) (key fd : Nat) : St :=
  sqCommit (sqDeadline s ((s.server? srv.id).getD srv) q.tryCount).2 q key fd
    (sqDeadline s ((s.server? srv.id).getD srv) q.tryCount).1

theorem fetchConn_hasConn {s : St} {q : Query} {srv : Server} {fd : Nat} (hw : Wf s) (hsrv : srv ∈ s.servers)
    (h : fetchConn s q srv = some fd) : s.sk.hasConn fd false := by
  have hm : srv.sk ∈ s.sk.servers := List.mem_map.mpr ⟨srv, hsrv, rfl⟩
  unfold fetchConn at h
  split at h
  · exact hasConn_of_cF4 (hw.s.tcp srv.sk hm fd h)
  · split at h
    · cases h
    · rename_i fd' hhead
      split at h
      · cases h
      · split at h
        · cases h
        · split at h
          · cases h
          · cases h
            obtain ⟨t, ht⟩ := hw.s.conns srv.sk hm fd (List.mem_of_mem_head? hhead)
            exact hasConn_of_cF4 ht

theorem sk_addSock_st (s : St) (pw : List Nat) (v : VSock) (hv : v.fd = s.nextFd) :
    ({ s with nextFd := s.nextFd + 1, pendingWl := pw, socks := s.socks ++ [v] } : St).sk = s.sk.addSock := by
  unfold St.sk Sk.addSock
  simp only [List.map_append, List.map_cons, List.map_nil, hv]

theorem sk_addConn_st (s : St) (c : Conn) (hq : c.queries = []) (hu : c.unlinked = false) :
    (({ s with conns := s.conns ++ [c] } : St).modServer c.srv fun v =>
        { v with conns := if c.tcp then v.conns ++ [c.fd] else c.fd :: v.conns,
                 tcpConn := if c.tcp then some c.fd else v.tcpConn }).sk = s.sk.addConn c.fd c.srv c.tcp := by
  rw [sk_modServer _ _ _ (fun v => { v with conns := (if c.tcp then v.conns ++ [c.fd] else c.fd :: v.conns), tcpConn := (if c.tcp then some c.fd else v.tcpConn) }) (fun _ => rfl)]
  unfold Sk.addConn St.sk
  simp only [List.map_append, List.map_cons, List.map_nil]
  unfold Conn.sk
  rw [hq, hu]

theorem sk_ocSock (s : St) (tcp : Bool) (srv : Server) : (ocSock s tcp srv).sk = s.sk.addSock := by
  unfold ocSock
  simp only
  rw [sk_modSock]
  · simp only [sk_slog, sk_emit]
    exact sk_addSock_st s _ _ rfl
  · intro; rfl

theorem sk_ocClose (s : St) (fd : Nat) : (ocClose s fd).sk = s.sk := by
  unfold ocClose
  simp only [sk_slog, sk_emit]
  rw [sk_modSock]; intro; rfl

theorem sk_ocFinish (s : St) (fd : Nat) (tcp : Bool) (srv : Server) :
    (ocFinish s fd tcp srv).sk = s.sk.addConn fd srv.id tcp := by
  unfold ocFinish
  simp only
  rw [sk_notify]
  exact sk_addConn_st s { fd := fd, srv := srv.id, tcp := tcp, selfIp := s.selfVariant } rfl rfl

/-- the skeleton after `ares_open_connection`: unchanged, or with the new socket, or (on success) with the new
    socket and the connection on it -/
theorem openConn_sk (s : St) (tcp : Bool) (srv : Server) :
    (((openConn s tcp srv).2.sk = s.sk ∨ (openConn s tcp srv).2.sk = s.sk.addSock) ∧
        ∀ fd, (openConn s tcp srv).1 ≠ .ok fd) ∨
      ((openConn s tcp srv).1 = .ok s.nextFd ∧
        (openConn s tcp srv).2.sk = s.sk.addSock.addConn s.nextFd srv.id tcp) := by
  rcases openConn_paths s tcp srv with ⟨e, h⟩ | ⟨t, ⟨fa, ev, rfl⟩, h | h⟩
  · rw [h]; exact Or.inl ⟨Or.inl rfl, nofun⟩
  · rw [h]; exact Or.inl ⟨Or.inr ((sk_ocClose _ _).trans (sk_ocSock s tcp srv)), nofun⟩
  · rw [h]; exact Or.inr ⟨rfl, (sk_ocFinish _ _ _ _).trans (congrArg (Sk.addConn · _ _ _) (sk_ocSock s tcp srv))⟩

/-- result of `ares_open_connection`: an ordinary step; on success the new connection is linked -/
theorem openConn_ok {d} {s : St} (tcp : Bool) (srv : Server) (hw : Wf s) (hd : DebtOk none d s.sk)
    (hsrv : srv ∈ s.servers) :
    Mid d s (openConn s tcp srv).2 ∧ ∀ fd, (openConn s tcp srv).1 = .ok fd → (openConn s tcp srv).2.sk.hasConn fd false := by
  have hwA : WfS s.sk.addSock none := wf_addSock hw
  rcases openConn_sk s tcp srv with ⟨h | h, hne⟩ | ⟨hfd, h⟩
  · exact ⟨Mid.of_sk_eq hw hd h, fun fd hf => absurd hf (hne fd)⟩
  · exact ⟨⟨by unfold Wf; rw [h]; exact hwA, by rw [h]; exact debt_addSock hd, by rw [h]; exact step_addSock⟩,
      fun fd hf => absurd hf (hne fd)⟩
  · have hwD : WfS (s.sk.addSock.addConn s.nextFd srv.id tcp) none := by
      refine wf_addConn hwA (Nat.lt_succ_self _) (List.mem_append.mpr (Or.inr (List.mem_singleton.mpr rfl)))
        (fun c hc => Nat.ne_of_lt (hw.c.lt c hc)) ⟨srv.sk, List.mem_map.mpr ⟨srv, hsrv, rfl⟩, rfl⟩
    refine ⟨⟨by unfold Wf; rw [h]; exact hwD, by rw [h]; exact debt_addConn (debt_addSock hd),
      by rw [h]; exact step_addSock.trans step_addConn⟩, fun fd hf => ?_⟩
    rw [hfd] at hf
    injection hf with hf
    rw [← hf, h]; exact hasConn_addConn

theorem sk_sqPrepare (s : St) (q : Query) (srv : Server) (key fd : Nat) : (sqPrepare key q srv fd s).1.sk = s.sk := by
  unfold sqPrepare
  simp only
  rw [sk_set_writeLog, sk_modConn_same, sk_modQuery_same, sk_modServer_same]
  · exact ite_both (fun x : St => x.sk = s.sk) (sk_pop8 s) rfl
  all_goals (intro; rfl)

theorem sqPrep_eq (s : St) (q : Query) (srv : Server) (key fd : Nat) :
    sqPrep s q srv key fd = sqPrepare key q srv fd s := rfl

theorem sqPrep_q (s : St) (q : Query) (srv : Server) (key fd : Nat) :
    (sqPrep s q srv key fd).2.qid = q.qid ∧ (sqPrep s q srv key fd).2.usingTcp = q.usingTcp := ⟨rfl, rfl⟩

theorem sk_attach_st (s' : St) (key fd : Nat) (oldc : Option Nat) (f1 f3 : Conn → Conn) (f2 : Query → Query)
    (h1 : ∀ c, (f1 c).sk = { c.sk with queries := c.sk.queries.erase key })
    (h2 : ∀ q, (f2 q).sk = { q.sk with conn := some fd })
    (h3 : ∀ c, (f3 c).sk = { c.sk with queries := c.sk.queries.erase key ++ [key] }) :
    (({ ((match oldc with
          | some old => ({ s' with byTimeout := s'.byTimeout.erase key } : St).modConn old f1
          | none => { s' with byTimeout := s'.byTimeout.erase key }).modQuery key f2) with
        pendingOrder := s'.pendingOrder.erase key ++ [key] } : St).modConn fd f3).sk =
      s'.sk.attach key fd oldc := by
  rw [sk_modConn _ _ _ (fun c => { c with queries := c.queries.erase key ++ [key] }) h3]
  unfold Sk.attach
  congr 1
  have e1 : ∀ (X : St) (po : List Nat), ({ X with pendingOrder := po } : St).sk = { X.sk with pendingOrder := po } :=
    fun _ _ => rfl
  rw [e1, sk_modQuery _ _ _ (fun e => { e with conn := some fd }) h2]
  unfold Sk.attach2
  cases oldc with
  | none => rfl
  | some old =>
    simp only
    rw [sk_modConn _ _ _ (fun c => { c with queries := c.queries.erase key }) h1]
    rfl

theorem sk_sqCommit (s : St) (q : Query) (key fd : Nat) (dl : Deadline) :
    (sqCommit s q key fd dl).sk = s.sk.attach key fd q.conn := by
  unfold sqCommit
  -- both sides match on `q.conn`, through different matchers
  cases q.conn with
  | none =>
    exact sk_attach_st s key fd none (fun c => { c with queries := c.queries.erase key })
      (fun c => { c with queries := c.queries.erase key ++ [key], total := c.total + 1 })
      (fun q0 => { q0 with ts := s.now, deadline := dl, conn := some fd, inConnList := true })
      (fun _ => rfl) (fun _ => rfl) (fun _ => rfl)
  | some old =>
    exact sk_attach_st s key fd (some old) (fun c => { c with queries := c.queries.erase key })
      (fun c => { c with queries := c.queries.erase key ++ [key], total := c.total + 1 })
      (fun q0 => { q0 with ts := s.now, deadline := dl, conn := some fd, inConnList := true })
      (fun _ => rfl) (fun _ => rfl) (fun _ => rfl)

theorem sk_sqAttachSt (s : St) (q : Query) (srv : Server) (key fd : Nat) :
    (sqAttachSt s q srv key fd).sk = s.sk.attach key fd q.conn := by
  unfold sqAttachSt
  rw [sk_sqCommit]
  rcases sqDeadline_snd s ((s.server? srv.id).getD srv) q.tryCount with h | h <;> rw [h]
  rw [sk_draw2]

end Cares.Chan
