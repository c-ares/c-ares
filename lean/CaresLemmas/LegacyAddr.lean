import CaresLemmas.LegacyLoops
/-! Helper lemmas: `ares_parse_into_addrinfo` (on any and on a fresh `struct ares_addrinfo`), `ares_addrinfo2hostent`,
    `ares_addrinfo2addrttl` and `ares_parse_a_reply` / `ares_parse_aaaa_reply` in closed form. -/
namespace Cares.Legacy
open Cares.AddrInfo

theorem nodeOf_none_of_not (port : Nat) (rr : RR) (h1 : isA rr = false) (h2 : isAaaa rr = false) :
    nodeOf port rr = none := by
  unfold nodeOf
  split
  · rfl
  next hc =>
    have hc' : rr.cls = clsIN := Classical.not_not.mp hc
    split
    next addr hd => simp [isA, hc', hd] at h1
    next addr hd => simp [isAaaa, hc', hd] at h2
    · rfl

theorem cnameOf_none_of_not (rr : RR) (h1 : isCname rr = false) : cnameOf rr = none := by
  unfold cnameOf
  split
  · rfl
  next hc =>
    have hc' : rr.cls = clsIN := Classical.not_not.mp hc
    split
    next c hd => simp [isCname, hc', hd] at h1
    · rfl
theorem filterMap_nodeOf_nil (port : Nat) (l : List RR) (h1 : l.any isA = false) (h2 : l.any isAaaa = false) :
    l.filterMap (nodeOf port) = [] := by
  induction l with
  | nil => rfl
  | cons rr rest ih =>
    simp only [List.any_cons, Bool.or_eq_false_iff] at h1 h2
    simp [nodeOf_none_of_not port rr h1.1 h2.1, ih h1.2 h2.2]

theorem filterMap_cnameOf_nil (l : List RR) (h1 : l.any isCname = false) : l.filterMap cnameOf = [] := by
  induction l with
  | nil => rfl
  | cons rr rest ih =>
    simp only [List.any_cons, Bool.or_eq_false_iff] at h1
    simp [cnameOf_none_of_not rr h1.1, ih h1.2]

/-- the answer section contributes something: an A or AAAA record in class IN, or (unless
    `cname_only_is_enodata`) a CNAME in class IN -/
def usable (cn : Bool) (l : List RR) : Bool := l.any isA || l.any isAaaa || (l.any isCname && !cn)

/-- the name after following the aliases -/
def canonName (q : Bytes) (l : List RR) : Bytes := ((l.filterMap cnameTarget).getLast?).getD q

/-- `ares_parse_into_addrinfo` in closed form: the nodes and aliases of the answer are appended, the name becomes the
    canonical one (the caller's spelling is kept when it differs in case only) -/
theorem parseIntoAddrinfo_closed (r : LRec) (q : Bytes) (qs : List Bytes) (hq : r.questions = q :: qs)
    (cn : Bool) (port : Nat) (ai : AddrInfo) :
    parseIntoAddrinfo r cn port ai =
      if usable cn r.answers then
        (.success, { cnames := ai.cnames ++ r.answers.filterMap cnameOf,
                     nodes := ai.nodes ++ r.answers.filterMap (nodeOf port),
                     name := match ai.name with
                       | none => some (canonName q r.answers)
                       | some n => if strCaseEq n (canonName q r.answers) then some n else some (canonName q r.answers) })
      else (.enodata, ai) := by
  unfold parseIntoAddrinfo
  have hqn : r.queryName = .ok q := by simp [LRec.queryName, hq]
  simp only [hqn]
  by_cases he : r.answers.isEmpty = true
  · have : r.answers = [] := by simpa using he
    simp [this, usable]
  · -- without an A/AAAA (CNAME) answer there are no nodes (cnames), so the guards on the appends are redundant
    have hn : (if r.answers.any isA || r.answers.any isAaaa then ai.nodes ++ r.answers.filterMap (nodeOf port)
        else ai.nodes) = ai.nodes ++ r.answers.filterMap (nodeOf port) := by
      split
      · rfl
      next h =>
        rw [Bool.or_eq_true, not_or, Bool.not_eq_true, Bool.not_eq_true] at h
        rw [filterMap_nodeOf_nil port _ h.1 h.2, List.append_nil]
    have hc : (if r.answers.any isCname then ai.cnames ++ r.answers.filterMap cnameOf else ai.cnames) =
        ai.cnames ++ r.answers.filterMap cnameOf := by
      split
      · rfl
      next h => rw [filterMap_cnameOf_nil _ (Bool.not_eq_true _ ▸ h), List.append_nil]
    have hb : (!r.answers.any isA && !r.answers.any isAaaa &&
        (!r.answers.any isCname || (r.answers.any isCname && cn))) = !usable cn r.answers :=
      (by decide : ∀ a b c d : Bool, (!a && !b && (!c || (c && d))) = !(a || b || (c && !d))) _ _ _ _
    simp only [he, Bool.false_eq_true, ↓reduceIte, pLoop_eq, Bool.false_or, List.nil_append, hn, hc, hb, canonName]
    cases usable cn r.answers <;> cases ai.name <;> rfl

theorem parseIntoAddrinfo_fresh (r : LRec) (q : Bytes) (qs : List Bytes) (hq : r.questions = q :: qs)
    (cn : Bool) (port : Nat) :
    parseIntoAddrinfo r cn port {} =
      if usable cn r.answers then
        (.success, { cnames := r.answers.filterMap cnameOf, nodes := r.answers.filterMap (nodeOf port),
                     name := some (canonName q r.answers) })
      else (.enodata, {}) :=
  parseIntoAddrinfo_closed r q qs hq cn port {}



theorem not_ne_and_ne {α : Type} {x a b : α} (h : x = a ∨ x = b) : ¬ (x ≠ a ∧ x ≠ b) :=
  fun ⟨ha, hb⟩ => h.elim ha hb

theorem addrinfo2hostent_closed (ai : AddrInfo) (family : Nat) (hf : family = afINET ∨ family = afINET6) :
    addrinfo2hostent ai family =
      let addrs := (ai.nodes.filter (fun n => n.family = family)).map (·.addr)
      if addrs = [] ∧ ai.cnames = [] then (.enodata, none)
      else (.success, some { name := (ai.cnames.getLast?.map (·.name)).getD ai.name,
                             aliases := ai.cnames.filterMap (·.alias), addrtype := family,
                             length := addrLen family, addrs := addrs }) := by
  have hne := not_ne_and_ne hf
  have hun : family ≠ afUNSPEC := by rcases hf with h | h <;> subst h <;> decide
  unfold addrinfo2hostent
  simp only [hun, ↓reduceIte, hne]
  by_cases h : (ai.nodes.filter (fun n => n.family = family)).map (·.addr) = [] ∧ ai.cnames = []
  · simp [h]
  · have : ¬ (((ai.nodes.filter (fun n => n.family = family)).map (·.addr)).length = 0 ∧ ai.cnames.length = 0) := by
      intro ⟨a, b⟩
      exact h ⟨List.length_eq_zero_iff.mp a, List.length_eq_zero_iff.mp b⟩
    simp only [this, ↓reduceIte, h]

theorem addrinfo2hostent_status (ai : AddrInfo) (family : Nat) (hf : family = afINET ∨ family = afINET6) :
    (addrinfo2hostent ai family).1 = .success ∨ (addrinfo2hostent ai family).1 = .enodata := by
  rw [addrinfo2hostent_closed ai family hf]
  simp only
  split <;> simp

/-- `ares_addrinfo2addrttl` in closed form: the first `req` addresses of the family, each with its TTL capped -/
theorem addrinfo2addrttl_eq (ai : AddrInfo) (family req : Nat) :
    addrinfo2addrttl ai family req =
      if (family ≠ afINET ∧ family ≠ afINET6) ∨ req = 0 then (.ebadquery, [])
      else (.success, ((ai.nodes.filter (fun n => n.family = family)).map (ttlEntry (cnameTtl ai.cnames))).take req) := by
  unfold addrinfo2addrttl
  by_cases hf : family ≠ afINET ∧ family ≠ afINET6
  · rw [if_pos hf, if_pos (Or.inl hf)]
  · by_cases hr : req = 0
    · rw [if_neg hf, if_pos hr, if_pos (Or.inr hr)]
    · rw [if_neg hf, if_neg hr, if_neg (not_or.mpr ⟨hf, hr⟩), ttlLoop_eq _ _ _ _ _ (Nat.zero_le _)]
      rfl

theorem addrinfo2addrttl_length_le (ai : AddrInfo) (family req : Nat) : (addrinfo2addrttl ai family req).2.length ≤ req := by
  rw [addrinfo2addrttl_eq]
  split
  · exact Nat.zero_le _
  · exact List.length_take_le _ _

theorem addrinfo2addrttl_closed (ai : AddrInfo) (family cap : Nat) (hf : family = afINET ∨ family = afINET6) :
    (if cap ≠ 0 then (addrinfo2addrttl ai family cap).2 else []) =
      ((ai.nodes.filter (fun n => n.family = family)).map (ttlEntry (cnameTtl ai.cnames))).take cap := by
  by_cases hc : cap = 0
  · rw [if_neg (not_not_intro hc), hc, List.take_zero]
  · rw [if_pos hc, addrinfo2addrttl_eq, if_neg (not_or.mpr ⟨not_ne_and_ne hf, hc⟩)]

theorem parseAddrReply_closed (family : Nat) (hf : family = afINET ∨ family = afINET6) (r : LRec)
    (st : Status) (ai : AddrInfo) (hp : parseIntoAddrinfo r false 0 {} = (st, ai))
    (hst : st = .success ∨ st = .enodata) (cap : Nat) :
    parseAddrReply family (.ok r) true (some cap) =
      { status := (addrinfo2hostent ai family).1, host := (addrinfo2hostent ai family).2,
        ttls := ((ai.nodes.filter (fun n => n.family = family)).map (ttlEntry (cnameTtl ai.cnames))).take cap } := by
  unfold parseAddrReply
  simp only [hp]
  have h1 := not_ne_and_ne hst
  simp only [h1, ↓reduceIte]
  have h2 := addrinfo2hostent_status ai family hf
  have h3 := not_ne_and_ne h2
  have h4 : (addrinfo2hostent ai family).1.compat = (addrinfo2hostent ai family).1 := by
    rcases h2 with h | h <;> rw [h] <;> rfl
  simp only [h3, ↓reduceIte, h4]
  rw [addrinfo2addrttl_closed ai family cap hf]

/-- `ares_parse_a_reply` / `ares_parse_aaaa_reply` on a parsed record (host and addrttls requested), in terms of the
    nodes and aliases of the answer section -/
theorem parseAddrReply_ok (family : Nat) (hf : family = afINET ∨ family = afINET6) (r : LRec)
    (q : Bytes) (qs : List Bytes) (hq : r.questions = q :: qs) (cap : Nat) :
    parseAddrReply family (.ok r) true (some cap) =
      if ((r.answers.filterMap (nodeOf 0)).filter (fun n => n.family = family)).map (·.addr) = [] ∧
          r.answers.filterMap cnameOf = [] then { status := .enodata, host := none, ttls := [] }
      else
        { status := .success,
          host := some { name := (((r.answers.filterMap cnameOf).getLast?).map (·.name)).getD (some (canonName q r.answers)),
                         aliases := (r.answers.filterMap cnameOf).filterMap (·.alias), addrtype := family,
                         length := addrLen family,
                         addrs := ((r.answers.filterMap (nodeOf 0)).filter (fun n => n.family = family)).map (·.addr) },
          ttls := (((r.answers.filterMap (nodeOf 0)).filter (fun n => n.family = family)).map
            (ttlEntry (cnameTtl (r.answers.filterMap cnameOf)))).take cap } := by
  have hp := parseIntoAddrinfo_fresh r q qs hq false 0
  by_cases hu : usable false r.answers = true
  · rw [if_pos hu] at hp
    rw [parseAddrReply_closed family hf r _ _ hp (Or.inl rfl) cap, addrinfo2hostent_closed _ family hf]
    dsimp only
    split
    next h => simp [List.map_eq_nil_iff.mp h.1]
    · rfl
  · rw [if_neg hu] at hp
    simp only [usable, Bool.not_false, Bool.and_true, Bool.or_eq_true, not_or, Bool.not_eq_true] at hu
    rw [parseAddrReply_closed family hf r _ _ hp (Or.inr rfl) cap, addrinfo2hostent_closed _ family hf,
      filterMap_nodeOf_nil 0 _ hu.1.1 hu.1.2, filterMap_cnameOf_nil _ hu.2]
    simp

/-- a parsed record with a question never makes `ares_parse_a_reply` / `ares_parse_aaaa_reply` fail: the only statuses
    are SUCCESS and ENODATA -/
theorem parseAddrReply_status (family : Nat) (hf : family = afINET ∨ family = afINET6) (r : LRec)
    (q : Bytes) (qs : List Bytes) (hq : r.questions = q :: qs) (wantHost : Bool) (cap : Option Nat) :
    (parseAddrReply family (.ok r) wantHost cap).status = .success ∨
      (parseAddrReply family (.ok r) wantHost cap).status = .enodata := by
  rcases hp : parseIntoAddrinfo r false 0 {} with ⟨st, ai⟩
  have hst : st = .success ∨ st = .enodata := by
    rw [parseIntoAddrinfo_fresh r q qs hq] at hp
    split at hp <;> cases hp <;> simp
  unfold parseAddrReply
  simp only [hp, not_ne_and_ne hst, ↓reduceIte]
  cases wantHost
  · simp only [Bool.false_eq_true, ↓reduceIte, not_ne_and_ne hst]
    rcases hst with rfl | rfl <;> simp [Status.compat]
  · have h2 := addrinfo2hostent_status ai family hf
    simp only [↓reduceIte, not_ne_and_ne h2]
    rcases h2 with h | h <;> simp [h, Status.compat]

end Cares.Legacy
