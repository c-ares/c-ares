import CaresLemmas.TextCsv
import CaresLemmas.TextPton
/-! Helper lemmas for C16: the per-entry round trip (`entryOk`) proved for every IPv4 server with equal
    UDP/TCP ports — render `a.b.c.d:port`, reject it as a URI, parse it with `parse_nameserver`. -/
namespace Cares.Text

theorem showDec_octet (n : Nat) (h : n < 256) :
    (showDec n).all isDigit = true ∧ 1 ≤ (showDec n).length ∧ (showDec n).length ≤ 3 :=
  ⟨showDec_digits n, showDec_length n 2 (by omega)⟩

theorem isPrint_of_isDigit (c : Nat) (h : isDigit c = true) : isPrint c = true := by
  have := (isDigit_iff c).mp h
  simp [isPrint]; omega

theorem isWs_of_isDigit (lf : Bool) (c : Nat) (h : isDigit c = true) : isWs lf c = false := by
  have := (isDigit_iff c).mp h
  cases lf <;> simp [isWs] <;> omega

theorem ipv4Charset_iff (c : Nat) : inCharset ipv4Charset c = true ↔ c = 46 ∨ (48 ≤ c ∧ c ≤ 57) := by
  simp [inCharset, ipv4Charset]; omega

theorem ipv4Charset_of_digits (A : Bytes) (h : A.all isDigit = true) : A.all (inCharset ipv4Charset) = true :=
  List.all_eq_true.mpr fun x hx => (ipv4Charset_iff x).mpr (Or.inr ((isDigit_iff x).mp (List.all_eq_true.mp h x hx)))

theorem fetchString_ok (cap : Nat) (b : Bytes) (hl : b.length + 1 ≤ cap) (hp : allPrint b = true) :
    fetchString cap b = .ok b := by
  unfold fetchString
  rw [if_neg (by omega), if_neg (by omega)]
  simp [hp]

/-- `parse_nameserver` on `<dotted IPv4 text>:<digits>` -/
theorem parseNameserver_plain (T P : Bytes) (d0 : Nat) (T' : Bytes) (hT0 : T = d0 :: T') (hd0 : isDigit d0 = true)
    (hT : T.all (inCharset ipv4Charset) = true) (hTlen : T.length ≤ 45)
    (hpre : (T.takeWhile (· != 46)).length < T.length ∧ 0 < (T.takeWhile (· != 46)).length ∧ (T.takeWhile (· != 46)).length < 4)
    (hP : P.all isDigit = true) (hPne : P ≠ []) (hPlen : P.length ≤ 5) (addr : Addr) (hpton : dnsPton .unspec T = some addr) :
    parseNameserver (T ++ 58 :: P) = .ok { addr := addr, udp := atoiU16 P, tcp := atoiU16 P, iface := [] } := by
  have h48 := (isDigit_iff d0).mp hd0
  have hTprint : allPrint T = true := List.all_eq_true.mpr fun x hx => by
    have := (ipv4Charset_iff x).mp (List.all_eq_true.mp hT x hx)
    simp [isPrint]; omega
  have hE0 : T ++ 58 :: P = d0 :: (T' ++ 58 :: P) := by rw [hT0]; rfl
  have hws : (T ++ 58 :: P).dropWhile (isWs true) = T ++ 58 :: P := by
    rw [hE0]; simp [isWs_of_isDigit true d0 hd0]
  have hprePfx : (T ++ 58 :: P).takeWhile (· != 46) = T.takeWhile (· != 46) := by
    rw [List.takeWhile_append, if_neg (Nat.ne_of_lt hpre.1)]
  have h58 : inCharset ipv4Charset 58 = false := by decide
  obtain ⟨htok, hrest⟩ := takeWhile_append_stop (ys := P) (List.all_eq_true.mp hT) h58
  have hnsIp : nsIp (T ++ 58 :: P) = .ok (T, 58 :: P) := by
    unfold nsIp
    rw [hE0]
    split
    · rename_i r heq
      cases heq
      omega
    · rw [← hE0]
      simp only [hprePfx]
      have hfound : decide ((T.takeWhile (· != 46)).length < (T ++ 58 :: P).length) = true := by
        simp only [List.length_append, List.length_cons, decide_eq_true_eq]; omega
      have hgt : decide ((T.takeWhile (· != 46)).length > 0) = true := by simpa using hpre.2.1
      have hlt : decide ((T.takeWhile (· != 46)).length < 4) = true := by simpa using hpre.2.2
      simp only [hfound, hgt, hlt, Bool.and_self, ↓reduceIte, htok, hrest]
      have hne : T.isEmpty = false := by rw [hT0]; rfl
      simp only [hne, Bool.false_eq_true, ↓reduceIte]
      rw [fetchString_ok 46 T (by omega) hTprint]
  have hPtake := takeWhile_all (List.all_eq_true.mp hP)
  have hPprint : allPrint P = true :=
    List.all_eq_true.mpr fun x hx => isPrint_of_isDigit x (List.all_eq_true.mp hP x hx)
  have hnsPort : nsPort (58 :: P) = .ok (atoiU16 P, []) := by
    unfold nsPort
    simp only [hPtake.1, hPtake.2]
    have hne : P.isEmpty = false := List.isEmpty_eq_false_iff.mpr hPne
    simp only [hne, Bool.false_eq_true, ↓reduceIte]
    rw [fetchString_ok 6 P (by omega) hPprint]
  unfold parseNameserver
  rw [hws, hnsIp]
  simp only [hpton, hnsPort]
  simp [nsIface]

theorem atoiU16_digits (P : Bytes) (hP : P.all isDigit = true) (hne : P ≠ []) (hv : decVal P < 65536) :
    atoiU16 P = decVal P := by
  obtain ⟨c, r, rfl⟩ : ∃ c r, P = c :: r := by cases P with
    | nil => exact absurd rfl hne
    | cons c r => exact ⟨c, r, rfl⟩
  have hc : isDigit c = true := by simp only [List.all_cons, Bool.and_eq_true] at hP; exact hP.1
  have h48 := (isDigit_iff c).mp hc
  have hsp : isSpace c = false := isWs_of_isDigit true c hc
  have htw := (takeWhile_all (List.all_eq_true.mp hP)).1
  unfold atoiU16 atoi strtol10
  simp only [List.dropWhile_cons, hsp, Bool.false_eq_true, ↓reduceIte]
  have hmatch : splitSign (c :: r) = (false, c :: r) := by
    unfold splitSign
    split
    · rename_i r' heq; cases heq; omega
    · rename_i r' heq; cases heq; omega
    · rfl
  rw [hmatch]
  simp only [htw, Bool.false_eq_true, ↓reduceIte]
  have h1 : ¬ (decVal (c :: r) > 9223372036854775807) := by omega
  simp only [h1, ↓reduceIte]
  have h2 : ((decVal (c :: r) : Int) % 18446744073709551616).toNat = decVal (c :: r) := by
    rw [Int.emod_eq_of_lt (by omega) (by omega)]; simp
  rw [h2, toInt32_small _ (by omega)]
  have h3 : ((decVal (c :: r) : Int) % 65536) = decVal (c :: r) := Int.emod_eq_of_lt (by omega) (by omega)
  rw [h3]; simp

theorem findSeq_none (t : Bytes) (h : ∀ c ∈ t, c ≠ 47) : findSeq [58, 47, 47] t = none := by
  induction t with
  | nil => simp [findSeq]
  | cons c r ih =>
    unfold findSeq
    have hne : ((c :: r).take [58, 47, 47].length == [58, 47, 47]) = false := by
      cases r with
      | nil => simp
      | cons c2 r2 =>
        have h2 : c2 ≠ 47 := h c2 (by simp)
        cases r2 with
        | nil => simp
        | cons c3 r3 => simp [h2]
    simp only [hne, Bool.false_eq_true, ↓reduceIte, ih (fun x hx => h x (List.mem_cons_of_mem _ hx)), Option.map_none]

theorem parseNameserverUri_noslash (t : Bytes) (h : ∀ c ∈ t, c ≠ 47) : ∃ e, parseNameserverUri t = .error e := by
  unfold parseNameserverUri uriParse
  rw [findSeq_none t h]
  exact ⟨_, rfl⟩

theorem ntop4_shape (a b c d : Nat) (ha : a < 256) (hb : b < 256) (hc : c < 256) (hd : d < 256) :
    let T := ntop4 [a, b, c, d]
    ∃ d0 T', T = d0 :: T' ∧ isDigit d0 = true ∧ T.all (inCharset ipv4Charset) = true ∧ T.length ≤ 15 ∧
      (T.takeWhile (· != 46)).length < T.length ∧ 0 < (T.takeWhile (· != 46)).length ∧
      (T.takeWhile (· != 46)).length < 4 := by
  obtain ⟨a1, -, a3⟩ := showDec_octet a ha
  obtain ⟨b1, -, b3⟩ := showDec_octet b hb
  obtain ⟨c1, -, c3⟩ := showDec_octet c hc
  obtain ⟨d1, -, d3⟩ := showDec_octet d hd
  obtain ⟨x0, A', hA, hx0, -⟩ := showDec_cons a
  have hT : ntop4 [a, b, c, d] = showDec a ++ 46 :: (showDec b ++ 46 :: (showDec c ++ 46 :: showDec d)) := by
    simp [ntop4]
  intro T
  rw [show T = _ from hT]
  have hA46 : ∀ x ∈ showDec a, (x != 46) = true := fun x hx => by
    have := (isDigit_iff x).mp (List.all_eq_true.mp a1 x hx)
    simp; omega
  obtain ⟨tw, -⟩ := takeWhile_append_stop (ys := showDec b ++ 46 :: (showDec c ++ 46 :: showDec d)) hA46
    (show ((46 : Nat) != 46) = false from rfl)
  rw [tw]
  refine ⟨x0, A' ++ 46 :: (showDec b ++ 46 :: (showDec c ++ 46 :: showDec d)), by rw [hA]; rfl, hx0, ?_, ?_, ?_, ?_, Nat.lt_succ_of_le a3⟩
  · simp only [List.all_append, List.all_cons, ipv4Charset_of_digits _ a1, ipv4Charset_of_digits _ b1,
      ipv4Charset_of_digits _ c1, ipv4Charset_of_digits _ d1, show inCharset ipv4Charset 46 = true from rfl, Bool.and_self]
  · simp only [List.length_append, List.length_cons]; omega
  · simp only [List.length_append, List.length_cons]; omega
  · rw [hA]; exact Nat.succ_pos _

/-- **the per-entry hypothesis holds for every IPv4 server with equal UDP/TCP ports**: rendering it as
    `a.b.c.d:port` and parsing the text gives the server back -/
theorem entryOk_v4_plain (ifs : Ifaces) (a b c d p : Nat) (ha : a < 256) (hb : b < 256) (hc : c < 256) (hd : d < 256)
    (hp : p < 65536) :
    entryOk ifs { addr := .v4 [a, b, c, d], udp := p, tcp := p, iface := [], scope := 0 } = true := by
  obtain ⟨d0, T', hT0, hd0, hTall, hTlen, hpre1, hpre2, hpre3⟩ := ntop4_shape a b c d ha hb hc hd
  have hPd := showDec_digits p
  have hPne : showDec p ≠ [] := by obtain ⟨_, _, e, -⟩ := showDec_cons p; rw [e]; exact List.cons_ne_nil _ _
  have hstr : serverAddrStr { addr := .v4 [a, b, c, d], udp := p, tcp := p, iface := [], scope := 0 } =
      some (ntop4 [a, b, c, d] ++ 58 :: showDec p) := by
    simp [serverAddrStr, ntop, Addr.isV6]
  have hPval := showDec_val p (Nat.lt_trans hp (by decide))
  have hparse := parseNameserver_plain (ntop4 [a, b, c, d]) (showDec p) d0 T' hT0 hd0 hTall (by omega)
    ⟨hpre1, hpre2, hpre3⟩ hPd hPne (showDec_length p 4 (by omega)).2 (.v4 [a, b, c, d])
    (dnsPton_ntop_v4 a b c d ha hb hc hd)
  rw [atoiU16_digits _ hPd hPne (by omega), hPval] at hparse
  have hmemE : ∀ x ∈ ntop4 [a, b, c, d] ++ 58 :: showDec p, x ≠ 47 ∧ x ≠ 32 ∧ x ≠ 44 := by
    intro x hx
    simp only [List.mem_append, List.mem_cons] at hx
    rcases hx with h | h | h
    · have := (ipv4Charset_iff x).mp (List.all_eq_true.mp hTall x h)
      omega
    · omega
    · have := (isDigit_iff x).mp (List.all_eq_true.mp hPd x h)
      omega
  obtain ⟨e, huri⟩ := parseNameserverUri_noslash _ (fun x hx => (hmemE x hx).1)
  have hentry : parseServerEntry (ntop4 [a, b, c, d] ++ 58 :: showDec p) =
      .ok { addr := .v4 [a, b, c, d], udp := p, tcp := p, iface := [] } := by
    unfold parseServerEntry
    rw [huri]
    exact hparse
  have hclean : cleanEntry (ntop4 [a, b, c, d] ++ 58 :: showDec p) = true := by
    unfold cleanEntry
    simp only [Bool.and_eq_true, Bool.not_eq_eq_eq_not, Bool.not_true]
    constructor
    · rw [hT0]; rfl
    · rw [List.all_eq_true]
      intro x hx
      have := hmemE x hx
      simp [isDelim, this.2.1, this.2.2]
  unfold entryOk
  rw [hstr]
  simp only [hclean, Bool.true_and, hentry]
  simp [sconfigAppend, isBlacklisted, isLinkLocal, sconfigOf]

end Cares.Text
