import CaresLemmas.ChanAlignSpec
/-!
# Whole runs (C20): what is handed to `process_answer` on a TCP connection is the stream, in order

A run is a sequence of top-level calls (any procedure except `read_answers` / `process_answer`, which the driver never
calls directly), each run to completion by the instrumented executor `execH`, interleaved with steps of the environment
(`EnvStep`: the peer appends a message to a socket's stream; or anything that leaves connections, descriptors and the
`(stream, slen, spos)` of every socket alone — read-size scripts, write limits, EOF marks, the clock, scripted faults, …).
`RunH s t l`: such a run leads from `s` to `t` and `l` is the concatenation of the logs of its calls.
-/
namespace Cares.Chan

/-- the replies of a log that were read from descriptor `fd` -/
def logOn (l : HLog) (fd : Nat) : List Reply := (l.filter (·.1 == fd)).map (·.2)

theorem logOn_append (l l' : HLog) (fd : Nat) : logOn (l ++ l') fd = logOn l fd ++ logOn l' fd := by
  simp [logOn]

theorem logOn_all {l : HLog} {fd : Nat} (h : ∀ e ∈ l, e.1 = fd) : logOn l fd = l.map (·.2) := by
  unfold logOn
  rw [List.filter_eq_self.mpr]
  intro e he; simp [h e he]

theorem logOn_none {l : HLog} {fd : Nat} (h : ∀ e ∈ l, e.1 ≠ fd) : logOn l fd = [] := by
  unfold logOn
  rw [List.filter_eq_nil_iff.mpr]
  · rfl
  · intro e he; simp [h e he]

/-- every log entry of a call is for the descriptor the call reads, and that descriptor names a connection -/
theorem execH_log_mem : ∀ (n : Nat) (call : Call) (s : St), ∀ e ∈ (execH n call s).2,
    call.readsFd e.1 ∧ ∃ c, s.conn? e.1 = some c
  | 0, _, _, e, he => by cases he
  | n + 1, call, s, e, he => by
    have ih : ∀ call s, ∀ e ∈ (execH n call s).2, call.readsFd e.1 := fun call s e he => (execH_log_mem n call s e he).1
    cases call
    case readAnswers fd =>
      have key : ∀ e ∈ (bodyReadAnswersH (execH n) fd s).2, e.1 = fd ∧ ∃ c, s.conn? fd = some c := by
        unfold bodyReadAnswersH
        cases hc : s.conn? fd with
        | none => cases hv : s.sock? fd <;> (intro e he; cases he)
        | some c =>
          cases hv : s.sock? fd with
          | none => intro e he; cases he
          | some v =>
            simp only []
            have hra : ∀ t, ∀ e ∈ (execH n (.readAnswers fd) t).2, e.1 = fd ∧ ∃ c', some c = some c' :=
              fun t e he => ⟨(ih _ t e he).symm, c, rfl⟩
            have hno : ∀ (call : Call) (t : St), (∀ fd, ¬ call.readsFd fd) →
                ∀ e ∈ (execH n call t).2, e.1 = fd ∧ ∃ c', some c = some c' :=
              fun call t hc e he => (hc _ (ih call t e he)).elim
            have hcons : ∀ r : Reply, ((fd, r) : Nat × Reply).1 = fd ∧ ∃ c', some c = some c' := fun _ => ⟨rfl, c, rfl⟩
            repeat' csplit
            all_goals
              first
                | exact hno _ _ (by intro _ h; exact h)
                | exact List.forall_mem_append.mpr ⟨List.forall_mem_cons.mpr ⟨hcons _, hno _ _ (by intro _ h; exact h)⟩,
                    hno _ _ (by intro _ h; exact h)⟩
                | exact List.forall_mem_append.mpr ⟨List.forall_mem_append.mpr
                    ⟨List.forall_mem_cons.mpr ⟨hcons _, hno _ _ (by intro _ h; exact h)⟩,
                      hno _ _ (by intro _ h; exact h)⟩, hno _ _ (by intro _ h; exact h)⟩
                | exact List.forall_mem_append.mpr ⟨List.forall_mem_cons.mpr ⟨hcons _, hno _ _ (by intro _ h; exact h)⟩,
                    hra _⟩
      obtain ⟨h1, c, h2⟩ := key e he
      exact ⟨h1.symm, c, by rw [h1]; exact h2⟩
    case processRead fd =>
      have key : ∀ e ∈ (bodyProcessReadH (execH n) fd s).2, e.1 = fd ∧ ∃ c, s.conn? fd = some c := by
        unfold bodyProcessReadH
        cases hc : s.conn? fd with
        | none => cases hv : s.sock? fd <;> (intro e he; cases he)
        | some c =>
          cases hv : s.sock? fd with
          | none => intro e he; cases he
          | some v =>
            simp only []
            have hra : ∀ t, ∀ e ∈ (execH n (.readAnswers fd) t).2, e.1 = fd ∧ ∃ c', some c = some c' :=
              fun t e he => ⟨(ih _ t e he).symm, c, rfl⟩
            have hpr : ∀ t, ∀ e ∈ (execH n (.processRead fd) t).2, e.1 = fd ∧ ∃ c', some c = some c' :=
              fun t e he => ⟨(ih _ t e he).symm, c, rfl⟩
            have hno : ∀ (call : Call) (t : St), (∀ fd, ¬ call.readsFd fd) →
                ∀ e ∈ (execH n call t).2, e.1 = fd ∧ ∃ c', some c = some c' :=
              fun call t hc e he => (hc _ (ih call t e he)).elim
            repeat' csplit
            all_goals
              first
                | exact hra _
                | exact hpr _
                | exact hno _ _ (by intro _ h; exact h)
                | (intro e he; cases he)
      obtain ⟨h1, c, h2⟩ := key e he
      exact ⟨h1.symm, c, by rw [h1]; exact h2⟩
    all_goals cases he

/-- `read_conn_packets` on a descriptor without connection does nothing -/
theorem execH_processRead_noconn (n : Nat) (fd : Nat) (s : St) (h : s.conn? fd = none) :
    execH (n + 1) (.processRead fd) s = ((s, .ok), []) := by
  show bodyProcessReadH (execH n) fd s = _
  unfold bodyProcessReadH
  rw [h]

/-- the virtual server appends message `r` to a socket's stream (the driver's `reply` on a TCP socket) -/
def peerWrite (r : Reply) (v : VSock) : VSock :=
  { v with stream := v.stream ++ [(v.slen + 2 + r.len, r)], slen := v.slen + 2 + r.len }

/-- what happens between calls -/
inductive EnvStep : St → St → Prop
  /-- the peer writes one more message on the stream of socket `fd` -/
  | peer (s : St) (fd : Nat) (r : Reply) : EnvStep s (s.modSock fd (peerWrite r))
  /-- anything that keeps the connections, the descriptor counter and `(fd, stream, slen, spos)` of every socket -/
  | other (s s' : St) (hc : s'.conns = s.conns) (hs : s'.socks.map vk = s.socks.map vk) (hn : s'.nextFd = s.nextFd) :
      EnvStep s s'

theorem aligned_peer {s : St} (h : Aligned s) (fd : Nat) (r : Reply) : Aligned (s.modSock fd (peerWrite r)) := by
  apply aligned_of_alCore (Q := fun _ _ _ => True) (N0 := 0)
  have core : AlCore (fun _ _ _ => True) 0 (pfind (s.conns.map rk)) (pfind (s.socks.map vk)) s.nextFd :=
    alCore_of_aligned h (Nat.zero_le _) (fun _ _ _ _ _ _ => trivial)
  show AlCore _ 0 (pfind (s.conns.map rk)) (pfind ((St.modSock s fd _).socks.map vk)) s.nextFd
  rw [vks_modSock s fd _ (fun x => { x with stream := x.stream ++ [(x.slen + 2 + r.len, r)], slen := x.slen + 2 + r.len })
    (fun _ => rfl),
    pfind_upd fd (fun x : SV => { x with stream := x.stream ++ [(x.slen + 2 + r.len, r)], slen := x.slen + 2 + r.len })]
  have := core.upd fd id (fun x => { x with stream := x.stream ++ [(x.slen + 2 + r.len, r)], slen := x.slen + 2 + r.len })
    (fun x hx => (core.stream fd x hx).peer r)
    (fun y x hy hx ht hu => (core.al fd y x hy hx ht hu).peer r) (fun _ _ _ _ _ => trivial)
  simpa only [Option.map_id_fun, id_eq, ite_self] using this

theorem aligned_env {t t' : St} (h : Aligned t) (he : EnvStep t t') : Aligned t' := by
  cases he with
  | peer fd r => exact aligned_peer h fd r
  | other _ hc hs hn => exact h.of_views (by rw [hc]) hs hn

/-- a message appended by the peer ends beyond everything read so far -/
theorem arrived_peer {x : SV} (hs : StreamOk x) (r : Reply) {pos : Nat} (hp : pos ≤ x.spos) :
    arrived (x.stream ++ [(x.slen + 2 + r.len, r)]) pos = arrived x.stream pos := by
  unfold arrived
  rw [List.filter_append]
  have : [(x.slen + 2 + r.len, r)].filter (fun z => decide (z.1 ≤ pos)) = [] := by
    have := hs.le
    simp only [List.filter_cons, List.filter_nil]
    rw [if_neg]
    simp only [decide_eq_true_eq]; omega
  rw [this, List.append_nil]

/-- … hence cannot be the next complete frame: if nothing complete was waiting, nothing is after the peer's write -/
theorem nextTcpFrame_peer {x : SV} (hle : x.spos ≤ x.slen) (r : Reply) (ib : Nat)
    (hn : nextTcpFrame x.stream x.spos ib = none) :
    nextTcpFrame (x.stream ++ [(x.slen + 2 + r.len, r)]) x.spos ib = none := by
  unfold nextTcpFrame at hn ⊢
  rw [List.find?_append]
  split at hn
  · rename_i e r0 heq
    rw [heq]
    simpa only [Option.some_or] using hn
  · rename_i heq
    rw [heq]
    simp only [Option.none_or, List.find?_cons, List.find?_nil]
    split
    · rename_i e1 r1 heq1
      split at heq1
      · simp only [Option.some.injEq, Prod.mk.injEq] at heq1
        rw [if_neg]; omega
      · cases heq1
    · rfl

/-- top-level calls: everything but `read_answers` and `process_answer` (never called directly by the driver).
    `Call.topC` of ClientExecRun (C12c) excludes other calls, `runActs` and those that carry a response: each run
    predicate leaves out what its own induction cannot start from; the calls the driver makes satisfy both. -/
def Call.top (c : Call) : Prop := (∀ fd, c ≠ .readAnswers fd) ∧ (∀ fd r, c ≠ .processAnswer fd r)

inductive RunH : St → St → HLog → Prop
  | nil (s : St) : RunH s s []
  | env {s t t' : St} {l : HLog} : RunH s t l → EnvStep t t' → RunH s t' l
  | call {s t : St} {l : HLog} (fuel : Nat) (call : Call) : RunH s t l → call.top →
      (execH fuel call t).1.1.outOfFuel = false → RunH s (execH fuel call t).1.1 (l ++ (execH fuel call t).2)

/-- the invariant of runs: alignment; log entries are for descriptors already allocated; for every live TCP connection
    the replies handed over so far are exactly the messages that have `arrived` at its consumed position; and (between
    top-level calls) no complete message is waiting in its in_buf -/
structure RunInv (t : St) (l : HLog) : Prop where
  al : Aligned t
  lt : ∀ e ∈ l, e.1 < t.nextFd
  log : ∀ fd c v, liveTcp t fd c v → logOn l fd = arrived v.stream (v.spos - c.inBytes)
  drained : ∀ fd c v, liveTcp t fd c v → nextTcpFrame v.stream v.spos c.inBytes = none

theorem RunInv.env {t t' : St} {l : HLog} (h : RunInv t l) (he : EnvStep t t') : RunInv t' l := by
  cases he with
  | peer fd r =>
    have key : ∀ fd' c v', liveTcp (t.modSock fd (peerWrite r)) fd' c v' →
        logOn l fd' = arrived v'.stream (v'.spos - c.inBytes) ∧ nextTcpFrame v'.stream v'.spos c.inBytes = none := ?_
    · exact ⟨aligned_peer h.al fd r, h.lt, fun fd' c v' hl => (key fd' c v' hl).1, fun fd' c v' hl => (key fd' c v' hl).2⟩
    intro fd' c v' ⟨hc, hv', ht, hu⟩
    have hc0 : t.conn? fd' = some c := hc
    obtain ⟨v, hv⟩ := h.al.hasSock fd' c hc0
    by_cases hfd : fd' = fd
    · subst hfd
      rw [sock?_modSock_self _ _ (peerWrite r) fun _ => rfl, hv] at hv'
      cases hv'
      have hal := h.al.aligned fd' c v hc0 hv ht hu
      have hso := h.al.stream fd' v hv
      constructor
      · show logOn l fd' = arrived (v.stream ++ [(v.slen + 2 + r.len, r)]) (v.spos - c.inBytes)
        have e : arrived (v.stream ++ [(v.slen + 2 + r.len, r)]) (v.spos - c.inBytes) =
            arrived v.stream (v.spos - c.inBytes) :=
          arrived_peer (x := vflag v) hso r (Nat.sub_le _ _)
        rw [e]
        exact h.log fd' c v ⟨hc0, hv, ht, hu⟩
      · show nextTcpFrame (v.stream ++ [(v.slen + 2 + r.len, r)]) v.spos c.inBytes = none
        exact nextTcpFrame_peer (x := vflag v) hso.le r c.inBytes (h.drained fd' c v ⟨hc0, hv, ht, hu⟩)
    · rw [sock?_modSock_ne t fd (peerWrite r) (fun _ => rfl) hfd] at hv'
      exact ⟨h.log fd' c v' ⟨hc0, hv', ht, hu⟩, h.drained fd' c v' ⟨hc0, hv', ht, hu⟩⟩
  | other _ hc hs hn =>
    have key : ∀ fd c v', liveTcp t' fd c v' →
        logOn l fd = arrived v'.stream (v'.spos - c.inBytes) ∧ nextTcpFrame v'.stream v'.spos c.inBytes = none := ?_
    · exact ⟨h.al.of_views (by rw [hc]) hs hn, by rw [hn]; exact h.lt, fun fd c v' hl => (key fd c v' hl).1,
        fun fd c v' hl => (key fd c v' hl).2⟩
    intro fd c v' ⟨hc', hv', ht, hu⟩
    have hc0 : t.conn? fd = some c := by
      have : t'.conns.find? (·.fd == fd) = some c := hc'
      rw [hc] at this; exact this
    obtain ⟨v, hv⟩ := h.al.hasSock fd c hc0
    have e := congrFun (congrArg pfind hs) fd
    rw [pfind_socks, pfind_socks, hv', hv] at e
    simp only [Option.map_some, Option.some.injEq] at e
    have e1 : v'.stream = v.stream := congrArg SV.stream e
    have e3 : v'.spos = v.spos := congrArg SV.spos e
    rw [e1, e3]
    exact ⟨h.log fd c v ⟨hc0, hv, ht, hu⟩, h.drained fd c v ⟨hc0, hv, ht, hu⟩⟩

theorem RunInv.call {t : St} {l : HLog} (h : RunInv t l) (fuel : Nat) (call : Call) (htop : call.top)
    (hf : (execH fuel call t).1.1.outOfFuel = false) :
    RunInv (execH fuel call t).1.1 (l ++ (execH fuel call t).2) := by
  -- `read_conn_packets` on a descriptor that names no connection does nothing
  by_cases hnc : ∃ fd, call = .processRead fd ∧ t.conn? fd = none
  · obtain ⟨fd, rfl, hno⟩ := hnc
    cases fuel with
    | zero => exact absurd hf (by simp [execH, St.oof])
    | succ n =>
      rw [execH_processRead_noconn n fd t hno]
      simpa using h
  have hreads : ∀ fd, call.readsFd fd → ∃ c, t.conn? fd = some c := by
    intro fd hr
    cases call <;> try exact absurd hr id
    case processRead fd' =>
      have e : fd' = fd := hr
      rw [← e]
      cases hc : t.conn? fd' with
      | none => exact absurd ⟨fd', rfl, hc⟩ hnc
      | some c => exact ⟨c, rfl⟩
    case readAnswers fd' => exact absurd rfl (htop.1 fd')
  have hreadlt : ∀ fd, call.readsFd fd → fd < t.nextFd := by
    intro fd hr
    obtain ⟨c, hc⟩ := hreads fd hr
    obtain ⟨v, hv⟩ := h.al.hasSock fd c hc
    exact h.al.fresh fd v hv
  have hfe : (exec fuel call t).1.outOfFuel = false := by rw [← execH_fst]; exact hf
  have hnewlt : ∀ e ∈ (execH fuel call t).2, e.1 < t.nextFd :=
    fun e he => hreadlt _ (execH_log_mem fuel call t e he).1
  -- for the connections the call does not read from (those it opens included), the clauses are a side property
  obtain ⟨halo, hmono, hside⟩ := exec_side (N0 := t.nextFd)
    (Q := fun fd x y => ¬ call.readsFd fd → y.tcp = true →
      logOn l fd = arrived x.stream (x.spos - y.inBytes) ∧ nextTcpFrame x.stream x.spos y.inBytes = none)
    (fun fd hle _ _ _ => ⟨logOn_none (fun e he heq => by have := h.lt e he; omega), rfl⟩) fuel call t h.al
    (Nat.le_refl _) (fun fd c v hc hv hu _ ht => ⟨h.log fd c v ⟨hc, hv, ht, hu⟩, h.drained fd c v ⟨hc, hv, ht, hu⟩⟩)
    (fun fd hr _ _ _ _ _ hn => absurd hr hn) hfe
  rw [← execH_fst] at halo hmono hside
  have key : ∀ fd c' v', liveTcp (execH fuel call t).1.1 fd c' v' →
      logOn (l ++ (execH fuel call t).2) fd = arrived v'.stream (v'.spos - c'.inBytes) ∧
        nextTcpFrame v'.stream v'.spos c'.inBytes = none := ?_
  · refine ⟨halo, ?_, fun fd c' v' hl => (key fd c' v' hl).1, fun fd c' v' hl => (key fd c' v' hl).2⟩
    intro e he
    rcases List.mem_append.mp he with he | he
    · have := h.lt e he; omega
    · have := hnewlt e he; omega
  · intro fd c' v' ⟨hc', hv', ht', hu'⟩
    rw [logOn_append]
    by_cases hr : call.readsFd fd
    · -- the call is `read_conn_packets` on this very connection
      have hcall : call = .processRead fd := by
        cases call <;> try exact absurd hr id
        case processRead fd' => have e : fd' = fd := hr; rw [e]
        case readAnswers fd' => exact absurd rfl (htop.1 fd')
      subst hcall
      rw [execH_fst] at hc' hv'
      obtain ⟨c, v, hc, hv, hu, htc, _, _⟩ := exec_conn_kind fuel _ t h.al fd (hreadlt fd hr) hfe hc' hv' hu'
      have hlive : liveTcp t fd c v := ⟨hc, hv, by rw [← htc]; exact ht', hu⟩
      rw [← execH_fst] at hc' hv'
      obtain ⟨_, e1, _, _, e5, e6⟩ := processReadH_post fuel t fd c v h.al hlive hf c' v' hc' hv' hu'
      exact ⟨by rw [h.log fd c v hlive, logOn_all fun e he => Eq.symm (execH_log_mem fuel (.processRead fd) t e he).1, e1, e5], e6⟩
    · rw [logOn_none (fd := fd) (fun e he heq => hr (heq ▸ (execH_log_mem fuel call t e he).1)), List.append_nil]
      exact hside fd c' v' hc' hv' hu' hr ht'

theorem RunH.inv {s t : St} {l : HLog} (hr : RunH s t l) (h0 : RunInv s []) : RunInv t l := by
  induction hr with
  | nil => exact h0
  | env _ he ih => exact ih.env he
  | call fuel call _ htop hf ih => exact ih.call fuel call htop hf

theorem arrived_prefix : ∀ (st : List (Nat × Reply)) (base pos : Nat), WfStream base st →
    arrived st pos <+: st.map (·.2)
  | [], _, _, _ => List.prefix_refl _
  | (e, r) :: rest, base, pos, h => by
    unfold arrived
    by_cases hle : e ≤ pos
    · simp only [List.filter_cons, hle, decide_true, ↓reduceIte, List.map_cons]
      exact List.prefix_cons_inj r |>.mpr (arrived_prefix rest e pos h.2)
    · have : rest.filter (fun x => decide (x.1 ≤ pos)) = [] := by
        rw [List.filter_eq_nil_iff]
        intro x hx
        have := WfStream.lt_of_mem h.2 x hx
        simp only [decide_eq_true_eq]; omega
      simp only [List.filter_cons, hle, decide_false, Bool.false_eq_true, ↓reduceIte, this, List.map_nil]
      exact List.nil_prefix

theorem RunInv.init (s : St) (hc : s.conns = []) (hs : s.socks = []) : RunInv s [] :=
  ⟨aligned_init s hc hs, (fun _ he => by cases he), (fun fd c v ⟨h, _⟩ => by simp [St.conn?, hc] at h),
    (fun fd c v ⟨h, _⟩ => by simp [St.conn?, hc] at h)⟩

end Cares.Chan
