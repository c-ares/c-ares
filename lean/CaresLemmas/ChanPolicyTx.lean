import CaresLemmas.ChanReach
import CaresLemmas.ChanPolicyLookup
import CaresLemmas.ListLemmas
/-!
# C06 — transmissions never outnumber writes

Every frame the virtual server sees (`txs`) was first handed to a connection (`writeLog`): the frames still queued in
the connections' out buffers plus the transmissions recorded so far never exceed the writes, per query key.
`TOk` is the statement on the projection `tproj` (transmitted keys, queued keys per descriptor, descriptor counter, write
log), with one lemma per way the projection moves; `TInv s := TOk (tproj s)`; `TInv.prim` goes through the primitive
updates and `exec_t` is `exec_invariant`.
-/
namespace Cares.Chan

/-- the fields this invariant reads -/
structure TP where
  tx : List Nat                    -- query key of every transmission
  conns : List (Nat × List Nat)    -- (descriptor, keys of the queued frames) of every connection
  nextFd : Nat
  wlog : List Nat

/-- frames of query `k` queued in out buffers -/
def outCnt (conns : List (Nat × List Nat)) (k : Nat) : Nat := (conns.map fun e => e.2.count k).sum

structure TOk (p : TP) : Prop where
  fdNodup : (p.conns.map (·.1)).Nodup
  fdLt : ∀ e ∈ p.conns, e.1 < p.nextFd
  bal : ∀ k, p.tx.count k + outCnt p.conns k ≤ p.wlog.count k

namespace TOk
variable {p : TP}

theorem map_fst_map (l : List (Nat × List Nat)) (g : Nat × List Nat → Nat × List Nat) (hg : ∀ e, (g e).1 = e.1) :
    (l.map g).map (fun e => e.1) = l.map (fun e => e.1) :=
  map_map_keep l fun e _ => hg e

theorem bump (h : TOk p) : TOk { p with nextFd := p.nextFd + 1 } :=
  { h with fdLt := fun e he => by have := h.fdLt e he; show e.1 < p.nextFd + 1; omega }

theorem outCnt_append (l : List (Nat × List Nat)) (e : Nat × List Nat) (k : Nat) :
    outCnt (l ++ [e]) k = outCnt l k + e.2.count k := by
  unfold outCnt; simp [List.map_append, List.sum_append]

/-- a new connection with an empty out buffer and descriptor `nextFd` -/
theorem newConn (h : TOk p) : TOk { p with conns := p.conns ++ [(p.nextFd, [])], nextFd := p.nextFd + 1 } := by
  refine { fdNodup := ?_, fdLt := ?_, bal := ?_ }
  · dsimp only
    rw [List.map_append, List.nodup_append]
    refine ⟨h.fdNodup, by simp, ?_⟩
    intro a ha b hb
    obtain ⟨e, he, rfl⟩ := List.mem_map.1 ha
    simp only [List.map_cons, List.map_nil, List.mem_singleton] at hb
    subst hb
    have := h.fdLt e he
    omega
  · intro e he
    have he : e ∈ p.conns ++ [(p.nextFd, [])] := he
    show e.1 < p.nextFd + 1
    rcases List.mem_append.1 he with he | he
    · have := h.fdLt e he; omega
    · simp only [List.mem_singleton] at he; rw [he]; show p.nextFd < _; omega
  · intro k
    show p.tx.count k + outCnt (p.conns ++ [(p.nextFd, [])]) k ≤ p.wlog.count k
    rw [outCnt_append]
    have := h.bal k
    simp only [List.count_nil, Nat.add_zero]
    exact this

theorem outCnt_filter_le (l : List (Nat × List Nat)) (f : Nat × List Nat → Bool) (k : Nat) :
    outCnt (l.filter f) k ≤ outCnt l k := by
  induction l with
  | nil => exact Nat.le_refl _
  | cons e r ih =>
    unfold outCnt at *
    rw [List.filter_cons]
    split
    · simp only [List.map_cons, List.sum_cons]; omega
    · simp only [List.map_cons, List.sum_cons]; omega

/-- connections are dropped -/
theorem closeFd (x : Nat) (h : TOk p) : TOk { p with conns := p.conns.filter (fun e => e.1 != x) } :=
  { fdNodup := (List.filter_sublist.map _).nodup h.fdNodup
    fdLt := fun e he => h.fdLt e (List.mem_filter.1 he).1
    bal := fun k => by
      have := h.bal k
      have := outCnt_filter_le p.conns (fun e => e.1 != x) k
      show p.tx.count k + outCnt (p.conns.filter _) k ≤ p.wlog.count k
      omega }

theorem outCnt_map_le (l : List (Nat × List Nat)) (g : Nat × List Nat → Nat × List Nat) (k : Nat)
    (hg : ∀ e ∈ l, (g e).2.count k ≤ e.2.count k) : outCnt (l.map g) k ≤ outCnt l k := by
  induction l with
  | nil => exact Nat.le_refl _
  | cons e r ih =>
    unfold outCnt at *
    simp only [List.map_cons, List.sum_cons]
    have := hg e List.mem_cons_self
    have := ih (fun x hx => hg x (List.mem_cons_of_mem _ hx))
    omega

/-- out buffers shrink (a connection being closed drops its queue) -/
theorem shrink (g : Nat × List Nat → Nat × List Nat) (hfd : ∀ e, (g e).1 = e.1)
    (hg : ∀ e k, (g e).2.count k ≤ e.2.count k) (h : TOk p) : TOk { p with conns := p.conns.map g } := by
  refine { fdNodup := ?_, fdLt := ?_, bal := ?_ }
  · dsimp only
    rw [map_fst_map _ _ hfd]; exact h.fdNodup
  · intro e he
    obtain ⟨e0, he0, rfl⟩ := List.mem_map.1 he
    rw [hfd]; exact h.fdLt e0 he0
  · intro k
    have := h.bal k
    have := outCnt_map_le p.conns g k (fun e _ => hg e k)
    show p.tx.count k + outCnt (p.conns.map g) k ≤ p.wlog.count k
    omega

theorem count_singleton' (key k : Nat) : [key].count k = if k = key then 1 else 0 := by
  simp only [List.count_singleton, beq_iff_eq, @eq_comm _ key k]

theorem outCnt_cons (e : Nat × List Nat) (r : List (Nat × List Nat)) (k : Nat) :
    outCnt (e :: r) k = e.2.count k + outCnt r k := by
  unfold outCnt; simp

/-- with distinct descriptors, appending one frame to "the" connection `fd` adds at most one queued frame -/
theorem outCnt_enqueue_le (l : List (Nat × List Nat)) (hn : (l.map (fun e => e.1)).Nodup) (fd key k : Nat) :
    outCnt (l.map fun e => if e.1 == fd then (e.1, e.2 ++ [key]) else e) k ≤
      outCnt l k + (if k = key then 1 else 0) := by
  induction l with
  | nil => unfold outCnt; simp
  | cons e r ih =>
    simp only [List.map_cons, List.nodup_cons, List.mem_map, not_exists, not_and] at hn
    have ihr := ih hn.2
    rw [List.map_cons, outCnt_cons, outCnt_cons]
    by_cases he : e.1 == fd
    · rw [if_pos he]
      have hrest := map_if_id r (fun e => e.1 == fd) (fun e => (e.1, e.2 ++ [key]))
        (fun x hx hp => (hn.1 x hx (by rw [beq_iff_eq.1 hp, beq_iff_eq.1 he])).elim)
      rw [hrest]
      show (e.2 ++ [key]).count k + _ ≤ _
      rw [List.count_append, count_singleton']
      omega
    · rw [if_neg he]
      omega

/-- a frame is handed to connection `fd` and the write is logged -/
theorem enqueue (fd key : Nat) (h : TOk p) :
    TOk { p with conns := p.conns.map (fun e => if e.1 == fd then (e.1, e.2 ++ [key]) else e),
                 wlog := p.wlog ++ [key] } := by
  have hg : ∀ e : Nat × List Nat, (if e.1 == fd then (e.1, e.2 ++ [key]) else e).1 = e.1 := by
    intro e; by_cases he : e.1 == fd <;> simp [he]
  refine { fdNodup := ?_, fdLt := ?_, bal := ?_ }
  · dsimp only
    rw [map_fst_map _ _ hg]; exact h.fdNodup
  · intro e he
    obtain ⟨e0, he0, rfl⟩ := List.mem_map.1 he
    rw [hg]; exact h.fdLt e0 he0
  · intro k
    have h1 := h.bal k
    have h2 := outCnt_enqueue_le p.conns h.fdNodup fd key k
    show p.tx.count k + outCnt (p.conns.map _) k ≤ (p.wlog ++ [key]).count k
    rw [List.count_append, count_singleton']
    omega

/-- the head frame of connection `fd` leaves the queue and is recorded as a transmission -/
theorem send (fd key : Nat) (rest : List Nat) (hfind : p.conns.find? (·.1 == fd) = some (fd, key :: rest))
    (h : TOk p) :
    TOk { p with conns := p.conns.map (fun e => if e.1 == fd then (e.1, rest) else e), tx := p.tx ++ [key] } := by
  have hg : ∀ e : Nat × List Nat, (if e.1 == fd then (e.1, rest) else e).1 = e.1 := by
    intro e; by_cases he : e.1 == fd <;> simp [he]
  have hcnt : ∀ k, outCnt (p.conns.map fun e => if e.1 == fd then (e.1, rest) else e) k + (if k = key then 1 else 0) ≤
      outCnt p.conns k := by
    intro k
    have hn := h.fdNodup
    generalize p.conns = l at hfind hn
    induction l with
    | nil => simp at hfind
    | cons e r ih =>
      simp only [List.map_cons, List.nodup_cons, List.mem_map, not_exists, not_and] at hn
      rw [List.map_cons, outCnt_cons, outCnt_cons]
      by_cases he : e.1 == fd
      · simp only [List.find?_cons, he, Option.some.injEq] at hfind
        subst hfind
        rw [if_pos (by simp)]
        have hrest := map_if_id r (fun e => e.1 == fd) (fun e => (e.1, rest))
          (fun x hx hp => (hn.1 x hx (by rw [beq_iff_eq.1 hp])).elim)
        rw [hrest]
        show rest.count k + _ + _ ≤ (key :: rest).count k + _
        have : (key :: rest).count k = rest.count k + (if k = key then 1 else 0) := by
          rw [show key :: rest = [key] ++ rest from rfl, List.count_append, count_singleton']; omega
        rw [this]
        omega
      · simp only [List.find?_cons, he] at hfind
        rw [if_neg he]
        have := ih hfind hn.2
        omega
  refine { fdNodup := ?_, fdLt := ?_, bal := ?_ }
  · dsimp only
    rw [map_fst_map _ _ hg]; exact h.fdNodup
  · intro e he
    obtain ⟨e0, he0, rfl⟩ := List.mem_map.1 he
    rw [hg]; exact h.fdLt e0 he0
  · intro k
    have h1 := h.bal k
    have h2 := hcnt k
    show (p.tx ++ [key]).count k + outCnt (p.conns.map _) k ≤ p.wlog.count k
    rw [List.count_append, count_singleton']
    omega

/-- a key has been transmitted no more often than it was handed to a connection -/
theorem tx_le (h : TOk p) (k : Nat) : p.tx.count k ≤ p.wlog.count k := by
  have := h.bal k; omega

end TOk

/-! ### state level -/

def tproj (s : St) : TP :=
  ⟨s.txs.map (·.key), s.conns.map (fun c => (c.fd, c.out.map (·.key))), s.nextFd, s.writeLog⟩

def TInv (s : St) : Prop := TOk (tproj s)

theorem TInv.congr {s s' : St} (h1 : tproj s' = tproj s) (h : TInv s) : TInv s' := by
  unfold TInv at *; rw [h1]; exact h

theorem tproj_modConn (s : St) (fd : Nat) (f : Conn → Conn) (hf : ∀ c, (f c).fd = c.fd ∧ (f c).out = c.out) :
    tproj (s.modConn fd f) = tproj s := by
  unfold tproj
  rw [connsMap_modConn _ s fd f]
  · rfl
  · intro c; rw [(hf c).1, (hf c).2]

theorem TInv.modConn {s : St} {fd : Nat} {f : Conn → Conn} (hf : ∀ c, (f c).fd = c.fd ∧ (f c).out = c.out)
    (h : TInv s) : TInv (s.modConn fd f) :=
  TInv.congr (s := s) (tproj_modConn s fd f hf) h

/-- the out queue of connection `fd` is replaced by `rest` -/
theorem tproj_modConn_out (s : St) (fd : Nat) (f : Conn → Conn) (rest : List OutFrame)
    (hf : ∀ c, (f c).fd = c.fd ∧ (f c).out = rest) :
    tproj (s.modConn fd f) =
      { tproj s with conns := (tproj s).conns.map (fun e => if e.1 == fd then (e.1, rest.map (·.key)) else e) } := by
  unfold tproj St.modConn
  simp only [List.map_map, TP.mk.injEq, true_and, and_true]
  apply List.map_congr_left
  intro c _
  by_cases hc : c.fd == fd <;> simp [Function.comp, hc, hf]

theorem tproj_notify (s : St) (fd : Nat) (r w : Bool) : tproj (s.notify fd r w) = tproj s := by
  rw [St.notify_eq]
  rcases notify_conns s fd r w with e | e <;> rw [e]
  · exact tproj_modConn s fd (fun c => { c with notR := r, notW := w }) fun _ => ⟨rfl, rfl⟩
  · rfl

theorem TInv.notify {s : St} {fd : Nat} {r w : Bool} (h : TInv s) : TInv (s.notify fd r w) :=
  TInv.congr (tproj_notify s fd r w) h

theorem tproj_recordTx (s : St) (fd : Nat) (tcp : Bool) (f : OutFrame) :
    tproj (s.recordTx fd tcp f) = { tproj s with tx := (tproj s).tx ++ [f.key] } := by
  obtain ⟨t, g, ev, sl, _, hk, e⟩ := recordTx_shape s fd tcp f
  rw [e]
  simp [tproj, hk]

theorem tproj_removeFromConn (s : St) (k : Nat) : tproj (s.removeFromConn k) = tproj s := by
  unfold St.removeFromConn
  split
  · rfl
  · dsimp only
    split
    · show tproj (St.modQuery (St.modConn _ _ _) _ _) = _
      have : ∀ (x : St) (k : Nat) (f : Query → Query), tproj (x.modQuery k f) = tproj x := fun _ _ _ => rfl
      rw [this, tproj_modConn]
      · rfl
      · intro _; exact ⟨rfl, rfl⟩
    · rfl

theorem TInv.removeFromConn {s : St} {k : Nat} (h : TInv s) : TInv (s.removeFromConn k) := by
  unfold TInv; rw [tproj_removeFromConn]; exact h

theorem TInv.detach {s : St} {k : Nat} (h : TInv s) : TInv (s.detach k) := by
  unfold St.detach
  split
  · exact h
  · exact TInv.congr (s := s.removeFromConn k) rfl (TInv.removeFromConn h)

theorem TInv.freeQuery {s : St} {k : Nat} (h : TInv s) : TInv (s.freeQuery k) := by
  unfold St.freeQuery
  exact TInv.congr (s := s.detach k) rfl (TInv.detach h)

/-! ### sending -/

theorem tproj_find_of_conn? {s : St} {fd : Nat} {c : Conn} (h : s.conn? fd = some c) :
    (tproj s).conns.find? (·.1 == fd) = some (fd, c.out.map (·.key)) := by
  unfold tproj St.conn? at *
  dsimp only
  generalize s.conns = l at h
  induction l with
  | nil => simp at h
  | cons x r ih =>
    simp only [List.map_cons, List.find?_cons] at h ⊢
    by_cases hx : x.fd == fd
    · simp only [hx, Option.some.injEq] at h ⊢
      subst h
      rw [beq_iff_eq.1 hx]
    · simp only [hx] at h ⊢
      exact ih h

theorem tproj_fault {s s' : St} {call : String} {e : Option Nat} (h : s.fault call = (e, s')) : tproj s' = tproj s := by
  have : s' = (s.fault call).2 := by rw [h]
  rw [this]; rfl

/-- the head frame of connection `fd` has been transmitted: it has left the queue and joined the transmissions -/
theorem TInv.sent {s s' : St} {fd : Nat} {c : Conn} {f : OutFrame} {rest : List OutFrame}
    (hc : s.conn? fd = some c) (ho : c.out = f :: rest) (h : TInv s)
    (e : tproj s' = { tproj s with
      conns := (tproj s).conns.map (fun e => if e.1 == fd then (e.1, rest.map (·.key)) else e),
      tx := (tproj s).tx ++ [f.key] }) : TInv s' := by
  have hfind := tproj_find_of_conn? hc
  rw [ho] at hfind
  unfold TInv
  rw [e]
  exact TOk.send fd f.key (rest.map (·.key)) hfind h

/-- the UDP path of `ares_conn_flush` -/
theorem TInv.udpSend {s : St} {fd : Nat} {c : Conn} {f : OutFrame} {rest : List OutFrame} {tcp r w : Bool}
    (hc : s.conn? fd = some c) (ho : c.out = f :: rest) (h : TInv s) :
    TInv (((s.recordTx fd tcp f).notify fd r w).modConn fd fun c => { c with out := rest }) :=
  TInv.sent hc ho h (by
    rw [tproj_modConn_out (rest := rest), tproj_notify, tproj_recordTx]
    exact fun _ => ⟨rfl, rfl⟩)

/-- the TCP path: `advanceOut` transmits the frames whose last byte was accepted -/
theorem TInv.advanceOut {s : St} {fuel fd n : Nat} (h : TInv s) : TInv (Cares.Chan.advanceOut fuel fd s n) :=
  advanceOut_induct
    (fun s _ _ rest hc ho h => TInv.sent hc ho h (by
      rw [tproj_recordTx, tproj_modConn_out (rest := rest)]
      exact fun _ => ⟨rfl, rfl⟩))
    (fun _ _ h => TInv.modConn (fun _ => ⟨rfl, rfl⟩) h) fuel s n h

theorem tproj_modConn_append (s : St) (fd : Nat) (frame : OutFrame) :
    tproj (s.modConn fd fun c => { c with out := c.out ++ [frame] }) =
      { tproj s with conns := (tproj s).conns.map (fun e => if e.1 == fd then (e.1, e.2 ++ [frame.key]) else e) } := by
  unfold tproj St.modConn
  simp only [TP.mk.injEq, List.map_map, true_and, and_true]
  apply List.map_congr_left
  intro c _
  by_cases hc : c.fd == fd <;> simp [Function.comp, hc]

/-! ### opening and closing connections -/

theorem TInv.closeFd {s s' : St} (fd : Nat)
    (h1 : tproj s' = tproj { s with conns := s.conns.filter (·.fd != fd) }) (h : TInv s) : TInv s' := by
  unfold TInv; rw [h1]
  have : tproj { s with conns := s.conns.filter (·.fd != fd) } =
      { tproj s with conns := (tproj s).conns.filter (fun e => e.1 != fd) } := by
    unfold tproj
    simp only [TP.mk.injEq, true_and, and_true]
    rw [List.filter_map]
    rfl
  rw [this]
  exact TOk.closeFd fd h

theorem TInv.bumpFd {s s' : St} (h1 : tproj s' = { tproj s with nextFd := s.nextFd + 1 })
    (h : TInv s) : TInv s' := by
  unfold TInv; rw [h1]; exact TOk.bump h

/-- a new connection with an empty out buffer takes the descriptor `s.nextFd`; `sA` is `s` with the counter bumped -/
theorem TInv.openConn {s sA : St} (c : Conn) (id : Nat) (f : Server → Server) (h : TInv s)
    (hA : tproj sA = { tproj s with nextFd := s.nextFd + 1 }) (hc : c.fd = s.nextFd) (ho : c.out = []) :
    TInv (St.modServer { sA with conns := sA.conns ++ [c] } id f) := by
  unfold TInv
  have : tproj (St.modServer { sA with conns := sA.conns ++ [c] } id f) =
      { tproj s with conns := (tproj s).conns ++ [((tproj s).nextFd, [])], nextFd := (tproj s).nextFd + 1 } := by
    have e1 : tproj (St.modServer { sA with conns := sA.conns ++ [c] } id f) =
        { tproj sA with conns := (tproj sA).conns ++ [(c.fd, c.out.map (·.key))] } := by
      simp [tproj, St.modServer]
    rw [e1, hA, hc, ho]; rfl
  rw [this]
  exact TOk.newConn h

theorem sqOpen_t (s : St) (q : Query) (srv : Server) (existing : Option Nat) (h : TInv s) :
    TInv (sqOpen s q srv existing).2 := by
  apply sqOpen_cases (P := fun r => TInv r.2)
  · exact fun _ _ => h
  · exact fun _ _ => TInv.congr (s := s) rfl h
  · intro ev fl sl pw sk sA e
    have hA : tproj sA = { tproj s with nextFd := s.nextFd + 1 } := by rw [e]; rfl
    exact ⟨TInv.bumpFd (s := s) hA h, TInv.notify (TInv.openConn _ _ _ h hA rfl rfl)⟩

theorem tproj_sqCommit (s : St) (q : Query) (key fd : Nat) (dl : Deadline) : tproj (sqCommit s q key fd dl) = tproj s := by
  unfold sqCommit
  cases q.conn with
  | none =>
    refine (tproj_modConn _ _ _ ?_).trans rfl
    exact fun _ => ⟨rfl, rfl⟩
  | some old =>
    refine (tproj_modConn _ _ _ ?_).trans
      (Eq.trans (b := tproj (St.modConn { s with byTimeout := s.byTimeout.erase key } old _)) rfl
        ((tproj_modConn _ old _ ?_).trans rfl))
    · exact fun _ => ⟨rfl, rfl⟩
    · exact fun _ => ⟨rfl, rfl⟩

/-- The updates that move frames or descriptors are the cases with a lemma of their own; every other update leaves
    `txs`, the connections' descriptors and out queues, `nextFd` and `writeLog` alone. -/
theorem TInv.prim {c : Call} {s s' : St} (p : Prim c s s') (h : TInv s) : TInv s' := by
  cases p
  case modConn hf => exact TInv.modConn (fun c => ⟨hf.fd c, hf.out c⟩) h
  case notify => exact TInv.notify h
  case recvUdp | consume => exact TInv.modConn (fun _ => ⟨rfl, rfl⟩) h
  case recvTcp => exact TInv.modConn (fun _ => ⟨rfl, rfl⟩) (TInv.congr (s := s) rfl h)
  case removeFromConn => exact TInv.removeFromConn h
  case detach => exact TInv.detach h
  case freeQuery => exact TInv.freeQuery h
  case advanceOut => exact TInv.advanceOut h
  case sqCommit => exact TInv.congr (s := s) (tproj_sqCommit ..) h
  case udpSent => exact TInv.udpSend ‹_› ‹_› h
  case enqueue fd key frame hk =>
    unfold TInv
    rw [show tproj _ = { tproj (s.modConn fd fun c => { c with out := c.out ++ [frame] }) with
      wlog := (tproj s).wlog ++ [key] } from rfl, tproj_modConn_append, hk]
    exact TOk.enqueue fd key h
  case openConn => exact sqOpen_t _ _ _ none h
  case resetConn =>
    unfold TInv
    rw [tproj_modConn_out (rest := [])]
    · exact TOk.shrink _ (fun e => by split <;> rfl) (fun e k => by split <;> simp) h
    · exact fun _ => ⟨rfl, rfl⟩
  case closeFinal fd _ _ _ =>
    -- by the frame lemmas: `rfl` through the four updates of `closeFinal` is slow to check
    refine TInv.closeFd (s := s.notify fd false false) fd ?_ (TInv.notify h)
    simp only [closeFinal, tproj, chan_frame]
  all_goals exact TInv.congr (s := s) (by simp only [tproj, chan_frame]) h

theorem exec_t (fuel : Nat) (c : Call) (s : St) (h : TInv s) : TInv (exec fuel c s).1 :=
  exec_invariant TInv.prim (fun _ h => h) fuel c s h

/-- in every state reached by procedure runs from a state satisfying the invariant, the
    virtual server has seen no more frames of a query than were handed to connections -/
theorem exec_tx_le_writes (fuel : Nat) (c : Call) (s : St) (h : TInv s) (k : Nat) :
    ((exec fuel c s).1.txs.map (·.key)).count k ≤ (exec fuel c s).1.writeLog.count k :=
  TOk.tx_le (exec_t fuel c s h) k

/-- a fresh channel satisfies the invariant -/
theorem TInv.init (s : St) (ht : s.txs = []) (hc : s.conns = []) : TInv s := by
  unfold TInv
  have hp : tproj s = ⟨[], [], s.nextFd, s.writeLog⟩ := by unfold tproj; rw [ht, hc]; rfl
  rw [hp]
  exact { fdNodup := List.nodup_nil, fdLt := fun e he => (by cases he), bal := fun k => Nat.zero_le _ }

end Cares.Chan
