import CaresLemmas.HTableBasic
/-! Helper lemmas for the `ares_htable` model: the abstraction `abs` under the three ways an
    operation changes the multiset of nodes (add one, replace one, drop one), and bucket-local lookup. -/
namespace Cares.Dsa.HTable
open Cares.Generated
variable {K V : Type}

theorem mem_ents (bs : List (Option (List (K × V)))) (e : K × V) :
    e ∈ ents bs ↔ ∃ (j : Nat) (l : List (K × V)), bs[j]? = some (some l) ∧ e ∈ l := by
  induction bs with
  | nil => simp [ents]
  | cons b bs ih =>
    rw [ents_cons, List.mem_append, ih]
    constructor
    · rintro (h | ⟨j, l, hj, hm⟩)
      · cases b with
        | none => simp at h
        | some l => exact ⟨0, l, rfl, h⟩
      · exact ⟨j + 1, l, by simpa using hj, hm⟩
    · rintro ⟨j, l, hj, hm⟩
      cases j with
      | zero =>
        simp at hj; subst hj; exact Or.inl hm
      | succ j => exact Or.inr ⟨j, l, by simpa using hj, hm⟩

theorem bucketAt_sublist (bs : List (Option (List (K × V)))) (i : Nat) : (bucketAt bs i).Sublist (ents bs) := by
  by_cases h : i < bs.length
  · rw [ents_split bs i h]
    exact (List.sublist_append_left _ _).trans (List.sublist_append_right _ _)
  · unfold bucketAt
    rw [List.getElem?_eq_none (by omega)]
    exact List.nil_sublist _

theorem bucketAt_of_getElem? (bs : List (Option (List (K × V)))) (i : Nat) (l) (h : bs[i]? = some (some l)) :
    bucketAt bs i = l := by
  unfold bucketAt; rw [h]

/-- ares_htable_get looks only into the bucket the key hashes to; that finds whatever a search through
    all nodes would find -/
theorem find_bucket_eq_find_all (ops : HOps K) (hl : Lawful ops) (bs : List (Option (List (K × V)))) (size : Nat)
    (placed : ∀ i l, bs[i]? = some (some l) → ∀ e ∈ l, hidx ops size e.1 = i)
    (hu : KeysDiffer ops (ents bs)) (q : K) :
    findIn ops q (bucketAt bs (hidx ops size q)) = (ents bs).find? (fun e => ops.eq q e.1) := by
  unfold findIn
  apply Option.ext
  intro e
  rw [find?_some_iff ops hl _ (hu.sublist (bucketAt_sublist bs _)), find?_some_iff ops hl _ hu]
  constructor
  · rintro ⟨hm, he⟩; exact ⟨(bucketAt_sublist bs _).subset hm, he⟩
  · rintro ⟨hm, he⟩
    refine ⟨?_, he⟩
    obtain ⟨j, l, hj, hml⟩ := (mem_ents bs e).1 hm
    have hji := placed j l hj e hml
    have : hidx ops size q = j := by
      rw [← hji]; unfold hidx; rw [hl.hash_eq _ _ he]
    rw [this, bucketAt_of_getElem? bs j l hj]; exact hml

theorem find?_cons_perm (ops : HOps K) (hl : Lawful ops) (es R : List (K × V)) (x : K × V) (hp : es.Perm (x :: R))
    (hu : KeysDiffer ops es) (q : K) :
    es.find? (fun e => ops.eq q e.1) = if ops.eq q x.1 then some x else R.find? (fun e => ops.eq q e.1) := by
  rw [find?_perm ops hl es (x :: R) hp hu q, List.find?_cons]
  cases ops.eq q x.1 <;> rfl

theorem find?_rest_none (ops : HOps K) (hl : Lawful ops) (R : List (K × V)) (x : K × V)
    (hu : KeysDiffer ops (x :: R)) (q : K) (hq : ops.eq q x.1 = true) :
    R.find? (fun e => ops.eq q e.1) = none := by
  rw [List.find?_eq_none]
  intro e he
  have hu := List.pairwise_cons.1 hu
  have h1 := hu.1 e he
  intro h2
  have := hl.trans _ _ _ (hl.symm _ _ hq) (by simpa using h2)
  rw [this] at h1; cases h1

theorem keysDiffer_replace (ops : HOps K) (hl : Lawful ops) (R : List (K × V)) (old new : K × V)
    (hu : KeysDiffer ops (old :: R)) (he : ops.eq new.1 old.1 = true) : KeysDiffer ops (new :: R) := by
  have hu := List.pairwise_cons.1 hu
  refine List.pairwise_cons.2 ⟨?_, hu.2⟩
  intro e hm
  have h1 := hu.1 e hm
  cases h : ops.eq new.1 e.1 with
  | false => rfl
  | true =>
    have := hl.trans _ _ _ (hl.symm _ _ he) h
    rw [this] at h1; cases h1

theorem keysDiffer_add (ops : HOps K) (R : List (K × V)) (new : K × V)
    (hu : KeysDiffer ops R) (hn : R.find? (fun e => ops.eq new.1 e.1) = none) : KeysDiffer ops (new :: R) := by
  refine List.pairwise_cons.2 ⟨?_, hu⟩
  intro e hm
  rw [List.find?_eq_none] at hn
  have := hn e hm
  simpa using this

theorem findIn_some_split (ops : HOps K) (k : K) (l : List (K × V)) (old : K × V) (h : findIn ops k l = some old) :
    ops.eq k old.1 = true ∧ (l.Perm (old :: removeFirst ops k l)) ∧
      (∀ new, (replaceFirst ops k new l).Perm (new :: removeFirst ops k l)) ∧
      (∀ new, (replaceFirst ops k new l).length = l.length) ∧ (removeFirst ops k l).length + 1 = l.length ∧
      (∀ new e, e ∈ replaceFirst ops k new l → e = new ∨ e ∈ l) ∧ (∀ e, e ∈ removeFirst ops k l → e ∈ l) := by
  -- the two regroupings carry everything else
  have key : ops.eq k old.1 = true ∧ l.Perm (old :: removeFirst ops k l) ∧
      ∀ new, (replaceFirst ops k new l).Perm (new :: removeFirst ops k l) := by
    unfold findIn at h
    induction l with
    | nil => simp at h
    | cons a l ih =>
      by_cases ha : ops.eq k a.1 = true
      · rw [List.find?_cons_of_pos (by simpa using ha)] at h
        cases h
        refine ⟨ha, ?_⟩
        simp only [replaceFirst, removeFirst, ha, ↓reduceIte]
        exact ⟨List.Perm.refl _, fun _ => List.Perm.refl _⟩
      · rw [List.find?_cons_of_neg (by simpa using ha)] at h
        obtain ⟨h1, h2, h3⟩ := ih h
        have ha' : ops.eq k a.1 = false := by simpa using ha
        refine ⟨h1, ?_⟩
        simp only [replaceFirst, removeFirst, ha', Bool.false_eq_true, ↓reduceIte]
        exact ⟨(List.Perm.cons a h2).trans (List.Perm.swap _ _ _),
          fun new => (List.Perm.cons a (h3 new)).trans (List.Perm.swap _ _ _)⟩
  obtain ⟨he, p1, p2⟩ := key
  have l1 : (removeFirst ops k l).length + 1 = l.length := p1.length_eq.symm
  refine ⟨he, p1, p2, fun new => (p2 new).length_eq.trans l1, l1, ?_,
    fun e he => p1.symm.subset (List.mem_cons_of_mem _ he)⟩
  intro new e he
  rcases List.mem_cons.1 ((p2 new).subset he) with h | h
  · exact Or.inl h
  · exact Or.inr (p1.symm.subset (List.mem_cons_of_mem _ h))

end Cares.Dsa.HTable
