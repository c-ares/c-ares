import CaresLemmas.DnsSafe
import CaresLemmas.BitLemmas
import CaresLemmas.ListLemmas
/-!
# Reader facts shared by C02, C03 and C04, and the shape of a successfully parsed record

Closed forms of the reader steps at a valid cursor (`be16At_eq`, `fetchStrDup_ok_iff`, `rrRemainingLen_eq`,
`parseRR_frame`) on which the safety / shape lemmas (C02), the write-then-parse lemmas (`Write*.lean`, C03) and the
agreement with the RFC reference (`DnsRfc*.lean`, C04) all rest; then the predicates of C02 `result_shape` and the
one walk over the decoders (`post_parseField` … `post_parseMsg`, in terms of `Post` of `DnsSafe.lean`) from which
both "no fault, cursor inside the buffer" and the shape of an accepted record are read off.
-/
namespace Cares.Dns
open Cares.Generated

theorem P.bind_eq_ok {α β : Type} {m : P α} {f : α → P β} {off off2 : Nat} {b : β}
    (h : (m >>= f) off = .ok b off2) : ∃ a off1, m off = .ok a off1 ∧ f a off1 = .ok b off2 := by
  cases hm : m off with
  | ok a off1 => exact ⟨a, off1, rfl, by rw [P.bind_ok hm] at h; exact h⟩
  | err e => rw [P.bind_err hm] at h; cases h
  | fault k => rw [P.bind_fault hm] at h; cases h

theorem P.map_eq_ok {α β : Type} {m : P α} {f : α → β} {off off2 : Nat} {b : β}
    (h : (m >>= fun a => pure (f a)) off = .ok b off2) : ∃ a, m off = .ok a off2 ∧ b = f a := by
  obtain ⟨a, off1, h1, h2⟩ := P.bind_eq_ok h
  cases h2
  exact ⟨a, h1, rfl⟩

theorem P.map_ok {α β : Type} {m : P α} {f : α → β} {off off2 : Nat} {a : α} (h : m off = .ok a off2) :
    (m >>= fun a => pure (f a)) off = .ok (f a) off2 := by
  rw [P.bind_ok h]; rfl

theorem slice_length {bs : Bytes} {off len : Nat} (h : off + len ≤ bs.size) : (slice bs off len).length = len := by
  unfold slice
  rw [Array.length_toList, Array.size_extract]
  omega

theorem be16At_eq {bs : Bytes} {p : Nat} (h : p + 2 ≤ bs.size) :
    be16At bs p h = bs[p].toNat * 256 + bs[p + 1].toNat :=
  shl_or _ _ 8 bs[p + 1].toNat_lt

/-- the octets are below 256, so each shifted octet lies above everything OR-ed in to its right -/
theorem be32At_eq {bs : Bytes} {p : Nat} (h : p + 4 ≤ bs.size) :
    be32At bs p h =
      ((bs[p].toNat * 256 + bs[p + 1].toNat) * 256 + bs[p + 2].toNat) * 256 + bs[p + 3].toNat := by
  have h1 := bs[p + 1].toNat_lt
  have h2 := bs[p + 2].toNat_lt
  have h3 := bs[p + 3].toNat_lt
  unfold be32At
  rw [Nat.or_assoc, Nat.or_assoc, shl_or _ _ 8 h3, shl_or _ _ 16 (by omega), shl_or _ _ 24 (by omega)]
  omega

theorem be16At_lt {bs : Bytes} {off : Nat} (h : off + 2 ≤ bs.size) : be16At bs off h < 65536 := by
  have h1 := bs[off].toNat_lt
  have h2 := bs[off + 1].toNat_lt
  rw [be16At_eq]; omega

theorem be32At_lt {bs : Bytes} {off : Nat} (h : off + 4 ≤ bs.size) : be32At bs off h < 4294967296 := by
  have h1 := bs[off].toNat_lt
  have h2 := bs[off + 1].toNat_lt
  have h3 := bs[off + 2].toNat_lt
  have h4 := bs[off + 3].toNat_lt
  rw [be32At_eq]; omega

theorem subChecked_eq (a b off : Nat) (h : b ≤ a) : subChecked a b off = .ok (a - b) off := if_pos h

/-- `ares_dns_rr_remaining_len` in closed form: `S` is where RDATA starts, `origLen` the buffer length
    there; what remains is the distance to the end `S + rdlength` of RDATA -/
theorem rrRemainingLen_eq {A : Bytes} {S origLen rdlength p : Nat} (hp : p ≤ A.size) (hS : S ≤ p)
    (ho : origLen = A.size - S) :
    rrRemainingLen A origLen rdlength p = .ok (S + rdlength - p) p := by
  obtain ⟨k, rfl⟩ := Nat.exists_eq_add_of_le hS
  obtain ⟨t, ht⟩ := Nat.exists_eq_add_of_le hp
  have e0 : origLen = k + t := by rw [ho, ht, Nat.add_assoc, Nat.add_sub_cancel_left]
  have e1 : A.size - (S + k) = t := by rw [ht, Nat.add_sub_cancel_left]
  unfold rrRemainingLen
  rw [P.bind_ok (bufLen_eq hp), e1, e0, P.bind_ok (subChecked_eq _ _ _ (Nat.le_add_left _ _)), Nat.add_sub_cancel,
    Nat.add_sub_add_left]
  split
  · rw [Nat.sub_eq_zero_of_le ‹_›]; rfl
  · rfl

theorem effectiveType_zero (sect : Sect) (rawType : Nat) :
    effectiveType 0 sect rawType = if recTypeValid rawType false then rawType else RecType.rawRR := by
  unfold effectiveType
  simp

section closed
variable {bs : Bytes}

theorem slice_zero (bs : Bytes) (p : Nat) : slice bs p 0 = [] := by simp [slice]

/-- closed form of `ares_buf_parse_dns_str` (printable validation on) -/
theorem parseDnsStr_eq {p rem : Nat} (h : p ≤ bs.size) :
    parseDnsBinstr bs rem true p =
      if rem = 0 then .err .ebadresp
      else if hp : p < bs.size then
        (if bs[p].toNat > rem - 1 then .err .ebadresp
         else if p + 1 + bs[p].toNat ≤ bs.size then
           (if (slice bs (p + 1) bs[p].toNat).all (fun c => isPrint c.toNat) then
              .ok (slice bs (p + 1) bs[p].toNat) (p + 1 + bs[p].toNat)
            else .err .ebadstr)
         else .err .ebadresp)
      else .err .ebadresp := by
  unfold parseDnsBinstr
  by_cases hr : rem = 0
  · rw [if_pos hr, if_pos hr]; rfl
  · rw [if_neg hr, if_neg hr]
    by_cases hp : p < bs.size
    · rw [dif_pos hp]
      have hf : fetchByte bs p = .ok bs[p] (p + 1) := by rw [fetchByte_eq h, dif_pos hp]
      rw [P.bind_ok hf]
      by_cases hl : bs[p].toNat > rem - 1
      · rw [if_pos hl, if_pos hl]; rfl
      · rw [if_neg hl, if_neg hl]
        by_cases hz : bs[p].toNat ≠ 0
        · rw [if_pos hz, P.bind_ok (bufLen_eq (by omega))]
          by_cases hfit : p + 1 + bs[p].toNat ≤ bs.size
          · rw [if_pos hfit, if_pos ⟨rfl, by omega⟩, P.bind_ok (rawSlice_eq hfit)]
            by_cases hpr : (slice bs (p + 1) bs[p].toNat).all (fun c => isPrint c.toNat) = true
            · rw [if_pos hpr, if_neg (by simp [hpr]), fetchBytes_eq (by omega), if_pos ⟨hz, hfit⟩]
            · rw [if_neg hpr, if_pos (by simpa using hpr)]; rfl
          · rw [if_neg hfit, if_neg (by omega), fetchBytes_eq (by omega), if_neg (by omega)]
        · have hz' : bs[p].toNat = 0 := by omega
          rw [if_neg hz, if_pos (by omega)]
          simp only [hz', P.pure_apply, Nat.add_zero, slice_zero]
          rfl
    · rw [dif_neg hp]
      have hf : fetchByte bs p = .err .ebadresp := by rw [fetchByte_eq h, dif_neg hp]
      rw [P.bind_err hf]

theorem parseDnsStr_ok_iff {p p' rem : Nat} {s : BStr} (h : p ≤ bs.size) :
    parseDnsBinstr bs rem true p = .ok s p' ↔
      ∃ hp : p < bs.size, bs[p].toNat + 1 ≤ rem ∧ p + 1 + bs[p].toNat ≤ bs.size ∧
        (slice bs (p + 1) bs[p].toNat).all (fun c => isPrint c.toNat) = true ∧ s = slice bs (p + 1) bs[p].toNat ∧
        p' = p + 1 + bs[p].toNat := by
  rw [parseDnsStr_eq h]
  constructor
  · intro hr
    by_cases h0 : rem = 0
    · rw [if_pos h0] at hr; cases hr
    · rw [if_neg h0] at hr
      by_cases hp : p < bs.size
      · rw [dif_pos hp] at hr
        by_cases hl : bs[p].toNat > rem - 1
        · rw [if_pos hl] at hr; cases hr
        · rw [if_neg hl] at hr
          by_cases hfit : p + 1 + bs[p].toNat ≤ bs.size
          · rw [if_pos hfit] at hr
            by_cases hpr : (slice bs (p + 1) bs[p].toNat).all (fun c => isPrint c.toNat) = true
            · rw [if_pos hpr] at hr
              injection hr with e1 e2
              exact ⟨hp, by omega, hfit, hpr, e1.symm, e2.symm⟩
            · rw [if_neg hpr] at hr; cases hr
          · rw [if_neg hfit] at hr; cases hr
      · rw [dif_neg hp] at hr; cases hr
  · rintro ⟨hp, hl, hfit, hpr, rfl, rfl⟩
    rw [if_neg (by omega), dif_pos hp, if_neg (by omega), if_pos hfit, if_pos hpr]

theorem optStep_eq {p : Nat} (h : p ≤ bs.size) :
    optStep bs p =
      if h4 : p + 4 ≤ bs.size then
        (if p + 4 + be16At bs (p + 2) (by omega) ≤ bs.size then
           .ok (be16At bs p (by omega), slice bs (p + 4) (be16At bs (p + 2) (by omega)))
             (p + 4 + be16At bs (p + 2) (by omega))
         else .err .ebadresp)
      else .err .ebadresp := by
  unfold optStep
  by_cases h4 : p + 4 ≤ bs.size
  · rw [dif_pos h4]
    have f1 : fetchBe16 bs p = .ok (be16At bs p (by omega)) (p + 2) := by
      rw [fetchBe16_eq h, dif_pos (by omega)]
    have f2 : fetchBe16 bs (p + 2) = .ok (be16At bs (p + 2) (by omega)) (p + 2 + 2) := by
      rw [fetchBe16_eq (by omega), dif_pos (by omega)]
    rw [P.bind_ok f1, P.bind_ok f2]
    by_cases hz : be16At bs (p + 2) (by omega) ≠ 0
    · rw [if_pos hz]
      by_cases hfit : p + 4 + be16At bs (p + 2) (by omega) ≤ bs.size
      · rw [if_pos hfit]
        have f3 : fetchBytes bs (be16At bs (p + 2) (by omega)) (p + 2 + 2) =
            .ok (slice bs (p + 4) (be16At bs (p + 2) (by omega))) (p + 4 + be16At bs (p + 2) (by omega)) := by
          rw [fetchBytes_eq (by omega), if_pos ⟨hz, by omega⟩]
        rw [P.bind_ok f3]; rfl
      · rw [if_neg hfit]
        have f3 : fetchBytes bs (be16At bs (p + 2) (by omega)) (p + 2 + 2) = .err .ebadresp := by
          rw [fetchBytes_eq (by omega), if_neg (by omega)]
        rw [P.bind_err f3]
    · have hz' : be16At bs (p + 2) (by omega) = 0 := by omega
      rw [if_neg hz, if_pos (by omega)]
      simp only [hz', P.pure_apply, Nat.add_zero, slice_zero]
  · rw [dif_neg h4]
    by_cases h2 : p + 2 ≤ bs.size
    · have f1 : fetchBe16 bs p = .ok (be16At bs p h2) (p + 2) := by rw [fetchBe16_eq h, dif_pos h2]
      have f2 : fetchBe16 bs (p + 2) = .err .ebadresp := by rw [fetchBe16_eq (by omega), dif_neg (by omega)]
      rw [P.bind_ok f1, P.bind_err f2]
    · have f1 : fetchBe16 bs p = .err .ebadresp := by rw [fetchBe16_eq h, dif_neg h2]
      rw [P.bind_err f1]

/-- closed form of one `<character-string>` of the TXT loop (no printable validation) -/
theorem multistringStep_eq {p : Nat} (h : p ≤ bs.size) :
    multistringStep bs false p =
      if hp : p < bs.size then
        (if p + 1 + bs[p].toNat ≤ bs.size then .ok (slice bs (p + 1) bs[p].toNat) (p + 1 + bs[p].toNat)
         else .err .ebadresp)
      else .err .ebadresp := by
  unfold multistringStep
  by_cases hp : p < bs.size
  · rw [dif_pos hp]
    have hf : fetchByte bs p = .ok bs[p] (p + 1) := by rw [fetchByte_eq h, dif_pos hp]
    rw [P.bind_ok hf, P.bind_ok (bufLen_eq (by omega))]
    rw [if_neg (by simp)]
    by_cases hz : bs[p].toNat ≠ 0
    · rw [if_pos hz, fetchBytes_eq (by omega)]
      by_cases hfit : p + 1 + bs[p].toNat ≤ bs.size
      · rw [if_pos hfit, if_pos ⟨hz, hfit⟩]
      · rw [if_neg hfit, if_neg (by omega)]
    · have hz' : bs[p].toNat = 0 := by omega
      rw [if_neg hz, if_pos (by omega)]
      simp only [hz', P.pure_apply, Nat.add_zero, slice_zero]
  · rw [dif_neg hp]
    have hf : fetchByte bs p = .err .ebadresp := by rw [fetchByte_eq h, dif_neg hp]
    rw [P.bind_err hf]

end closed

/-- the option list after the loop of `ares_dns_parse_rr_opt` / SVCB params stored each pair of `tl` with
    `ares_dns_rr_set_opt_own` -/
def optFold (acc : List (Nat × BStr)) (tl : List (Nat × BStr)) : List (Nat × BStr) :=
  tl.foldl (fun a kv => setOpt a kv.1 kv.2) acc

theorem fetchStrDup_ok_iff {bs : Bytes} {off off' len : Nat} {s : BStr} (h : off ≤ bs.size) :
    fetchStrDup bs len off = .ok s off' ↔
      len ≠ 0 ∧ off + len ≤ bs.size ∧ ((slice bs off len).all fun c => isPrint c.toNat) = true ∧
        s = slice bs off len ∧ off' = off + len := by
  unfold fetchStrDup
  rw [P.bind_ok (bufLen_eq h)]
  by_cases hc : len = 0 ∨ bs.size - off < len
  · rw [if_pos hc]
    exact ⟨nofun, fun ⟨_, _, _⟩ => by omega⟩
  · rw [if_neg hc, P.bind_ok (rawSlice_eq (by omega))]
    by_cases hpr : (!(slice bs off len).all fun c => isPrint c.toNat) = true
    · rw [if_pos hpr]
      exact ⟨nofun, fun ⟨_, _, hp, _⟩ => by rw [hp] at hpr; cases hpr⟩
    · rw [if_neg hpr, P.bind_ok (by rw [consume_eq h, if_pos (by omega)])]
      constructor
      · intro h'
        cases h'
        exact ⟨by omega, by omega, by simpa using hpr, rfl, rfl⟩
      · rintro ⟨_, _, _, rfl, rfl⟩
        rfl

/-- what a successfully parsed field of each script kind looks like -/
inductive ValOk : FieldKind → Val → Prop
  | be16 {n : Nat} : n < 65536 → ValOk .be16 (.u16 n)
  | be32 {n : Nat} : n < 4294967296 → ValOk .be32 (.u32 n)
  | u8 {n : Nat} : n < 256 → ValOk .u8 (.u8 n)
  | name {isHost : Bool} {s : BStr} : ValOk (.name isHost) (.name (some s))
  | str {blank : Bool} {s : BStr} : s.length ≤ 255 → ValOk (.str blank) (.str (some s))
  | addr4 {b : BStr} : b.length = 4 → ValOk .addr4 (.addr b)
  | addr6 {b : BStr} : b.length = 16 → ValOk .addr6 (.addr6 b)
  | abin {vp : Bool} {l : List BStr} : l ≠ [] → ValOk (.abin vp) (.abin l)
  | binRest {b : BStr} : b ≠ [] → ValOk .binRest (.bin (some b))
  | strRest {s : BStr} : s ≠ [] → ValOk .strRest (.name (some s))
  | opts {l : List (Nat × BStr)} : ValOk .opts (.opt l)

/-- does a script kind fill a key of datatype `dt` (`ares_dns_datatype_t`)? -/
def kindDatatypeOk : FieldKind → Nat → Bool
  | .be16, dt => dt == 4
  | .be32, dt => dt == 5
  | .u8, dt => dt == 3
  | .name _, dt => dt == 6
  | .str _, dt => dt == 7
  | .addr4, dt => dt == 1
  | .addr6, dt => dt == 2
  | .abin _, dt => dt == 11
  | .binRest, dt => dt == 8 || dt == 9
  | .strRest, dt => dt == 6
  | .opts, dt => dt == 10

/-- a value is set (non-NULL) and fits the datatype of its key -/
def Val.datatypeOk : Val → Nat → Bool
  | .addr b, 1 => b.length == 4
  | .addr6 b, 2 => b.length == 16
  | .u8 n, 3 => n < 256
  | .u16 n, 4 => n < 65536
  | .u32 n, 5 => n < 4294967296
  | .name (some _), 6 => true
  | .str (some _), 7 => true
  | .bin (some _), 8 => true
  | .bin (some _), 9 => true
  | .opt _, 10 => true
  | .abin _, 11 => true
  | _, _ => false

/-- generated-table obligation: every script lists exactly the keys `ares_dns_rr_get_keys` reports for
    its type, in that order, and each script element fills a key of a matching datatype -/
def scriptTableOk : Bool :=
  parseScript.all fun p =>
    (p.2.map (·.2) == rrKeys p.1) && p.2.all fun kk => kindDatatypeOk kk.1 (keyDatatype kk.2)

theorem scriptTable_ok : scriptTableOk = true := by decide

theorem ValOk.datatypeOk {kind : FieldKind} {v : Val} {dt : Nat} (h : ValOk kind v)
    (hk : kindDatatypeOk kind dt = true) : v.datatypeOk dt = true := by
  cases h <;> simp only [kindDatatypeOk, beq_iff_eq, Bool.or_eq_true] at hk
  case binRest => rcases hk with rfl | rfl <;> rfl
  all_goals subst hk; simp [Val.datatypeOk, *]

theorem scriptOf_mem {tbl : List (Nat × Script)} {t : Nat} {sc : Script} (h : scriptOf tbl t = some sc) :
    (t, sc) ∈ tbl := by
  unfold scriptOf at h
  obtain ⟨e, hf, rfl⟩ := Option.map_eq_some_iff.1 h
  exact find?_key_eq (key := Prod.fst) hf ▸ List.mem_of_find?_eq_some hf

theorem scriptOf_ok {type : Nat} {script : Script} (h : scriptOf parseScript type = some script) :
    script.map (·.2) = rrKeys type ∧ ∀ kk ∈ script, kindDatatypeOk kk.1 (keyDatatype kk.2) = true := by
  simpa using List.all_eq_true.1 scriptTable_ok _ (scriptOf_mem h)

/-- a fully formed RR: every key of its type is present in `ares_dns_rr_get_keys` order, set, and of the
    key's datatype; type and class pass the validity checks; the type is a real one -/
def RR.WF (rr : RR) : Prop :=
  rr.fields.map (·.1) = rrKeys rr.type ∧
  (∀ kv ∈ rr.fields, kv.2.datatypeOk (keyDatatype kv.1) = true) ∧
  recTypeValid rr.type false = true ∧ classValid rr.cls rr.type false = true ∧
  rr.type ≠ RecType.any ∧ rr.ttl < 4294967296

theorem and_lt_of_mask (x m : Nat) : x &&& m ≤ m := Nat.and_le_right

/-- a fully formed record for the message whose header is `h` -/
structure Rec.WF (r : Rec) (h : Header) : Prop where
  qdcount : r.qd.length = h.qdcount ∧ h.qdcount = 1
  ancount : r.an.length = h.ancount
  nscount : r.ns.length = h.nscount
  arcount : r.ar.length = h.arcount
  questions : ∀ q ∈ r.qd, recTypeValid q.qtype true = true ∧ classValid q.qclass q.qtype true = true
  rrs : ∀ rr ∈ r.an ++ r.ns ++ r.ar, rr.WF
  header : r.id = h.id ∧ r.flags = h.flags ∧ r.opcode = h.opcode ∧ opcodeValid r.opcode = true ∧
    rcodeValid r.rcode = true ∧ r.id < 65536

section walk
variable {bs : Bytes} {off : Nat}

theorem post_fetchBe16 (h : off ≤ bs.size) : Post bs (fetchBe16 bs) off fun v _ => v < 65536 := by
  unfold Post
  rw [fetchBe16_eq h]
  by_cases hc : off + 2 ≤ bs.size
  · rw [dif_pos hc]; exact ⟨by omega, hc, be16At_lt _⟩
  · rw [dif_neg hc]; trivial

theorem post_fetchBe32 (h : off ≤ bs.size) : Post bs (fetchBe32 bs) off fun v _ => v < 4294967296 := by
  unfold Post
  rw [fetchBe32_eq h]
  by_cases hc : off + 4 ≤ bs.size
  · rw [dif_pos hc]; exact ⟨by omega, hc, be32At_lt _⟩
  · rw [dif_neg hc]; trivial

theorem post_fetchBytes (len : Nat) (h : off ≤ bs.size) :
    Post bs (fetchBytes bs len) off fun v _ => v.length = len ∧ len ≠ 0 := by
  unfold Post
  rw [fetchBytes_eq h]
  by_cases hc : len ≠ 0 ∧ off + len ≤ bs.size
  · rw [if_pos hc]; exact ⟨by omega, hc.2, slice_length hc.2, hc.1⟩
  · rw [if_neg hc]; trivial

theorem post_parseDnsBinstr (rem : Nat) (v : Bool) (h : off ≤ bs.size) :
    Post bs (parseDnsBinstr bs rem v) off fun s _ => s.length ≤ 255 := by
  unfold parseDnsBinstr
  refine Post.ite (fun _ => Post.fail _) fun _ => ?_
  refine (Post.of_safe (safe_fetchByte h)).bind fun len off1 _ _ hle1 _ => ?_
  have hfb : Post bs (fetchBytes bs len.toNat) off1 fun s _ => s.length ≤ 255 :=
    (post_fetchBytes _ hle1).mono fun s _ _ _ hs => by have := len.toNat_lt; omega
  refine Post.ite (fun _ => Post.fail _) fun _ => Post.ite (fun _ => ?_) fun _ => Post.pure _ hle1 (Nat.zero_le _)
  refine Post.bind_bufLen hle1 (Post.ite (fun hc => ?_) fun _ => hfb)
  exact Post.bind_rawSlice (by omega) (Post.ite (fun _ => Post.fail _) fun _ => hfb)

theorem safe_multistringStep (v : Bool) (h : off ≤ bs.size) : SafeAt bs (multistringStep bs v) off := by
  unfold multistringStep
  refine Post.safe (Q := fun _ _ => True) ((Post.of_safe (safe_fetchByte h)).bind fun len off1 _ _ hle1 _ => ?_)
  have hfb := (post_fetchBytes len.toNat hle1).mono fun _ _ _ _ _ => trivial
  refine Post.bind_bufLen hle1 (Post.ite (fun hc => ?_) fun _ => Post.ite (fun _ => hfb) fun _ => Post.pure _ hle1 trivial)
  exact Post.bind_rawSlice (by omega) (Post.ite (fun _ => Post.fail _) fun _ => hfb)

theorem post_multistringLoop (origLen rem : Nat) (v : Bool) (acc : List BStr) (ran : Bool) (pos : Nat)
    (h : pos ≤ bs.size) (ho : bs.size - pos ≤ origLen) (hacc : ran = true → acc ≠ []) :
    Post bs (multistringLoop bs origLen rem v acc ran) pos fun l _ => l ≠ [] := by
  unfold Post
  fun_induction multistringLoop bs origLen rem v acc ran pos
  all_goals (try trivial)
  -- the leaves of `multistringLoop` in source order: length test err / fault, step err / fault, step ok, done, never ran
  case case2 => rename_i hx; rw [bufLen_sub_eq h ho] at hx; simp at hx  -- the length test cannot fault
  case case4 => rename_i hx; exact ((safe_multistringStep v h).not_fault hx).elim  -- nor the step
  case case5 =>  -- one more string, go on
    rename_i hx ih
    have := multistringStep_ok hx
    have := ih (by omega) (by omega) (by simp)
    split at this <;> simp_all
    omega
  case case6 => exact ⟨Nat.le_refl _, h, hacc rfl⟩  -- done, and the body ran

theorem post_parseMultistring (rem : Nat) (v : Bool) (h : off ≤ bs.size) :
    Post bs (parseMultistring bs rem v) off fun l _ => l ≠ [] := by
  unfold parseMultistring
  refine Post.bind_bufLen h (Post.ite (fun _ => Post.fail _) fun _ => ?_)
  exact post_multistringLoop _ rem v [] false off h (by omega) (by simp)

theorem safe_optStep (h : off ≤ bs.size) : SafeAt bs (optStep bs) off := by
  unfold optStep
  refine Post.safe (Q := fun _ _ => True) ((post_fetchBe16 h).bind fun o off1 _ _ hle1 _ =>
    (post_fetchBe16 hle1).bind fun len off2 _ _ hle2 _ => Post.ite (fun _ => ?_) fun _ => Post.pure _ hle2 trivial)
  exact (post_fetchBytes len hle2).map fun _ _ _ => trivial

theorem safe_optLoop (origLen rdlength : Nat) (acc : List (Nat × BStr)) {pos : Nat} (h : pos ≤ bs.size)
    (ho : bs.size - pos ≤ origLen) : SafeAt bs (optLoop bs origLen rdlength acc) pos := by
  unfold SafeAt
  fun_induction optLoop bs origLen rdlength acc pos
  all_goals (try trivial)
  -- the leaves of `optLoop` in source order: remaining-length err / fault, step err / fault, step ok, done
  case case2 => rename_i hx; exact ((safe_rrRemainingLen origLen rdlength h ho).not_fault hx).elim
  case case4 => rename_i hx; exact ((safe_optStep h).not_fault hx).elim
  case case5 =>  -- one more option, go on
    rename_i hx ih
    have := optStep_ok hx
    have := ih (by omega) (by omega)
    split at this <;> simp_all
    omega
  case case6 => exact ⟨Nat.le_refl _, h⟩  -- done

theorem post_parseField (origLen rdlength : Nat) (kind : FieldKind) (h : off ≤ bs.size) (ho : bs.size - off ≤ origLen) :
    Post bs (parseField bs origLen rdlength kind) off fun v _ => ValOk kind v := by
  have hrem := Post.of_safe (safe_rrRemainingLen origLen rdlength h ho)
  cases kind with
  | be16 => exact (post_fetchBe16 h).map fun _ _ => .be16
  | be32 => exact (post_fetchBe32 h).map fun _ _ => .be32
  | u8 => exact (Post.of_safe (safe_fetchByte h)).map fun a _ _ => .u8 a.toNat_lt
  | name isHost => exact (Post.of_safe (safe_parseName isHost h)).map fun _ _ _ => .name
  | str blank =>
    refine hrem.bind fun rem _ _ _ hle1 _ => (post_parseDnsBinstr rem true hle1).bind fun s _ _ _ hle2 hs => ?_
    exact Post.ite (fun _ => Post.fail _) fun _ => Post.pure _ hle2 (.str hs)
  | addr4 => exact (post_fetchBytes 4 h).map fun _ _ hv => .addr4 hv.1
  | addr6 => exact (post_fetchBytes 16 h).map fun _ _ hv => .addr6 hv.1
  | abin v => exact (post_parseMultistring rdlength v h).map fun _ _ => .abin
  | binRest =>
    refine hrem.bind fun len _ _ _ hle1 _ => Post.ite (fun _ => Post.fail _) fun _ => ?_
    exact (post_fetchBytes len hle1).map fun b _ hb => .binRest fun h0 => by simp [h0] at hb; omega
  | strRest =>
    refine hrem.bind fun len off1 _ _ hle1 _ => Post.ite (fun _ => Post.fail _) fun _ => ?_
    refine Post.map (Q := fun s _ => s ≠ []) ?_ fun _ _ => .strRest
    have hs := safe_fetchStrDup len hle1
    unfold Post; unfold SafeAt at hs
    split <;> simp_all
    rename_i s o hr
    obtain ⟨h0, hfit, _, rfl, _⟩ := (fetchStrDup_ok_iff hle1).1 hr
    intro hb; apply h0; rw [← slice_length hfit, hb]; rfl
  | opts => exact (Post.of_safe (safe_optLoop origLen rdlength [] h ho)).map fun _ _ _ => .opts

theorem post_parseFields (origLen rdlength : Nat) (script : Script) :
    ∀ {off : Nat}, off ≤ bs.size → bs.size - off ≤ origLen →
      Post bs (parseFields bs origLen rdlength script) off fun fs _ =>
        fs.map (·.1) = script.map (·.2) ∧ ∀ kv ∈ fs, ∃ kind, (kind, kv.1) ∈ script ∧ ValOk kind kv.2 := by
  induction script with
  | nil => intro off h _; exact Post.pure _ h (by simp)
  | cons kk rest ih =>
    intro off h ho
    obtain ⟨kind, key⟩ := kk
    unfold parseFields
    refine (post_parseField origLen rdlength kind h ho).bind fun v off1 _ _ hle1 hv => ?_
    refine (ih hle1 (by omega)).map fun vs _ ⟨hk, hvs⟩ => ⟨by simp [hk], fun kv hkv => ?_⟩
    rcases List.mem_cons.1 hkv with rfl | hm
    · exact ⟨kind, by simp, hv⟩
    · obtain ⟨k, hk, hv⟩ := hvs kv hm
      exact ⟨k, by simp [hk], hv⟩

theorem post_parseRRData (rdlength type rawType rawClass rawTtl : Nat) (h : off ≤ bs.size)
    (hc : rawClass < 65536) (ht : rawType < 65536) :
    Post bs (parseRRData bs rdlength type rawType rawClass rawTtl) off fun r _ =>
      r.1.map (·.1) = rrKeys type ∧ (∀ kv ∈ r.1, kv.2.datatypeOk (keyDatatype kv.1) = true) ∧
        type ≠ RecType.any := by
  unfold parseRRData
  refine Post.ite (fun _ => Post.fail _) fun hany => Post.ite (fun hopt => ?_) fun _ => Post.ite (fun hraw => ?_) fun _ => ?_
  · -- OPT: the four keys, with CLASS and the TTL split as the values
    subst hopt
    unfold parseRROpt
    refine Post.bind_bufLen h ((Post.of_safe (safe_optLoop _ rdlength [] h (by omega))).map fun opts _ _ =>
      ⟨by simp only [List.map_cons, List.map_nil]; decide, fun kv hkv => ?_, hany⟩)
    have h1 : (rawTtl >>> 16) &&& 0xFF ≤ 0xFF := Nat.and_le_right
    have h2 : rawTtl &&& 0xFFFF ≤ 0xFFFF := Nat.and_le_right
    simp only [List.mem_cons, List.not_mem_nil, or_false] at hkv
    rcases hkv with rfl | rfl | rfl | rfl
    · exact decide_eq_true hc
    · exact decide_eq_true (by omega : (rawTtl >>> 16) &&& 0xFF < 256)
    · exact decide_eq_true (by omega : rawTtl &&& 0xFFFF < 65536)
    · rfl
  · -- RAW_RR: the type and the octets
    subst hraw
    have hq : ∀ b : BStr, ([(Key.rawRRType, Val.u16 rawType), (Key.rawRRData, Val.bin (some b))].map (·.1) =
        rrKeys RecType.rawRR ∧ ∀ kv ∈ [(Key.rawRRType, Val.u16 rawType), (Key.rawRRData, Val.bin (some b))],
          kv.2.datatypeOk (keyDatatype kv.1) = true) ∧ RecType.rawRR ≠ RecType.any := fun b => by
      refine ⟨⟨by simp only [List.map_cons, List.map_nil]; decide, fun kv hkv => ?_⟩, hany⟩
      simp only [List.mem_cons, List.not_mem_nil, or_false] at hkv
      rcases hkv with rfl | rfl
      · exact decide_eq_true ht
      · rfl
    refine Post.map (Q := fun f _ => ∃ b, f = [(Key.rawRRType, Val.u16 rawType), (Key.rawRRData, Val.bin (some b))]) ?_
      fun f _ ⟨b, hb⟩ => hb ▸ ⟨(hq b).1.1, (hq b).1.2, hany⟩
    unfold parseRRRaw
    exact Post.ite (fun _ => Post.pure _ h ⟨_, rfl⟩) fun _ => (post_fetchBytes _ h).map fun b _ _ => ⟨b, rfl⟩
  · cases hs : scriptOf parseScript type with
    | none => exact Post.fail _
    | some script =>
      obtain ⟨tk, td⟩ := scriptOf_ok hs
      refine Post.bind_bufLen h ((post_parseFields _ rdlength script h (by omega)).map fun fs _ ⟨hk, hv⟩ =>
        ⟨by rw [hk, tk], fun kv hkv => ?_, hany⟩)
      obtain ⟨kind, hmem, hval⟩ := hv kv hkv
      exact hval.datatypeOk (td (kind, kv.1) hmem)

theorem post_parseRR (flags : Nat) (sect : Sect) (h : off ≤ bs.size) :
    Post bs (parseRR bs flags sect) off fun r _ => r.1.WF := by
  unfold parseRR
  refine (Post.of_safe (safe_parseName false h)).bind fun name _ _ _ h1 _ => ?_
  refine (post_fetchBe16 h1).bind fun rawType _ _ _ h2 lt2 => (post_fetchBe16 h2).bind fun qclass _ _ _ h3 lt3 => ?_
  refine (post_fetchBe32 h3).bind fun ttl _ _ _ h4 lt4 => (post_fetchBe16 h4).bind fun rdlength o5 _ _ h5 _ => ?_
  simp only
  refine Post.bind_bufLen h5 (Post.ite (fun _ => Post.fail _) fun _ => Post.ite (fun _ => Post.fail _) fun hvalid => ?_)
  refine Post.bind_bufLen h5 ((post_parseRRData _ _ _ _ _ h5 lt3 lt2).bind fun fr o6 _ h56 h6 ⟨hkeys, hvals, hany⟩ => ?_)
  obtain ⟨fields, hi⟩ := fr
  simp only
  refine Post.bind_bufLen h6 ((Post.of_safe (safe_subChecked (by omega) h6)).bind fun processed _ _ _ h7 _ => ?_)
  have hwf : (⟨name, effectiveType flags sect rawType, rrClass (effectiveType flags sect rawType) qclass,
      rrTtl (effectiveType flags sect rawType) ttl, fields⟩ : RR).WF := by
    simp only [Bool.not_eq_true, Bool.not_eq_false', rrAddValid, Bool.and_eq_true] at hvalid
    refine ⟨hkeys, hvals, hvalid.1, hvalid.2, hany, ?_⟩
    simp only [rrTtl]; split <;> omega
  refine Post.ite (fun _ => Post.fail _) fun _ => Post.ite (fun _ => ?_) fun _ => Post.pure _ h7 hwf
  exact (Post.of_safe (safe_consumeIgnore _ h7)).map fun _ _ _ => hwf

theorem post_parseRRs (flags : Nat) (sect : Sect) (n : Nat) : ∀ {off : Nat}, off ≤ bs.size →
    Post bs (parseRRs bs flags sect n) off fun r _ => r.1.length = n ∧ ∀ rr ∈ r.1, rr.WF := by
  induction n with
  | zero => intro off h; exact Post.pure _ h ⟨rfl, nofun⟩
  | succ n ih =>
    intro off h
    unfold parseRRs
    refine (post_parseRR flags sect h).bind fun r _ _ _ h1 hw => (ih h1).bind fun r2 _ _ _ h2 ⟨hl, hws⟩ => ?_
    obtain ⟨rr, hi⟩ := r
    obtain ⟨rest, hi'⟩ := r2
    refine Post.pure _ h2 ⟨by simp [hl], fun x hx => ?_⟩
    rcases List.mem_cons.1 hx with rfl | hm
    · exact hw
    · exact hws x hm

theorem post_parseQd (h : off ≤ bs.size) : Post bs (parseQd bs) off fun q _ =>
    recTypeValid q.qtype true = true ∧ classValid q.qclass q.qtype true = true := by
  unfold parseQd
  refine (Post.of_safe (safe_parseName false h)).bind fun name _ _ _ h1 _ => ?_
  refine (post_fetchBe16 h1).bind fun qtype _ _ _ h2 _ => (post_fetchBe16 h2).bind fun qclass _ _ _ h3 _ => ?_
  refine Post.ite (fun _ => Post.fail _) fun hv => Post.pure _ h3 ?_
  simpa using hv

theorem post_parseHeader (h : off ≤ bs.size) : Post bs (parseHeader bs) off fun hd _ =>
    hd.id < 65536 ∧ opcodeValid hd.opcode = true := by
  unfold parseHeader
  refine (post_fetchBe16 h).bind fun id _ _ _ h1 lid => (post_fetchBe16 h1).bind fun _ _ _ _ h2 _ => ?_
  refine (post_fetchBe16 h2).bind fun _ _ _ _ h3 _ => (post_fetchBe16 h3).bind fun _ _ _ _ h4 _ => ?_
  refine (post_fetchBe16 h4).bind fun _ _ _ _ h5 _ => (post_fetchBe16 h5).bind fun _ _ _ _ h6 _ => ?_
  refine Post.ite (fun _ => Post.fail _) fun hv => Post.pure _ h6 ⟨lid, ?_⟩
  simpa using (not_or.1 hv).1

/-- `ares_dns_parse_buf`: never a fault, and an accepted message gives a fully formed record -/
theorem post_parseMsg (flags : Nat) :
    Post bs (parseMsg bs flags) 0 fun r _ => ∃ hd o, parseHeader bs 0 = .ok hd o ∧ r.WF hd := by
  unfold parseMsg
  refine (post_parseHeader (Nat.zero_le _)).bind fun hd o1 hhd _ h1 ⟨hid, hop⟩ => ?_
  refine Post.ite (fun _ => Post.fail _) fun hq0 => Post.ite (fun _ => Post.fail _) fun hq1 => ?_
  refine (post_parseQd h1).bind fun q _ _ _ h2 hq => ?_
  refine (post_parseRRs flags .answer _ h2).bind fun r1 _ _ _ h3 ⟨l1, w1⟩ => ?_
  obtain ⟨an, hi1⟩ := r1
  refine (post_parseRRs flags .authority _ h3).bind fun r2 _ _ _ h4 ⟨l2, w2⟩ => ?_
  obtain ⟨ns, hi2⟩ := r2
  refine (post_parseRRs flags .additional _ h4).bind fun r3 _ _ _ h5 ⟨l3, w3⟩ => ?_
  obtain ⟨ar, hi3⟩ := r3
  refine Post.pure _ h5 ⟨hd, o1, hhd, ⟨by simp only [List.length_cons, List.length_nil]; omega, by omega⟩,
    l1, l2, l3, ?_, ?_, rfl, rfl, rfl, hop, ?_, hid⟩
  · intro q' hq'
    rw [List.mem_singleton.1 hq']
    exact hq
  · intro rr hrr
    simp only [List.mem_append] at hrr
    rcases hrr with (hrr | hrr) | hrr
    · exact w1 rr hrr
    · exact w2 rr hrr
    · exact w3 rr hrr
  · simp only
    split
    · assumption
    · decide

end walk

/-- `ares_dns_parse_rr` behind an owner name that ends at `q`: the ten fixed octets, RDLENGTH against the buffer,
    the validity checks of `ares_dns_record_rr_add`, the RDATA, and RDLENGTH against what the RDATA parser
    consumed; RDATA octets left over are skipped, so the RR always ends at `q + 10 + rdlength` -/
theorem parseRR_frame {bs : Bytes} {flags : Nat} {sect : Sect} {p q : Nat} {name : BStr}
    (hn : parseName bs false p = .ok name q) (hq : q ≤ bs.size) :
    parseRR bs flags sect p =
      if h10 : q + 10 ≤ bs.size then
        let rawType := be16At bs q (by omega)
        let qclass := be16At bs (q + 2) (by omega)
        let ttl := be32At bs (q + 4) (by omega)
        let rdlength := be16At bs (q + 8) (by omega)
        let type := effectiveType flags sect rawType
        if rdlength > bs.size - (q + 10) then .err .ebadresp
        else if rrAddValid type (rrClass type qclass) = false then .err .eformerr
        else
          match parseRRData bs rdlength type rawType qclass ttl (q + 10) with
          | .ok (fields, hi) p6 =>
            if p6 - (q + 10) > rdlength then .err .ebadresp
            else .ok (⟨name, type, rrClass type qclass, rrTtl type ttl, fields⟩, hi) (q + 10 + rdlength)
          | .err e => .err e
          | .fault k => .fault k
      else .err .ebadresp := by
  unfold parseRR
  rw [P.bind_ok hn]
  by_cases h10 : q + 10 ≤ bs.size
  · have f1 : fetchBe16 bs q = .ok (be16At bs q (by omega)) (q + 2) := by rw [fetchBe16_eq hq, dif_pos (by omega)]
    have f2 : fetchBe16 bs (q + 2) = .ok (be16At bs (q + 2) (by omega)) (q + 2 + 2) := by
      rw [fetchBe16_eq (by omega), dif_pos (by omega)]
    have f3 : fetchBe32 bs (q + 2 + 2) = .ok (be32At bs (q + 4) (by omega)) (q + 2 + 2 + 4) := by
      rw [fetchBe32_eq (by omega), dif_pos (by omega)]
    have f4 : fetchBe16 bs (q + 2 + 2 + 4) = .ok (be16At bs (q + 8) (by omega)) (q + 2 + 2 + 4 + 2) := by
      rw [fetchBe16_eq (by omega), dif_pos (by omega)]
    rw [dif_pos h10, P.bind_ok f1, P.bind_ok f2, P.bind_ok f3, P.bind_ok f4]
    simp only
    rw [P.bind_ok (bufLen_eq (by omega))]
    split
    · rfl
    · cases rrAddValid _ _ with
      | false => rfl
      | true =>
        rw [if_neg (by simp), if_neg (by simp), P.bind_ok (bufLen_eq (by omega))]
        cases g6 : parseRRData bs _ _ _ _ _ (q + 2 + 2 + 4 + 2) with
        | err e => rw [P.bind_err g6]
        | fault k => rw [P.bind_fault g6]
        | ok fr p6 =>
          obtain ⟨fields, hi⟩ := fr
          have b6 := ((post_parseRRData _ _ _ _ _ (by omega) (be16At_lt _) (be16At_lt _)).safe.ok g6)
          rw [P.bind_ok g6]
          simp only
          rw [P.bind_ok (bufLen_eq b6.2), P.bind_ok (subChecked_eq _ _ _ (by omega)),
            show bs.size - (q + 2 + 2 + 4 + 2) - (bs.size - p6) = p6 - (q + 10) by omega]
          split
          · rfl
          · split
            · rw [P.bind_ok (consumeIgnore_eq b6.2), if_pos (by omega)]
              simp only [P.pure_apply]; congr 1; omega
            · simp only [P.pure_apply]; congr 1; omega
  · -- the first of the four fetches that does not fit fails
    rw [dif_neg h10]
    have g16 : ∀ o, o ≤ bs.size → ¬ o + 2 ≤ bs.size → fetchBe16 bs o = .err .ebadresp := fun o h h' => by
      rw [fetchBe16_eq h, dif_neg h']
    by_cases h2 : q + 2 ≤ bs.size
    · rw [P.bind_ok (by rw [fetchBe16_eq hq, dif_pos h2])]
      by_cases h4 : q + 2 + 2 ≤ bs.size
      · rw [P.bind_ok (by rw [fetchBe16_eq h2, dif_pos h4])]
        by_cases h8 : q + 2 + 2 + 4 ≤ bs.size
        · rw [P.bind_ok (by rw [fetchBe32_eq h4, dif_pos h8]), P.bind_err (g16 _ h8 (by omega))]
        · rw [P.bind_err (by rw [fetchBe32_eq h4, dif_neg h8])]
      · rw [P.bind_err (g16 _ h2 h4)]
    · rw [P.bind_err (g16 _ hq h2)]

/-- `ares_dns_parse` succeeds exactly when the length passes its two checks and the message parser, run from
    offset 0, succeeds; this is how a hypothesis about `parse` reaches `post_parseMsg` -/
theorem parse_eq_ok {bs : Bytes} {flags : Nat} {r : Rec} :
    parse bs flags = .ok r ↔ bs.size ≠ 0 ∧ bs.size ≤ 0xFFFF ∧ ∃ o, parseMsg bs flags 0 = .ok r o := by
  unfold parse
  by_cases h0 : bs.size = 0
  · simp [h0]
  by_cases hsz : bs.size ≤ 0xFFFF
  · rw [if_neg h0, if_neg (by omega)]
    cases parseMsg bs flags 0 <;> simp [h0, hsz]
  · rw [if_neg h0, if_pos (by omega)]
    simp [hsz]

theorem parse_no_fault (bs : Bytes) (flags : Nat) (k : FaultKind) : parse bs flags ≠ .fault k := by
  unfold parse
  split
  · simp
  · split
    · simp
    · cases hr : parseMsg bs flags 0 with
      | ok r o => simp
      | err e => simp
      | fault k' => exact ((post_parseMsg flags).safe.not_fault hr).elim

theorem expandName_no_fault (abuf : Bytes) (off : Nat) (k : FaultKind) : expandName abuf off ≠ .fault k := by
  unfold expandName
  split
  · simp
  · split
    · simp
    · rename_i h1 h2
      have hoff : off ≤ abuf.size := by omega
      have hs : SafeAt abuf (do
          let startLen ← bufLen abuf
          let n ← parseName abuf false
          let bl ← bufLen abuf
          let enclen ← subChecked startLen bl
          pure (n, enclen) : P (BStr × Nat)) off :=
        Post.safe (Q := fun _ _ => True) (Post.bind_bufLen hoff
          ((Post.of_safe (safe_parseName false hoff)).bind fun n o1 _ h01 h1 _ => Post.bind_bufLen h1
            ((Post.of_safe (safe_subChecked (by omega) h1)).map fun _ _ _ => trivial)))
      split
      · simp
      · simp
      · rename_i k' hr
        exact (hs.not_fault hr).elim

theorem expandString_no_fault (abuf : Bytes) (off : Nat) (k : FaultKind) :
    expandString abuf off ≠ .fault k := by
  unfold expandString
  split
  · simp
  · split
    · simp
    · rename_i h1 h2
      have hoff : off ≤ abuf.size := by omega
      have hs : SafeAt abuf (do
          let startLen ← bufLen abuf
          let s ← parseDnsBinstr abuf startLen false
          let bl ← bufLen abuf
          let enclen ← subChecked startLen bl
          pure (s, enclen) : P (BStr × Nat)) off :=
        Post.safe (Q := fun _ _ => True) (Post.bind_bufLen hoff
          ((post_parseDnsBinstr _ false hoff).bind fun n o1 _ h01 h1 _ => Post.bind_bufLen h1
            ((Post.of_safe (safe_subChecked (by omega) h1)).map fun _ _ _ => trivial)))
      split <;> try simp
      rename_i k' hr
      exact (hs.not_fault hr).elim

end Cares.Dns
