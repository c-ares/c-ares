import CaresModel.Dsa.LList
/-! Helper lemmas for the pointer-level `ares_llist` model: heap updates pointwise, the frame rule for the
    global invariant, iteration over a well-formed list. -/
namespace Cares.Dsa.LHeap

@[simp] theorem setNode_nodes (h : LHeap) (x : Nat) (v : Option LNode) (y : Nat) :
    (h.setNode x v).nodes y = if y = x then v else h.nodes y := rfl

@[simp] theorem setNode_lists (h : LHeap) (x : Nat) (v : Option LNode) : (h.setNode x v).lists = h.lists := rfl

@[simp] theorem setList_nodes (h : LHeap) (L : Nat) (v : Option LHdr) : (h.setList L v).nodes = h.nodes := rfl

@[simp] theorem setList_lists (h : LHeap) (L : Nat) (v : Option LHdr) (y : Nat) :
    (h.setList L v).lists y = if y = L then v else h.lists y := rfl

/-- `p->field = v` for a possibly NULL `p`: the node `p` points at, if it is live, is rewritten by `f` -/
theorem modNode_nodes (h : LHeap) (p : Option Nat) (f : LNode → LNode) (y : Nat) :
    (match p with
      | none => h
      | some x =>
        match h.nodes x with
        | none => h
        | some nd => h.setNode x (some (f nd))).nodes y =
      if p = some y then (h.nodes y).map f else h.nodes y := by
  cases p with
  | none => rfl
  | some x =>
    by_cases hy : x = y
    · subst hy
      rw [if_pos rfl]
      cases hx : h.nodes x with
      | none => simp only [hx]; rfl
      | some nd => simp only [hx, setNode_nodes, if_pos]; rfl
    · rw [if_neg (fun e => hy (Option.some.inj e))]
      cases hx : h.nodes x with
      | none => simp only [hx]
      | some nd => simp only [hx, setNode_nodes]; exact if_neg (fun e : y = x => hy e.symm)

theorem setPrev_nodes (h : LHeap) (p v : Option Nat) (y : Nat) :
    (h.setPrev p v).nodes y = if p = some y then (h.nodes y).map (fun nd => { nd with prev := v }) else h.nodes y :=
  modNode_nodes h p (fun nd => { nd with prev := v }) y

theorem setNext_nodes (h : LHeap) (p v : Option Nat) (y : Nat) :
    (h.setNext p v).nodes y = if p = some y then (h.nodes y).map (fun nd => { nd with next := v }) else h.nodes y :=
  modNode_nodes h p (fun nd => { nd with next := v }) y

theorem modNode_lists (h : LHeap) (p : Option Nat) (f : LNode → LNode) :
    (match p with
      | none => h
      | some x =>
        match h.nodes x with
        | none => h
        | some nd => h.setNode x (some (f nd))).lists = h.lists := by
  cases p with
  | none => rfl
  | some x =>
    simp only
    cases hx : h.nodes x <;> rfl

@[simp] theorem setPrev_lists (h : LHeap) (p v : Option Nat) : (h.setPrev p v).lists = h.lists :=
  modNode_lists h p (fun nd => { nd with prev := v })

@[simp] theorem setNext_lists (h : LHeap) (p v : Option Nat) : (h.setNext p v).lists = h.lists :=
  modNode_lists h p (fun nd => { nd with next := v })

theorem Repr.node_of_mem {h : LHeap} {L : Nat} {l : List Nat} (r : Repr h L l) (x : Nat) (hx : x ∈ l) :
    ∃ nd, h.nodes x = some nd ∧ nd.parent = some L := by
  obtain ⟨i, hi, e⟩ := List.getElem_of_mem hx
  have := r.link i x (by rw [List.getElem?_eq_getElem hi, e])
  exact ⟨_, this, rfl⟩

theorem GInv.disjoint {h : LHeap} {abs : Nat → Option (List Nat)} (g : GInv h abs) (L1 L2 : Nat) (l1 l2 : List Nat)
    (h1 : abs L1 = some l1) (h2 : abs L2 = some l2) (x : Nat) (x1 : x ∈ l1) (x2 : x ∈ l2) : L1 = L2 := by
  obtain ⟨n1, e1, p1⟩ := (g.repr L1 l1 h1).node_of_mem x x1
  obtain ⟨n2, e2, p2⟩ := (g.repr L2 l2 h2).node_of_mem x x2
  rw [e1] at e2; cases e2
  rw [p1] at p2; exact Option.some.inj p2

/-- **frame rule for one list**: with the same header and the members' nodes unchanged it is the same sequence -/
theorem Repr.frame {h h' : LHeap} {L : Nat} {l : List Nat} (r : Repr h L l) (hh : h'.lists L = h.lists L)
    (hn : ∀ x ∈ l, h'.nodes x = h.nodes x) : Repr h' L l :=
  ⟨hh ▸ r.hdr, r.nodup, fun i x hx => (hn x (List.mem_of_getElem? hx)).trans (r.link i x hx)⟩

/-- the family of sequences with the sequence of list `L` replaced -/
def absSet (abs : Nat → Option (List Nat)) (L : Nat) (l : List Nat) : Nat → Option (List Nat) :=
  fun L' => if L' = L then some l else abs L'

theorem absSet_self (abs : Nat → Option (List Nat)) (L : Nat) (l : List Nat) : absSet abs L l L = some l := if_pos rfl
theorem absSet_ne {abs : Nat → Option (List Nat)} {L L' : Nat} (l : List Nat) (h : L' ≠ L) : absSet abs L l L' = abs L' :=
  if_neg h

/-- **frame rule**: an operation that rewrites list `L` (from `l` to `l'`, `hrepr`) and touches only nodes of `L` or of
    no list keeps every other list as it was.  `touched` is the set of nodes the operation may write: the members of
    `l` for detach, those and the new node for attach (`hframe`: it writes nothing else; `htouched`: none of them
    belongs to another list).  `hown` and `hkeep` are for `GInv.owner`: a written node that still claims a parent is
    in `l'`, and an unwritten member of `l` stays a member. -/
theorem ginv_update (h h' : LHeap) (abs : Nat → Option (List Nat)) (L : Nat) (l l' : List Nat) (touched : Nat → Prop)
    (g : GInv h abs) (hl : abs L = some l)
    (hlists : ∀ L', L' ≠ L → h'.lists L' = h.lists L')
    (hframe : ∀ y, ¬ touched y → h'.nodes y = h.nodes y)
    (htouched : ∀ y, touched y → y ∈ l ∨ ∀ L2 l2, abs L2 = some l2 → y ∉ l2)
    (hrepr : Repr h' L l')
    (hown : ∀ y, touched y → y ∈ l' ∨ ∀ nd, h'.nodes y = some nd → nd.parent = none)
    (hkeep : ∀ y, y ∈ l → ¬ touched y → y ∈ l') :
    GInv h' (absSet abs L l') := by
  refine ⟨?_, ?_, ?_⟩
  · intro L'
    by_cases hL : L' = L
    · subst hL; simp [absSet_self, hrepr.hdr]
    · rw [absSet_ne _ hL, hlists L' hL]; exact g.lists L'
  · intro L' l2 h2
    by_cases hL : L' = L
    · subst hL; rw [absSet_self] at h2; cases h2; exact hrepr
    · rw [absSet_ne _ hL] at h2
      refine (g.repr L' l2 h2).frame (hlists L' hL) fun x hxm => hframe x fun ht => ?_
      rcases htouched x ht with hin | hnone
      · exact hL (g.disjoint L' L l2 l h2 hl x hxm hin)
      · exact hnone L' l2 h2 hxm
  · intro x nd L2 hx hp
    by_cases ht : touched x
    · rcases hown x ht with hin | hnone
      · obtain ⟨nd', e', p'⟩ := hrepr.node_of_mem x hin
        rw [hx] at e'; cases e'
        rw [hp] at p'; cases p'
        exact ⟨l', absSet_self .., hin⟩
      · have := hnone nd hx; rw [hp] at this; cases this
    · rw [hframe x ht] at hx
      obtain ⟨l2, a2, m2⟩ := g.owner x nd L2 hx hp
      by_cases hL : L2 = L
      · subst hL
        rw [hl] at a2; cases a2
        exact ⟨l', absSet_self .., hkeep x m2 ht⟩
      · exact ⟨l2, (absSet_ne _ hL).trans a2, m2⟩

theorem walkNext_repr (h : LHeap) (L : Nat) (l : List Nat) (r : Repr h L l) (fuel i : Nat) :
    walkNext h fuel l[i]? = (l.drop i).take fuel := by
  induction fuel generalizing i with
  | zero => simp [walkNext]
  | succ f ih =>
    cases hx : l[i]? with
    | none =>
      have : l.length ≤ i := by
        by_cases hh : i < l.length
        · rw [List.getElem?_eq_getElem hh] at hx; cases hx
        · exact Nat.le_of_not_lt hh
      rw [List.drop_of_length_le this]; simp [walkNext]
    | some x =>
      have hi : i < l.length := by
        by_cases hh : i < l.length
        · exact hh
        · rw [List.getElem?_eq_none (Nat.le_of_not_lt hh)] at hx; cases hx
      have hn := r.link i x hx
      unfold walkNext
      rw [hn]
      simp only [Option.bind_some]
      rw [ih (i + 1)]
      have : l.drop i = x :: l.drop (i + 1) := by
        rw [← List.getElem_cons_drop hi]
        rw [List.getElem?_eq_getElem hi] at hx; cases hx; rfl
      rw [this, List.take_succ_cons]

theorem forward_repr (h : LHeap) (L : Nat) (l : List Nat) (r : Repr h L l) (fuel : Nat) (hf : l.length ≤ fuel) :
    forward h L fuel = l := by
  unfold forward
  rw [r.hdr]
  simp only [Option.bind_some]
  have := walkNext_repr h L l r fuel 0
  rw [List.head?_eq_getElem?, this, List.drop_zero, List.take_of_length_le hf]

theorem walkPrev_repr (h : LHeap) (L : Nat) (l : List Nat) (r : Repr h L l) (fuel i : Nat) (hi : i < l.length) :
    walkPrev h fuel l[i]? = ((l.take (i + 1)).reverse).take fuel := by
  induction fuel generalizing i with
  | zero => simp [walkPrev]
  | succ f ih =>
    have hx : l[i]? = some l[i] := List.getElem?_eq_getElem hi
    have hn := r.link i l[i] hx
    rw [hx]
    unfold walkPrev
    rw [hn]
    simp only [Option.bind_some]
    have ht : l.take (i + 1) = l.take i ++ [l[i]] := by rw [List.take_succ_eq_append_getElem hi]
    rw [ht, List.reverse_append, List.reverse_singleton, List.singleton_append, List.take_succ_cons]
    congr 1
    by_cases h0 : i = 0
    · subst h0; simp
      cases f <;> simp [walkPrev]
    · rw [if_neg h0]
      have := ih (i - 1) (Nat.lt_of_le_of_lt (Nat.sub_le _ _) hi)
      rw [Nat.sub_add_cancel (Nat.pos_of_ne_zero h0)] at this
      exact this

theorem backward_repr (h : LHeap) (L : Nat) (l : List Nat) (r : Repr h L l) (fuel : Nat) (hf : l.length ≤ fuel) :
    backward h L fuel = l.reverse := by
  unfold backward
  rw [r.hdr]
  simp only [Option.bind_some]
  cases hl : l with
  | nil => cases fuel <;> simp [walkPrev]
  | cons a t =>
    have hne : l ≠ [] := by rw [hl]; simp
    have hlast : l.getLast? = l[l.length - 1]? := by rw [List.getLast?_eq_getElem?]
    rw [← hl, hlast]
    have hpos : 0 < l.length := List.length_pos_iff.2 hne
    rw [walkPrev_repr h L l r fuel (l.length - 1) (Nat.sub_lt hpos Nat.one_pos), Nat.sub_add_cancel hpos,
      List.take_length, List.take_of_length_le (by simp; exact hf)]

end Cares.Dsa.LHeap
