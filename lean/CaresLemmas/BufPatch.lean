import CaresLemmas.Buf
/-! Helper lemmas for the `ares_buf` model: the set_length / append / set_length back-patching idiom. -/
namespace Cares.Buf
open Cares.Generated Cares.Dsa

/-- in-place overwrite of `patch.length` bytes at position `p` -/
def overwrite (l : List Nat) (p : Nat) (patch : List Nat) : List Nat :=
  l.take p ++ patch ++ l.drop (p + patch.length)

theorem overwrite_take (l : List Nat) (q n : Nat) (patch : List Nat) (hn : n ≤ l.length)
    (h : q + patch.length ≤ n) : (overwrite l q patch).take n = overwrite (l.take n) q patch := by
  have hqn : q ≤ n := Nat.le_trans (Nat.le_add_right _ _) h
  have hA : (l.take q ++ patch).length = q + patch.length := by
    rw [List.length_append, List.length_take_of_le (Nat.le_trans hqn hn)]
  unfold overwrite
  rw [List.take_append, hA, List.take_of_length_le (by rw [hA]; exact h), List.take_take, Nat.min_eq_left hqn,
    List.drop_take]

theorem overwrite_drop (l : List Nat) (off p : Nat) (patch : List Nat) (h : p + off ≤ l.length) :
    (overwrite l (p + off) patch).drop off = overwrite (l.drop off) p patch := by
  unfold overwrite
  rw [List.append_assoc, List.drop_append_of_le_length (by rw [List.length_take_of_le h]; exact Nat.le_add_left off p),
    List.drop_take, Nat.add_sub_cancel, List.drop_drop, Nat.add_left_comm off p, ← Nat.add_assoc, ← List.append_assoc]

theorem backpatch (b : Buf) (h : b.Inv) (hc : b.isConst = false) (p : Nat) (patch : List Nat) (o : Oracle)
    (hp : p + patch.length ≤ b.len) (hne : patch ≠ []) :
    ∃ b1 b2 b3, b.setLength p = (.ok, b1) ∧ b1.append patch o = (.ok, b2, o) ∧ b2.setLength b.len = (.ok, b3) ∧
      b3.remaining = overwrite b.remaining p patch ∧ b3.off = b.off ∧ b3.tag = b.tag ∧ b3.dataLen = b.dataLen ∧
      b3.mem.length = b.mem.length ∧ b3.isConst = false := by
  have hpl : 0 < patch.length := List.length_pos_iff.2 hne
  have ho := h.offLe
  have hd := h.dlen
  have hlen : b.len + b.off = b.dataLen := Nat.sub_add_cancel ho
  have hroom : b.dataLen < b.mem.length := by
    have hr := h.room
    rw [if_neg (by simp [hc])] at hr
    rcases hr with hr | hr
    · rw [hr, List.length_nil] at hd; omega
    · exact hr
  have hend : p + b.off + patch.length ≤ b.dataLen := by rw [Nat.add_right_comm, ← hlen]; exact Nat.add_le_add_right hp _
  have hendlt : p + b.off + patch.length < b.mem.length := Nat.lt_of_le_of_lt hend hroom
  have e1 : b.setLength p = (.ok, { b with dataLen := p + b.off }) := by
    unfold setLength
    rw [if_neg (by simp [hc]), allocLen_dyn b hc,
      if_neg (by omega)]
  -- the append takes the fast path of ensure_space: no compaction, no allocation
  have e2 : ({ b with dataLen := p + b.off } : Buf).append patch o =
      (.ok, { b with mem := overwrite b.mem (p + b.off) patch, dataLen := p + b.off + patch.length }, o) := by
    rw [append_eq _ patch o hne,
      ensureSpace_fits { b with dataLen := p + b.off } patch.length o hc
        (Nat.le_sub_of_add_le' (Nat.succ_le_of_lt hendlt))]
    rfl
  have hml : (overwrite b.mem (p + b.off) patch).length = b.mem.length := by
    unfold overwrite
    rw [List.length_append, List.length_append, List.length_drop,
      List.length_take_of_le (Nat.le_trans (Nat.le_add_right _ _) (Nat.le_trans hend hd))]
    exact Nat.add_sub_of_le (Nat.le_trans hend hd)
  have e3 : ({ b with mem := overwrite b.mem (p + b.off) patch, dataLen := p + b.off + patch.length } : Buf).setLength b.len =
      (.ok, { b with mem := overwrite b.mem (p + b.off) patch, dataLen := b.len + b.off }) := by
    unfold setLength
    rw [if_neg (by simp [hc]),
      allocLen_dyn { b with mem := overwrite b.mem (p + b.off) patch, dataLen := p + b.off + patch.length } hc]
    show (if b.len ≥ (overwrite b.mem (p + b.off) patch).length - b.off then _ else _) = _
    rw [hml, if_neg (Nat.not_le.2 (Nat.lt_sub_of_add_lt (by rw [hlen]; exact hroom)))]
  refine ⟨_, _, _, e1, e2, e3, ?_, rfl, rfl, hlen, hml, hc⟩
  show ((overwrite b.mem (p + b.off) patch).take (b.len + b.off)).drop b.off = _
  rw [hlen, overwrite_take b.mem _ _ patch hd hend,
    overwrite_drop _ _ _ patch (by rw [List.length_take_of_le hd]; exact Nat.le_trans (Nat.le_add_right _ _) hend)]
  rfl

end Cares.Buf
