import CaresLemmas.ChanWfFree
/-!
# C01 — the token accounting steps: a user callback is made; a reaction allocates a fresh token
-/
namespace Cares.Chan

/-- `St.userCallback` on the skeleton -/
def Sk.userCb (a : Sk) (tok : Nat) : Sk :=
  { a with pendingToks := a.pendingToks.erase tok, doneToks := a.doneToks ++ [tok] }

/-- a reaction of kind `send` takes the next token -/
def Sk.newTok (a : Sk) : Sk :=
  { a with reactSeq := a.reactSeq + 1, pendingToks := a.pendingToks ++ [10000 + a.reactSeq] }

section
variable {a : Sk} {tok : Nat}

theorem wf_userCb (h : WfS a none) (hp : tok ∈ a.pendingToks)
    (hq : ∀ p ∈ a.qKO, p.1 ∈ a.idx → p.2 ≠ .user tok)
    (hc : ∀ c ∈ a.clients, c.tok = tok → a.NoSub c.id) : WfS (a.userCb tok) none := by
  have ht := h.tok
  have me : ∀ t, t ∈ a.pendingToks.erase tok ↔ t ≠ tok ∧ t ∈ a.pendingToks :=
    fun t => List.Nodup.mem_erase_iff ht.pN
  refine ⟨h.q, h.i, h.t, h.c, h.s, h.k, ?_⟩
  show WfTokP a.qKO a.idx a.clients (a.pendingToks.erase tok) (a.doneToks ++ [tok]) a.reactSeq
  constructor
  · exact ht.pN.erase tok
  · rw [List.nodup_append]
    refine ⟨ht.dN, by simp, fun x hx y hy => ?_⟩
    rw [List.mem_singleton] at hy
    rw [hy]
    exact fun he => ht.disj tok hp (he ▸ hx)
  · intro t hm hd
    obtain ⟨hne, hm'⟩ := (me t).mp hm
    rcases List.mem_append.mp hd with hd | hd
    · exact ht.disj t hm' hd
    · exact hne (List.mem_singleton.mp hd)
  · intro t hm; exact ht.pB t ((me t).mp hm).2
  · intro t hm
    rcases List.mem_append.mp hm with hd | hd
    · exact ht.dB t hd
    · rw [List.mem_singleton.mp hd]; exact ht.pB tok hp
  · intro p hpm hpi tok' ho
    obtain ⟨h1, h2, h3⟩ := ht.tQ p hpm hpi tok' ho
    refine ⟨(me tok').mpr ⟨fun he => hq p hpm hpi (he ▸ ho), h1⟩, h2, h3⟩
  · intro p hpm hpi id ho
    obtain ⟨c, hcm, hcid, hcp⟩ := ht.tC p hpm hpi id ho
    refine ⟨c, hcm, hcid, (me c.tok).mpr ⟨fun he => ?_, hcp⟩⟩
    exact hc c hcm he p hpm hpi (hcid ▸ ho)
  · intro c hcm
    rcases ht.tK c hcm with hk | hk
    · by_cases he : c.tok = tok
      · exact Or.inr (List.mem_append.mpr (Or.inr (List.mem_singleton.mpr he)))
      · exact Or.inl ((me c.tok).mpr ⟨he, hk⟩)
    · exact Or.inr (List.mem_append.mpr (Or.inl hk))
  · intro c hcm c' hcm' he hpe
    exact ht.tKU c hcm c' hcm' he ((me c.tok).mp hpe).2

theorem debt_userCb {x d} (h : WfS a none) (hd : DebtOk x d a) : DebtOk x d (a.userCb tok) :=
  ⟨hd.fresh, fun c hc hp hx => hd.cnt c hc ((List.Nodup.mem_erase_iff h.tok.pN).mp hp).2 hx⟩

/-- the compound request whose bookkeeping is not settled (it is completing) holds the token being called
    back, so after the callback it is no longer active and the debt invariant holds without exception.  `hd`, `hx`
    are the clause `∃ x, DebtOk x d s.sk ∧ ∀ c ∈ clients, some c.id = x → c.tok = tok` of `Pre`, case `.userCb` -/
theorem debt_userCb' {x d} (h : WfS a none) (hd : DebtOk x d a) (hx : ∀ c ∈ a.clients, some c.id = x → c.tok = tok) :
    DebtOk none d (a.userCb tok) :=
  ⟨hd.fresh, fun c hc hp _ => by
    have hm := (List.Nodup.mem_erase_iff h.tok.pN).mp hp
    exact hd.cnt c hc hm.2 (fun he => hm.1 (hx c hc he))⟩

theorem step_userCb {xf xi d} (h : WfS a none) (hz : ∀ c ∈ a.clients, c.tok = tok → d c.id = 0) :
    StepS xf xi d a (a.userCb tok) where
  faults := rfl
  kMono := Nat.le_refl _
  keyMono := Nat.le_refl _
  idxNew := fun _ hx => Or.inl hx
  unl := fun _ q hm _ => ⟨q, hm, fun _ hx => hx⟩
  orphan := fun _ _ _ hn => hn
  debtAlive := fun id ha hpos => by
    obtain ⟨c, hc, hid, hp⟩ := ha
    refine ⟨c, hc, hid, (List.Nodup.mem_erase_iff h.tok.pN).mpr ⟨fun he => ?_, hp⟩⟩
    have := hz c hc he
    rw [hid] at this; omega
  prog := ProgS.of_same (fun _ h => List.mem_append.mpr (Or.inl h)) rfl rfl rfl rfl rfl

end

section
variable {a : Sk}

/-- a token that is neither pending nor done joins the pending ones (`rs' = rs`: the application hands a request over;
    `rs' = rs + 1`: a reaction takes the next token) -/
theorem WfTokP.expect {qKO idx cl pend done rs rs'} {tok : Nat} (ht : WfTokP qKO idx cl pend done rs) (hrs : rs ≤ rs')
    (hb : tok < 10000 + rs') (hnp : tok ∉ pend) (hnd : tok ∉ done) : WfTokP qKO idx cl (pend ++ [tok]) done rs' := by
  constructor
  · rw [List.nodup_append]
    refine ⟨ht.pN, by simp, fun x hx y hy => ?_⟩
    rw [List.mem_singleton.mp hy]; exact fun he => hnp (he ▸ hx)
  · exact ht.dN
  · intro t hm
    rcases List.mem_append.mp hm with hm | hm
    · exact ht.disj t hm
    · rw [List.mem_singleton.mp hm]; exact hnd
  · intro t hm
    rcases List.mem_append.mp hm with hm | hm
    · have := ht.pB t hm; omega
    · rw [List.mem_singleton.mp hm]; exact hb
  · intro t hm; have := ht.dB t hm; omega
  · intro p hpm hpi tok ho
    obtain ⟨h1, h2, h3⟩ := ht.tQ p hpm hpi tok ho
    exact ⟨List.mem_append.mpr (Or.inl h1), h2, h3⟩
  · intro p hpm hpi id ho
    obtain ⟨c, hcm, hcid, hcp⟩ := ht.tC p hpm hpi id ho
    exact ⟨c, hcm, hcid, List.mem_append.mpr (Or.inl hcp)⟩
  · intro c hcm
    rcases ht.tK c hcm with hk | hk
    · exact Or.inl (List.mem_append.mpr (Or.inl hk))
    · exact Or.inr hk
  · intro c hcm c' hcm' he hpe
    rcases List.mem_append.mp hpe with hpe | hpe
    · exact ht.tKU c hcm c' hcm' he hpe
    · exfalso
      have := List.mem_singleton.mp hpe
      rcases ht.tK c hcm with hk | hk
      · exact hnp (this ▸ hk)
      · exact hnd (this ▸ hk)

theorem wf_newTok (h : WfS a none) : WfS a.newTok none :=
  ⟨h.q, h.i, h.t, h.c, h.s, h.k, h.tok.expect (Nat.le_succ _) (Nat.lt_succ_self (10000 + a.reactSeq))
    (fun hm => by have := h.tok.pB _ hm; omega) (fun hm => by have := h.tok.dB _ hm; omega)⟩

theorem newTok_client_ne (h : WfS a none) : ∀ c ∈ a.clients, c.tok ≠ 10000 + a.reactSeq := by
  intro c hcm he
  rcases h.tok.tK c hcm with hk | hk
  · have := h.tok.pB _ hk; omega
  · have := h.tok.dB _ hk; omega

theorem ownerFree_newTok (h : WfS a none) : a.newTok.OwnerFree (.user (10000 + a.reactSeq)) := by
  refine ⟨List.mem_append.mpr (Or.inr (List.mem_singleton.mpr rfl)), fun p hpm hpi ho => ?_, newTok_client_ne h⟩
  have := (h.tok.tQ p hpm hpi _ ho).1
  have := h.tok.pB _ this; omega

theorem debt_newTok {x d} (h : WfS a none) (hd : DebtOk x d a) : DebtOk x d a.newTok :=
  ⟨hd.fresh, fun c hc hp hx => by
    rcases List.mem_append.mp hp with hp | hp
    · exact hd.cnt c hc hp hx
    · exact absurd (List.mem_singleton.mp hp) (newTok_client_ne h c hc)⟩

theorem step_newTok {xf xi d} : StepS xf xi d a a.newTok where
  faults := rfl
  kMono := Nat.le_refl _
  keyMono := Nat.le_refl _
  idxNew := fun _ hx => Or.inl hx
  unl := fun _ q hm _ => ⟨q, hm, fun _ hx => hx⟩
  orphan := fun _ _ _ hn => hn
  debtAlive := fun id ha _ => by
    obtain ⟨c, hc, hid, hp⟩ := ha
    exact ⟨c, hc, hid, List.mem_append.mpr (Or.inl hp)⟩
  prog := ProgS.of_same (fun _ h => h) rfl rfl rfl rfl rfl

end

end Cares.Chan
