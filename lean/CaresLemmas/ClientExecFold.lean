import CaresLemmas.ClientWalk
import CaresLemmas.ChanWfContract
/-!
# Pure facts about `applyActs` / `walkFrom` and the client contract

* `applyActs` against `sends` / `hasFinish` (the counting functions of the C01 client contract);
* `foldC`: `walkFrom` that also returns the client record, with its one-more-completion equation `foldC_snoc`;
* two additions to the client contract of `ChanWfContract`: the id is kept unconditionally (`clientOnCb_id`), and a
  completion that leaves at least one more sub-request outstanding starts nothing and does not finish
  (`clientOnCb_quiet`: with `outstanding ≥ 2` the actions are `.noRetry` only).
-/
namespace Cares.Chan
open Cares.ClientWalk

theorem applyActs_sent_len (l : List ClientAct) (w : Walk) : (applyActs l w).sent.length = w.sent.length + sends l := by
  induction l generalizing w with
  | nil => rfl
  | cons x r ih =>
    cases x with
    | send _ | sendSlot _ _ => simp only [applyActs, ih, sends, List.length_append, List.length_singleton]; omega
    | noRetry _ => exact ih w
    | finish _ _ _ => rfl

theorem applyActs_fin_some (l : List ClientAct) (w : Walk) (h : hasFinish l = true) : (applyActs l w).fin.isSome = true := by
  induction l generalizing w with
  | nil => cases h
  | cons x r ih =>
    cases x with
    | send _ | sendSlot _ _ | noRetry _ => exact ih _ h
    | finish _ _ _ => rfl

theorem applyActs_fin_keep (l : List ClientAct) (w : Walk) (h : hasFinish l = false) : (applyActs l w).fin = w.fin := by
  induction l generalizing w with
  | nil => rfl
  | cons x r ih =>
    cases x with
    | send _ | sendSlot _ _ | noRetry _ => exact ih _ h
    | finish _ _ _ => simp [hasFinish] at h

theorem applyActs_fin_mono (l : List ClientAct) (w : Walk) (h : w.fin.isSome = true) : (applyActs l w).fin.isSome = true := by
  cases hf : hasFinish l with
  | true => exact applyActs_fin_some l w hf
  | false => rw [applyActs_fin_keep l w hf]; exact h

theorem applyActs_app (l1 l2 : List ClientAct) (w : Walk) (h : hasFinish l1 = false) :
    applyActs (l1 ++ l2) w = applyActs l2 (applyActs l1 w) := by
  induction l1 generalizing w with
  | nil => rfl
  | cons x r ih =>
    cases x with
    | send _ | sendSlot _ _ | noRetry _ => exact ih _ h
    | finish _ _ _ => simp [hasFinish] at h

/-- nothing the outside sees: no sub-request started, no completion -/
def Quiet (l : List ClientAct) : Prop := sends l = 0 ∧ hasFinish l = false

instance (l : List ClientAct) : Decidable (Quiet l) := by unfold Quiet; infer_instance

theorem Quiet.nil : Quiet [] := ⟨rfl, rfl⟩

theorem applyActs_quiet (l : List ClientAct) (w : Walk) (h : Quiet l) : applyActs l w = w := by
  induction l generalizing w with
  | nil => rfl
  | cons x r ih =>
    cases x with
    | send _ | sendSlot _ _ => simp [Quiet, sends] at h
    | noRetry _ => exact ih w h
    | finish _ _ _ => simp [Quiet, hasFinish] at h

theorem applyActs_quiet_app (l1 l2 : List ClientAct) (w : Walk) (h : Quiet l1) : applyActs (l1 ++ l2) w = applyActs l2 w := by
  rw [applyActs_app l1 l2 w h.2, applyActs_quiet l1 w h]

theorem quiet_app_iff (l1 l2 : List ClientAct) : Quiet (l1 ++ l2) ↔ Quiet l1 ∧ Quiet l2 := by
  constructor
  · intro ⟨hs, hf⟩
    rw [hasFinish_app, Bool.or_eq_false_iff] at hf
    rw [sends_app _ _ hf.1] at hs
    exact ⟨⟨by omega, hf.1⟩, ⟨by omega, hf.2⟩⟩
  · intro ⟨h1, h2⟩
    exact ⟨by rw [sends_app _ _ h1.2, h1.1, h2.1], by rw [hasFinish_app, h1.2, h2.2]; rfl⟩

/-- an action that is neither a send nor the completion can be dropped anywhere -/
theorem applyActs_mid_noRetry (p r : List ClientAct) (q : Nat) (w : Walk) :
    applyActs (p ++ .noRetry q :: r) w = applyActs (p ++ r) w := by
  induction p generalizing w with
  | nil => rfl
  | cons x t ih =>
    cases x with
    | send _ | sendSlot _ _ | noRetry _ => exact ih _
    | finish _ _ _ => rfl

/-- `walkFrom` returning the client record as well -/
def foldC (cfg : Cfg) : Client → List Ev → Walk → Client × Walk
  | c, [], w => (c, w)
  | c, e :: es, w =>
    if w.fin.isSome then (c, w) else
    let r := clientOnCb cfg (setQids c e.qids) e.st e.timeouts e.reply
    foldC cfg r.1 es (applyActs r.2 w)

theorem foldC_snd (cfg : Cfg) (c : Client) (evs : List Ev) (w : Walk) : (foldC cfg c evs w).2 = walkFrom cfg c evs w := by
  induction evs generalizing c w with
  | nil => rfl
  | cons e es ih =>
    unfold foldC walkFrom
    split
    · rfl
    · exact ih _ _

theorem foldC_fin (cfg : Cfg) (c : Client) (evs : List Ev) (w : Walk) (h : w.fin.isSome = true) : foldC cfg c evs w = (c, w) := by
  cases evs with
  | nil => rfl
  | cons e es => simp [foldC, h]

theorem foldC_snoc (cfg : Cfg) (c : Client) (evs : List Ev) (e : Ev) (w : Walk) :
    foldC cfg c (evs ++ [e]) w =
      if (foldC cfg c evs w).2.fin.isSome then foldC cfg c evs w
      else ((clientOnCb cfg (setQids (foldC cfg c evs w).1 e.qids) e.st e.timeouts e.reply).1,
            applyActs (clientOnCb cfg (setQids (foldC cfg c evs w).1 e.qids) e.st e.timeouts e.reply).2
              (foldC cfg c evs w).2) := by
  induction evs generalizing c w with
  | nil => by_cases h : w.fin.isSome = true <;> simp [foldC, h]
  | cons x xs ih =>
    by_cases h : w.fin.isSome = true
    · simp [foldC, h]
    · simp only [List.cons_append, foldC, h, Bool.false_eq_true, ↓reduceIte]
      exact ih _ _

theorem outstanding_setQids (c : Client) (q : Option (Nat × Nat)) : (setQids c q).outstanding = c.outstanding := by
  cases q with
  | none => rfl
  | some p => rfl

theorem id_setQids (c : Client) (q : Option (Nat × Nat)) : (setQids c q).id = c.id := by
  cases q with
  | none => rfl
  | some p => rfl

/-- the completion callback never changes the compound request's id -/
theorem clientOnCb_id (cfg : Cfg) (c : Client) (st : Status) (t : Nat) (rec : Option Reply) :
    (clientOnCb cfg c st t rec).1.id = c.id := by
  by_cases hg : c.kind = "gai"
  · unfold clientOnCb
    simp only [hg, beq_self_eq_true, ↓reduceIte]
    exact (gaiOnCb_ok cfg c hg st t rec).1.2.1
  · have hg' : (c.kind == "gai") = false := by simpa using hg
    exact (clientOnCb_ok cfg c st t rec (by rw [outstanding_other hg']; exact Nat.le_refl 1)).id

/-- a completion that leaves another sub-request outstanding starts nothing and does not complete the request -/
theorem clientOnCb_quiet (cfg : Cfg) (c : Client) (st : Status) (t : Nat) (rec : Option Reply)
    (h : 2 ≤ c.outstanding) : Quiet (clientOnCb cfg c st t rec).2 := by
  by_cases hg : c.kind = "gai"
  · rw [outstanding_gai hg] at h
    unfold clientOnCb
    simp only [hg, beq_self_eq_true, ↓reduceIte]
    exact (gaiOnCb_ok cfg c hg st t rec).2.2 (by omega)
  · have hg' : (c.kind == "gai") = false := by simpa using hg
    rw [outstanding_other hg'] at h
    omega

end Cares.Chan
