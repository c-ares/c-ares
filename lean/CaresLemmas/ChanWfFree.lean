import CaresLemmas.ChanWfDetach
/-!
# C01 — releasing a query (`freeQuery` = `detach` + removal from the store)
-/
namespace Cares.Chan

def Sk.dropQ (a : Sk) (k : Nat) : Sk := { a with qs := a.qs.filter (·.key != k) }

theorem Sk.freeQuery_eq (a : Sk) (k : Nat) : a.freeQuery k = (a.detach k).dropQ k := rfl

theorem mem_proj_dropQ {β} (a : Sk) (k : Nat) (g : QSk → β) {x : Nat} {v : β} :
    (x, v) ∈ (a.dropQ k).qs.map (fun e => (e.key, g e)) ↔ (x, v) ∈ a.qs.map (fun e => (e.key, g e)) ∧ x ≠ k := by
  simp only [Sk.dropQ, List.mem_map, List.mem_filter, bne_iff_ne, Prod.mk.injEq]
  constructor
  · rintro ⟨e, ⟨he, hne⟩, rfl, rfl⟩; exact ⟨⟨e, he, rfl, rfl⟩, hne⟩
  · rintro ⟨⟨e, he, rfl, rfl⟩, hne⟩; exact ⟨e, ⟨he, hne⟩, rfl, rfl⟩

theorem mem_proj_dropQ' {β} (a : Sk) (k : Nat) (g : QSk → β) {p : Nat × β} :
    p ∈ (a.dropQ k).qs.map (fun e => (e.key, g e)) ↔ p ∈ a.qs.map (fun e => (e.key, g e)) ∧ p.1 ≠ k :=
  mem_proj_dropQ a k g (x := p.1) (v := p.2)

section
variable {a : Sk} {k : Nat}

theorem dropQ_qK_sub : (a.dropQ k).qK.Sublist a.qK := by
  unfold Sk.qK Sk.dropQ; exact List.Sublist.map _ List.filter_sublist

theorem wf_dropQ (h : WfS a none) (hk : k ∉ a.idx) : WfS (a.dropQ k) none := by
  have mC : ∀ {p : Nat × Option Nat}, p ∈ (a.dropQ k).qKC ↔ p ∈ a.qKC ∧ p.1 ≠ k := mem_proj_dropQ' a k _
  have mQ : ∀ {p : Nat × Nat}, p ∈ (a.dropQ k).qKQ ↔ p ∈ a.qKQ ∧ p.1 ≠ k := mem_proj_dropQ' a k _
  have mO : ∀ {p : Nat × Owner}, p ∈ (a.dropQ k).qKO ↔ p ∈ a.qKO ∧ p.1 ≠ k := mem_proj_dropQ' a k _
  have ne_of_idx : ∀ x, x ∈ a.idx → x ≠ k := fun x hx he => hk (he ▸ hx)
  refine ⟨⟨dropQ_qK_sub.nodup h.q.nodup, fun x hx => h.q.lt x (dropQ_qK_sub.subset hx)⟩, ?_, ?_, ?_, h.s, h.k, ?_⟩
  · refine ⟨fun p hp => ?_, h.i.allNodup, h.i.allIdx, h.i.lcOk, h.i.disj, h.i.nl⟩
    exact mQ.mpr ⟨h.i.qidLive p hp, ne_of_idx _ (List.mem_map.mpr ⟨p, hp, rfl⟩)⟩
  · refine ⟨h.t.btNodup, fun x hx => ?_, h.t.poNodup, fun x hx => ?_⟩
    · obtain ⟨hi, fd, hm⟩ := h.t.btOk x hx
      exact ⟨hi, fd, mC.mpr ⟨hm, ne_of_idx x hi⟩⟩
    · obtain ⟨hi, ⟨fd, hm⟩, hb⟩ := h.t.poOk x hx
      exact ⟨hi, ⟨fd, mC.mpr ⟨hm, ne_of_idx x hi⟩⟩, hb⟩
  · refine ⟨h.c.nodup, h.c.lt, h.c.sock, h.c.qNodup, fun c hcm x hx => ?_, fun p hp => h.c.qc p (mC.mp hp).1⟩
    obtain ⟨hi, hm⟩ := h.c.cq c hcm x hx
    exact ⟨hi, mC.mpr ⟨hm, ne_of_idx x hi⟩⟩
  · exact h.tok.shrink (fun p hp => (mO.mp hp).1) (fun _ hx => hx)

theorem subs_dropQ (hk : k ∉ a.idx) (id : Nat) : (a.dropQ k).subs id = a.subs id := by
  unfold Sk.subs subsP Sk.qKO Sk.dropQ
  show List.countP _ ((a.qs.filter _).map _) = List.countP _ (a.qs.map _)
  rw [List.countP_map, List.countP_map, List.countP_filter]
  apply List.countP_congr
  intro e _
  simp only [Function.comp, Bool.and_eq_true, decide_eq_true_eq, bne_iff_ne]
  constructor
  · rintro ⟨h1, _⟩; exact h1
  · rintro ⟨h1, h2⟩; exact ⟨⟨h1, h2⟩, fun he => hk (he ▸ h1)⟩

theorem debt_dropQ {x d} (h : DebtOk x d a) (hk : k ∉ a.idx) : DebtOk x d (a.dropQ k) :=
  ⟨h.fresh, fun c hc hp hx => by rw [subs_dropQ hk]; exact h.cnt c hc hp hx⟩

theorem step_dropQ {xf xi d} (hk : k ∉ a.idx) : StepS xf xi d a (a.dropQ k) where
  faults := rfl
  kMono := Nat.le_refl _
  keyMono := Nat.le_refl _
  idxNew := fun _ h => Or.inl h
  unl := fun _ q h _ => ⟨q, h, fun _ hx => hx⟩
  orphan := fun _ _ _ hn => hn.shrink (fun _ hp => ((mem_proj_dropQ' a k _).mp hp).1) (fun _ hx => hx)
  debtAlive := fun _ ha _ => ha
  prog := {
    doneMono := fun _ h => h
    lcRel := LcSub.refl _
    allNew := fun _ h => Or.inl h
    keysLt := fun hl p hp => hl p ((mem_proj_dropQ' a k _).mp hp).1
    ownKeep := fun _ _ hp hpi => (mem_proj_dropQ' a k _).mpr ⟨hp, fun he => hk (he ▸ hpi)⟩
    done6 := fun _ _ _ hpi hn => absurd hpi hn }

theorem ownerFree_dropQ {o : Owner} (h : a.OwnerFree o) : (a.dropQ k).OwnerFree o := by
  cases o with
  | probe => trivial
  | user tok => exact ⟨h.1, fun p hp => h.2.1 p ((mem_proj_dropQ' a k _).mp hp).1, h.2.2⟩
  | client id => exact h

theorem debtFor_dropQ {d} {o : Owner} (h : a.DebtFor d o) (hk : k ∉ a.idx) : (a.dropQ k).DebtFor d o := by
  cases o <;> exact debt_dropQ h hk

end

section
variable {a : Sk} {k : Nat}

theorem detach_none (hq : a.q? k = none) : a.detach k = a := by unfold Sk.detach; rw [hq]

theorem not_idx_of_dead (h : WfS a none) (hq : a.q? k = none) : k ∉ a.idx := fun hk => by
  obtain ⟨e, he⟩ := h.live_of_idx hk
  rw [hq] at he; cases he

theorem detach_idx_unlinked {e : QSk} (hq : a.q? k = some e) (hk : k ∉ a.idx) : (a.detach k).idx = a.idx := by
  unfold Sk.idx; rw [(detach_same hq).byQid]
  congr 1
  apply List.filter_eq_self.mpr
  intro p hp
  simp only [Bool.not_eq_true', Bool.and_eq_false_iff, beq_eq_false_iff_ne]
  exact Or.inr (fun he => hk (List.mem_map.mpr ⟨p, hp, he⟩))

theorem wf_freeQuery (h : WfS a none) : WfS (a.freeQuery k) none := by
  rw [Sk.freeQuery_eq]
  cases hq : a.q? k with
  | none => rw [detach_none hq]; exact wf_dropQ h (not_idx_of_dead h hq)
  | some e =>
    exact wf_dropQ (wf_detach h (Or.inl rfl) hq) (not_idx_detach h hq)

/-- the token in flight after releasing `k` -/
def freeTok (a : Sk) (k : Nat) : Option Nat :=
  match a.q? k with
  | some e => ownerTok e.owner
  | none => none

theorem step_freeQuery {xf xi d} (h : WfS a none) : StepT xf xi (freeTok a k) d a (a.freeQuery k) := by
  rw [Sk.freeQuery_eq]
  unfold freeTok
  cases hq : a.q? k with
  | none => rw [detach_none hq]; exact step_dropQ (not_idx_of_dead h hq)
  | some e => exact (step_detach h hq).trans (step_dropQ (not_idx_detach h hq)).toT

/-- releasing a query that is not linked (the query whose callback has just run, in `end_query`) does not
    change any count -/
theorem debt_freeQuery_unlinked {x d} (h : WfS a none) (hk : k ∉ a.idx) (hd : DebtOk x d a) :
    DebtOk x d (a.freeQuery k) := by
  rw [Sk.freeQuery_eq]
  cases hq : a.q? k with
  | none => rw [detach_none hq]; exact debt_dropQ hd hk
  | some e =>
    have hs := detach_same hq
    have hd' : DebtOk x d (a.detach k) :=
      hd.congr hs.nextClient (detach_qKO hq) (detach_idx_unlinked hq hk) hs.clients hs.pendingToks
    exact debt_dropQ hd' (not_idx_detach h hq)

/-- releasing a linked query (cancel / destroy walk): its owner's callback can be handed over -/
theorem owner_freeQuery {d} {e : QSk} (h : WfS a none) (hq : a.q? k = some e) (hk : k ∈ a.idx)
    (hd : DebtOk none d a) : (a.freeQuery k).OwnerFree e.owner ∧ (a.freeQuery k).DebtFor d e.owner := by
  rw [Sk.freeQuery_eq]
  obtain ⟨h1, h2⟩ := owner_detach h hq hk hd
  exact ⟨ownerFree_dropQ h1, debtFor_dropQ h2 (not_idx_detach h hq)⟩

end

/-- releasing a query that is no longer linked: no callback is in flight -/
theorem step_freeQuery_unlinked {a : Sk} {k : Nat} {d} (h : WfS a none) (hnk : k ∉ a.idx) :
    StepS none none d a (a.freeQuery k) := by
  have := step_freeQuery (xf := none) (xi := none) (d := d) (k := k) h
  refine ⟨this.faults, this.kMono, this.keyMono, this.idxNew, this.unl, this.orphan, this.debtAlive, ?_⟩
  have hp := this.prog
  refine ⟨hp.doneMono, hp.lcRel, hp.allNew, hp.keysLt, hp.ownKeep, fun _ p _ hpi hn => absurd hpi fun hpi' => ?_⟩
  -- a key that leaves the table by releasing `k` is `k`, which is not in the table
  by_cases he : p.1 = k
  · exact hnk (he ▸ hpi')
  · apply hn
    rw [Sk.freeQuery_eq]
    show p.1 ∈ ((a.detach k).dropQ k).idx
    cases hq : a.q? k with
    | none => rw [detach_none hq]; exact hpi'
    | some e => exact (mem_idx_detach h hq).mpr ⟨hpi', he⟩

section
variable {a : Sk} {hole : Option Nat} {k : Nat} {e : QSk}

theorem subs_freeQuery_linked (h : WfS a hole) (hq : a.q? k = some e) (hk : k ∈ a.idx) (id : Nat) :
    a.subs id = (a.freeQuery k).subs id + (if e.owner = .client id then 1 else 0) := by
  rw [Sk.freeQuery_eq, subs_dropQ (not_idx_detach h hq)]
  exact subs_detach h hq hk id

theorem subs_freeQuery_unlinked (h : WfS a none) (hk : k ∉ a.idx) (id : Nat) :
    (a.freeQuery k).subs id = a.subs id := by
  rw [Sk.freeQuery_eq]
  cases hq : a.q? k with
  | none => rw [detach_none hq]; exact subs_dropQ hk id
  | some e =>
    rw [subs_dropQ (not_idx_detach h hq)]
    unfold Sk.subs
    rw [detach_qKO hq, detach_idx_unlinked hq hk]

end

end Cares.Chan
