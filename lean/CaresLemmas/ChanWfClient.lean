import CaresLemmas.ChanWfTok
/-!
# C01 — compound-request records on the skeleton: bookkeeping update, creation, release
-/
namespace Cares.Chan

/-- the pure client logic updated the record of `id`; identity and token are unchanged -/
def Sk.setOut (a : Sk) (id n : Nat) : Sk :=
  { a with clients := a.clients.map fun e => if e.id == id then { e with out := n } else e }

def Sk.addClient (a : Sk) (e : KSk) : Sk :=
  { a with clients := a.clients ++ [e], nextClient := a.nextClient + 1 }

def Sk.dropClient (a : Sk) (id : Nat) : Sk :=
  { a with clients := a.clients.filter (·.id != id) }

theorem WfTokP.cl_congr {qKO idx pend done rs} {cl cl' : List KSk}
    (h : WfTokP qKO idx cl pend done rs)
    (h1 : ∀ c' ∈ cl', ∃ c ∈ cl, c.id = c'.id ∧ c.tok = c'.tok)
    (h2 : ∀ c ∈ cl, ∃ c' ∈ cl', c'.id = c.id ∧ c'.tok = c.tok) : WfTokP qKO idx cl' pend done rs where
  pN := h.pN
  dN := h.dN
  disj := h.disj
  pB := h.pB
  dB := h.dB
  tQ := fun p hp hpi tok ho => by
    obtain ⟨a1, a2, a3⟩ := h.tQ p hp hpi tok ho
    refine ⟨a1, a2, fun c' hc' => ?_⟩
    obtain ⟨c, hc, _, ht⟩ := h1 c' hc'
    rw [← ht]; exact a3 c hc
  tC := fun p hp hpi id ho => by
    obtain ⟨c, hc, hid, hp'⟩ := h.tC p hp hpi id ho
    obtain ⟨c', hc', hid', ht'⟩ := h2 c hc
    exact ⟨c', hc', by rw [hid', hid], by rw [ht']; exact hp'⟩
  tK := fun c' hc' => by
    obtain ⟨c, hc, _, ht⟩ := h1 c' hc'
    rw [← ht]; exact h.tK c hc
  tKU := fun c1' h1' c2' h2' he hp => by
    obtain ⟨c1, hc1, hi1, ht1⟩ := h1 c1' h1'
    obtain ⟨c2, hc2, hi2, ht2⟩ := h1 c2' h2'
    rw [← hi1, ← hi2]
    exact h.tKU c1 hc1 c2 hc2 (by rw [ht1, ht2]; exact he) (by rw [ht1]; exact hp)

section
variable {a : Sk} {id n : Nat}

theorem mem_setOut {c' : KSk} : c' ∈ (a.setOut id n).clients ↔
    ∃ c ∈ a.clients, c' = if c.id = id then { c with out := n } else c := by
  simp only [Sk.setOut, List.mem_map, beq_iff_eq]
  constructor
  · rintro ⟨c, hc, rfl⟩; exact ⟨c, hc, rfl⟩
  · rintro ⟨c, hc, rfl⟩; exact ⟨c, hc, rfl⟩

theorem setOut_ids : (a.setOut id n).clients.map (·.id) = a.clients.map (·.id) :=
  map_if_keep _ fun _ _ _ => rfl

theorem wf_setOut {hole} (h : WfS a hole) : WfS (a.setOut id n) hole := by
  refine ⟨h.q, h.i, h.t, h.c, h.s, ⟨?_, ?_⟩, ?_⟩
  · rw [setOut_ids]; exact h.k.nodup
  · intro c' hc'
    obtain ⟨c, hc, rfl⟩ := mem_setOut.mp hc'
    have := h.k.lt c hc
    split <;> exact this
  · apply h.tok.cl_congr
    · intro c' hc'
      obtain ⟨c, hc, rfl⟩ := mem_setOut.mp hc'
      exact ⟨c, hc, by split <;> rfl, by split <;> rfl⟩
    · intro c hc
      exact ⟨_, mem_setOut.mpr ⟨c, hc, rfl⟩, by split <;> rfl, by split <;> rfl⟩

theorem active_setOut {i : Nat} : (a.setOut id n).Active i ↔ a.Active i := by
  unfold Sk.Active
  constructor
  · rintro ⟨c', hc', hi, hp⟩
    obtain ⟨c, hc, rfl⟩ := mem_setOut.mp hc'
    refine ⟨c, hc, ?_, ?_⟩
    · rw [← hi]; split <;> rfl
    · have : (if c.id = id then { c with out := n } else c).tok = c.tok := by split <;> rfl
      rw [← this]; exact hp
  · rintro ⟨c, hc, hi, hp⟩
    refine ⟨_, mem_setOut.mpr ⟨c, hc, rfl⟩, ?_, ?_⟩
    · rw [← hi]; split <;> rfl
    · have : (if c.id = id then { c with out := n } else c).tok = c.tok := by split <;> rfl
      rw [this]; exact hp

theorem step_setOut {xf xi d} : StepS xf xi d a (a.setOut id n) where
  faults := rfl
  kMono := Nat.le_refl _
  keyMono := Nat.le_refl _
  idxNew := fun _ hx => Or.inl hx
  unl := fun _ q hm _ => ⟨q, hm, fun _ hx => hx⟩
  orphan := fun _ _ _ hn => hn
  debtAlive := fun _ ha _ => active_setOut.mpr ha
  prog := ProgS.of_same (fun _ h => h) rfl rfl rfl rfl rfl

/-- the debt invariant after the record of `id` was updated: every other record is untouched.  This gives the two
    branches of `Pre`, case `.runActs id acts`.  Actions with a `.finish` start nothing and `id` has nothing linked
    or owed (`NoSub id ∧ d id = 0`); its record no longer counts, so it is the exception (`x = some id`) until its
    callback takes its token out of the pending ones.  Actions without one are `sends acts` sub-requests about to be
    started: they are debt of `id` (`d' = bump d id (sends acts)`) and the new `out` counts them. -/
theorem debt_setOut {x d d'} (hd : DebtOk none d a) (hf : ∀ i, a.nextClient ≤ i → d' i = 0)
    (hother : ∀ i, i ≠ id → d' i = d i)
    (hid : some id ≠ x → ∀ c ∈ a.clients, c.id = id → c.tok ∈ a.pendingToks → n = a.subs id + d' id) :
    DebtOk x d' (a.setOut id n) := by
  refine ⟨hf, ?_⟩
  intro c' hc' hp hx
  obtain ⟨c, hc, rfl⟩ := mem_setOut.mp hc'
  by_cases hci : c.id = id
  · simp only [hci, ↓reduceIte] at hp hx ⊢
    exact hid hx c hc hci hp
  · simp only [hci, ↓reduceIte] at hp hx ⊢
    rw [hother _ hci]
    exact hd.cnt c hc hp (fun hh => by cases hh)

end

section
variable {a : Sk} {id : Nat}

theorem wf_dropClient (h : WfS a none) (hn : a.NoSub id) : WfS (a.dropClient id) none := by
  refine ⟨h.q, h.i, h.t, h.c, h.s, ⟨?_, fun c hc => h.k.lt c (List.mem_filter.mp hc).1⟩, ?_⟩
  · exact (List.Sublist.map _ List.filter_sublist).nodup h.k.nodup
  · have ht := h.tok
    show WfTokP a.qKO a.idx (a.clients.filter (·.id != id)) a.pendingToks a.doneToks a.reactSeq
    refine ⟨ht.pN, ht.dN, ht.disj, ht.pB, ht.dB, ?_, ?_, ?_, ?_⟩
    · intro p hp hpi tok ho
      obtain ⟨a1, a2, a3⟩ := ht.tQ p hp hpi tok ho
      exact ⟨a1, a2, fun c hc => a3 c (List.mem_filter.mp hc).1⟩
    · intro p hp hpi id' ho
      obtain ⟨c, hc, hid, hp'⟩ := ht.tC p hp hpi id' ho
      refine ⟨c, List.mem_filter.mpr ⟨hc, ?_⟩, hid, hp'⟩
      simp only [bne_iff_ne, ne_eq]
      intro he
      exact hn p hp hpi (by rw [ho, ← hid, he])
    · intro c hc; exact ht.tK c (List.mem_filter.mp hc).1
    · intro c hc c' hc'; exact ht.tKU c (List.mem_filter.mp hc).1 c' (List.mem_filter.mp hc').1

theorem debt_dropClient {x d} (hd : DebtOk x d a) : DebtOk x d (a.dropClient id) :=
  ⟨hd.fresh, fun c hc hp hx => hd.cnt c (List.mem_filter.mp hc).1 hp hx⟩

theorem step_dropClient {xf xi d} (hz : d id = 0) : StepS xf xi d a (a.dropClient id) where
  faults := rfl
  kMono := Nat.le_refl _
  keyMono := Nat.le_refl _
  idxNew := fun _ hx => Or.inl hx
  unl := fun _ q hm _ => ⟨q, hm, fun _ hx => hx⟩
  orphan := fun _ _ _ hn => hn
  debtAlive := fun i ha hpos => by
    obtain ⟨c, hc, hi, hp⟩ := ha
    refine ⟨c, List.mem_filter.mpr ⟨hc, ?_⟩, hi, hp⟩
    simp only [bne_iff_ne, ne_eq]
    intro he
    rw [← hi, he, hz] at hpos; omega
  prog := ProgS.of_same (fun _ h => h) rfl rfl rfl rfl rfl

end

section
variable {a : Sk} {e : KSk}

theorem wf_addClient (h : WfS a none) (hid : e.id = a.nextClient) (hp : e.tok ∈ a.pendingToks)
    (hq : ∀ p ∈ a.qKO, p.1 ∈ a.idx → p.2 ≠ .user e.tok) (hc : ∀ c ∈ a.clients, c.tok ≠ e.tok) :
    WfS (a.addClient e) none := by
  refine ⟨h.q, h.i, h.t, h.c, h.s, ⟨?_, ?_⟩, ?_⟩
  · show ((a.clients ++ [e]).map (·.id)).Nodup
    rw [List.map_append, List.nodup_append]
    refine ⟨h.k.nodup, by simp, ?_⟩
    intro x hx y hy
    obtain ⟨c, hcm, rfl⟩ := List.mem_map.mp hx
    simp only [List.map_cons, List.map_nil, List.mem_singleton] at hy
    have := h.k.lt c hcm
    omega
  · intro c hcm
    show c.id < a.nextClient + 1
    rcases List.mem_append.mp hcm with hcm | hcm
    · have := h.k.lt c hcm; omega
    · rw [List.mem_singleton.mp hcm]; omega
  · have ht := h.tok
    show WfTokP a.qKO a.idx (a.clients ++ [e]) a.pendingToks a.doneToks a.reactSeq
    refine ⟨ht.pN, ht.dN, ht.disj, ht.pB, ht.dB, ?_, ?_, ?_, ?_⟩
    · intro p hpm hpi tok ho
      obtain ⟨a1, a2, a3⟩ := ht.tQ p hpm hpi tok ho
      refine ⟨a1, a2, fun c hcm => ?_⟩
      rcases List.mem_append.mp hcm with hcm | hcm
      · exact a3 c hcm
      · rw [List.mem_singleton.mp hcm]
        intro he; exact hq p hpm hpi (he ▸ ho)
    · intro p hpm hpi id' ho
      obtain ⟨c, hcm, h1, h2⟩ := ht.tC p hpm hpi id' ho
      exact ⟨c, List.mem_append.mpr (Or.inl hcm), h1, h2⟩
    · intro c hcm
      rcases List.mem_append.mp hcm with hcm | hcm
      · exact ht.tK c hcm
      · rw [List.mem_singleton.mp hcm]; exact Or.inl hp
    · intro c hcm c' hcm' he hpe
      rcases List.mem_append.mp hcm with hcm | hcm <;> rcases List.mem_append.mp hcm' with hcm' | hcm'
      · exact ht.tKU c hcm c' hcm' he hpe
      · rw [List.mem_singleton.mp hcm'] at he; exact absurd he (hc c hcm)
      · rw [List.mem_singleton.mp hcm] at he; exact absurd he.symm (hc c' hcm')
      · rw [List.mem_singleton.mp hcm, List.mem_singleton.mp hcm']

theorem noSub_fresh (h : WfS a none) {i : Nat} (hi : a.nextClient ≤ i) : a.NoSub i := by
  intro p hpm hpi ho
  obtain ⟨c, hcm, h1, _⟩ := h.tok.tC p hpm hpi i ho
  have := h.k.lt c hcm
  omega

theorem step_addClient {xf xi d} : StepS xf xi d a (a.addClient e) where
  faults := rfl
  kMono := Nat.le_succ _
  keyMono := Nat.le_refl _
  idxNew := fun _ hx => Or.inl hx
  unl := fun _ q hm _ => ⟨q, hm, fun _ hx => hx⟩
  orphan := fun _ _ _ hn => hn
  debtAlive := fun i ha _ => by
    obtain ⟨c, hc, hi, hp⟩ := ha
    exact ⟨c, List.mem_append.mpr (Or.inl hc), hi, hp⟩
  prog := ProgS.of_same (fun _ h => h) rfl rfl rfl rfl rfl

theorem debt_addClient {x d d'} (h : WfS a none) (hd : DebtOk none d a) (hid : e.id = a.nextClient)
    (hother : ∀ i, i ≠ e.id → d' i = d i) (hf : ∀ i, a.nextClient + 1 ≤ i → d' i = 0)
    (he : some e.id ≠ x → e.out = d' e.id) : DebtOk x d' (a.addClient e) := by
  refine ⟨hf, ?_⟩
  intro c hcm hp hx
  rcases List.mem_append.mp hcm with hcm | hcm
  · have hlt := h.k.lt c hcm
    rw [hother c.id (by omega)]
    exact hd.cnt c hcm hp (fun hh => by cases hh)
  · rw [List.mem_singleton.mp hcm] at hx ⊢
    have : (a.addClient e).subs e.id = 0 := subsP_eq_zero.mpr (noSub_fresh h (by omega))
    rw [this, he hx]; omega

end

end Cares.Chan
