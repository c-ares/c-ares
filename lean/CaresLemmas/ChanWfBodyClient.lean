import CaresLemmas.ChanWfClient
import CaresLemmas.ChanWfMid
import CaresLemmas.ChanWfLookup
/-!
# C01 and C12c — body lemmas: `clientStart`, `runActs`
-/
namespace Cares.Chan

theorem sk_addClient_st (s : St) (c : Client) :
    ({ s with clients := s.clients ++ [c], nextClient := s.nextClient + 1 } : St).sk = s.sk.addClient c.sk := by
  unfold St.sk Sk.addClient
  simp only [List.map_append, List.map_cons, List.map_nil]

theorem sk_dropClient_st (s : St) (id : Nat) :
    ({ s with clients := s.clients.filter (·.id != id) } : St).sk = s.sk.dropClient id := by
  unfold St.sk Sk.dropClient
  simp only [Sk.mk.injEq, true_and, and_true, List.filter_map]
  rfl

variable {cid : Nat}

/-- the precondition of the `runActs` call made by `clientStart` -/
theorem clientStart_pre {d kind tok react spec family} {s : St}
    (hpre : Pre d s (.clientStart kind tok react spec family)) :
    Pre d { s with clients := s.clients ++ [(clientStart s.cfg s.nextClient kind tok react spec family).1],
                   nextClient := s.nextClient + 1 }
      (.runActs s.nextClient (clientStart s.cfg s.nextClient kind tok react spec family).2) := by
  obtain ⟨hw, hof, hd⟩ := hpre
  have hk := clientStart_ok s.cfg s.nextClient kind tok react spec family
  generalize clientStart s.cfg s.nextClient kind tok react spec family = r at hk ⊢
  obtain ⟨c, acts⟩ := r
  obtain ⟨k1, k2, k3⟩ := hk
  simp only at k1 k2 k3 ⊢
  have hsk1 := sk_addClient_st s c
  generalize ({ s with clients := s.clients ++ [c], nextClient := s.nextClient + 1 } : St) = s1 at hsk1 ⊢
  have hid : c.sk.id = s.sk.nextClient := k1
  have htok : c.sk.tok = tok := k2
  have hw1 : Wf s1 := by
    unfold Wf; rw [hsk1]
    exact wf_addClient hw hid (by rw [htok]; exact hof.1) (by rw [htok]; exact hof.2.1) (by rw [htok]; exact hof.2.2)
  have hact : s1.sk.Active s.nextClient := by
    rw [hsk1]
    exact ⟨c.sk, List.mem_append.mpr (Or.inr (List.mem_singleton.mpr rfl)), hid, by rw [htok]; exact hof.1⟩
  have hfr : d s.nextClient = 0 := hd.fresh _ (Nat.le_refl _)
  refine ⟨hw1, ?_⟩
  split
  · rename_i hf
    rw [if_pos hf] at k3
    refine ⟨hact, k3, ?_, hfr, ?_⟩
    · rw [hsk1]; exact noSub_fresh hw (Nat.le_refl _)
    · rw [hsk1]
      refine debt_addClient hw hd hid (fun _ _ => rfl) (fun i hi => hd.fresh i (by show s.nextClient ≤ i; change s.nextClient + 1 ≤ i at hi; omega)) ?_
      intro hx; rw [hid] at hx; exact absurd rfl hx
  · rename_i hf
    rw [if_neg hf] at k3
    refine ⟨?_, fun _ => hact⟩
    rw [hsk1]
    refine debt_addClient hw hd hid (fun i hi => bump_ne _ _ (by rw [hid] at hi; exact hi)) ?_ ?_
    · intro i hi
      change s.nextClient + 1 ≤ i at hi
      rw [bump_ne _ _ (by omega)]
      exact hd.fresh i (by show s.nextClient ≤ i; omega)
    · intro _
      rw [hid]
      show c.outstanding = bump d s.nextClient (sends acts) s.nextClient
      rw [bump_self, hfr, k3]; omega

theorem good_clientStart {goC : GoC} (h : GoGood cid goC) {d kind tok react spec family s L}
    (hpre : Pre d s (.clientStart kind tok react spec family))
    (hL : LG cid L (xtra cid (.clientStart kind tok react spec family)) s) :
    GoodL cid d (.clientStart kind tok react spec family) s L (bodyClientStartC goC kind tok react spec family s) := by
  have hpre1 := clientStart_pre hpre
  obtain ⟨_, _, hd⟩ := hpre
  unfold bodyClientStartC
  simp only
  have hL1 : LG cid (L ++ [.start s.nextClient kind tok react spec family]) 0
      ({ s with clients := s.clients ++ [(clientStart s.cfg s.nextClient kind tok react spec family).1],
                nextClient := s.nextClient + 1 } : St) :=
    (LG.snoc_quiet hL (quiet_start ..)).congr rfl rfl
  rcases h.callL hpre1 hL1 with hoof | ⟨hg, hL2⟩
  · exact Or.inl hoof
  · refine Or.inr ⟨⟨hg.wf, hg.debt, ?_, trivial⟩, by rw [List.append_assoc] at hL2; exact hL2⟩
    -- the compound request did not exist at entry
    have h1 : StepS none (some s.nextClient) d s.sk ({ s with
        clients := s.clients ++ [(clientStart s.cfg s.nextClient kind tok react spec family).1],
        nextClient := s.nextClient + 1 } : St).sk := by rw [sk_addClient_st]; exact step_addClient
    exact (h1.trans hg.step).drop_xi_fresh (Nat.le_refl _)

theorem sentOfAct_send (spec : ReqSpec) : (sentOfAct (.send spec)).length = 1 := rfl
theorem sentOfAct_sendSlot (spec : ReqSpec) (slot : Nat) : (sentOfAct (.sendSlot spec slot)).length = 1 := rfl

/-- one `.send` / `.sendSlot` action (already logged: `La`) followed by the rest of the list -/
theorem runActs_sendL {goC : GoC} (h : GoGood cid goC) {d id spec rest s La}
    (hw : Wf s) (hf : hasFinish rest = false)
    (hd : DebtOk none (bump d id (sends rest + 1)) s.sk) (ha : s.sk.Active id)
    (hLa : LG cid La (xtra cid (.sendNolock none false false spec (.client id) [])) s)
    (post : St → Ret → St) (hpost : ∀ s' r, (post s' r).sk = s'.sk) :
    let r1 := goC (.sendNolock none false false spec (.client id) []) s
    let s1 := post r1.1.1 r1.1.2
    r1.1.1.outOfFuel = true ∨
      (Pre d s1 (.runActs id rest) ∧ StepS none (some id) d s.sk s1.sk ∧ LG cid (La ++ r1.2) 0 s1) := by
  intro r1 s1
  rcases h.callL (d := bump d id (sends rest)) (c := .sendNolock none false false spec (.client id) []) (s := s)
    ⟨hw, ha, by show DebtOk none (bump (bump d id (sends rest)) id 1) s.sk; rw [bump_bump]; exact hd⟩ hLa
    with hoof | ⟨hg1, hL1⟩
  · exact Or.inl hoof
  right
  have hsk : s1.sk = r1.1.1.sk := hpost _ _
  refine ⟨⟨Wf.of_sk_eq hsk hg1.wf, ?_⟩, ?_, hL1.sk_eq hsk⟩
  · rw [hf]
    simp only [Bool.false_eq_true, ↓reduceIte]
    rw [hsk]
    refine ⟨hg1.debt, fun hpos => hg1.step.debtAlive id ha ?_⟩
    rw [bump_self]; omega
  · rw [hsk]
    exact hg1.step.weaken (Or.inl rfl) (Or.inr rfl) (fun i => le_bump d id _ i)

theorem good_runActs {goC : GoC} (h : GoGood cid goC) {d id acts s L}
    (hpre : Pre d s (.runActs id acts)) (hL : LG cid L (xtra cid (.runActs id acts)) s) :
    GoodL cid d (.runActs id acts) s L (bodyRunActsC goC id acts s) := by
  obtain ⟨hw, hpre⟩ := hpre
  have hL0 : LG cid L 0 s := hL
  unfold bodyRunActsC
  split
  · -- []
    simp only [hasFinish, sends, Bool.false_eq_true, ↓reduceIte, bump_zero] at hpre
    exact Or.inr ⟨⟨hw, hpre.1, StepS.refl _ _ _ _, trivial⟩, hL0.snoc_quiet (quiet_ret id)⟩
  · -- send
    rename_i spec rest
    by_cases hf : hasFinish rest = true
    · simp only [hasFinish, hf, ↓reduceIte, sends] at hpre
      omega
    · have hf' : hasFinish rest = false := by simpa using hf
      simp only [hasFinish, hf', Bool.false_eq_true, ↓reduceIte, sends] at hpre
      rcases runActs_sendL h (spec := spec) hw hf' hpre.1 (hpre.2 (by omega))
        (hL0.snoc_send_any (sentOfAct_send spec)) (fun s' _ => s') (fun _ _ => rfl) with hoof | ⟨hp1, hs1, hL1⟩
      · exact Or.inl (h.oof hoof)
      simp only at hp1 hs1 hL1 ⊢
      exact ((h.callL hp1 hL1).tail (c := .runActs id (.send spec :: rest)) (s := s) hs1 (Or.inl rfl) (Or.inr rfl)
        (fun _ => trivial)).log_eq (by simp only [List.append_assoc, List.cons_append, List.nil_append])
  · -- sendSlot
    rename_i spec slot rest
    by_cases hf : hasFinish rest = true
    · simp only [hasFinish, hf, ↓reduceIte, sends] at hpre
      omega
    · have hf' : hasFinish rest = false := by simpa using hf
      simp only [hasFinish, hf', Bool.false_eq_true, ↓reduceIte, sends] at hpre
      rcases runActs_sendL h (spec := spec) hw hf' hpre.1 (hpre.2 (by omega))
        (hL0.snoc_send_any (sentOfAct_sendSlot spec slot))
        (fun s' st => if st == .ok && s'.byQid.any (·.1 == (genQid 70000 s).1) then s'.modClient id fun c =>
          if slot == 0 then { c with qidA := (genQid 70000 s).1 } else { c with qidAAAA := (genQid 70000 s).1 } else s')
        (fun s' st => by
          split
          · apply sk_modClient
            intro c _
            exact sk_setQid c (slot == 0) (genQid 70000 s).1
          · rfl) with hoof | ⟨hp1, hs1, hL1⟩
      · refine Or.inl (h.oof ?_)
        split
        · simpa using hoof
        · exact hoof
      simp only at hp1 hs1 hL1 ⊢
      generalize goC (.sendNolock none false false spec (.client id) []) s = r1 at hp1 hs1 hL1 ⊢
      -- the `.slot` item (if any) does not touch the counters
      have hL1' := ite_both (fun l : CLog => LG cid (L ++ [.act id (.sendSlot spec slot)] ++ r1.2 ++ l) 0 _)
        (c := (r1.1.2 == .ok && r1.1.1.byQid.any (·.1 == (genQid 70000 s).1)) = true)
        (hL1.snoc_quiet (quiet_slot id slot (genQid 70000 s).1)) (by rw [List.append_nil]; exact hL1)
      exact ((h.callL hp1 hL1').tail (c := .runActs id (.sendSlot spec slot :: rest)) (s := s) hs1 (Or.inl rfl)
        (Or.inr rfl) (fun _ => trivial)).log_eq (by simp only [List.append_assoc, List.cons_append, List.nil_append])
  · -- noRetry
    rename_i qid rest
    simp only [hasFinish, sends] at hpre
    have key : ∀ s1 : St, s1.sk = s.sk → GoodL cid d (.runActs id (.noRetry qid :: rest)) s L
        ((goC (.runActs id rest) s1).1, CItem.act id (.noRetry qid) :: (goC (.runActs id rest) s1).2) := by
      intro s1 h1
      exact ((h.callL (d := d) (c := .runActs id rest) (s := s1) ⟨Wf.of_sk_eq h1 hw, by rw [h1]; exact hpre⟩
        ((hL0.snoc_quiet (quiet_noRetry id qid)).sk_eq h1)).tail' (c := .runActs id (.noRetry qid :: rest)) (s := s)
        (by rw [h1]; exact StepS.refl _ _ _ _) (Or.inl rfl) (Or.inr rfl) (fun _ => trivial)).seq
    split
    · exact key _ (by rw [sk_modQuery_same]; intro; rfl)
    · exact key _ rfl
  · -- finish
    rename_i st timeouts dg rest
    simp only [hasFinish, ↓reduceIte] at hpre
    obtain ⟨ha, _, hns, hz, hd⟩ := hpre
    obtain ⟨c0, hc0, hid0, hm0, hp0, _⟩ := client?_of_active hw ha
    simp only [hc0]
    have hlt : id < s.sk.nextClient := by have := hw.k.lt c0.sk hm0; rw [← hid0]; exact this
    have hg := h.callL (d := d) (c := .userCb c0.tok c0.react st timeouts dg) (s := s)
      ⟨hw, ⟨some id, hd, fun c hc he => by
          have hci : c.id = id := Option.some.inj he
          -- both records have id `id`, hence are the same record
          have : c = c0.sk := inj_of_nodup_map hw.k.nodup hc hm0 (by rw [hci]; exact hid0.symm)
          rw [this]; rfl⟩,
        hp0, fun p hp hpi ho => by
          have := (hw.tok.tQ p hp hpi _ ho).2.2 c0.sk hm0
          exact this rfl,
        fun c hc he => by
          have hci : c0.sk.id = c.id := hw.tok.tKU c0.sk hm0 c hc he.symm hp0
          have : c.id = id := by rw [← hci]; exact hid0
          rw [this]; exact ⟨hns, hz⟩⟩ (hL0.snoc_quiet (quiet_finish id st timeouts dg))
    generalize goC (.userCb c0.tok c0.react st timeouts dg) s = r1 at hg ⊢
    obtain ⟨⟨s1, ret1⟩, l1⟩ := r1
    rcases hg with hoof | ⟨hg, hL1⟩
    · exact Or.inl hoof
    have hns1 : s1.sk.NoSub id := hg.step.orphan id hlt (fun he => by cases he) hns
    have hsk2 := sk_dropClient_st s1 id
    refine Or.inr ⟨⟨?_, ?_, ?_, trivial⟩, ?_⟩
    · show Wf _
      unfold Wf; rw [hsk2]; exact wf_dropClient hg.wf hns1
    · show DebtOk none d _
      rw [hsk2]; exact debt_dropClient hg.debt
    · show StepS none (some id) d s.sk _
      rw [hsk2]
      exact hg.step.weaken'.trans (step_dropClient hz)
    · have h2 := (hL1.snoc_quiet (quiet_rel id)).snoc_quiet (quiet_ret id)
      simp only [List.append_assoc, List.cons_append, List.nil_append] at h2 ⊢
      exact h2.congr rfl rfl

end Cares.Chan
