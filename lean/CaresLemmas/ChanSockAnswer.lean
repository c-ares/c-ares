import CaresLemmas.ChanReach
/-!
# What `process_answer` accepts (C05, and the TC / empty-datagram clauses of C20)

On top of the decision `acceptKey` and the decomposition of `ChanSockAccept`: `process_answer` appends to `accepted`
exactly the response `acceptKey` accepts; over whole runs the log only grows, by entries that were `Authentic` when they
were examined (`AccOK`, through `Prim.accept`'s premise); and the direct lemmas about the branches of `process_answer`
and `read_conn_packets` that C05 and C20 quote.
-/
namespace Cares.Chan
open Cares.Proto

section
variable (go : Call → St → St × Ret)

theorem paPre_accepted (s : St) (c : Conn) (key : Nat) (q : Query) (r : Reply) :
    (paPre s c key q r).accepted = s.accepted := rfl
theorem paPre_cfg (s : St) (c : Conn) (key : Nat) (q : Query) (r : Reply) :
    (paPre s c key q r).cfg = s.cfg := rfl
theorem paPre_cache (s : St) (c : Conn) (key : Nat) (q : Query) (r : Reply) :
    (paPre s c key q r).cache = s.cache := rfl

theorem paDeliver_accepted (hgo : ∀ c s, (go c s).1.accepted = s.accepted) (fd : Nat) (r : Reply) (c : Conn)
    (key : Nat) (q : Query) (s : St) :
    (paDeliver go fd r c key q s).1.accepted = s.accepted ++ [(fd, key, r)] := by
  unfold paDeliver
  repeat (first | with_reducible rfl | (simp only [chan_frame, hgo]) | (csplit <;> pair_subst))

/-- **`process_answer` appends to `accepted` exactly the response it was given, exactly when `acceptKey` says so**
    (stated for recursive calls that leave `accepted` alone, i.e. for what `process_answer` itself does) -/
theorem bodyProcessAnswer_accepted (hgo : ∀ c s, (go c s).1.accepted = s.accepted) (fd : Nat) (r : Reply) (s : St) :
    (bodyProcessAnswer go fd r s).1.accepted =
      s.accepted ++ ((acceptKey s fd r).map fun k => (fd, k, r)).toList := by
  cases hk : acceptKey s fd r with
  | some key =>
    obtain ⟨c, q, _, _, _, heq⟩ := bodyProcessAnswer_accept hk
    rw [heq, paDeliver_accepted go hgo, paPre_accepted]; rfl
  | none =>
    simp only [Option.map_none, Option.toList_none, List.append_nil]
    rcases bodyProcessAnswer_reject hk with ⟨_, h⟩ | ⟨e, h⟩ | ⟨c, key, q, _, _, _, h⟩ <;> rw [h]
    · rfl
    · show (if _ then _ else _ : St).accepted = _
      split
      · rw [hgo, paPre_accepted]
      · rw [paPre_accepted]

end

/-- `accepted` extends `base`, the configuration is `cfg0`, and every entry beyond `base` was authentic in some
    state with configuration `cfg0`.  The proof supplies the state in which `process_answer` examined the entry, but the
    statement does not say which state it is, and so constrains little more than the response itself; what ties an entry
    to the queries and connections of the run is the single-step pair `bodyProcessAnswer_accepted` /
    `execBody_accepted_frame`. -/
def AccOKF (cfg0 : Cfg) (base : List (Nat × Nat × Reply)) (cfg : Cfg) (acc : List (Nat × Nat × Reply)) : Prop :=
  cfg = cfg0 ∧ base <+: acc ∧
    ∀ e ∈ acc.drop base.length, ∃ s0 : St, s0.cfg = cfg0 ∧ Authentic s0 e.1 e.2.1 e.2.2

abbrev AccOK (cfg0 : Cfg) (base : List (Nat × Nat × Reply)) (s : St) : Prop := AccOKF cfg0 base s.cfg s.accepted

theorem AccOKF_append {cfg0 cfg : Cfg} {base acc : List (Nat × Nat × Reply)} (h : AccOKF cfg0 base cfg acc)
    (e : Nat × Nat × Reply) (s0 : St) (hc : s0.cfg = cfg0) (ha : Authentic s0 e.1 e.2.1 e.2.2) :
    AccOKF cfg0 base cfg (acc ++ [e]) := by
  obtain ⟨h1, h2, h3⟩ := h
  refine ⟨h1, h2.trans (List.prefix_append _ _), ?_⟩
  intro x hx
  have hlen : base.length ≤ acc.length := h2.length_le
  rw [List.drop_append_of_le_length hlen, List.mem_append] at hx
  cases hx with
  | inl hx => exact h3 x hx
  | inr hx => simp only [List.mem_singleton] at hx; subst hx; exact ⟨s0, hc, ha⟩

theorem AccOK.prim {cfg0 : Cfg} {base : List (Nat × Nat × Reply)} {c : Call} {s s' : St} (p : Prim c s s')
    (h : AccOK cfg0 base s) : AccOK cfg0 base s' := by
  rw [AccOK, p.untouched.1]
  cases p
  case accept s0 _ _ _ hk h0 => exact AccOKF_append h _ s0 (h0.symm.trans h.1) (acceptKey_authentic hk)
  case sqCommit => rw [sqCommit_shape]; exact h
  case openConn => rw [sqOpen_shape]; exact h
  case closeFinal => rw [closeFinal_shape]; exact h
  all_goals simpa only [chan_frame] using h

/-- **Append-only, authentic `accepted` log (whole runs).**  Running any procedure with any fuel extends `accepted`,
    and every new entry `(fd, key, r)` was `Authentic` in some state with the same configuration (the proof takes the
    state in which `process_answer` examined it — the premise of `Prim.accept`, `acceptKey_authentic` — but the statement
    is existential: see `AccOKF`). -/
theorem exec_AccOK (fuel : Nat) (c : Call) (s : St) : AccOK s.cfg s.accepted (exec fuel c s).1 :=
  exec_invariant AccOK.prim (fun _ h => h) fuel c s ⟨rfl, List.prefix_refl _, by simp⟩

/-- a zero-length datagram is consumed without any effect -/
theorem bodyProcessAnswer_empty (go : Call → St → St × Ret) (fd : Nat) (r : Reply) (s : St) (c : Conn)
    (hc : s.conn? fd = some c) (he : r.empty = true) : bodyProcessAnswer go fd r s = (s, .ok) := by
  unfold bodyProcessAnswer; simp only [hc, he, ↓reduceIte]

/-- garbage is not accepted either (it fails the connection: `ARES_EBADRESP`) and the state is untouched -/
theorem bodyProcessAnswer_garbage (go : Call → St → St × Ret) (fd : Nat) (r : Reply) (s : St) (c : Conn)
    (hc : s.conn? fd = some c) (he : r.empty = false) (hg : r.garbage = true) :
    bodyProcessAnswer go fd r s = (s, .badresp) := by
  unfold bodyProcessAnswer; simp only [hc, he, hg, Bool.false_eq_true, ↓reduceIte]

/-- a response whose id belongs to no query changes nothing -/
theorem bodyProcessAnswer_unknown_id (go : Call → St → St × Ret) (fd : Nat) (r : Reply) (s : St) (c : Conn)
    (hc : s.conn? fd = some c) (hid : s.byQid.find? (·.1 == r.id) = none) :
    (bodyProcessAnswer go fd r s).1 = s := by
  rw [bodyProcessAnswer_stages]; simp only [hc, hid]
  repeat (first | rfl | split)

/-- a response arriving on a connection other than the one its query is assigned to changes nothing
    (the check added by the repair of F9) -/
theorem bodyProcessAnswer_other_conn (go : Call → St → St × Ret) (fd : Nat) (r : Reply) (s : St) (c : Conn)
    (id key : Nat) (q : Query) (hc : s.conn? fd = some c) (hid : s.byQid.find? (·.1 == r.id) = some (id, key))
    (hq : s.query? key = some q) (hconn : q.conn ≠ some fd) :
    (bodyProcessAnswer go fd r s).1 = s := by
  rw [bodyProcessAnswer_stages]; simp only [hc, hid, hq]
  have : (q.conn != some fd) = true := by simpa using hconn
  simp only [this, ↓reduceIte]
  repeat (first | rfl | split)

/-- a response with a different question (type, class, name under the case rule) changes nothing -/
theorem bodyProcessAnswer_wrong_question (go : Call → St → St × Ret) (fd : Nat) (r : Reply) (s : St) (c : Conn)
    (id key : Nat) (q : Query) (hc : s.conn? fd = some c) (hid : s.byQid.find? (·.1 == r.id) = some (id, key))
    (hq : s.query? key = some q) (hs : sameQuestion s.cfg q r = false) :
    (bodyProcessAnswer go fd r s).1 = s := by
  rw [bodyProcessAnswer_stages]; simp only [hc, hid, hq, hs, Bool.not_false, ↓reduceIte]
  repeat (first | rfl | split)

theorem mem_qs_modQuery {s : St} {k : Nat} {f : Query → Query} {q' : Query} (h : q' ∈ (s.modQuery k f).qs) :
    ∃ q ∈ s.qs, q' = if q.key == k then f q else q := by
  simp only [St.modQuery, List.mem_map] at h
  obtain ⟨q, hq, rfl⟩ := h
  exact ⟨q, hq, rfl⟩

/-- **A truncated UDP answer is retried over TCP unless truncation is ignored.**  If `process_answer` accepts a
    response with TC set that arrived on a UDP connection, `ARES_FLAG_IGNTC` is off, and the response is not a
    FORMERR (which takes the EDNS-downgrade path first): nothing is delivered (no callback runs, no recursive call
    is made at all) — the query is switched to TCP and its id queued for re-sending (`read_answers` re-sends the
    queued ids through `ares_send_query` when its loop ends: `bodyFlushRequeue`). -/
theorem bodyProcessAnswer_tc (go : Call → St → St × Ret) (fd : Nat) (r : Reply) (s : St) (c : Conn) (key : Nat)
    (hc : s.conn? fd = some c) (hk : acceptKey s fd r = some key) (htc : r.tc = true) (hudp : c.tcp = false)
    (hign : s.cfg.igntc = false) (hrc : r.rcode ≠ 1) :
    ∃ s' q, bodyProcessAnswer go fd r s = (s', .ok) ∧ s.query? key = some q ∧
      s'.requeueArr = s.requeueArr ++ [(q.qid, none)] ∧
      s'.accepted = s.accepted ++ [(fd, key, r)] ∧
      (∀ q' ∈ s'.qs, q'.key = key → q'.usingTcp = true) ∧
      s'.doneToks = s.doneToks ∧ s'.cache = s.cache := by
  obtain ⟨c', q, hc', hq, _, heq⟩ := bodyProcessAnswer_accept hk
  rw [hc] at hc'; cases hc'
  have hrc' : (r.rcode == 1) = false := by simpa using hrc
  rw [heq]
  unfold paDeliver
  simp only [hrc', Bool.false_and, Bool.false_eq_true, ↓reduceIte, htc, hudp, chan_frame, paPre_cfg, hign,
    Bool.not_false, Bool.and_self]
  refine ⟨_, q, rfl, hq, ?_, by simp only [chan_frame, paPre_accepted], ?_, by simp only [chan_frame]; rfl,
    by simp only [chan_frame, paPre_cache]⟩
  · simp only [chan_frame]
    have : (paPre s c key q r).query? key = (s.query? key).map _ := query?_modQuery_self _ _ _ (fun _ => rfl)
    rw [this, hq]
    rfl
  · intro q' hq' hkey
    obtain ⟨x, _, rfl⟩ := mem_qs_modQuery hq'
    by_cases hx : (x.key == key) = true
    · simp only [hx, ↓reduceIte]
    · simp only [hx, Bool.false_eq_true, ↓reduceIte] at hkey
      simp only [hkey, beq_self_eq_true, not_true_eq_false] at hx

/-- … and with `ARES_FLAG_IGNTC` the truncated answer is used as it is: a NOERROR response goes to `end_query` -/
theorem bodyProcessAnswer_igntc (go : Call → St → St × Ret) (fd : Nat) (r : Reply) (s : St) (c : Conn) (key : Nat)
    (hc : s.conn? fd = some c) (hk : acceptKey s fd r = some key) (hign : s.cfg.igntc = true) (hrc : r.rcode = 0) :
    ∃ s', bodyProcessAnswer go fd r s = ((go (.endQuery (some c.srv) key .ok (some r)) s').1, .ok) ∧
      s'.accepted = s.accepted ++ [(fd, key, r)] := by
  obtain ⟨c', q, hc', hq, _, heq⟩ := bodyProcessAnswer_accept hk
  rw [hc] at hc'; cases hc'
  rw [heq]
  unfold paDeliver
  simp only [hrc, hign, Bool.not_true, Bool.and_false, Bool.false_and, chan_frame, paPre_cfg, Nat.reduceBEq,
    Bool.or_self, Bool.false_eq_true, ↓reduceIte]
  exact ⟨_, rfl, by simp only [chan_frame, paPre_accepted]⟩

/-- **A datagram from the wrong source address never reaches `process_answer`**: `read_conn_packets` takes it off
    the socket and goes on to `read_answers` with the connection's in_buf — and everything else — as it was. -/
theorem bodyProcessRead_wrong_source (go : Call → St → St × Ret) (fd : Nat) (s : St) (c : Conn) (v : VSock)
    (r : Reply) (rest : List Reply) (hc : s.conn? fd = some c) (hv : s.sock? fd = some v)
    (hul : c.unlinked = false) (hudp : c.tcp = false) (hf : (s.fault "recvfrom").1 = none)
    (hrx : v.rx = r :: rest) (hw : r.wrongsrc = true) :
    ∃ s', bodyProcessRead go fd s = go (.readAnswers fd) s' ∧
      s'.conns = s.conns ∧ s'.accepted = s.accepted ∧ s'.qs = s.qs ∧ s'.cache = s.cache ∧
      s'.servers = s.servers ∧ s'.requeueArr = s.requeueArr ∧
      s'.socks = s.socks.map (fun x => if x.fd == fd then { x with rx := rest } else x) := by
  unfold bodyProcessRead
  simp only [hc, hv, hul, hudp, Bool.false_eq_true, ↓reduceIte, Bool.not_false]
  split <;> pair_subst
  · rename_i e hfe
    rw [hf] at hfe
    cases hfe
  simp only [hrx, hw, ↓reduceIte]
  refine ⟨_, rfl, by simp only [chan_frame], by simp only [chan_frame], by simp only [chan_frame],
    by simp only [chan_frame], by simp only [chan_frame], by simp only [chan_frame], ?_⟩
  simp only [St.modSock, St.slog, St.fault]

end Cares.Chan
