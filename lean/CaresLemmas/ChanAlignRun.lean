import CaresLemmas.ChanAlignExec
import CaresLemmas.ChanSockUnl
/-!
# TCP read alignment (C20) — the invariant in terms of the state, and what whole calls do to one connection

* `Aligned s` — the invariant stated with `St.conn?` / `St.sock?`;
* `exec_side` — a completed call keeps `Aligned` together with any side property `Q` of the live connections that holds
  of fresh connections and does not look at what a read call changes (the state-level form of `exec_Al`);
* `exec_Aligned`, `exec_read_frame` (a completed call that is not a read call on `fd` leaves the inbound side of a live
  connection `fd` untouched, and a connection that is live afterwards was live before), `exec_dead_stays` (a descriptor
  that names no live connection names none afterwards), `exec_conn_kind`: instances;
* `exec_connError_kills` — a completed `handle_conn_error` leaves no live connection on its descriptor.
-/
namespace Cares.Chan

/-- **TCP read alignment.**  Descriptors of virtual sockets are below `nextFd`; every connection has a virtual socket;
    every socket's stream is as the virtual server builds it (`WfStream`), `slen` is its length and `spos ≤ slen`; and
    for every TCP connection that is not being closed, the position `spos - inBytes` up to which it has consumed its
    socket's stream is a message boundary (`Boundary`: the start, or the end offset of a message). -/
structure Aligned (s : St) : Prop where
  fresh : ∀ fd v, s.sock? fd = some v → fd < s.nextFd
  hasSock : ∀ fd c, s.conn? fd = some c → ∃ v, s.sock? fd = some v
  stream : ∀ fd v, s.sock? fd = some v → StreamOk (vflag v)
  aligned : ∀ fd c v, s.conn? fd = some c → s.sock? fd = some v → c.tcp = true → c.unlinked = false →
    AlignedV (vflag v) (rflag c)

theorem conn?_fd {s : St} {fd : Nat} {c : Conn} (h : s.conn? fd = some c) : c.fd = fd := Cares.find?_key_eq h
theorem sock?_fd {s : St} {fd : Nat} {v : VSock} (h : s.sock? fd = some v) : v.fd = fd := Cares.find?_key_eq h

/-- `Aligned` together with a side property of the live connections is the `AlCore` of the lookup functions -/
theorem alCore_of_aligned {Q : Nat → SV → CV → Prop} {N0 : Nat} {s : St} (h : Aligned s) (hn : N0 ≤ s.nextFd)
    (hq : ∀ fd c v, s.conn? fd = some c → s.sock? fd = some v → c.unlinked = false → Q fd (vflag v) (rflag c)) :
    AlCore Q N0 (pfind (s.conns.map rk)) (pfind (s.socks.map vk)) s.nextFd := by
  refine ⟨hn, ?_, ?_, ?_, ?_, ?_⟩
  · intro fd x hx
    rw [pfind_socks] at hx
    cases hv : s.sock? fd with
    | none => rw [hv] at hx; cases hx
    | some v => exact h.fresh fd v hv
  · intro fd y hy
    rw [pfind_conns] at hy
    cases hc : s.conn? fd with
    | none => rw [hc] at hy; cases hy
    | some c =>
      obtain ⟨v, hv⟩ := h.hasSock fd c hc
      exact ⟨vflag v, by rw [pfind_socks, hv]; rfl⟩
  · intro fd x hx
    rw [pfind_socks] at hx
    cases hv : s.sock? fd with
    | none => rw [hv] at hx; cases hx
    | some v => rw [hv] at hx; cases hx; exact h.stream fd v hv
  · intro fd y x hy hx ht hu
    rw [pfind_conns] at hy
    rw [pfind_socks] at hx
    cases hc : s.conn? fd with
    | none => rw [hc] at hy; cases hy
    | some c =>
      cases hv : s.sock? fd with
      | none => rw [hv] at hx; cases hx
      | some v =>
        rw [hc] at hy; rw [hv] at hx; cases hy; cases hx
        exact h.aligned fd c v hc hv ht hu
  · intro fd y x hy hx hu
    rw [pfind_conns] at hy
    rw [pfind_socks] at hx
    cases hc : s.conn? fd with
    | none => rw [hc] at hy; cases hy
    | some c =>
      cases hv : s.sock? fd with
      | none => rw [hv] at hx; cases hx
      | some v =>
        rw [hc] at hy; rw [hv] at hx; cases hy; cases hx
        exact hq fd c v hc hv hu

theorem aligned_of_alCore {Q : Nat → SV → CV → Prop} {N0 : Nat} {s : St}
    (h : AlCore Q N0 (pfind (s.conns.map rk)) (pfind (s.socks.map vk)) s.nextFd) : Aligned s := by
  refine ⟨?_, ?_, ?_, ?_⟩
  · intro fd v hv
    exact h.fresh fd (vflag v) (by rw [pfind_socks, hv]; rfl)
  · intro fd c hc
    obtain ⟨x, hx⟩ := h.hasSock fd (rflag c) (by rw [pfind_conns, hc]; rfl)
    rw [pfind_socks] at hx
    cases hv : s.sock? fd with
    | none => rw [hv] at hx; cases hx
    | some v => exact ⟨v, rfl⟩
  · intro fd v hv
    exact h.stream fd (vflag v) (by rw [pfind_socks, hv]; rfl)
  · intro fd c v hc hv ht hu
    exact h.al fd (rflag c) (vflag v) (by rw [pfind_conns, hc]; rfl) (by rw [pfind_socks, hv]; rfl) ht hu

theorem alCore_q {Q : Nat → SV → CV → Prop} {N0 : Nat} {s : St}
    (h : AlCore Q N0 (pfind (s.conns.map rk)) (pfind (s.socks.map vk)) s.nextFd) {fd : Nat} {c : Conn} {v : VSock}
    (hc : s.conn? fd = some c) (hv : s.sock? fd = some v) (hu : c.unlinked = false) : Q fd (vflag v) (rflag c) :=
  h.q fd (rflag c) (vflag v) (by rw [pfind_conns, hc]; rfl) (by rw [pfind_socks, hv]; rfl) hu

theorem aligned_init (s : St) (hc : s.conns = []) (hs : s.socks = []) : Aligned s := by
  refine ⟨?_, ?_, ?_, ?_⟩
  · intro fd v hv; simp [St.sock?, hs] at hv
  · intro fd c h; simp [St.conn?, hc] at h
  · intro fd v hv; simp [St.sock?, hs] at hv
  · intro fd c v h; simp [St.conn?, hc] at h

/-- `call` is `read_conn_packets` or `read_answers` on descriptor `fd` -/
def Call.readsFd : Call → Nat → Prop
  | .processRead fd', fd => fd' = fd
  | .readAnswers fd', fd => fd' = fd
  | _, _ => False

theorem okCall_of_not_reads {Q : Nat → SV → CV → Prop} {call : Call}
    (h : ∀ fd, call.readsFd fd → QRead Q fd) : okCall Q call := by
  cases call <;> simp only [okCall]
  case processRead fd => exact h fd rfl
  case readAnswers fd => exact h fd rfl

/-- **The invariant and a side property of the live connections, on states.**  `Q` holds of freshly opened connections
    with descriptors from `N0` on and does not look at what a read call changes of the connection it works on; then a
    completed call keeps `Aligned`, leaves `nextFd` at or above `N0`, and keeps `Q`.  Everything the layers above say
    about what a call does *not* do to a connection is an instance (`Q` a snapshot of the connection).
    The arguments are plain functions: `hQ` is `fun fd hle tcp => …` (`QFresh`), `hok` is `fun fd hr x y sp ib hq => …`
    (`QRead`: `sp` the new read position, `ib` the new number of buffered bytes).  `Q` comes back on the views:
    `(vflag v).slen` is `v.slen` by `rfl`, but another atom for `omega`; ascribe the type when taking it apart. -/
theorem exec_side {Q : Nat → SV → CV → Prop} {N0 : Nat} (hQ : QFresh Q N0) (fuel : Nat) (call : Call) (s : St)
    (h : Aligned s) (hn : N0 ≤ s.nextFd)
    (hq : ∀ fd c v, s.conn? fd = some c → s.sock? fd = some v → c.unlinked = false → Q fd (vflag v) (rflag c))
    (hok : ∀ fd, call.readsFd fd → QRead Q fd) (hf : (exec fuel call s).1.outOfFuel = false) :
    Aligned (exec fuel call s).1 ∧ N0 ≤ (exec fuel call s).1.nextFd ∧
      ∀ fd c v, (exec fuel call s).1.conn? fd = some c → (exec fuel call s).1.sock? fd = some v → c.unlinked = false →
        Q fd (vflag v) (rflag c) := by
  have core := exec_Al hQ fuel call s (okCall_of_not_reads hok) (fun _ => alCore_of_aligned h hn hq) hf
  exact ⟨aligned_of_alCore core, core.n0, fun _ _ _ hc hv hu => alCore_q core hc hv hu⟩

/-- **the alignment invariant is kept by every completed call**, and descriptors are only handed out -/
theorem exec_Aligned (fuel : Nat) (call : Call) (s : St) (h : Aligned s)
    (hf : (exec fuel call s).1.outOfFuel = false) :
    Aligned (exec fuel call s).1 ∧ s.nextFd ≤ (exec fuel call s).1.nextFd :=
  have := exec_side (Q := fun _ _ _ => True) (fun _ _ _ => trivial) fuel call s h (Nat.le_refl _)
    (fun _ _ _ _ _ _ => trivial) (fun _ _ _ _ _ _ _ => trivial) hf
  ⟨this.1, this.2.1⟩

/-- the consumed position of an aligned TCP connection splits its stream (`Split` of `ChanSockFrame.lean`): the messages
    before it have been taken, the others follow it without gap -/
theorem Aligned.split {s : St} (h : Aligned s) {fd : Nat} {c : Conn} {v : VSock} (hc : s.conn? fd = some c)
    (hv : s.sock? fd = some v) (ht : c.tcp = true) (hu : c.unlinked = false) :
    c.inBytes ≤ v.spos ∧ ∃ done todo, Split v.stream (v.spos - c.inBytes) done todo :=
  ⟨(h.aligned fd c v hc hv ht hu).le, (h.aligned fd c v hc hv ht hu).split (h.stream fd v hv)⟩

/-- **Frame.**  A completed call that is not a read call on `fd` does not touch the inbound side of connection `fd`: if
    `fd` names a connection that is not being closed afterwards, it did so before, with the same stream, the same read
    position and the same number of buffered bytes.  (Descriptors are never reused: `fd < s.nextFd`.) -/
theorem exec_read_frame (fuel : Nat) (call : Call) (s : St) (h : Aligned s) (fd : Nat) (hfd : fd < s.nextFd)
    (hcall : ¬ call.readsFd fd) (hf : (exec fuel call s).1.outOfFuel = false) {c' : Conn} {v' : VSock}
    (hc' : (exec fuel call s).1.conn? fd = some c') (hv' : (exec fuel call s).1.sock? fd = some v')
    (hu' : c'.unlinked = false) :
    ∃ c v, s.conn? fd = some c ∧ s.sock? fd = some v ∧ c.unlinked = false ∧ vflag v' = vflag v ∧ rflag c' = rflag c :=
  (exec_side (N0 := fd + 1)
    (Q := fun fd' x y => fd' = fd →
      ∃ c v, s.conn? fd = some c ∧ s.sock? fd = some v ∧ c.unlinked = false ∧ x = vflag v ∧ y = rflag c)
    (fun fd' hle tcp he => by omega) fuel call s h hfd
    (fun fd' c v hc hv hu he => by subst he; exact ⟨c, v, hc, hv, hu, rfl, rfl⟩)
    (fun fd' hr x y _ _ _ he => by subst he; exact absurd hr hcall) hf).2.2 fd c' v' hc' hv' hu' rfl

/-- … in particular a descriptor that names no live connection before names none afterwards -/
theorem exec_dead_stays (fuel : Nat) (call : Call) (s : St) (h : Aligned s) (fd : Nat) (hfd : fd < s.nextFd)
    (hcall : ¬ call.readsFd fd) (hf : (exec fuel call s).1.outOfFuel = false)
    (hdead : ∀ c, s.conn? fd = some c → c.unlinked = true) :
    ∀ c', (exec fuel call s).1.conn? fd = some c' → c'.unlinked = true := by
  intro c' hc'
  cases hu' : c'.unlinked with
  | true => rfl
  | false =>
    have hal := (exec_Aligned fuel call s h hf).1
    obtain ⟨v', hv'⟩ := hal.hasSock fd c' hc'
    obtain ⟨c, v, hc, _, hu, _⟩ := exec_read_frame fuel call s h fd hfd hcall hf hc' hv' hu'
    rw [hdead c hc] at hu; cases hu

/-- **No call changes what a connection is.**  Whatever the call (read calls included): if `fd` names a connection that
    is not being closed afterwards, it did so before, of the same kind (TCP / UDP), with the same peer stream. -/
theorem exec_conn_kind (fuel : Nat) (call : Call) (s : St) (h : Aligned s) (fd : Nat) (hfd : fd < s.nextFd)
    (hf : (exec fuel call s).1.outOfFuel = false) {c' : Conn} {v' : VSock}
    (hc' : (exec fuel call s).1.conn? fd = some c') (hv' : (exec fuel call s).1.sock? fd = some v')
    (hu' : c'.unlinked = false) :
    ∃ c v, s.conn? fd = some c ∧ s.sock? fd = some v ∧ c.unlinked = false ∧ c'.tcp = c.tcp ∧
      v'.stream = v.stream ∧ v'.slen = v.slen :=
  (exec_side (N0 := fd + 1)
    (Q := fun fd' x y => fd' = fd → ∃ c v, s.conn? fd = some c ∧ s.sock? fd = some v ∧ c.unlinked = false ∧
      y.tcp = c.tcp ∧ x.stream = v.stream ∧ x.slen = v.slen)
    (fun fd' hle tcp he => by omega) fuel call s h hfd
    (fun fd' c v hc hv hu he => by subst he; exact ⟨c, v, hc, hv, hu, rfl, rfl, rfl⟩)
    (fun fd' _ x y _ _ hq he => hq he) hf).2.2 fd c' v' hc' hv' hu' rfl

theorem Aligned.of_views {s s' : St} (h : Aligned s) (hc : s'.conns.map rk = s.conns.map rk)
    (hs : s'.socks.map vk = s.socks.map vk) (hn : s'.nextFd = s.nextFd) : Aligned s' := by
  apply aligned_of_alCore (Q := fun _ _ _ => True) (N0 := 0)
  rw [hc, hs, hn]
  exact alCore_of_aligned h (Nat.zero_le _) (fun _ _ _ _ _ _ => trivial)

theorem exec_oof_back (fuel : Nat) (call : Call) (s : St) (hf : (exec fuel call s).1.outOfFuel = false) :
    s.outOfFuel = false := by
  cases h : s.outOfFuel with
  | false => rfl
  | true => have := exec_outOfFuel fuel call s h; rw [hf] at this; cases this

/-! `read_answers` calls `handle_conn_error` when `process_answer` fails; `read_conn_packets` calls it on a socket error or
EOF.  If that call completes (fuel not exhausted), the descriptor no longer names a connection that is not being closed:
`ares_close_connection` marks it at once, and nothing ever clears the mark (`exec_dead_stays`). -/

theorem exec_connError_kills (n : Nat) (fd : Nat) (st : Status) (t : St) (hal : Aligned t) (hfd : fd < t.nextFd)
    (hf : (exec n (.connError fd true st) t).1.outOfFuel = false) :
    ∀ c', (exec n (.connError fd true st) t).1.conn? fd = some c' → c'.unlinked = true := by
  cases hc : t.conn? fd with
  | none =>
    exact exec_dead_stays n _ t hal fd hfd (fun h => h) hf (fun c hc' => by rw [hc] at hc'; cases hc')
  | some c =>
    cases n with
    | zero => exact absurd hf (by simp [exec, St.oof])
    | succ m =>
      have e1 : exec (m + 1) (.connError fd true st) t = exec m (.closeConn fd st) (t.incFailures c.srv c.tcp) := by
        show bodyConnError (exec m) fd true st t = _
        unfold bodyConnError
        simp only [hc, ↓reduceIte]
      rw [e1] at hf ⊢
      generalize ht1 : t.incFailures c.srv c.tcp = t1 at hf ⊢
      have hc1 : t1.conn? fd = some c := by
        rw [← ht1]; show (t.incFailures c.srv c.tcp).conns.find? _ = _
        rw [St.incFailures_conns]; exact hc
      have hal1 : Aligned t1 := by
        rw [← ht1]
        exact hal.of_views (by simp only [chan_frame]) (by simp only [chan_frame]) (by simp only [chan_frame])
      have hn1 : t1.nextFd = t.nextFd := by rw [← ht1]; simp only [chan_frame]
      cases m with
      | zero => exact absurd hf (by simp [exec, St.oof])
      | succ k =>
        have e2 : exec (k + 1) (.closeConn fd st) t1 = exec k (.closeLoop fd st)
            ((t1.modServer c.srv fun v =>
              { v with conns := v.conns.erase fd, tcpConn := if c.tcp then none else v.tcpConn }).modConn fd
              fun c => { c with unlinked := true, out := [], outOff := 0, inBytes := 0, inMsgs := [] }) := by
          show bodyCloseConn (exec k) fd st t1 = _
          unfold bodyCloseConn
          simp only [hc1]
        rw [e2] at hf ⊢
        generalize ht2 : ((t1.modServer c.srv fun v =>
              { v with conns := v.conns.erase fd, tcpConn := if c.tcp then none else v.tcpConn }).modConn fd
              fun c => { c with unlinked := true, out := [], outOff := 0, inBytes := 0, inMsgs := [] }) = t2 at hf ⊢
        have ho2 : t2.outOfFuel = false := exec_oof_back _ _ _ hf
        have hc2 : t2.conn? fd = some { c with unlinked := true, out := [], outOff := 0, inBytes := 0, inMsgs := [] } := by
          rw [← ht2]
          exact (conn?_modConn_self _ _ _ (by intro; rfl)).trans (congrArg (Option.map _) hc1)
        have hal2 : Aligned t2 := by
          have h0 : Al (fun _ _ _ => True) 0 t1 :=
            fun _ => alCore_of_aligned hal1 (Nat.zero_le _) (fun _ _ _ _ _ _ => trivial)
          have h1 : Al (fun _ _ _ => True) 0 t2 := by
            rw [← ht2]
            exact AlF_unlink (t1.modServer c.srv _) fd _ (fun _ => rfl) h0
          exact aligned_of_alCore (h1 ho2)
        have hn2 : t2.nextFd = t.nextFd := by rw [← ht2]; exact hn1
        refine exec_dead_stays k _ t2 hal2 fd (by omega) (fun h => h) hf ?_
        intro c2 hc2'
        rw [hc2] at hc2'; cases hc2'; rfl

end Cares.Chan
