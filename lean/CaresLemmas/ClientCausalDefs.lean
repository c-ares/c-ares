import CaresLemmas.ChanWfDefs
import CaresLemmas.ClientExecEvents
/-!
# Causality of the client events of a channel run — definitions and the generic part

`Causal cid L` (ClientExecEvents): at every completion delivered to the compound request `cid` in the log `L`, strictly
more sub-requests have been started for `cid` than completions delivered.  It is a property of the channel: a
sub-request completes at most once, after its start.  In terms of the C01 invariant it reads

    #starts(cid, L) = #completions(cid, L) + subs(cid) + k                                   (`LG`)

where `subs cid` is the number of *linked* queries owned by `cid` (`Sk.subs`: the sub-requests that can still
complete) and `k` counts the hand-overs in flight (`xtra`: `1` at the entry of `sendNolock … (.client cid)` — the
`.act` item has been logged, the query does not exist yet — and of `callback (.client cid)` — the query has been
unlinked, the `.cb` item is about to be logged — `0` everywhere else).  At a `callback (.client cid)` node the equation
gives `#completions < #starts`, which is causality.

The equation is maintained along `execC` by the body-by-body induction that also proves C01's contract: each
`good_xxx` (`ChanWfBody*`) walks the instrumented body once, derives the precondition `Pre` of every sub-call and the
invariant of every intermediate state, and concludes both `Good` and the extended `LG` (`GoodL`, `ChanWfMid`).
-/
namespace Cares.Chan
open Cares.ClientWalk

def ncOf (cid : Nat) (L : CLog) : Nat := (evsOf cid L).length
def nsOf (cid : Nat) (L : CLog) : Nat := (sentOf cid L).length

theorem causalFrom_append (cid : Nat) (a b : Nat) (L L' : CLog) :
    causalFrom cid a b (L ++ L') = (causalFrom cid a b L && causalFrom cid (a + ncOf cid L) (b + nsOf cid L) L') := by
  induction L generalizing a b with
  | nil => simp [causalFrom, ncOf, nsOf, evsOf, sentOf]
  | cons i l ih =>
    simp only [List.cons_append, causalFrom, ih, Bool.and_assoc]
    congr 2
    simp only [ncOf, nsOf, evsOf, sentOf, List.flatMap_cons, List.length_append, Nat.add_assoc]

theorem ncOf_snoc (cid : Nat) (L : CLog) (i : CItem) : ncOf cid (L ++ [i]) = ncOf cid L + (ev1 cid i).length := by
  simp only [ncOf, evsOf, List.flatMap_append, List.length_append, List.flatMap_cons, List.flatMap_nil, List.append_nil]
theorem nsOf_snoc (cid : Nat) (L : CLog) (i : CItem) : nsOf cid (L ++ [i]) = nsOf cid L + (sent1 cid i).length := by
  simp only [nsOf, sentOf, List.flatMap_append, List.length_append, List.flatMap_cons, List.flatMap_nil, List.append_nil]

/-- one more item: it is no completion for `cid`, or more sub-requests have been started than completions delivered -/
theorem Causal.snoc {cid : Nat} {L : CLog} {i : CItem} :
    Causal cid (L ++ [i]) ↔ Causal cid L ∧ (ev1 cid i = [] ∨ ncOf cid L < nsOf cid L) := by
  unfold Causal
  rw [causalFrom_append]
  simp [causalFrom]

/-- the log invariant: causal so far, and the counters agree with the linked sub-requests of `cid` plus `k` -/
structure LG (cid : Nat) (L : CLog) (k : Nat) (s : St) : Prop where
  causal : Causal cid L
  cnt : nsOf cid L = ncOf cid L + s.sk.subs cid + k

def ownerX (cid : Nat) : Owner → Nat
  | .client id => if id = cid then 1 else 0
  | _ => 0

/-- hand-overs in flight for `cid` at the entry of a procedure -/
def xtra (cid : Nat) : Call → Nat
  | .sendNolock _ _ _ _ o _ => ownerX cid o
  | .callback o _ _ _ _ => ownerX cid o
  | _ => 0

/-- result of an instrumented procedure: out of fuel, or the invariant holds for the extended log -/
def LGO (cid : Nat) (L : CLog) (r : (St × Ret) × CLog) : Prop :=
  r.1.1.outOfFuel = true ∨ LG cid (L ++ r.2) 0 r.1.1

/-- the hypothesis on the recursive calls: C01's guarantee plus the log invariant -/
def GoGood (cid : Nat) (goC : GoC) : Prop :=
  OofMono goC.fst ∧ ∀ d c s, Pre d s c →
    (goC c s).1.1.outOfFuel = true ∨
      (Good d c s (goC c s).1 ∧ ∀ L, LG cid L (xtra cid c) s → LG cid (L ++ (goC c s).2) 0 (goC c s).1.1)

section
variable {cid : Nat}

theorem GoGood.goOk {goC : GoC} (h : GoGood cid goC) : GoOk goC.fst :=
  ⟨h.1, fun d c s hp => (h.2 d c s hp).imp id (·.1)⟩

theorem GoGood.call {goC : GoC} (h : GoGood cid goC) {d c s L} (hp : Pre d s c) (hL : LG cid L (xtra cid c) s) :
    (goC c s).1.1.outOfFuel = true ∨ (Good d c s (goC c s).1 ∧ LG cid (L ++ (goC c s).2) 0 (goC c s).1.1) :=
  (h.2 d c s hp).imp id (fun x => ⟨x.1, x.2 L hL⟩)

theorem GoGood.oof {goC : GoC} (h : GoGood cid goC) {c s} (ho : s.outOfFuel = true) : (goC c s).1.1.outOfFuel = true :=
  h.1 c s ho

theorem LG.congr {L k} {s s' : St} (h : LG cid L k s) (hq : s'.sk.qKO = s.sk.qKO) (hi : s'.sk.idx = s.sk.idx) :
    LG cid L k s' :=
  ⟨h.causal, by unfold Sk.subs; rw [hq, hi]; exact h.cnt⟩

theorem LG.sk_eq {L k} {s s' : St} (h : LG cid L k s) (he : s'.sk = s.sk) : LG cid L k s' :=
  h.congr (by rw [he]) (by rw [he])

theorem LG.subs_eq {L k} {s s' : St} (h : LG cid L k s) (he : s'.sk.subs cid = s.sk.subs cid) : LG cid L k s' :=
  ⟨h.causal, by rw [he]; exact h.cnt⟩

theorem LG.of_cnt {L k k'} {s s' : St} (h : LG cid L k s) (he : s'.sk.subs cid + k' = s.sk.subs cid + k) :
    LG cid L k' s' :=
  ⟨h.causal, by have := h.cnt; omega⟩

/-- neither a completion delivered to `cid` nor a sub-request started for it.  Not `Quiet` of ClientExecFold (no send
    and no finish in an action list): a `.finish` action is quiet here. -/
def CItem.quiet (cid : Nat) (i : CItem) : Prop := ev1 cid i = [] ∧ sent1 cid i = []

theorem LG.snoc_quiet {L k} {s : St} {i : CItem} (h : LG cid L k s) (hq : CItem.quiet cid i) : LG cid (L ++ [i]) k s :=
  ⟨Causal.snoc.mpr ⟨h.causal, .inl hq.1⟩, by rw [ncOf_snoc, nsOf_snoc, hq.1, hq.2]; exact h.cnt⟩

theorem quiet_start (id k tok re sp f) : CItem.quiet cid (.start id k tok re sp f) := ⟨rfl, rfl⟩
theorem quiet_slot (id a b) : CItem.quiet cid (.slot id a b) := ⟨rfl, rfl⟩
theorem quiet_lost (id) : CItem.quiet cid (.lost id) := ⟨rfl, rfl⟩
theorem quiet_rel (id) : CItem.quiet cid (.rel id) := ⟨rfl, rfl⟩
theorem quiet_ret (id) : CItem.quiet cid (.ret id) := ⟨rfl, rfl⟩
theorem quiet_noRetry (id q) : CItem.quiet cid (.act id (.noRetry q)) := by
  refine ⟨rfl, ?_⟩; simp only [sent1, sentOfAct]; split <;> rfl
theorem quiet_finish (id st t dg) : CItem.quiet cid (.act id (.finish st t dg)) := by
  refine ⟨rfl, ?_⟩; simp only [sent1, sentOfAct]; split <;> rfl
theorem quiet_other_cb {id : Nat} (h : id ≠ cid) (st t rec qa qb) : CItem.quiet cid (.cb id st t rec qa qb) := by
  refine ⟨?_, rfl⟩; simp only [ev1, if_neg h]
theorem quiet_other_act {id : Nat} (h : id ≠ cid) (a) : CItem.quiet cid (.act id a) := by
  refine ⟨rfl, ?_⟩; simp only [sent1, if_neg h]

/-- a completion is delivered to `cid` while a hand-over is in flight -/
theorem LG.snoc_cb {L k} {s : St} (h : LG cid L (k + 1) s) (st t rec qa qb) :
    LG cid (L ++ [.cb cid st t rec qa qb]) k s := by
  have := h.cnt
  refine ⟨Causal.snoc.mpr ⟨h.causal, .inr (by omega)⟩, ?_⟩
  rw [ncOf_snoc, nsOf_snoc]
  simp only [ev1, sent1, ↓reduceIte, List.length_cons, List.length_nil]
  omega

theorem LG.snoc_send {L k} {s : St} (h : LG cid L k s) {a : ClientAct} (ha : (sentOfAct a).length = 1) :
    LG cid (L ++ [.act cid a]) (k + 1) s := by
  have := h.cnt
  refine ⟨Causal.snoc.mpr ⟨h.causal, .inl rfl⟩, ?_⟩
  rw [ncOf_snoc, nsOf_snoc]
  simp only [ev1, sent1, ↓reduceIte, List.length_nil, ha]
  omega

theorem LGO.of_oof {L} {r : (St × Ret) × CLog} (h : r.1.1.outOfFuel = true) : LGO cid L r := Or.inl h

theorem LG.snoc_cb_any {L} {s : St} {id : Nat} (h : LG cid L (ownerX cid (.client id)) s) (st t rec qa qb) :
    LG cid (L ++ [.cb id st t rec qa qb]) 0 s := by
  by_cases hid : id = cid
  · subst hid
    simp only [ownerX, ↓reduceIte] at h
    exact h.snoc_cb st t rec qa qb
  · simp only [ownerX, if_neg hid] at h
    exact h.snoc_quiet (quiet_other_cb hid st t rec qa qb)

theorem LG.snoc_send_any {L} {s : St} {id : Nat} (h : LG cid L 0 s) {a : ClientAct} (ha : (sentOfAct a).length = 1) :
    LG cid (L ++ [.act id a]) (ownerX cid (.client id)) s := by
  by_cases hid : id = cid
  · subst hid
    simp only [ownerX, ↓reduceIte]
    exact h.snoc_send ha
  · simp only [ownerX, if_neg hid]
    exact h.snoc_quiet (quiet_other_act hid a)

end

theorem ownerX_eq (cid : Nat) (o : Owner) : ownerX cid o = if o = .client cid then 1 else 0 := by
  cases o with
  | probe => simp [ownerX]
  | user t => simp [ownerX]
  | client id =>
    simp only [ownerX, Owner.client.injEq]

end Cares.Chan
