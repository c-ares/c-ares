import CaresLemmas.HTableLookup
/-! Helper lemmas for the `ares_htable` model: the move loop of ares_htable_expand(). -/
namespace Cares.Dsa.HTable
open Cares.Generated
variable {K V : Type}

/-- invariant of the new bucket array while entries are being moved into it -/
structure XInv (ops : HOps K) (size : Nat) (x : XS K V) : Prop where
  len : x.nb.length = size
  placed : ∀ (j : Nat) (l : List (K × V)), x.nb[j]? = some (some l) → l ≠ [] ∧ ∀ e ∈ l, hidx ops size e.1 = j
  coll : x.coll = (x.nb.map bcoll).sum

/-- moving one node to the front of its destination bucket -/
theorem push_spec (ops : HOps K) (size : Nat) (x : XS K V) (hx : XInv ops size x) (e : K × V) (idx : Nat)
    (hi : hidx ops size e.1 = idx) (hlt : idx < size) (p : Nat) :
    XInv ops size { nb := x.nb.set idx (some (e :: bucketAt x.nb idx)), pre := p,
                    coll := x.coll + (if slotNull x.nb idx then 0 else 1) } ∧
    (ents (x.nb.set idx (some (e :: bucketAt x.nb idx)))).Perm (e :: ents x.nb) := by
  have hlen : idx < x.nb.length := by rw [hx.len]; exact hlt
  constructor
  · refine ⟨by rw [List.length_set]; exact hx.len, ?_, ?_⟩
    · refine forall_set_bucket x.nb idx hlen _ hx.placed ⟨List.cons_ne_nil _ _, ?_⟩
      intro e' he'
      rcases List.mem_cons.1 he' with rfl | hm
      · exact hi
      · exact (hx.placed idx _ (getElem?_of_bucketAt_ne_nil _ _ (List.ne_nil_of_mem hm))).2 e' hm
    · show x.coll + _ = ((x.nb.set idx _).map bcoll).sum
      rw [sum_bcoll_push x.nb idx hlen e, hx.coll]
      congr 1
      -- a bucket that is there is not empty, so "NULL" and "empty" coincide
      unfold slotNull bucketAt
      cases hh : x.nb[idx]? with
      | none => rfl
      | some ob =>
        cases ob with
        | none => rfl
        | some b =>
          have hne : b ≠ [] := (hx.placed idx b hh).1
          show (if false = true then 0 else 1) = if b.length = 0 then 0 else 1
          rw [if_neg Bool.false_ne_true, if_neg (fun h0 => hne (List.eq_nil_of_length_eq_zero h0))]
  · exact ents_push_perm x.nb idx hlen e

/-- the slow path never runs out of pre-allocated llists when `length − 1` of them are available, moves
    every node, and hands back the llists it did not need -/
theorem drain_spec (ops : HOps K) (size : Nat) (l : List (K × V)) (x : XS K V)
    (hx : XInv ops size x) (hs : 0 < size) (hpre : l.length - 1 ≤ x.pre) :
    ∃ x', drain ops size l x = (x', none) ∧ XInv ops size x' ∧ (ents x'.nb).Perm (l ++ ents x.nb) ∧
      x.pre ≤ x'.pre + (l.length - 1) := by
  induction l generalizing x with
  | nil => exact ⟨x, rfl, hx, List.Perm.refl _, Nat.le_add_right _ _⟩
  | cons e rest ih =>
    have hlt := hidx_lt ops size e.1 hs
    have hpre' : rest.length ≤ x.pre := hpre
    show ∃ x' : XS K V, _ ∧ _ ∧ _ ∧ x.pre ≤ x'.pre + rest.length
    unfold drain
    simp only
    by_cases hnull : slotNull x.nb (hidx ops size e.1) = true
    · have hb := bucketAt_of_slotNull x.nb _ hnull
      have hp := push_spec ops size x hx e _ rfl hlt
      rw [hb] at hp
      simp only [hnull, ↓reduceIte, Nat.add_zero] at hp ⊢
      by_cases hr : rest.isEmpty = true
      · simp only [hr, ↓reduceIte]
        have hr' : rest = [] := List.isEmpty_iff.1 hr
        subst hr'
        obtain ⟨h1, h2⟩ := hp x.pre
        exact ⟨_, rfl, h1, h2, Nat.le_add_right _ _⟩
      · simp only [hr, Bool.false_eq_true, ↓reduceIte]
        have hrl : 0 < rest.length := by
          cases rest with
          | nil => simp at hr
          | cons _ _ => simp
        have hx1 : 1 ≤ x.pre := Nat.le_trans hrl hpre'
        simp only [Nat.ne_of_gt hx1, ↓reduceIte]
        obtain ⟨h1, h2⟩ := hp (x.pre - 1)
        obtain ⟨x', e1, i1, p1, q1⟩ := ih _ h1 (Nat.sub_le_sub_right hpre' 1)
        refine ⟨x', e1, i1, ?_, ?_⟩
        · exact p1.trans ((List.Perm.append_left rest h2).trans List.perm_middle)
        · simp only at q1; omega
    · have hnull' : slotNull x.nb (hidx ops size e.1) = false := by simpa using hnull
      have hp := push_spec ops size x hx e _ rfl hlt x.pre
      simp only [hnull', Bool.false_eq_true, ↓reduceIte] at hp ⊢
      obtain ⟨h1, h2⟩ := hp
      obtain ⟨x', e1, i1, p1, q1⟩ := ih _ h1 (Nat.le_trans (Nat.sub_le _ _) hpre')
      refine ⟨x', e1, i1, ?_, ?_⟩
      · exact p1.trans ((List.Perm.append_left rest h2).trans List.perm_middle)
      · exact Nat.le_trans q1 (Nat.add_le_add_left (Nat.sub_le _ _) _)

/-- the fast path for a single node is what the slow path does with it anyway -/
theorem moveBucket_some (ops : HOps K) (size : Nat) (l : List (K × V)) (x : XS K V) :
    moveBucket ops size (some l) x = drain ops size l x := by
  match l with
  | [] => rfl
  | [e] =>
    show (if slotNull x.nb (hidx ops size e.1) then _ else drain ops size [e] x) = drain ops size [e] x
    by_cases hnull : slotNull x.nb (hidx ops size e.1) = true
    · rw [if_pos hnull]; unfold drain; rw [if_pos hnull]; rfl
    · rw [if_neg hnull]
  | _ :: _ :: _ => rfl

theorem moveBucket_spec (ops : HOps K) (size : Nat) (b : Option (List (K × V))) (x : XS K V)
    (hx : XInv ops size x) (hs : 0 < size) (hpre : bcoll b ≤ x.pre) :
    ∃ x', moveBucket ops size b x = (x', none) ∧ XInv ops size x' ∧ (ents x'.nb).Perm (b.getD [] ++ ents x.nb) ∧
      x.pre ≤ x'.pre + bcoll b := by
  cases b with
  | none => exact ⟨x, rfl, hx, List.Perm.refl _, Nat.le_add_right _ _⟩
  | some l => rw [moveBucket_some]; exact drain_spec ops size l x hx hs hpre

theorem moveAll_spec (ops : HOps K) (size : Nat) (bs : List (Option (List (K × V)))) (x : XS K V)
    (hx : XInv ops size x) (hs : 0 < size) (hpre : (bs.map bcoll).sum ≤ x.pre) :
    ∃ x', moveAll ops size bs x = (x', none) ∧ XInv ops size x' ∧ (ents x'.nb).Perm (ents bs ++ ents x.nb) := by
  induction bs generalizing x with
  | nil => exact ⟨x, rfl, hx, List.Perm.refl _⟩
  | cons b bs ih =>
    simp only [List.map_cons, List.sum_cons] at hpre
    obtain ⟨x1, e1, i1, p1, q1⟩ := moveBucket_spec ops size b x hx hs (by omega)
    obtain ⟨x2, e2, i2, p2⟩ := ih x1 i1 (by omega)
    refine ⟨x2, ?_, i2, ?_⟩
    · unfold moveAll; rw [e1]; exact e2
    · rw [ents_cons]
      refine p2.trans ?_
      refine (List.Perm.append_left (ents bs) p1).trans ?_
      rw [← List.append_assoc]
      exact List.Perm.append_right _ List.perm_append_comm

end Cares.Dsa.HTable
