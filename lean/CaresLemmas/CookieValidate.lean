import CaresLemmas.CookieStep
/-!
# What `ares_cookie_validate` does to the per-query resend state
-/
namespace Cares.Proto.Cookie
open Cares.Generated.Proto

/-- A re-send is asked for only by the BADCOOKIE branch: the request carried a cookie, the verdict is "drop", the resend
    counter goes up by one and TCP is forced once it reaches `COOKIE_RESEND_MAX`.  Every other branch leaves the
    query state alone. -/
theorem validateWith_counters (isSet : TimeVal → Bool) (c : CookieSt) (q : QState) (req resp : Option Bytes)
    (rcode : Nat) (now : TimeVal) :
    ((validateWith isSet c q req resp rcode now).requeue = true →
      (validateWith isSet c q req resp rcode now).verdict = .drop ∧
      (validateWith isSet c q req resp rcode now).q =
        { cookieTry := q.cookieTry + 1, usingTcp := q.usingTcp || decide (q.cookieTry + 1 ≥ Generated.Proto.COOKIE_RESEND_MAX) } ∧
      req ≠ none) ∧
    ((validateWith isSet c q req resp rcode now).requeue = false →
      (validateWith isSet c q req resp rcode now).q = q) := by
  have h := validateWith_case isSet c q req resp rcode now
  generalize validateWith isSet c q req resp rcode now = o at h ⊢
  cases h with
  | serverBad | bareBad => exact ⟨fun _ => ⟨rfl, rfl, nofun⟩, nofun⟩
  | noServer rq =>
    obtain ⟨hq, hrq, _⟩ := noServerOut_rest isSet c q now (oobOf rq resp)
    exact ⟨fun h => (by rw [hrq] at h; cases h), fun _ => hq⟩
  | _ => exact ⟨nofun, fun _ => rfl⟩

theorem validateWith_requeue_drop {isSet : TimeVal → Bool} {c : CookieSt} {q : QState} {req resp : Option Bytes}
    {rcode : Nat} {now : TimeVal} (h : (validateWith isSet c q req resp rcode now).requeue = true) :
    (validateWith isSet c q req resp rcode now).verdict = .drop :=
  ((validateWith_counters isSet c q req resp rcode now).1 h).1

end Cares.Proto.Cookie
