import CaresLemmas.ChanPolicyLookup
import CaresLemmas.ChanPolicySort
/-!
# `ares_probe_failed_server` (C09): when a probe is sent, with which flags, and at most once per `ares_send_query`

All for every `go`.  `noProbe go` is `go` with the lottery switched off: `bodySendQuery go` either is
`bodySendQuery (noProbe go)` — no lottery at all — or that followed by exactly one call `go (.probe srvId key)`, the
latter only for a request without a requested server that has not been tried before (`bodySendQuery_once`).
-/
namespace Cares.Chan

theorem draw2_frame (s : St) : s.draw2.2.now = s.now ∧ s.draw2.2.cfg = s.cfg ∧ s.draw2.2.servers = s.servers := by
  rw [St.draw2snd_eq]; exact ⟨rfl, rfl, rfl⟩

/-- The only call `bodyProbe` ever makes is one `sendNolock` to a server that currently has failures, is not already
    being probed, whose retry time has passed and that is not the server the user's query just went to — and only
    when `retryChance ≠ 0`.  The request is a copy of the user's question, addressed to that server explicitly, with
    `nocache = true`, `noretry = true`, owner `probe <that server>`.  In every other case the state is returned unchanged (up to the
    consumed lottery draw). -/
theorem probe_only_when_eligible (go : Call → St → St × Ret) (srvId key : Nat) (s : St) :
    (bodyProbe go srvId key s = (s, .ok) ∨ bodyProbe go srvId key s = (s.draw2.2, .ok)) ∨
    ∃ q pv, s.query? key = some q ∧ pv ∈ s.servers ∧ 0 < pv.failures ∧ pv.probePending = false ∧
      pv.nextRetry ≤ s.now ∧ pv.id ≠ srvId ∧ s.cfg.retryChance ≠ 0 ∧
      bodyProbe go srvId key s =
        ((go (.sendNolock (some pv.id) true true
              { name := q.name, qtype := q.qtype, qclass := q.qclass, rd := q.rd, edns := q.edns } (.probe pv.id) [])
            (s.draw2.2.modServer pv.id fun v => { v with probePending := true })).1, .ok) := by
  unfold bodyProbe
  split
  · exact Or.inl (Or.inl rfl)
  · rename_i q hq
    dsimp only
    split
    · exact Or.inl (Or.inl rfl)
    · rename_i last _
      split
      · exact Or.inl (Or.inl rfl)
      · rename_i hcond
        obtain ⟨hnow, hcfg, _⟩ := draw2_frame s
        split
        · exact Or.inl (Or.inr rfl)
        · split
          · exact Or.inl (Or.inr rfl)
          · rename_i pv hfind
            split
            · exact Or.inl (Or.inr rfl)
            · rename_i hne
              right
              have hp := List.find?_some hfind
              have hm : pv ∈ s.servers := mem_sortedServers.1 (List.mem_of_find?_eq_some hfind)
              simp only [Bool.and_eq_true, decide_eq_true_eq, Bool.not_eq_eq_eq_not, Bool.not_true, hnow] at hp
              simp only [Bool.or_eq_true, beq_iff_eq, not_or] at hcond
              refine ⟨q, pv, hq, hm, hp.1.1, hp.1.2, hp.2, ?_, hcond.2, rfl⟩
              simpa using hne

/-- a request started with `noretry` (probes) is created with `no_retries` set, and with `nocache` the query cache is
    neither expired nor consulted: the request goes to `sendQuery` (or fails through the callback) with the cache
    untouched -/
theorem sendNolock_probe_flags (go : Call → St → St × Ret) (reqSrv : Option Nat) (noretry : Bool) (spec : ReqSpec)
    (owner : Owner) (react : List Nat) (s : St) :
    (∃ st s0, s0.cache = s.cache ∧
      bodySendNolock go reqSrv true noretry spec owner react s = ((go (.callback owner react st 0 none) s0).1, st)) ∨
    (∃ s', s'.cache = s.cache ∧
      (∃ q, s'.qs = s.qs ++ [q] ∧ q.key = s.nextKey ∧ q.noRetries = noretry ∧ q.tryCount = 0) ∧
      bodySendNolock go reqSrv true noretry spec owner react s = go (.sendQuery reqSrv s.nextKey) s') := by
  unfold bodySendNolock
  obtain ⟨o, f, e⟩ := genQid_writes 70000 s
  dsimp only
  ite_split
  · left; exact ⟨_, _, by rw [e], rfl⟩
  · rw [if_pos rfl, if_pos rfl]
    dsimp only
    ite_split
    · left; exact ⟨_, _, by rw [e], rfl⟩
    · right
      rw [e]
      dsimp only
      obtain ⟨o1, f1, e1⟩ := draws_shape ({ s with obs := o, obsFaults := f } : St) _ _
      rw [e1]
      refine ⟨_, ?_, ?_, rfl⟩
      · rfl
      · exact ⟨_, rfl, rfl, rfl, rfl⟩

/-- `go` with `ares_probe_failed_server` replaced by a no-op -/
def noProbe (go : Call → St → St × Ret) : Call → St → St × Ret
  | .probe _ _, s => (s, .ok)
  | c, s => go c s

theorem sqAfter_once (go : Call → St → St × Ret) (q : Query) (srv : Server) (key fd : Nat) (pd : Bool) (wst : Status)
    (s : St) :
    sqAfter go q srv key fd pd wst s = sqAfter (noProbe go) q srv key fd pd wst s ∨
    (pd = true ∧ (sqAfter (noProbe go) q srv key fd pd wst s).2 = .ok ∧
      sqAfter go q srv key fd pd wst s =
        ((go (.probe srv.id key) (sqAfter (noProbe go) q srv key fd pd wst s).1).1, .ok)) := by
  cases pd
  · exact Or.inl rfl
  · unfold sqAfter
    split
    · split
      · exact Or.inr ⟨rfl, rfl, rfl⟩
      · exact Or.inl rfl
      · exact Or.inl rfl
    all_goals exact Or.inl rfl

/-- **one lottery per `ares_send_query`**, for every `go` -/
theorem sendQueryBlocks_once (go : Call → St → St × Ret) (reqSrv : Option Nat) (key : Nat) (s : St) :
    sendQueryBlocks go reqSrv key s = sendQueryBlocks (noProbe go) reqSrv key s ∨
    (reqSrv = none ∧ (∃ q, s.query? key = some q ∧ q.tryCount = 0) ∧
      (sendQueryBlocks (noProbe go) reqSrv key s).2 = .ok ∧
      ∃ srvId, sendQueryBlocks go reqSrv key s =
        ((go (.probe srvId key) (sendQueryBlocks (noProbe go) reqSrv key s).1).1, .ok)) := by
  unfold sendQueryBlocks
  split
  · exact Or.inl rfl
  · rename_i q hq
    extract_lets sorted
    split
    rename_i srv? s1 hch
    split
    · exact Or.inl rfl
    · rename_i srv
      extract_lets s2 pd existing
      split
      rename_i connRes s3 hopen
      split
      · exact Or.inl rfl
      · rename_i fd
        extract_lets cookie newCk s4 q2
        have hw : sqFlush (noProbe go) fd s4 = sqFlush go fd s4 := rfl
        rw [hw]
        split
        rename_i wst s5 hwr
        rcases sqAfter_once go q2 srv key fd pd wst s5 with h | ⟨hpd, hok, h⟩
        · exact Or.inl h
        · right
          simp only [pd, Bool.and_eq_true, beq_iff_eq, Option.isNone_iff_eq_none] at hpd
          exact ⟨hpd.1.1, ⟨q, hq, hpd.2⟩, hok, srv.id, h⟩

theorem bodySendQuery_once (go : Call → St → St × Ret) (reqSrv : Option Nat) (key : Nat) (s : St) :
    bodySendQuery go reqSrv key s = bodySendQuery (noProbe go) reqSrv key s ∨
    (reqSrv = none ∧ (∃ q, s.query? key = some q ∧ q.tryCount = 0) ∧
      (bodySendQuery (noProbe go) reqSrv key s).2 = .ok ∧
      ∃ srvId, bodySendQuery go reqSrv key s =
        ((go (.probe srvId key) (bodySendQuery (noProbe go) reqSrv key s).1).1, .ok)) := by
  rw [bodySendQuery_eq, bodySendQuery_eq]
  exact sendQueryBlocks_once go reqSrv key s

end Cares.Chan
