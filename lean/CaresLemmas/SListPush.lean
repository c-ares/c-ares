import CaresLemmas.SListLevel
/-! Helper lemmas for the skip-list model: the level loop of push is `pushSpec`, and what `pushSpec` keeps. -/
namespace Cares.Dsa.SList

/-- what ares_slist_node_push amounts to: every level below the node's level count gets the node at its sorted
    position, the levels above are untouched -/
def pushSpec (key : Nat → Nat) (k n nl : Nat) : List (List Nat) → List (List Nat)
  | [] => []
  | l :: below => (if below.length ≥ nl then l else specInsert key k n l) :: pushSpec key k n nl below

theorem pushSpec_cons (key : Nat → Nat) (k n nl : Nat) (l : List Nat) (below : List (List Nat)) :
    pushSpec key k n nl (l :: below) =
      (if below.length ≥ nl then l else specInsert key k n l) :: pushSpec key k n nl below := rfl

/-- every level is sorted and free of duplicates: what the walks of push and find need of a level, and what `Inv` gives
    for each of them because every level is a sub-list of level 0 (`allGood_of_level0`) -/
def AllGood (key : Nat → Nat) (lv : List (List Nat)) : Prop := ∀ l ∈ lv, Sorted key l ∧ l.Nodup

theorem subChain_tail {hi : List Nat} {rest : List (List Nat)} (h : SubChain (hi :: rest)) : SubChain rest := by
  cases rest with
  | nil => trivial
  | cons lo r => exact h.2

theorem sublist_level0 (lv : List (List Nat)) (h : SubChain lv) : ∀ l ∈ lv, l.Sublist (lv.getLast?.getD []) := by
  induction lv with
  | nil => intro l hl; simp at hl
  | cons hi rest ih =>
    intro l hl
    cases rest with
    | nil =>
      simp only [List.mem_singleton] at hl
      subst hl; simp
    | cons lo r =>
      have ih' := ih h.2
      rw [List.getLast?_cons_cons]
      rcases List.mem_cons.1 hl with rfl | hl
      · exact h.1.trans (ih' lo List.mem_cons_self)
      · exact ih' l hl

theorem allGood_of_level0 (key : Nat → Nat) (lv : List (List Nat)) (h : SubChain lv)
    (hs : Sorted key (lv.getLast?.getD [])) (hn : (lv.getLast?.getD []).Nodup) : AllGood key lv := by
  intro l hl
  have := sublist_level0 lv h l hl
  exact ⟨hs.sublist this, hn.sublist this⟩

/-- the level loop of ares_slist_node_push computes `pushSpec`, whatever `left` it is started with (as long
    as that is a node of the top level with a smaller key) -/
theorem pushLevels_eq (key : Nat → Nat) (k n nl : Nat) (lv : List (List Nat)) (left : Option Nat)
    (hg : AllGood key lv) (hsub : SubChain lv)
    (hleft : ∀ x, left = some x → ∀ l, lv.head? = some l → x ∈ l ∧ key x < k) :
    pushLevels key k n nl lv left = pushSpec key k n nl lv := by
  induction lv generalizing left with
  | nil => rfl
  | cons l below ih =>
    obtain ⟨hs, hnd⟩ := hg l List.mem_cons_self
    obtain ⟨e1, e2⟩ := level_step key k n l hs hnd left (fun x hx => hleft x hx l rfl)
    unfold pushLevels pushSpec
    simp only
    rw [e1]
    congr 1
    apply ih _ (fun l' hl' => hg l' (List.mem_cons_of_mem _ hl')) (subChain_tail hsub)
    intro y hy lo hlo
    cases below with
    | nil => simp at hlo
    | cons lo' r =>
      simp only [List.head?_cons, Option.some.injEq] at hlo
      subst hlo
      obtain ⟨m1, m2⟩ := e2 y hy
      exact ⟨hsub.1.subset m1, m2⟩

theorem pushSpec_length (key : Nat → Nat) (k n nl : Nat) (lv : List (List Nat)) :
    (pushSpec key k n nl lv).length = lv.length := by
  induction lv with
  | nil => rfl
  | cons l below ih => simp [pushSpec, ih]

theorem pushSpec_getLast (key : Nat → Nat) (k n nl : Nat) (lv : List (List Nat)) (hnl : 1 ≤ nl) :
    (pushSpec key k n nl lv).getLast?.getD [] = if lv = [] then [] else specInsert key k n (lv.getLast?.getD []) := by
  induction lv with
  | nil => rfl
  | cons l below ih =>
    cases below with
    | nil =>
      simp only [pushSpec, List.length_nil, ge_iff_le, Nat.le_zero_eq]
      rw [if_neg (Nat.ne_of_gt hnl)]
      simp
    | cons lo r =>
      rw [pushSpec_cons, pushSpec_cons, List.getLast?_cons_cons, ← pushSpec_cons, ih]
      simp

theorem specInsert_perm (key : Nat → Nat) (k n : Nat) (l : List Nat) : (specInsert key k n l).Perm (n :: l) := by
  rw [specInsert_eq]
  refine List.perm_middle.trans (List.Perm.cons n ?_)
  rw [List.takeWhile_append_dropWhile]

theorem sublist_specInsert (key : Nat → Nat) (k n : Nat) (l : List Nat) : l.Sublist (specInsert key k n l) := by
  rw [specInsert_eq]
  conv => lhs; rw [← List.takeWhile_append_dropWhile (p := Lt key k) (l := l)]
  exact List.Sublist.append (List.Sublist.refl _) (List.sublist_cons_self _ _)

theorem specInsert_sublist (key : Nat → Nat) (k n : Nat) (hi lo : List Nat) (h : hi.Sublist lo)
    (hs1 : Sorted key hi) (hs2 : Sorted key lo) : (specInsert key k n hi).Sublist (specInsert key k n lo) := by
  rw [specInsert_eq, specInsert_eq, (takeWhile_eq_filter key k hi hs1).1, (takeWhile_eq_filter key k hi hs1).2,
    (takeWhile_eq_filter key k lo hs2).1, (takeWhile_eq_filter key k lo hs2).2]
  exact List.Sublist.append (h.filter _) ((h.filter _).cons_cons n)

theorem pushSpec_subChain (key : Nat → Nat) (k n nl : Nat) (lv : List (List Nat)) (hg : AllGood key lv)
    (hsub : SubChain lv) : SubChain (pushSpec key k n nl lv) := by
  induction lv with
  | nil => trivial
  | cons hi rest ih =>
    cases rest with
    | nil => trivial
    | cons lo r =>
      have ih' := ih (fun l' hl' => hg l' (List.mem_cons_of_mem _ hl')) hsub.2
      rw [pushSpec_cons, pushSpec_cons]
      rw [pushSpec_cons] at ih'
      refine ⟨?_, ih'⟩
      have hs1 := (hg hi List.mem_cons_self).1
      have hs2 := (hg lo (List.mem_cons_of_mem _ List.mem_cons_self)).1
      simp only [List.length_cons]
      by_cases h1 : r.length ≥ nl
      · rw [if_pos (by omega), if_pos h1]; exact hsub.1
      · rw [if_neg h1]
        by_cases h2 : r.length + 1 ≥ nl
        · rw [if_pos h2]; exact hsub.1.trans (sublist_specInsert key k n lo)
        · rw [if_neg h2]; exact specInsert_sublist key k n hi lo hsub.1 hs1 hs2

theorem mem_specInsert (key : Nat → Nat) (k n : Nat) (l : List Nat) (x : Nat) :
    x ∈ specInsert key k n l ↔ x = n ∨ x ∈ l := by
  rw [(specInsert_perm key k n l).mem_iff, List.mem_cons]

theorem pushSpec_levelsOk (key : Nat → Nat) (k n nl : Nat) (nlv : Nat → Nat) (lv : List (List Nat))
    (h : LevelsOk nlv lv) (hn : nlv n = nl) (hfresh : ∀ l ∈ lv, n ∉ l) :
    LevelsOk nlv (pushSpec key k n nl lv) := by
  induction lv with
  | nil => trivial
  | cons l below ih =>
    refine ⟨?_, ih h.2 (fun l' hl' => hfresh l' (List.mem_cons_of_mem _ hl'))⟩
    intro x hx
    rw [pushSpec_length]
    by_cases hb : below.length ≥ nl
    · rw [if_pos hb] at hx; exact h.1 x hx
    · rw [if_neg hb, mem_specInsert] at hx
      rcases hx with hx | hx
      · subst hx; rw [hn]; exact Nat.lt_of_not_le hb
      · exact h.1 x hx

theorem levelsOk_congr (nlv nlv' : Nat → Nat) (lv : List (List Nat)) (h : LevelsOk nlv lv)
    (he : ∀ l ∈ lv, ∀ x ∈ l, nlv' x = nlv x) : LevelsOk nlv' lv := by
  induction lv with
  | nil => trivial
  | cons l below ih =>
    refine ⟨?_, ih h.2 (fun l' hl' => he l' (List.mem_cons_of_mem _ hl'))⟩
    intro x hx
    rw [he l List.mem_cons_self x hx]; exact h.1 x hx

theorem sorted_congr (key key' : Nat → Nat) (l : List Nat) (h : Sorted key l) (he : ∀ x ∈ l, key' x = key x) :
    Sorted key' l := by
  unfold Sorted at *
  induction l with
  | nil => exact List.Pairwise.nil
  | cons a l ih =>
    have hp := List.pairwise_cons.1 h
    refine List.pairwise_cons.2 ⟨?_, ih hp.2 (fun x hx => he x (List.mem_cons_of_mem _ hx))⟩
    intro b hb
    rw [he a List.mem_cons_self, he b (List.mem_cons_of_mem _ hb)]
    exact hp.1 b hb

theorem specInsert_congr (key key' : Nat → Nat) (k n : Nat) (l : List Nat) (he : ∀ x ∈ l, key' x = key x) :
    specInsert key' k n l = specInsert key k n l := by
  unfold specInsert
  have : ∀ l' : List Nat, (∀ x ∈ l', key' x = key x) →
      l'.takeWhile (fun x => decide (key' x < k)) = l'.takeWhile (fun x => decide (key x < k)) ∧
      l'.dropWhile (fun x => decide (key' x < k)) = l'.dropWhile (fun x => decide (key x < k)) := by
    intro l'
    induction l' with
    | nil => intro _; exact ⟨rfl, rfl⟩
    | cons a r ih =>
      intro h
      obtain ⟨i1, i2⟩ := ih (fun x hx => h x (List.mem_cons_of_mem _ hx))
      simp only [List.takeWhile_cons, List.dropWhile_cons, h a List.mem_cons_self, i1, i2]
      exact ⟨trivial, trivial⟩
  obtain ⟨a, b⟩ := this l he
  rw [a, b]

theorem sorted_specInsert (key : Nat → Nat) (k n : Nat) (l : List Nat) (hs : Sorted key l) (hk : key n = k) :
    Sorted key (specInsert key k n l) := by
  rw [specInsert_eq]
  unfold Sorted
  have htd := List.takeWhile_append_dropWhile (p := Lt key k) (l := l)
  rw [List.pairwise_append]
  have hs' : List.Pairwise (fun a b => key a ≤ key b) (l.takeWhile (Lt key k) ++ l.dropWhile (Lt key k)) := by
    rw [htd]; exact hs
  rw [List.pairwise_append] at hs'
  refine ⟨hs'.1, ?_, ?_⟩
  · refine List.pairwise_cons.2 ⟨?_, hs'.2.1⟩
    intro b hb
    rw [(takeWhile_eq_filter key k l hs).2, List.mem_filter] at hb
    have := hb.2
    simp only [Lt, Bool.not_eq_eq_eq_not, Bool.not_true, decide_eq_false_iff_not, Nat.not_lt] at this
    exact hk ▸ this
  · intro a ha b hb
    have hak := mem_takeWhile_pos _ _ _ ha
    simp only [Lt, decide_eq_true_eq] at hak
    rcases List.mem_cons.1 hb with rfl | hb
    · exact hk ▸ Nat.le_of_lt hak
    · exact hs'.2.2 a ha b hb

theorem length_specInsert (key : Nat → Nat) (k n : Nat) (l : List Nat) : (specInsert key k n l).length = l.length + 1 :=
  (specInsert_perm key k n l).length_eq

theorem nodup_specInsert (key : Nat → Nat) (k n : Nat) (l : List Nat) (hn : l.Nodup) (hf : n ∉ l) :
    (specInsert key k n l).Nodup :=
  (specInsert_perm key k n l).nodup_iff.2 (List.nodup_cons.2 ⟨hf, hn⟩)

/-- the tail update of `push` ("if node->next[0] == NULL: list->tail = node") yields the last node of the new level 0 -/
theorem getLast_specInsert (key : Nat → Nat) (k n : Nat) (l : List Nat) (old : Option Nat)
    (hold : old = l.getLast?) :
    (if (specInsert key k n l).getLast? = some n then some n else old) = (specInsert key k n l).getLast? := by
  by_cases h : (specInsert key k n l).getLast? = some n
  · rw [if_pos h, h]
  · rw [if_neg h, hold]
    rw [specInsert_eq] at h ⊢
    cases hd : l.dropWhile (Lt key k) with
    | nil => rw [hd] at h; simp at h
    | cons d r =>
      have htd := List.takeWhile_append_dropWhile (p := Lt key k) (l := l)
      rw [hd] at htd
      conv => lhs; rw [← htd]
      rw [List.getLast?_append, List.getLast?_append, List.getLast?_cons_cons]

end Cares.Dsa.SList
