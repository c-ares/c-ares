import CaresModel.Chan.Core
import CaresLemmas.ChanAttr
/-! generated by tools/gen_chan_frame.py: for the helpers of `Chan.Core` that are not plain structure updates, the
    equation `helper s = { s with the fields it writes }` (`St.*_eq`, `advanceOut_eq`, `genQid_eq`), and for all helpers
    the frame lemmas `(helper s).field = s.field` for every field the helper does not write, except the event and
    observation fields `ev`, `obs`, `obsFaults` (not generated): for those rewrite with the equation -/
namespace Cares.Chan
variable (s : St)

@[simp, chan_frame] theorem St.emit_cfg (e : String) : (s.emit e).cfg = s.cfg := rfl
@[simp, chan_frame] theorem St.emit_now (e : String) : (s.emit e).now = s.now := rfl
@[simp, chan_frame] theorem St.emit_servers (e : String) : (s.emit e).servers = s.servers := rfl
@[simp, chan_frame] theorem St.emit_conns (e : String) : (s.emit e).conns = s.conns := rfl
@[simp, chan_frame] theorem St.emit_qs (e : String) : (s.emit e).qs = s.qs := rfl
@[simp, chan_frame] theorem St.emit_nextKey (e : String) : (s.emit e).nextKey = s.nextKey := rfl
@[simp, chan_frame] theorem St.emit_all (e : String) : (s.emit e).all = s.all := rfl
@[simp, chan_frame] theorem St.emit_byQid (e : String) : (s.emit e).byQid = s.byQid := rfl
@[simp, chan_frame] theorem St.emit_byTimeout (e : String) : (s.emit e).byTimeout = s.byTimeout := rfl
@[simp, chan_frame] theorem St.emit_listCopy (e : String) : (s.emit e).listCopy = s.listCopy := rfl
@[simp, chan_frame] theorem St.emit_socks (e : String) : (s.emit e).socks = s.socks := rfl
@[simp, chan_frame] theorem St.emit_nextFd (e : String) : (s.emit e).nextFd = s.nextFd := rfl
@[simp, chan_frame] theorem St.emit_txs (e : String) : (s.emit e).txs = s.txs := rfl
@[simp, chan_frame] theorem St.emit_cache (e : String) : (s.emit e).cache = s.cache := rfl
@[simp, chan_frame] theorem St.emit_requeueArr (e : String) : (s.emit e).requeueArr = s.requeueArr := rfl
@[simp, chan_frame] theorem St.emit_writeLog (e : String) : (s.emit e).writeLog = s.writeLog := rfl
@[simp, chan_frame] theorem St.emit_notifyLog (e : String) : (s.emit e).notifyLog = s.notifyLog := rfl
@[simp, chan_frame] theorem St.emit_sockLog (e : String) : (s.emit e).sockLog = s.sockLog := rfl
@[simp, chan_frame] theorem St.emit_accepted (e : String) : (s.emit e).accepted = s.accepted := rfl
@[simp, chan_frame] theorem St.emit_picks (e : String) : (s.emit e).picks = s.picks := rfl
@[simp, chan_frame] theorem St.emit_destroying (e : String) : (s.emit e).destroying = s.destroying := rfl
@[simp, chan_frame] theorem St.emit_destroyed (e : String) : (s.emit e).destroyed = s.destroyed := rfl
@[simp, chan_frame] theorem St.emit_outOfFuel (e : String) : (s.emit e).outOfFuel = s.outOfFuel := rfl
@[simp, chan_frame] theorem St.emit_modelFaults (e : String) : (s.emit e).modelFaults = s.modelFaults := rfl
@[simp, chan_frame] theorem St.emit_clients (e : String) : (s.emit e).clients = s.clients := rfl
@[simp, chan_frame] theorem St.emit_pendingWl (e : String) : (s.emit e).pendingWl = s.pendingWl := rfl
@[simp, chan_frame] theorem St.emit_selfVariant (e : String) : (s.emit e).selfVariant = s.selfVariant := rfl
@[simp, chan_frame] theorem St.emit_faults (e : String) : (s.emit e).faults = s.faults := rfl
@[simp, chan_frame] theorem St.emit_reactions (e : String) : (s.emit e).reactions = s.reactions := rfl
@[simp, chan_frame] theorem St.emit_notifyPending (e : String) : (s.emit e).notifyPending = s.notifyPending := rfl
@[simp, chan_frame] theorem St.emit_alive (e : String) : (s.emit e).alive = s.alive := rfl
@[simp, chan_frame] theorem St.emit_nextClient (e : String) : (s.emit e).nextClient = s.nextClient := rfl
@[simp, chan_frame] theorem St.emit_doneToks (e : String) : (s.emit e).doneToks = s.doneToks := rfl
@[simp, chan_frame] theorem St.emit_pendingToks (e : String) : (s.emit e).pendingToks = s.pendingToks := rfl
@[simp, chan_frame] theorem St.emit_lastQid (e : String) : (s.emit e).lastQid = s.lastQid := rfl
@[simp, chan_frame] theorem St.emit_reactSeq (e : String) : (s.emit e).reactSeq = s.reactSeq := rfl
@[simp, chan_frame] theorem St.emit_pendingOrder (e : String) : (s.emit e).pendingOrder = s.pendingOrder := rfl

@[simp, chan_frame] theorem St.slog_cfg (fd : Nat) (c : String) : (s.slog fd c).cfg = s.cfg := rfl
@[simp, chan_frame] theorem St.slog_now (fd : Nat) (c : String) : (s.slog fd c).now = s.now := rfl
@[simp, chan_frame] theorem St.slog_servers (fd : Nat) (c : String) : (s.slog fd c).servers = s.servers := rfl
@[simp, chan_frame] theorem St.slog_conns (fd : Nat) (c : String) : (s.slog fd c).conns = s.conns := rfl
@[simp, chan_frame] theorem St.slog_qs (fd : Nat) (c : String) : (s.slog fd c).qs = s.qs := rfl
@[simp, chan_frame] theorem St.slog_nextKey (fd : Nat) (c : String) : (s.slog fd c).nextKey = s.nextKey := rfl
@[simp, chan_frame] theorem St.slog_all (fd : Nat) (c : String) : (s.slog fd c).all = s.all := rfl
@[simp, chan_frame] theorem St.slog_byQid (fd : Nat) (c : String) : (s.slog fd c).byQid = s.byQid := rfl
@[simp, chan_frame] theorem St.slog_byTimeout (fd : Nat) (c : String) : (s.slog fd c).byTimeout = s.byTimeout := rfl
@[simp, chan_frame] theorem St.slog_listCopy (fd : Nat) (c : String) : (s.slog fd c).listCopy = s.listCopy := rfl
@[simp, chan_frame] theorem St.slog_socks (fd : Nat) (c : String) : (s.slog fd c).socks = s.socks := rfl
@[simp, chan_frame] theorem St.slog_nextFd (fd : Nat) (c : String) : (s.slog fd c).nextFd = s.nextFd := rfl
@[simp, chan_frame] theorem St.slog_txs (fd : Nat) (c : String) : (s.slog fd c).txs = s.txs := rfl
@[simp, chan_frame] theorem St.slog_cache (fd : Nat) (c : String) : (s.slog fd c).cache = s.cache := rfl
@[simp, chan_frame] theorem St.slog_requeueArr (fd : Nat) (c : String) : (s.slog fd c).requeueArr = s.requeueArr := rfl
@[simp, chan_frame] theorem St.slog_writeLog (fd : Nat) (c : String) : (s.slog fd c).writeLog = s.writeLog := rfl
@[simp, chan_frame] theorem St.slog_notifyLog (fd : Nat) (c : String) : (s.slog fd c).notifyLog = s.notifyLog := rfl
@[simp, chan_frame] theorem St.slog_accepted (fd : Nat) (c : String) : (s.slog fd c).accepted = s.accepted := rfl
@[simp, chan_frame] theorem St.slog_picks (fd : Nat) (c : String) : (s.slog fd c).picks = s.picks := rfl
@[simp, chan_frame] theorem St.slog_destroying (fd : Nat) (c : String) : (s.slog fd c).destroying = s.destroying := rfl
@[simp, chan_frame] theorem St.slog_destroyed (fd : Nat) (c : String) : (s.slog fd c).destroyed = s.destroyed := rfl
@[simp, chan_frame] theorem St.slog_outOfFuel (fd : Nat) (c : String) : (s.slog fd c).outOfFuel = s.outOfFuel := rfl
@[simp, chan_frame] theorem St.slog_modelFaults (fd : Nat) (c : String) : (s.slog fd c).modelFaults = s.modelFaults := rfl
@[simp, chan_frame] theorem St.slog_clients (fd : Nat) (c : String) : (s.slog fd c).clients = s.clients := rfl
@[simp, chan_frame] theorem St.slog_pendingWl (fd : Nat) (c : String) : (s.slog fd c).pendingWl = s.pendingWl := rfl
@[simp, chan_frame] theorem St.slog_selfVariant (fd : Nat) (c : String) : (s.slog fd c).selfVariant = s.selfVariant := rfl
@[simp, chan_frame] theorem St.slog_faults (fd : Nat) (c : String) : (s.slog fd c).faults = s.faults := rfl
@[simp, chan_frame] theorem St.slog_reactions (fd : Nat) (c : String) : (s.slog fd c).reactions = s.reactions := rfl
@[simp, chan_frame] theorem St.slog_notifyPending (fd : Nat) (c : String) : (s.slog fd c).notifyPending = s.notifyPending := rfl
@[simp, chan_frame] theorem St.slog_alive (fd : Nat) (c : String) : (s.slog fd c).alive = s.alive := rfl
@[simp, chan_frame] theorem St.slog_nextClient (fd : Nat) (c : String) : (s.slog fd c).nextClient = s.nextClient := rfl
@[simp, chan_frame] theorem St.slog_doneToks (fd : Nat) (c : String) : (s.slog fd c).doneToks = s.doneToks := rfl
@[simp, chan_frame] theorem St.slog_pendingToks (fd : Nat) (c : String) : (s.slog fd c).pendingToks = s.pendingToks := rfl
@[simp, chan_frame] theorem St.slog_lastQid (fd : Nat) (c : String) : (s.slog fd c).lastQid = s.lastQid := rfl
@[simp, chan_frame] theorem St.slog_reactSeq (fd : Nat) (c : String) : (s.slog fd c).reactSeq = s.reactSeq := rfl
@[simp, chan_frame] theorem St.slog_pendingOrder (fd : Nat) (c : String) : (s.slog fd c).pendingOrder = s.pendingOrder := rfl

@[simp, chan_frame] theorem St.ofault_cfg (e : String) : (s.ofault e).cfg = s.cfg := rfl
@[simp, chan_frame] theorem St.ofault_now (e : String) : (s.ofault e).now = s.now := rfl
@[simp, chan_frame] theorem St.ofault_servers (e : String) : (s.ofault e).servers = s.servers := rfl
@[simp, chan_frame] theorem St.ofault_conns (e : String) : (s.ofault e).conns = s.conns := rfl
@[simp, chan_frame] theorem St.ofault_qs (e : String) : (s.ofault e).qs = s.qs := rfl
@[simp, chan_frame] theorem St.ofault_nextKey (e : String) : (s.ofault e).nextKey = s.nextKey := rfl
@[simp, chan_frame] theorem St.ofault_all (e : String) : (s.ofault e).all = s.all := rfl
@[simp, chan_frame] theorem St.ofault_byQid (e : String) : (s.ofault e).byQid = s.byQid := rfl
@[simp, chan_frame] theorem St.ofault_byTimeout (e : String) : (s.ofault e).byTimeout = s.byTimeout := rfl
@[simp, chan_frame] theorem St.ofault_listCopy (e : String) : (s.ofault e).listCopy = s.listCopy := rfl
@[simp, chan_frame] theorem St.ofault_socks (e : String) : (s.ofault e).socks = s.socks := rfl
@[simp, chan_frame] theorem St.ofault_nextFd (e : String) : (s.ofault e).nextFd = s.nextFd := rfl
@[simp, chan_frame] theorem St.ofault_txs (e : String) : (s.ofault e).txs = s.txs := rfl
@[simp, chan_frame] theorem St.ofault_cache (e : String) : (s.ofault e).cache = s.cache := rfl
@[simp, chan_frame] theorem St.ofault_requeueArr (e : String) : (s.ofault e).requeueArr = s.requeueArr := rfl
@[simp, chan_frame] theorem St.ofault_writeLog (e : String) : (s.ofault e).writeLog = s.writeLog := rfl
@[simp, chan_frame] theorem St.ofault_notifyLog (e : String) : (s.ofault e).notifyLog = s.notifyLog := rfl
@[simp, chan_frame] theorem St.ofault_sockLog (e : String) : (s.ofault e).sockLog = s.sockLog := rfl
@[simp, chan_frame] theorem St.ofault_accepted (e : String) : (s.ofault e).accepted = s.accepted := rfl
@[simp, chan_frame] theorem St.ofault_picks (e : String) : (s.ofault e).picks = s.picks := rfl
@[simp, chan_frame] theorem St.ofault_destroying (e : String) : (s.ofault e).destroying = s.destroying := rfl
@[simp, chan_frame] theorem St.ofault_destroyed (e : String) : (s.ofault e).destroyed = s.destroyed := rfl
@[simp, chan_frame] theorem St.ofault_outOfFuel (e : String) : (s.ofault e).outOfFuel = s.outOfFuel := rfl
@[simp, chan_frame] theorem St.ofault_modelFaults (e : String) : (s.ofault e).modelFaults = s.modelFaults := rfl
@[simp, chan_frame] theorem St.ofault_clients (e : String) : (s.ofault e).clients = s.clients := rfl
@[simp, chan_frame] theorem St.ofault_pendingWl (e : String) : (s.ofault e).pendingWl = s.pendingWl := rfl
@[simp, chan_frame] theorem St.ofault_selfVariant (e : String) : (s.ofault e).selfVariant = s.selfVariant := rfl
@[simp, chan_frame] theorem St.ofault_faults (e : String) : (s.ofault e).faults = s.faults := rfl
@[simp, chan_frame] theorem St.ofault_reactions (e : String) : (s.ofault e).reactions = s.reactions := rfl
@[simp, chan_frame] theorem St.ofault_notifyPending (e : String) : (s.ofault e).notifyPending = s.notifyPending := rfl
@[simp, chan_frame] theorem St.ofault_alive (e : String) : (s.ofault e).alive = s.alive := rfl
@[simp, chan_frame] theorem St.ofault_nextClient (e : String) : (s.ofault e).nextClient = s.nextClient := rfl
@[simp, chan_frame] theorem St.ofault_doneToks (e : String) : (s.ofault e).doneToks = s.doneToks := rfl
@[simp, chan_frame] theorem St.ofault_pendingToks (e : String) : (s.ofault e).pendingToks = s.pendingToks := rfl
@[simp, chan_frame] theorem St.ofault_lastQid (e : String) : (s.ofault e).lastQid = s.lastQid := rfl
@[simp, chan_frame] theorem St.ofault_reactSeq (e : String) : (s.ofault e).reactSeq = s.reactSeq := rfl
@[simp, chan_frame] theorem St.ofault_pendingOrder (e : String) : (s.ofault e).pendingOrder = s.pendingOrder := rfl

@[simp, chan_frame] theorem St.mfault_cfg (e : String) : (s.mfault e).cfg = s.cfg := rfl
@[simp, chan_frame] theorem St.mfault_now (e : String) : (s.mfault e).now = s.now := rfl
@[simp, chan_frame] theorem St.mfault_servers (e : String) : (s.mfault e).servers = s.servers := rfl
@[simp, chan_frame] theorem St.mfault_conns (e : String) : (s.mfault e).conns = s.conns := rfl
@[simp, chan_frame] theorem St.mfault_qs (e : String) : (s.mfault e).qs = s.qs := rfl
@[simp, chan_frame] theorem St.mfault_nextKey (e : String) : (s.mfault e).nextKey = s.nextKey := rfl
@[simp, chan_frame] theorem St.mfault_all (e : String) : (s.mfault e).all = s.all := rfl
@[simp, chan_frame] theorem St.mfault_byQid (e : String) : (s.mfault e).byQid = s.byQid := rfl
@[simp, chan_frame] theorem St.mfault_byTimeout (e : String) : (s.mfault e).byTimeout = s.byTimeout := rfl
@[simp, chan_frame] theorem St.mfault_listCopy (e : String) : (s.mfault e).listCopy = s.listCopy := rfl
@[simp, chan_frame] theorem St.mfault_socks (e : String) : (s.mfault e).socks = s.socks := rfl
@[simp, chan_frame] theorem St.mfault_nextFd (e : String) : (s.mfault e).nextFd = s.nextFd := rfl
@[simp, chan_frame] theorem St.mfault_txs (e : String) : (s.mfault e).txs = s.txs := rfl
@[simp, chan_frame] theorem St.mfault_cache (e : String) : (s.mfault e).cache = s.cache := rfl
@[simp, chan_frame] theorem St.mfault_requeueArr (e : String) : (s.mfault e).requeueArr = s.requeueArr := rfl
@[simp, chan_frame] theorem St.mfault_writeLog (e : String) : (s.mfault e).writeLog = s.writeLog := rfl
@[simp, chan_frame] theorem St.mfault_notifyLog (e : String) : (s.mfault e).notifyLog = s.notifyLog := rfl
@[simp, chan_frame] theorem St.mfault_sockLog (e : String) : (s.mfault e).sockLog = s.sockLog := rfl
@[simp, chan_frame] theorem St.mfault_accepted (e : String) : (s.mfault e).accepted = s.accepted := rfl
@[simp, chan_frame] theorem St.mfault_picks (e : String) : (s.mfault e).picks = s.picks := rfl
@[simp, chan_frame] theorem St.mfault_destroying (e : String) : (s.mfault e).destroying = s.destroying := rfl
@[simp, chan_frame] theorem St.mfault_destroyed (e : String) : (s.mfault e).destroyed = s.destroyed := rfl
@[simp, chan_frame] theorem St.mfault_outOfFuel (e : String) : (s.mfault e).outOfFuel = s.outOfFuel := rfl
@[simp, chan_frame] theorem St.mfault_clients (e : String) : (s.mfault e).clients = s.clients := rfl
@[simp, chan_frame] theorem St.mfault_pendingWl (e : String) : (s.mfault e).pendingWl = s.pendingWl := rfl
@[simp, chan_frame] theorem St.mfault_selfVariant (e : String) : (s.mfault e).selfVariant = s.selfVariant := rfl
@[simp, chan_frame] theorem St.mfault_faults (e : String) : (s.mfault e).faults = s.faults := rfl
@[simp, chan_frame] theorem St.mfault_reactions (e : String) : (s.mfault e).reactions = s.reactions := rfl
@[simp, chan_frame] theorem St.mfault_notifyPending (e : String) : (s.mfault e).notifyPending = s.notifyPending := rfl
@[simp, chan_frame] theorem St.mfault_alive (e : String) : (s.mfault e).alive = s.alive := rfl
@[simp, chan_frame] theorem St.mfault_nextClient (e : String) : (s.mfault e).nextClient = s.nextClient := rfl
@[simp, chan_frame] theorem St.mfault_doneToks (e : String) : (s.mfault e).doneToks = s.doneToks := rfl
@[simp, chan_frame] theorem St.mfault_pendingToks (e : String) : (s.mfault e).pendingToks = s.pendingToks := rfl
@[simp, chan_frame] theorem St.mfault_lastQid (e : String) : (s.mfault e).lastQid = s.lastQid := rfl
@[simp, chan_frame] theorem St.mfault_reactSeq (e : String) : (s.mfault e).reactSeq = s.reactSeq := rfl
@[simp, chan_frame] theorem St.mfault_pendingOrder (e : String) : (s.mfault e).pendingOrder = s.pendingOrder := rfl

@[simp, chan_frame] theorem St.setQuery_cfg (q : Query) : (s.setQuery q).cfg = s.cfg := rfl
@[simp, chan_frame] theorem St.setQuery_now (q : Query) : (s.setQuery q).now = s.now := rfl
@[simp, chan_frame] theorem St.setQuery_servers (q : Query) : (s.setQuery q).servers = s.servers := rfl
@[simp, chan_frame] theorem St.setQuery_conns (q : Query) : (s.setQuery q).conns = s.conns := rfl
@[simp, chan_frame] theorem St.setQuery_nextKey (q : Query) : (s.setQuery q).nextKey = s.nextKey := rfl
@[simp, chan_frame] theorem St.setQuery_all (q : Query) : (s.setQuery q).all = s.all := rfl
@[simp, chan_frame] theorem St.setQuery_byQid (q : Query) : (s.setQuery q).byQid = s.byQid := rfl
@[simp, chan_frame] theorem St.setQuery_byTimeout (q : Query) : (s.setQuery q).byTimeout = s.byTimeout := rfl
@[simp, chan_frame] theorem St.setQuery_listCopy (q : Query) : (s.setQuery q).listCopy = s.listCopy := rfl
@[simp, chan_frame] theorem St.setQuery_socks (q : Query) : (s.setQuery q).socks = s.socks := rfl
@[simp, chan_frame] theorem St.setQuery_nextFd (q : Query) : (s.setQuery q).nextFd = s.nextFd := rfl
@[simp, chan_frame] theorem St.setQuery_txs (q : Query) : (s.setQuery q).txs = s.txs := rfl
@[simp, chan_frame] theorem St.setQuery_cache (q : Query) : (s.setQuery q).cache = s.cache := rfl
@[simp, chan_frame] theorem St.setQuery_requeueArr (q : Query) : (s.setQuery q).requeueArr = s.requeueArr := rfl
@[simp, chan_frame] theorem St.setQuery_writeLog (q : Query) : (s.setQuery q).writeLog = s.writeLog := rfl
@[simp, chan_frame] theorem St.setQuery_notifyLog (q : Query) : (s.setQuery q).notifyLog = s.notifyLog := rfl
@[simp, chan_frame] theorem St.setQuery_sockLog (q : Query) : (s.setQuery q).sockLog = s.sockLog := rfl
@[simp, chan_frame] theorem St.setQuery_accepted (q : Query) : (s.setQuery q).accepted = s.accepted := rfl
@[simp, chan_frame] theorem St.setQuery_picks (q : Query) : (s.setQuery q).picks = s.picks := rfl
@[simp, chan_frame] theorem St.setQuery_destroying (q : Query) : (s.setQuery q).destroying = s.destroying := rfl
@[simp, chan_frame] theorem St.setQuery_destroyed (q : Query) : (s.setQuery q).destroyed = s.destroyed := rfl
@[simp, chan_frame] theorem St.setQuery_outOfFuel (q : Query) : (s.setQuery q).outOfFuel = s.outOfFuel := rfl
@[simp, chan_frame] theorem St.setQuery_modelFaults (q : Query) : (s.setQuery q).modelFaults = s.modelFaults := rfl
@[simp, chan_frame] theorem St.setQuery_clients (q : Query) : (s.setQuery q).clients = s.clients := rfl
@[simp, chan_frame] theorem St.setQuery_pendingWl (q : Query) : (s.setQuery q).pendingWl = s.pendingWl := rfl
@[simp, chan_frame] theorem St.setQuery_selfVariant (q : Query) : (s.setQuery q).selfVariant = s.selfVariant := rfl
@[simp, chan_frame] theorem St.setQuery_faults (q : Query) : (s.setQuery q).faults = s.faults := rfl
@[simp, chan_frame] theorem St.setQuery_reactions (q : Query) : (s.setQuery q).reactions = s.reactions := rfl
@[simp, chan_frame] theorem St.setQuery_notifyPending (q : Query) : (s.setQuery q).notifyPending = s.notifyPending := rfl
@[simp, chan_frame] theorem St.setQuery_alive (q : Query) : (s.setQuery q).alive = s.alive := rfl
@[simp, chan_frame] theorem St.setQuery_nextClient (q : Query) : (s.setQuery q).nextClient = s.nextClient := rfl
@[simp, chan_frame] theorem St.setQuery_doneToks (q : Query) : (s.setQuery q).doneToks = s.doneToks := rfl
@[simp, chan_frame] theorem St.setQuery_pendingToks (q : Query) : (s.setQuery q).pendingToks = s.pendingToks := rfl
@[simp, chan_frame] theorem St.setQuery_lastQid (q : Query) : (s.setQuery q).lastQid = s.lastQid := rfl
@[simp, chan_frame] theorem St.setQuery_reactSeq (q : Query) : (s.setQuery q).reactSeq = s.reactSeq := rfl
@[simp, chan_frame] theorem St.setQuery_pendingOrder (q : Query) : (s.setQuery q).pendingOrder = s.pendingOrder := rfl

@[simp, chan_frame] theorem St.setConn_cfg (c : Conn) : (s.setConn c).cfg = s.cfg := rfl
@[simp, chan_frame] theorem St.setConn_now (c : Conn) : (s.setConn c).now = s.now := rfl
@[simp, chan_frame] theorem St.setConn_servers (c : Conn) : (s.setConn c).servers = s.servers := rfl
@[simp, chan_frame] theorem St.setConn_qs (c : Conn) : (s.setConn c).qs = s.qs := rfl
@[simp, chan_frame] theorem St.setConn_nextKey (c : Conn) : (s.setConn c).nextKey = s.nextKey := rfl
@[simp, chan_frame] theorem St.setConn_all (c : Conn) : (s.setConn c).all = s.all := rfl
@[simp, chan_frame] theorem St.setConn_byQid (c : Conn) : (s.setConn c).byQid = s.byQid := rfl
@[simp, chan_frame] theorem St.setConn_byTimeout (c : Conn) : (s.setConn c).byTimeout = s.byTimeout := rfl
@[simp, chan_frame] theorem St.setConn_listCopy (c : Conn) : (s.setConn c).listCopy = s.listCopy := rfl
@[simp, chan_frame] theorem St.setConn_socks (c : Conn) : (s.setConn c).socks = s.socks := rfl
@[simp, chan_frame] theorem St.setConn_nextFd (c : Conn) : (s.setConn c).nextFd = s.nextFd := rfl
@[simp, chan_frame] theorem St.setConn_txs (c : Conn) : (s.setConn c).txs = s.txs := rfl
@[simp, chan_frame] theorem St.setConn_cache (c : Conn) : (s.setConn c).cache = s.cache := rfl
@[simp, chan_frame] theorem St.setConn_requeueArr (c : Conn) : (s.setConn c).requeueArr = s.requeueArr := rfl
@[simp, chan_frame] theorem St.setConn_writeLog (c : Conn) : (s.setConn c).writeLog = s.writeLog := rfl
@[simp, chan_frame] theorem St.setConn_notifyLog (c : Conn) : (s.setConn c).notifyLog = s.notifyLog := rfl
@[simp, chan_frame] theorem St.setConn_sockLog (c : Conn) : (s.setConn c).sockLog = s.sockLog := rfl
@[simp, chan_frame] theorem St.setConn_accepted (c : Conn) : (s.setConn c).accepted = s.accepted := rfl
@[simp, chan_frame] theorem St.setConn_picks (c : Conn) : (s.setConn c).picks = s.picks := rfl
@[simp, chan_frame] theorem St.setConn_destroying (c : Conn) : (s.setConn c).destroying = s.destroying := rfl
@[simp, chan_frame] theorem St.setConn_destroyed (c : Conn) : (s.setConn c).destroyed = s.destroyed := rfl
@[simp, chan_frame] theorem St.setConn_outOfFuel (c : Conn) : (s.setConn c).outOfFuel = s.outOfFuel := rfl
@[simp, chan_frame] theorem St.setConn_modelFaults (c : Conn) : (s.setConn c).modelFaults = s.modelFaults := rfl
@[simp, chan_frame] theorem St.setConn_clients (c : Conn) : (s.setConn c).clients = s.clients := rfl
@[simp, chan_frame] theorem St.setConn_pendingWl (c : Conn) : (s.setConn c).pendingWl = s.pendingWl := rfl
@[simp, chan_frame] theorem St.setConn_selfVariant (c : Conn) : (s.setConn c).selfVariant = s.selfVariant := rfl
@[simp, chan_frame] theorem St.setConn_faults (c : Conn) : (s.setConn c).faults = s.faults := rfl
@[simp, chan_frame] theorem St.setConn_reactions (c : Conn) : (s.setConn c).reactions = s.reactions := rfl
@[simp, chan_frame] theorem St.setConn_notifyPending (c : Conn) : (s.setConn c).notifyPending = s.notifyPending := rfl
@[simp, chan_frame] theorem St.setConn_alive (c : Conn) : (s.setConn c).alive = s.alive := rfl
@[simp, chan_frame] theorem St.setConn_nextClient (c : Conn) : (s.setConn c).nextClient = s.nextClient := rfl
@[simp, chan_frame] theorem St.setConn_doneToks (c : Conn) : (s.setConn c).doneToks = s.doneToks := rfl
@[simp, chan_frame] theorem St.setConn_pendingToks (c : Conn) : (s.setConn c).pendingToks = s.pendingToks := rfl
@[simp, chan_frame] theorem St.setConn_lastQid (c : Conn) : (s.setConn c).lastQid = s.lastQid := rfl
@[simp, chan_frame] theorem St.setConn_reactSeq (c : Conn) : (s.setConn c).reactSeq = s.reactSeq := rfl
@[simp, chan_frame] theorem St.setConn_pendingOrder (c : Conn) : (s.setConn c).pendingOrder = s.pendingOrder := rfl

@[simp, chan_frame] theorem St.setServer_cfg (v : Server) : (s.setServer v).cfg = s.cfg := rfl
@[simp, chan_frame] theorem St.setServer_now (v : Server) : (s.setServer v).now = s.now := rfl
@[simp, chan_frame] theorem St.setServer_conns (v : Server) : (s.setServer v).conns = s.conns := rfl
@[simp, chan_frame] theorem St.setServer_qs (v : Server) : (s.setServer v).qs = s.qs := rfl
@[simp, chan_frame] theorem St.setServer_nextKey (v : Server) : (s.setServer v).nextKey = s.nextKey := rfl
@[simp, chan_frame] theorem St.setServer_all (v : Server) : (s.setServer v).all = s.all := rfl
@[simp, chan_frame] theorem St.setServer_byQid (v : Server) : (s.setServer v).byQid = s.byQid := rfl
@[simp, chan_frame] theorem St.setServer_byTimeout (v : Server) : (s.setServer v).byTimeout = s.byTimeout := rfl
@[simp, chan_frame] theorem St.setServer_listCopy (v : Server) : (s.setServer v).listCopy = s.listCopy := rfl
@[simp, chan_frame] theorem St.setServer_socks (v : Server) : (s.setServer v).socks = s.socks := rfl
@[simp, chan_frame] theorem St.setServer_nextFd (v : Server) : (s.setServer v).nextFd = s.nextFd := rfl
@[simp, chan_frame] theorem St.setServer_txs (v : Server) : (s.setServer v).txs = s.txs := rfl
@[simp, chan_frame] theorem St.setServer_cache (v : Server) : (s.setServer v).cache = s.cache := rfl
@[simp, chan_frame] theorem St.setServer_requeueArr (v : Server) : (s.setServer v).requeueArr = s.requeueArr := rfl
@[simp, chan_frame] theorem St.setServer_writeLog (v : Server) : (s.setServer v).writeLog = s.writeLog := rfl
@[simp, chan_frame] theorem St.setServer_notifyLog (v : Server) : (s.setServer v).notifyLog = s.notifyLog := rfl
@[simp, chan_frame] theorem St.setServer_sockLog (v : Server) : (s.setServer v).sockLog = s.sockLog := rfl
@[simp, chan_frame] theorem St.setServer_accepted (v : Server) : (s.setServer v).accepted = s.accepted := rfl
@[simp, chan_frame] theorem St.setServer_picks (v : Server) : (s.setServer v).picks = s.picks := rfl
@[simp, chan_frame] theorem St.setServer_destroying (v : Server) : (s.setServer v).destroying = s.destroying := rfl
@[simp, chan_frame] theorem St.setServer_destroyed (v : Server) : (s.setServer v).destroyed = s.destroyed := rfl
@[simp, chan_frame] theorem St.setServer_outOfFuel (v : Server) : (s.setServer v).outOfFuel = s.outOfFuel := rfl
@[simp, chan_frame] theorem St.setServer_modelFaults (v : Server) : (s.setServer v).modelFaults = s.modelFaults := rfl
@[simp, chan_frame] theorem St.setServer_clients (v : Server) : (s.setServer v).clients = s.clients := rfl
@[simp, chan_frame] theorem St.setServer_pendingWl (v : Server) : (s.setServer v).pendingWl = s.pendingWl := rfl
@[simp, chan_frame] theorem St.setServer_selfVariant (v : Server) : (s.setServer v).selfVariant = s.selfVariant := rfl
@[simp, chan_frame] theorem St.setServer_faults (v : Server) : (s.setServer v).faults = s.faults := rfl
@[simp, chan_frame] theorem St.setServer_reactions (v : Server) : (s.setServer v).reactions = s.reactions := rfl
@[simp, chan_frame] theorem St.setServer_notifyPending (v : Server) : (s.setServer v).notifyPending = s.notifyPending := rfl
@[simp, chan_frame] theorem St.setServer_alive (v : Server) : (s.setServer v).alive = s.alive := rfl
@[simp, chan_frame] theorem St.setServer_nextClient (v : Server) : (s.setServer v).nextClient = s.nextClient := rfl
@[simp, chan_frame] theorem St.setServer_doneToks (v : Server) : (s.setServer v).doneToks = s.doneToks := rfl
@[simp, chan_frame] theorem St.setServer_pendingToks (v : Server) : (s.setServer v).pendingToks = s.pendingToks := rfl
@[simp, chan_frame] theorem St.setServer_lastQid (v : Server) : (s.setServer v).lastQid = s.lastQid := rfl
@[simp, chan_frame] theorem St.setServer_reactSeq (v : Server) : (s.setServer v).reactSeq = s.reactSeq := rfl
@[simp, chan_frame] theorem St.setServer_pendingOrder (v : Server) : (s.setServer v).pendingOrder = s.pendingOrder := rfl

@[simp, chan_frame] theorem St.setSock_cfg (v : VSock) : (s.setSock v).cfg = s.cfg := rfl
@[simp, chan_frame] theorem St.setSock_now (v : VSock) : (s.setSock v).now = s.now := rfl
@[simp, chan_frame] theorem St.setSock_servers (v : VSock) : (s.setSock v).servers = s.servers := rfl
@[simp, chan_frame] theorem St.setSock_conns (v : VSock) : (s.setSock v).conns = s.conns := rfl
@[simp, chan_frame] theorem St.setSock_qs (v : VSock) : (s.setSock v).qs = s.qs := rfl
@[simp, chan_frame] theorem St.setSock_nextKey (v : VSock) : (s.setSock v).nextKey = s.nextKey := rfl
@[simp, chan_frame] theorem St.setSock_all (v : VSock) : (s.setSock v).all = s.all := rfl
@[simp, chan_frame] theorem St.setSock_byQid (v : VSock) : (s.setSock v).byQid = s.byQid := rfl
@[simp, chan_frame] theorem St.setSock_byTimeout (v : VSock) : (s.setSock v).byTimeout = s.byTimeout := rfl
@[simp, chan_frame] theorem St.setSock_listCopy (v : VSock) : (s.setSock v).listCopy = s.listCopy := rfl
@[simp, chan_frame] theorem St.setSock_nextFd (v : VSock) : (s.setSock v).nextFd = s.nextFd := rfl
@[simp, chan_frame] theorem St.setSock_txs (v : VSock) : (s.setSock v).txs = s.txs := rfl
@[simp, chan_frame] theorem St.setSock_cache (v : VSock) : (s.setSock v).cache = s.cache := rfl
@[simp, chan_frame] theorem St.setSock_requeueArr (v : VSock) : (s.setSock v).requeueArr = s.requeueArr := rfl
@[simp, chan_frame] theorem St.setSock_writeLog (v : VSock) : (s.setSock v).writeLog = s.writeLog := rfl
@[simp, chan_frame] theorem St.setSock_notifyLog (v : VSock) : (s.setSock v).notifyLog = s.notifyLog := rfl
@[simp, chan_frame] theorem St.setSock_sockLog (v : VSock) : (s.setSock v).sockLog = s.sockLog := rfl
@[simp, chan_frame] theorem St.setSock_accepted (v : VSock) : (s.setSock v).accepted = s.accepted := rfl
@[simp, chan_frame] theorem St.setSock_picks (v : VSock) : (s.setSock v).picks = s.picks := rfl
@[simp, chan_frame] theorem St.setSock_destroying (v : VSock) : (s.setSock v).destroying = s.destroying := rfl
@[simp, chan_frame] theorem St.setSock_destroyed (v : VSock) : (s.setSock v).destroyed = s.destroyed := rfl
@[simp, chan_frame] theorem St.setSock_outOfFuel (v : VSock) : (s.setSock v).outOfFuel = s.outOfFuel := rfl
@[simp, chan_frame] theorem St.setSock_modelFaults (v : VSock) : (s.setSock v).modelFaults = s.modelFaults := rfl
@[simp, chan_frame] theorem St.setSock_clients (v : VSock) : (s.setSock v).clients = s.clients := rfl
@[simp, chan_frame] theorem St.setSock_pendingWl (v : VSock) : (s.setSock v).pendingWl = s.pendingWl := rfl
@[simp, chan_frame] theorem St.setSock_selfVariant (v : VSock) : (s.setSock v).selfVariant = s.selfVariant := rfl
@[simp, chan_frame] theorem St.setSock_faults (v : VSock) : (s.setSock v).faults = s.faults := rfl
@[simp, chan_frame] theorem St.setSock_reactions (v : VSock) : (s.setSock v).reactions = s.reactions := rfl
@[simp, chan_frame] theorem St.setSock_notifyPending (v : VSock) : (s.setSock v).notifyPending = s.notifyPending := rfl
@[simp, chan_frame] theorem St.setSock_alive (v : VSock) : (s.setSock v).alive = s.alive := rfl
@[simp, chan_frame] theorem St.setSock_nextClient (v : VSock) : (s.setSock v).nextClient = s.nextClient := rfl
@[simp, chan_frame] theorem St.setSock_doneToks (v : VSock) : (s.setSock v).doneToks = s.doneToks := rfl
@[simp, chan_frame] theorem St.setSock_pendingToks (v : VSock) : (s.setSock v).pendingToks = s.pendingToks := rfl
@[simp, chan_frame] theorem St.setSock_lastQid (v : VSock) : (s.setSock v).lastQid = s.lastQid := rfl
@[simp, chan_frame] theorem St.setSock_reactSeq (v : VSock) : (s.setSock v).reactSeq = s.reactSeq := rfl
@[simp, chan_frame] theorem St.setSock_pendingOrder (v : VSock) : (s.setSock v).pendingOrder = s.pendingOrder := rfl

@[simp, chan_frame] theorem St.modQuery_cfg (k : Nat) (f : Query → Query) : (s.modQuery k f).cfg = s.cfg := rfl
@[simp, chan_frame] theorem St.modQuery_now (k : Nat) (f : Query → Query) : (s.modQuery k f).now = s.now := rfl
@[simp, chan_frame] theorem St.modQuery_servers (k : Nat) (f : Query → Query) : (s.modQuery k f).servers = s.servers := rfl
@[simp, chan_frame] theorem St.modQuery_conns (k : Nat) (f : Query → Query) : (s.modQuery k f).conns = s.conns := rfl
@[simp, chan_frame] theorem St.modQuery_nextKey (k : Nat) (f : Query → Query) : (s.modQuery k f).nextKey = s.nextKey := rfl
@[simp, chan_frame] theorem St.modQuery_all (k : Nat) (f : Query → Query) : (s.modQuery k f).all = s.all := rfl
@[simp, chan_frame] theorem St.modQuery_byQid (k : Nat) (f : Query → Query) : (s.modQuery k f).byQid = s.byQid := rfl
@[simp, chan_frame] theorem St.modQuery_byTimeout (k : Nat) (f : Query → Query) : (s.modQuery k f).byTimeout = s.byTimeout := rfl
@[simp, chan_frame] theorem St.modQuery_listCopy (k : Nat) (f : Query → Query) : (s.modQuery k f).listCopy = s.listCopy := rfl
@[simp, chan_frame] theorem St.modQuery_socks (k : Nat) (f : Query → Query) : (s.modQuery k f).socks = s.socks := rfl
@[simp, chan_frame] theorem St.modQuery_nextFd (k : Nat) (f : Query → Query) : (s.modQuery k f).nextFd = s.nextFd := rfl
@[simp, chan_frame] theorem St.modQuery_txs (k : Nat) (f : Query → Query) : (s.modQuery k f).txs = s.txs := rfl
@[simp, chan_frame] theorem St.modQuery_cache (k : Nat) (f : Query → Query) : (s.modQuery k f).cache = s.cache := rfl
@[simp, chan_frame] theorem St.modQuery_requeueArr (k : Nat) (f : Query → Query) : (s.modQuery k f).requeueArr = s.requeueArr := rfl
@[simp, chan_frame] theorem St.modQuery_writeLog (k : Nat) (f : Query → Query) : (s.modQuery k f).writeLog = s.writeLog := rfl
@[simp, chan_frame] theorem St.modQuery_notifyLog (k : Nat) (f : Query → Query) : (s.modQuery k f).notifyLog = s.notifyLog := rfl
@[simp, chan_frame] theorem St.modQuery_sockLog (k : Nat) (f : Query → Query) : (s.modQuery k f).sockLog = s.sockLog := rfl
@[simp, chan_frame] theorem St.modQuery_accepted (k : Nat) (f : Query → Query) : (s.modQuery k f).accepted = s.accepted := rfl
@[simp, chan_frame] theorem St.modQuery_picks (k : Nat) (f : Query → Query) : (s.modQuery k f).picks = s.picks := rfl
@[simp, chan_frame] theorem St.modQuery_destroying (k : Nat) (f : Query → Query) : (s.modQuery k f).destroying = s.destroying := rfl
@[simp, chan_frame] theorem St.modQuery_destroyed (k : Nat) (f : Query → Query) : (s.modQuery k f).destroyed = s.destroyed := rfl
@[simp, chan_frame] theorem St.modQuery_outOfFuel (k : Nat) (f : Query → Query) : (s.modQuery k f).outOfFuel = s.outOfFuel := rfl
@[simp, chan_frame] theorem St.modQuery_modelFaults (k : Nat) (f : Query → Query) : (s.modQuery k f).modelFaults = s.modelFaults := rfl
@[simp, chan_frame] theorem St.modQuery_clients (k : Nat) (f : Query → Query) : (s.modQuery k f).clients = s.clients := rfl
@[simp, chan_frame] theorem St.modQuery_pendingWl (k : Nat) (f : Query → Query) : (s.modQuery k f).pendingWl = s.pendingWl := rfl
@[simp, chan_frame] theorem St.modQuery_selfVariant (k : Nat) (f : Query → Query) : (s.modQuery k f).selfVariant = s.selfVariant := rfl
@[simp, chan_frame] theorem St.modQuery_faults (k : Nat) (f : Query → Query) : (s.modQuery k f).faults = s.faults := rfl
@[simp, chan_frame] theorem St.modQuery_reactions (k : Nat) (f : Query → Query) : (s.modQuery k f).reactions = s.reactions := rfl
@[simp, chan_frame] theorem St.modQuery_notifyPending (k : Nat) (f : Query → Query) : (s.modQuery k f).notifyPending = s.notifyPending := rfl
@[simp, chan_frame] theorem St.modQuery_alive (k : Nat) (f : Query → Query) : (s.modQuery k f).alive = s.alive := rfl
@[simp, chan_frame] theorem St.modQuery_nextClient (k : Nat) (f : Query → Query) : (s.modQuery k f).nextClient = s.nextClient := rfl
@[simp, chan_frame] theorem St.modQuery_doneToks (k : Nat) (f : Query → Query) : (s.modQuery k f).doneToks = s.doneToks := rfl
@[simp, chan_frame] theorem St.modQuery_pendingToks (k : Nat) (f : Query → Query) : (s.modQuery k f).pendingToks = s.pendingToks := rfl
@[simp, chan_frame] theorem St.modQuery_lastQid (k : Nat) (f : Query → Query) : (s.modQuery k f).lastQid = s.lastQid := rfl
@[simp, chan_frame] theorem St.modQuery_reactSeq (k : Nat) (f : Query → Query) : (s.modQuery k f).reactSeq = s.reactSeq := rfl
@[simp, chan_frame] theorem St.modQuery_pendingOrder (k : Nat) (f : Query → Query) : (s.modQuery k f).pendingOrder = s.pendingOrder := rfl

@[simp, chan_frame] theorem St.modConn_cfg (fd : Nat) (f : Conn → Conn) : (s.modConn fd f).cfg = s.cfg := rfl
@[simp, chan_frame] theorem St.modConn_now (fd : Nat) (f : Conn → Conn) : (s.modConn fd f).now = s.now := rfl
@[simp, chan_frame] theorem St.modConn_servers (fd : Nat) (f : Conn → Conn) : (s.modConn fd f).servers = s.servers := rfl
@[simp, chan_frame] theorem St.modConn_qs (fd : Nat) (f : Conn → Conn) : (s.modConn fd f).qs = s.qs := rfl
@[simp, chan_frame] theorem St.modConn_nextKey (fd : Nat) (f : Conn → Conn) : (s.modConn fd f).nextKey = s.nextKey := rfl
@[simp, chan_frame] theorem St.modConn_all (fd : Nat) (f : Conn → Conn) : (s.modConn fd f).all = s.all := rfl
@[simp, chan_frame] theorem St.modConn_byQid (fd : Nat) (f : Conn → Conn) : (s.modConn fd f).byQid = s.byQid := rfl
@[simp, chan_frame] theorem St.modConn_byTimeout (fd : Nat) (f : Conn → Conn) : (s.modConn fd f).byTimeout = s.byTimeout := rfl
@[simp, chan_frame] theorem St.modConn_listCopy (fd : Nat) (f : Conn → Conn) : (s.modConn fd f).listCopy = s.listCopy := rfl
@[simp, chan_frame] theorem St.modConn_socks (fd : Nat) (f : Conn → Conn) : (s.modConn fd f).socks = s.socks := rfl
@[simp, chan_frame] theorem St.modConn_nextFd (fd : Nat) (f : Conn → Conn) : (s.modConn fd f).nextFd = s.nextFd := rfl
@[simp, chan_frame] theorem St.modConn_txs (fd : Nat) (f : Conn → Conn) : (s.modConn fd f).txs = s.txs := rfl
@[simp, chan_frame] theorem St.modConn_cache (fd : Nat) (f : Conn → Conn) : (s.modConn fd f).cache = s.cache := rfl
@[simp, chan_frame] theorem St.modConn_requeueArr (fd : Nat) (f : Conn → Conn) : (s.modConn fd f).requeueArr = s.requeueArr := rfl
@[simp, chan_frame] theorem St.modConn_writeLog (fd : Nat) (f : Conn → Conn) : (s.modConn fd f).writeLog = s.writeLog := rfl
@[simp, chan_frame] theorem St.modConn_notifyLog (fd : Nat) (f : Conn → Conn) : (s.modConn fd f).notifyLog = s.notifyLog := rfl
@[simp, chan_frame] theorem St.modConn_sockLog (fd : Nat) (f : Conn → Conn) : (s.modConn fd f).sockLog = s.sockLog := rfl
@[simp, chan_frame] theorem St.modConn_accepted (fd : Nat) (f : Conn → Conn) : (s.modConn fd f).accepted = s.accepted := rfl
@[simp, chan_frame] theorem St.modConn_picks (fd : Nat) (f : Conn → Conn) : (s.modConn fd f).picks = s.picks := rfl
@[simp, chan_frame] theorem St.modConn_destroying (fd : Nat) (f : Conn → Conn) : (s.modConn fd f).destroying = s.destroying := rfl
@[simp, chan_frame] theorem St.modConn_destroyed (fd : Nat) (f : Conn → Conn) : (s.modConn fd f).destroyed = s.destroyed := rfl
@[simp, chan_frame] theorem St.modConn_outOfFuel (fd : Nat) (f : Conn → Conn) : (s.modConn fd f).outOfFuel = s.outOfFuel := rfl
@[simp, chan_frame] theorem St.modConn_modelFaults (fd : Nat) (f : Conn → Conn) : (s.modConn fd f).modelFaults = s.modelFaults := rfl
@[simp, chan_frame] theorem St.modConn_clients (fd : Nat) (f : Conn → Conn) : (s.modConn fd f).clients = s.clients := rfl
@[simp, chan_frame] theorem St.modConn_pendingWl (fd : Nat) (f : Conn → Conn) : (s.modConn fd f).pendingWl = s.pendingWl := rfl
@[simp, chan_frame] theorem St.modConn_selfVariant (fd : Nat) (f : Conn → Conn) : (s.modConn fd f).selfVariant = s.selfVariant := rfl
@[simp, chan_frame] theorem St.modConn_faults (fd : Nat) (f : Conn → Conn) : (s.modConn fd f).faults = s.faults := rfl
@[simp, chan_frame] theorem St.modConn_reactions (fd : Nat) (f : Conn → Conn) : (s.modConn fd f).reactions = s.reactions := rfl
@[simp, chan_frame] theorem St.modConn_notifyPending (fd : Nat) (f : Conn → Conn) : (s.modConn fd f).notifyPending = s.notifyPending := rfl
@[simp, chan_frame] theorem St.modConn_alive (fd : Nat) (f : Conn → Conn) : (s.modConn fd f).alive = s.alive := rfl
@[simp, chan_frame] theorem St.modConn_nextClient (fd : Nat) (f : Conn → Conn) : (s.modConn fd f).nextClient = s.nextClient := rfl
@[simp, chan_frame] theorem St.modConn_doneToks (fd : Nat) (f : Conn → Conn) : (s.modConn fd f).doneToks = s.doneToks := rfl
@[simp, chan_frame] theorem St.modConn_pendingToks (fd : Nat) (f : Conn → Conn) : (s.modConn fd f).pendingToks = s.pendingToks := rfl
@[simp, chan_frame] theorem St.modConn_lastQid (fd : Nat) (f : Conn → Conn) : (s.modConn fd f).lastQid = s.lastQid := rfl
@[simp, chan_frame] theorem St.modConn_reactSeq (fd : Nat) (f : Conn → Conn) : (s.modConn fd f).reactSeq = s.reactSeq := rfl
@[simp, chan_frame] theorem St.modConn_pendingOrder (fd : Nat) (f : Conn → Conn) : (s.modConn fd f).pendingOrder = s.pendingOrder := rfl

@[simp, chan_frame] theorem St.modServer_cfg (id : Nat) (f : Server → Server) : (s.modServer id f).cfg = s.cfg := rfl
@[simp, chan_frame] theorem St.modServer_now (id : Nat) (f : Server → Server) : (s.modServer id f).now = s.now := rfl
@[simp, chan_frame] theorem St.modServer_conns (id : Nat) (f : Server → Server) : (s.modServer id f).conns = s.conns := rfl
@[simp, chan_frame] theorem St.modServer_qs (id : Nat) (f : Server → Server) : (s.modServer id f).qs = s.qs := rfl
@[simp, chan_frame] theorem St.modServer_nextKey (id : Nat) (f : Server → Server) : (s.modServer id f).nextKey = s.nextKey := rfl
@[simp, chan_frame] theorem St.modServer_all (id : Nat) (f : Server → Server) : (s.modServer id f).all = s.all := rfl
@[simp, chan_frame] theorem St.modServer_byQid (id : Nat) (f : Server → Server) : (s.modServer id f).byQid = s.byQid := rfl
@[simp, chan_frame] theorem St.modServer_byTimeout (id : Nat) (f : Server → Server) : (s.modServer id f).byTimeout = s.byTimeout := rfl
@[simp, chan_frame] theorem St.modServer_listCopy (id : Nat) (f : Server → Server) : (s.modServer id f).listCopy = s.listCopy := rfl
@[simp, chan_frame] theorem St.modServer_socks (id : Nat) (f : Server → Server) : (s.modServer id f).socks = s.socks := rfl
@[simp, chan_frame] theorem St.modServer_nextFd (id : Nat) (f : Server → Server) : (s.modServer id f).nextFd = s.nextFd := rfl
@[simp, chan_frame] theorem St.modServer_txs (id : Nat) (f : Server → Server) : (s.modServer id f).txs = s.txs := rfl
@[simp, chan_frame] theorem St.modServer_cache (id : Nat) (f : Server → Server) : (s.modServer id f).cache = s.cache := rfl
@[simp, chan_frame] theorem St.modServer_requeueArr (id : Nat) (f : Server → Server) : (s.modServer id f).requeueArr = s.requeueArr := rfl
@[simp, chan_frame] theorem St.modServer_writeLog (id : Nat) (f : Server → Server) : (s.modServer id f).writeLog = s.writeLog := rfl
@[simp, chan_frame] theorem St.modServer_notifyLog (id : Nat) (f : Server → Server) : (s.modServer id f).notifyLog = s.notifyLog := rfl
@[simp, chan_frame] theorem St.modServer_sockLog (id : Nat) (f : Server → Server) : (s.modServer id f).sockLog = s.sockLog := rfl
@[simp, chan_frame] theorem St.modServer_accepted (id : Nat) (f : Server → Server) : (s.modServer id f).accepted = s.accepted := rfl
@[simp, chan_frame] theorem St.modServer_picks (id : Nat) (f : Server → Server) : (s.modServer id f).picks = s.picks := rfl
@[simp, chan_frame] theorem St.modServer_destroying (id : Nat) (f : Server → Server) : (s.modServer id f).destroying = s.destroying := rfl
@[simp, chan_frame] theorem St.modServer_destroyed (id : Nat) (f : Server → Server) : (s.modServer id f).destroyed = s.destroyed := rfl
@[simp, chan_frame] theorem St.modServer_outOfFuel (id : Nat) (f : Server → Server) : (s.modServer id f).outOfFuel = s.outOfFuel := rfl
@[simp, chan_frame] theorem St.modServer_modelFaults (id : Nat) (f : Server → Server) : (s.modServer id f).modelFaults = s.modelFaults := rfl
@[simp, chan_frame] theorem St.modServer_clients (id : Nat) (f : Server → Server) : (s.modServer id f).clients = s.clients := rfl
@[simp, chan_frame] theorem St.modServer_pendingWl (id : Nat) (f : Server → Server) : (s.modServer id f).pendingWl = s.pendingWl := rfl
@[simp, chan_frame] theorem St.modServer_selfVariant (id : Nat) (f : Server → Server) : (s.modServer id f).selfVariant = s.selfVariant := rfl
@[simp, chan_frame] theorem St.modServer_faults (id : Nat) (f : Server → Server) : (s.modServer id f).faults = s.faults := rfl
@[simp, chan_frame] theorem St.modServer_reactions (id : Nat) (f : Server → Server) : (s.modServer id f).reactions = s.reactions := rfl
@[simp, chan_frame] theorem St.modServer_notifyPending (id : Nat) (f : Server → Server) : (s.modServer id f).notifyPending = s.notifyPending := rfl
@[simp, chan_frame] theorem St.modServer_alive (id : Nat) (f : Server → Server) : (s.modServer id f).alive = s.alive := rfl
@[simp, chan_frame] theorem St.modServer_nextClient (id : Nat) (f : Server → Server) : (s.modServer id f).nextClient = s.nextClient := rfl
@[simp, chan_frame] theorem St.modServer_doneToks (id : Nat) (f : Server → Server) : (s.modServer id f).doneToks = s.doneToks := rfl
@[simp, chan_frame] theorem St.modServer_pendingToks (id : Nat) (f : Server → Server) : (s.modServer id f).pendingToks = s.pendingToks := rfl
@[simp, chan_frame] theorem St.modServer_lastQid (id : Nat) (f : Server → Server) : (s.modServer id f).lastQid = s.lastQid := rfl
@[simp, chan_frame] theorem St.modServer_reactSeq (id : Nat) (f : Server → Server) : (s.modServer id f).reactSeq = s.reactSeq := rfl
@[simp, chan_frame] theorem St.modServer_pendingOrder (id : Nat) (f : Server → Server) : (s.modServer id f).pendingOrder = s.pendingOrder := rfl

@[simp, chan_frame] theorem St.modSock_cfg (fd : Nat) (f : VSock → VSock) : (s.modSock fd f).cfg = s.cfg := rfl
@[simp, chan_frame] theorem St.modSock_now (fd : Nat) (f : VSock → VSock) : (s.modSock fd f).now = s.now := rfl
@[simp, chan_frame] theorem St.modSock_servers (fd : Nat) (f : VSock → VSock) : (s.modSock fd f).servers = s.servers := rfl
@[simp, chan_frame] theorem St.modSock_conns (fd : Nat) (f : VSock → VSock) : (s.modSock fd f).conns = s.conns := rfl
@[simp, chan_frame] theorem St.modSock_qs (fd : Nat) (f : VSock → VSock) : (s.modSock fd f).qs = s.qs := rfl
@[simp, chan_frame] theorem St.modSock_nextKey (fd : Nat) (f : VSock → VSock) : (s.modSock fd f).nextKey = s.nextKey := rfl
@[simp, chan_frame] theorem St.modSock_all (fd : Nat) (f : VSock → VSock) : (s.modSock fd f).all = s.all := rfl
@[simp, chan_frame] theorem St.modSock_byQid (fd : Nat) (f : VSock → VSock) : (s.modSock fd f).byQid = s.byQid := rfl
@[simp, chan_frame] theorem St.modSock_byTimeout (fd : Nat) (f : VSock → VSock) : (s.modSock fd f).byTimeout = s.byTimeout := rfl
@[simp, chan_frame] theorem St.modSock_listCopy (fd : Nat) (f : VSock → VSock) : (s.modSock fd f).listCopy = s.listCopy := rfl
@[simp, chan_frame] theorem St.modSock_nextFd (fd : Nat) (f : VSock → VSock) : (s.modSock fd f).nextFd = s.nextFd := rfl
@[simp, chan_frame] theorem St.modSock_txs (fd : Nat) (f : VSock → VSock) : (s.modSock fd f).txs = s.txs := rfl
@[simp, chan_frame] theorem St.modSock_cache (fd : Nat) (f : VSock → VSock) : (s.modSock fd f).cache = s.cache := rfl
@[simp, chan_frame] theorem St.modSock_requeueArr (fd : Nat) (f : VSock → VSock) : (s.modSock fd f).requeueArr = s.requeueArr := rfl
@[simp, chan_frame] theorem St.modSock_writeLog (fd : Nat) (f : VSock → VSock) : (s.modSock fd f).writeLog = s.writeLog := rfl
@[simp, chan_frame] theorem St.modSock_notifyLog (fd : Nat) (f : VSock → VSock) : (s.modSock fd f).notifyLog = s.notifyLog := rfl
@[simp, chan_frame] theorem St.modSock_sockLog (fd : Nat) (f : VSock → VSock) : (s.modSock fd f).sockLog = s.sockLog := rfl
@[simp, chan_frame] theorem St.modSock_accepted (fd : Nat) (f : VSock → VSock) : (s.modSock fd f).accepted = s.accepted := rfl
@[simp, chan_frame] theorem St.modSock_picks (fd : Nat) (f : VSock → VSock) : (s.modSock fd f).picks = s.picks := rfl
@[simp, chan_frame] theorem St.modSock_destroying (fd : Nat) (f : VSock → VSock) : (s.modSock fd f).destroying = s.destroying := rfl
@[simp, chan_frame] theorem St.modSock_destroyed (fd : Nat) (f : VSock → VSock) : (s.modSock fd f).destroyed = s.destroyed := rfl
@[simp, chan_frame] theorem St.modSock_outOfFuel (fd : Nat) (f : VSock → VSock) : (s.modSock fd f).outOfFuel = s.outOfFuel := rfl
@[simp, chan_frame] theorem St.modSock_modelFaults (fd : Nat) (f : VSock → VSock) : (s.modSock fd f).modelFaults = s.modelFaults := rfl
@[simp, chan_frame] theorem St.modSock_clients (fd : Nat) (f : VSock → VSock) : (s.modSock fd f).clients = s.clients := rfl
@[simp, chan_frame] theorem St.modSock_pendingWl (fd : Nat) (f : VSock → VSock) : (s.modSock fd f).pendingWl = s.pendingWl := rfl
@[simp, chan_frame] theorem St.modSock_selfVariant (fd : Nat) (f : VSock → VSock) : (s.modSock fd f).selfVariant = s.selfVariant := rfl
@[simp, chan_frame] theorem St.modSock_faults (fd : Nat) (f : VSock → VSock) : (s.modSock fd f).faults = s.faults := rfl
@[simp, chan_frame] theorem St.modSock_reactions (fd : Nat) (f : VSock → VSock) : (s.modSock fd f).reactions = s.reactions := rfl
@[simp, chan_frame] theorem St.modSock_notifyPending (fd : Nat) (f : VSock → VSock) : (s.modSock fd f).notifyPending = s.notifyPending := rfl
@[simp, chan_frame] theorem St.modSock_alive (fd : Nat) (f : VSock → VSock) : (s.modSock fd f).alive = s.alive := rfl
@[simp, chan_frame] theorem St.modSock_nextClient (fd : Nat) (f : VSock → VSock) : (s.modSock fd f).nextClient = s.nextClient := rfl
@[simp, chan_frame] theorem St.modSock_doneToks (fd : Nat) (f : VSock → VSock) : (s.modSock fd f).doneToks = s.doneToks := rfl
@[simp, chan_frame] theorem St.modSock_pendingToks (fd : Nat) (f : VSock → VSock) : (s.modSock fd f).pendingToks = s.pendingToks := rfl
@[simp, chan_frame] theorem St.modSock_lastQid (fd : Nat) (f : VSock → VSock) : (s.modSock fd f).lastQid = s.lastQid := rfl
@[simp, chan_frame] theorem St.modSock_reactSeq (fd : Nat) (f : VSock → VSock) : (s.modSock fd f).reactSeq = s.reactSeq := rfl
@[simp, chan_frame] theorem St.modSock_pendingOrder (fd : Nat) (f : VSock → VSock) : (s.modSock fd f).pendingOrder = s.pendingOrder := rfl

@[simp, chan_frame] theorem St.modClient_cfg (id : Nat) (f : Client → Client) : (s.modClient id f).cfg = s.cfg := rfl
@[simp, chan_frame] theorem St.modClient_now (id : Nat) (f : Client → Client) : (s.modClient id f).now = s.now := rfl
@[simp, chan_frame] theorem St.modClient_servers (id : Nat) (f : Client → Client) : (s.modClient id f).servers = s.servers := rfl
@[simp, chan_frame] theorem St.modClient_conns (id : Nat) (f : Client → Client) : (s.modClient id f).conns = s.conns := rfl
@[simp, chan_frame] theorem St.modClient_qs (id : Nat) (f : Client → Client) : (s.modClient id f).qs = s.qs := rfl
@[simp, chan_frame] theorem St.modClient_nextKey (id : Nat) (f : Client → Client) : (s.modClient id f).nextKey = s.nextKey := rfl
@[simp, chan_frame] theorem St.modClient_all (id : Nat) (f : Client → Client) : (s.modClient id f).all = s.all := rfl
@[simp, chan_frame] theorem St.modClient_byQid (id : Nat) (f : Client → Client) : (s.modClient id f).byQid = s.byQid := rfl
@[simp, chan_frame] theorem St.modClient_byTimeout (id : Nat) (f : Client → Client) : (s.modClient id f).byTimeout = s.byTimeout := rfl
@[simp, chan_frame] theorem St.modClient_listCopy (id : Nat) (f : Client → Client) : (s.modClient id f).listCopy = s.listCopy := rfl
@[simp, chan_frame] theorem St.modClient_socks (id : Nat) (f : Client → Client) : (s.modClient id f).socks = s.socks := rfl
@[simp, chan_frame] theorem St.modClient_nextFd (id : Nat) (f : Client → Client) : (s.modClient id f).nextFd = s.nextFd := rfl
@[simp, chan_frame] theorem St.modClient_txs (id : Nat) (f : Client → Client) : (s.modClient id f).txs = s.txs := rfl
@[simp, chan_frame] theorem St.modClient_cache (id : Nat) (f : Client → Client) : (s.modClient id f).cache = s.cache := rfl
@[simp, chan_frame] theorem St.modClient_requeueArr (id : Nat) (f : Client → Client) : (s.modClient id f).requeueArr = s.requeueArr := rfl
@[simp, chan_frame] theorem St.modClient_writeLog (id : Nat) (f : Client → Client) : (s.modClient id f).writeLog = s.writeLog := rfl
@[simp, chan_frame] theorem St.modClient_notifyLog (id : Nat) (f : Client → Client) : (s.modClient id f).notifyLog = s.notifyLog := rfl
@[simp, chan_frame] theorem St.modClient_sockLog (id : Nat) (f : Client → Client) : (s.modClient id f).sockLog = s.sockLog := rfl
@[simp, chan_frame] theorem St.modClient_accepted (id : Nat) (f : Client → Client) : (s.modClient id f).accepted = s.accepted := rfl
@[simp, chan_frame] theorem St.modClient_picks (id : Nat) (f : Client → Client) : (s.modClient id f).picks = s.picks := rfl
@[simp, chan_frame] theorem St.modClient_destroying (id : Nat) (f : Client → Client) : (s.modClient id f).destroying = s.destroying := rfl
@[simp, chan_frame] theorem St.modClient_destroyed (id : Nat) (f : Client → Client) : (s.modClient id f).destroyed = s.destroyed := rfl
@[simp, chan_frame] theorem St.modClient_outOfFuel (id : Nat) (f : Client → Client) : (s.modClient id f).outOfFuel = s.outOfFuel := rfl
@[simp, chan_frame] theorem St.modClient_modelFaults (id : Nat) (f : Client → Client) : (s.modClient id f).modelFaults = s.modelFaults := rfl
@[simp, chan_frame] theorem St.modClient_pendingWl (id : Nat) (f : Client → Client) : (s.modClient id f).pendingWl = s.pendingWl := rfl
@[simp, chan_frame] theorem St.modClient_selfVariant (id : Nat) (f : Client → Client) : (s.modClient id f).selfVariant = s.selfVariant := rfl
@[simp, chan_frame] theorem St.modClient_faults (id : Nat) (f : Client → Client) : (s.modClient id f).faults = s.faults := rfl
@[simp, chan_frame] theorem St.modClient_reactions (id : Nat) (f : Client → Client) : (s.modClient id f).reactions = s.reactions := rfl
@[simp, chan_frame] theorem St.modClient_notifyPending (id : Nat) (f : Client → Client) : (s.modClient id f).notifyPending = s.notifyPending := rfl
@[simp, chan_frame] theorem St.modClient_alive (id : Nat) (f : Client → Client) : (s.modClient id f).alive = s.alive := rfl
@[simp, chan_frame] theorem St.modClient_nextClient (id : Nat) (f : Client → Client) : (s.modClient id f).nextClient = s.nextClient := rfl
@[simp, chan_frame] theorem St.modClient_doneToks (id : Nat) (f : Client → Client) : (s.modClient id f).doneToks = s.doneToks := rfl
@[simp, chan_frame] theorem St.modClient_pendingToks (id : Nat) (f : Client → Client) : (s.modClient id f).pendingToks = s.pendingToks := rfl
@[simp, chan_frame] theorem St.modClient_lastQid (id : Nat) (f : Client → Client) : (s.modClient id f).lastQid = s.lastQid := rfl
@[simp, chan_frame] theorem St.modClient_reactSeq (id : Nat) (f : Client → Client) : (s.modClient id f).reactSeq = s.reactSeq := rfl
@[simp, chan_frame] theorem St.modClient_pendingOrder (id : Nat) (f : Client → Client) : (s.modClient id f).pendingOrder = s.pendingOrder := rfl

theorem St.incFailures_eq (id : Nat) (tcp : Bool) : s.incFailures id tcp = { s with servers := (s.incFailures id tcp).servers, ev := (s.incFailures id tcp).ev } := by
  unfold St.incFailures; repeat (first | rfl | split)
@[simp, chan_frame] theorem St.incFailures_cfg (id : Nat) (tcp : Bool) : (s.incFailures id tcp).cfg = s.cfg := by rw [St.incFailures_eq]
@[simp, chan_frame] theorem St.incFailures_now (id : Nat) (tcp : Bool) : (s.incFailures id tcp).now = s.now := by rw [St.incFailures_eq]
@[simp, chan_frame] theorem St.incFailures_conns (id : Nat) (tcp : Bool) : (s.incFailures id tcp).conns = s.conns := by rw [St.incFailures_eq]
@[simp, chan_frame] theorem St.incFailures_qs (id : Nat) (tcp : Bool) : (s.incFailures id tcp).qs = s.qs := by rw [St.incFailures_eq]
@[simp, chan_frame] theorem St.incFailures_nextKey (id : Nat) (tcp : Bool) : (s.incFailures id tcp).nextKey = s.nextKey := by rw [St.incFailures_eq]
@[simp, chan_frame] theorem St.incFailures_all (id : Nat) (tcp : Bool) : (s.incFailures id tcp).all = s.all := by rw [St.incFailures_eq]
@[simp, chan_frame] theorem St.incFailures_byQid (id : Nat) (tcp : Bool) : (s.incFailures id tcp).byQid = s.byQid := by rw [St.incFailures_eq]
@[simp, chan_frame] theorem St.incFailures_byTimeout (id : Nat) (tcp : Bool) : (s.incFailures id tcp).byTimeout = s.byTimeout := by rw [St.incFailures_eq]
@[simp, chan_frame] theorem St.incFailures_listCopy (id : Nat) (tcp : Bool) : (s.incFailures id tcp).listCopy = s.listCopy := by rw [St.incFailures_eq]
@[simp, chan_frame] theorem St.incFailures_socks (id : Nat) (tcp : Bool) : (s.incFailures id tcp).socks = s.socks := by rw [St.incFailures_eq]
@[simp, chan_frame] theorem St.incFailures_nextFd (id : Nat) (tcp : Bool) : (s.incFailures id tcp).nextFd = s.nextFd := by rw [St.incFailures_eq]
@[simp, chan_frame] theorem St.incFailures_txs (id : Nat) (tcp : Bool) : (s.incFailures id tcp).txs = s.txs := by rw [St.incFailures_eq]
@[simp, chan_frame] theorem St.incFailures_cache (id : Nat) (tcp : Bool) : (s.incFailures id tcp).cache = s.cache := by rw [St.incFailures_eq]
@[simp, chan_frame] theorem St.incFailures_requeueArr (id : Nat) (tcp : Bool) : (s.incFailures id tcp).requeueArr = s.requeueArr := by rw [St.incFailures_eq]
@[simp, chan_frame] theorem St.incFailures_writeLog (id : Nat) (tcp : Bool) : (s.incFailures id tcp).writeLog = s.writeLog := by rw [St.incFailures_eq]
@[simp, chan_frame] theorem St.incFailures_notifyLog (id : Nat) (tcp : Bool) : (s.incFailures id tcp).notifyLog = s.notifyLog := by rw [St.incFailures_eq]
@[simp, chan_frame] theorem St.incFailures_sockLog (id : Nat) (tcp : Bool) : (s.incFailures id tcp).sockLog = s.sockLog := by rw [St.incFailures_eq]
@[simp, chan_frame] theorem St.incFailures_accepted (id : Nat) (tcp : Bool) : (s.incFailures id tcp).accepted = s.accepted := by rw [St.incFailures_eq]
@[simp, chan_frame] theorem St.incFailures_picks (id : Nat) (tcp : Bool) : (s.incFailures id tcp).picks = s.picks := by rw [St.incFailures_eq]
@[simp, chan_frame] theorem St.incFailures_destroying (id : Nat) (tcp : Bool) : (s.incFailures id tcp).destroying = s.destroying := by rw [St.incFailures_eq]
@[simp, chan_frame] theorem St.incFailures_destroyed (id : Nat) (tcp : Bool) : (s.incFailures id tcp).destroyed = s.destroyed := by rw [St.incFailures_eq]
@[simp, chan_frame] theorem St.incFailures_outOfFuel (id : Nat) (tcp : Bool) : (s.incFailures id tcp).outOfFuel = s.outOfFuel := by rw [St.incFailures_eq]
@[simp, chan_frame] theorem St.incFailures_modelFaults (id : Nat) (tcp : Bool) : (s.incFailures id tcp).modelFaults = s.modelFaults := by rw [St.incFailures_eq]
@[simp, chan_frame] theorem St.incFailures_clients (id : Nat) (tcp : Bool) : (s.incFailures id tcp).clients = s.clients := by rw [St.incFailures_eq]
@[simp, chan_frame] theorem St.incFailures_pendingWl (id : Nat) (tcp : Bool) : (s.incFailures id tcp).pendingWl = s.pendingWl := by rw [St.incFailures_eq]
@[simp, chan_frame] theorem St.incFailures_selfVariant (id : Nat) (tcp : Bool) : (s.incFailures id tcp).selfVariant = s.selfVariant := by rw [St.incFailures_eq]
@[simp, chan_frame] theorem St.incFailures_faults (id : Nat) (tcp : Bool) : (s.incFailures id tcp).faults = s.faults := by rw [St.incFailures_eq]
@[simp, chan_frame] theorem St.incFailures_reactions (id : Nat) (tcp : Bool) : (s.incFailures id tcp).reactions = s.reactions := by rw [St.incFailures_eq]
@[simp, chan_frame] theorem St.incFailures_notifyPending (id : Nat) (tcp : Bool) : (s.incFailures id tcp).notifyPending = s.notifyPending := by rw [St.incFailures_eq]
@[simp, chan_frame] theorem St.incFailures_alive (id : Nat) (tcp : Bool) : (s.incFailures id tcp).alive = s.alive := by rw [St.incFailures_eq]
@[simp, chan_frame] theorem St.incFailures_nextClient (id : Nat) (tcp : Bool) : (s.incFailures id tcp).nextClient = s.nextClient := by rw [St.incFailures_eq]
@[simp, chan_frame] theorem St.incFailures_doneToks (id : Nat) (tcp : Bool) : (s.incFailures id tcp).doneToks = s.doneToks := by rw [St.incFailures_eq]
@[simp, chan_frame] theorem St.incFailures_pendingToks (id : Nat) (tcp : Bool) : (s.incFailures id tcp).pendingToks = s.pendingToks := by rw [St.incFailures_eq]
@[simp, chan_frame] theorem St.incFailures_lastQid (id : Nat) (tcp : Bool) : (s.incFailures id tcp).lastQid = s.lastQid := by rw [St.incFailures_eq]
@[simp, chan_frame] theorem St.incFailures_reactSeq (id : Nat) (tcp : Bool) : (s.incFailures id tcp).reactSeq = s.reactSeq := by rw [St.incFailures_eq]
@[simp, chan_frame] theorem St.incFailures_pendingOrder (id : Nat) (tcp : Bool) : (s.incFailures id tcp).pendingOrder = s.pendingOrder := by rw [St.incFailures_eq]

theorem St.setGood_eq (id : Nat) (tcp : Bool) : s.setGood id tcp = { s with servers := (s.setGood id tcp).servers, ev := (s.setGood id tcp).ev } := by
  unfold St.setGood; repeat (first | rfl | split)
@[simp, chan_frame] theorem St.setGood_cfg (id : Nat) (tcp : Bool) : (s.setGood id tcp).cfg = s.cfg := by rw [St.setGood_eq]
@[simp, chan_frame] theorem St.setGood_now (id : Nat) (tcp : Bool) : (s.setGood id tcp).now = s.now := by rw [St.setGood_eq]
@[simp, chan_frame] theorem St.setGood_conns (id : Nat) (tcp : Bool) : (s.setGood id tcp).conns = s.conns := by rw [St.setGood_eq]
@[simp, chan_frame] theorem St.setGood_qs (id : Nat) (tcp : Bool) : (s.setGood id tcp).qs = s.qs := by rw [St.setGood_eq]
@[simp, chan_frame] theorem St.setGood_nextKey (id : Nat) (tcp : Bool) : (s.setGood id tcp).nextKey = s.nextKey := by rw [St.setGood_eq]
@[simp, chan_frame] theorem St.setGood_all (id : Nat) (tcp : Bool) : (s.setGood id tcp).all = s.all := by rw [St.setGood_eq]
@[simp, chan_frame] theorem St.setGood_byQid (id : Nat) (tcp : Bool) : (s.setGood id tcp).byQid = s.byQid := by rw [St.setGood_eq]
@[simp, chan_frame] theorem St.setGood_byTimeout (id : Nat) (tcp : Bool) : (s.setGood id tcp).byTimeout = s.byTimeout := by rw [St.setGood_eq]
@[simp, chan_frame] theorem St.setGood_listCopy (id : Nat) (tcp : Bool) : (s.setGood id tcp).listCopy = s.listCopy := by rw [St.setGood_eq]
@[simp, chan_frame] theorem St.setGood_socks (id : Nat) (tcp : Bool) : (s.setGood id tcp).socks = s.socks := by rw [St.setGood_eq]
@[simp, chan_frame] theorem St.setGood_nextFd (id : Nat) (tcp : Bool) : (s.setGood id tcp).nextFd = s.nextFd := by rw [St.setGood_eq]
@[simp, chan_frame] theorem St.setGood_txs (id : Nat) (tcp : Bool) : (s.setGood id tcp).txs = s.txs := by rw [St.setGood_eq]
@[simp, chan_frame] theorem St.setGood_cache (id : Nat) (tcp : Bool) : (s.setGood id tcp).cache = s.cache := by rw [St.setGood_eq]
@[simp, chan_frame] theorem St.setGood_requeueArr (id : Nat) (tcp : Bool) : (s.setGood id tcp).requeueArr = s.requeueArr := by rw [St.setGood_eq]
@[simp, chan_frame] theorem St.setGood_writeLog (id : Nat) (tcp : Bool) : (s.setGood id tcp).writeLog = s.writeLog := by rw [St.setGood_eq]
@[simp, chan_frame] theorem St.setGood_notifyLog (id : Nat) (tcp : Bool) : (s.setGood id tcp).notifyLog = s.notifyLog := by rw [St.setGood_eq]
@[simp, chan_frame] theorem St.setGood_sockLog (id : Nat) (tcp : Bool) : (s.setGood id tcp).sockLog = s.sockLog := by rw [St.setGood_eq]
@[simp, chan_frame] theorem St.setGood_accepted (id : Nat) (tcp : Bool) : (s.setGood id tcp).accepted = s.accepted := by rw [St.setGood_eq]
@[simp, chan_frame] theorem St.setGood_picks (id : Nat) (tcp : Bool) : (s.setGood id tcp).picks = s.picks := by rw [St.setGood_eq]
@[simp, chan_frame] theorem St.setGood_destroying (id : Nat) (tcp : Bool) : (s.setGood id tcp).destroying = s.destroying := by rw [St.setGood_eq]
@[simp, chan_frame] theorem St.setGood_destroyed (id : Nat) (tcp : Bool) : (s.setGood id tcp).destroyed = s.destroyed := by rw [St.setGood_eq]
@[simp, chan_frame] theorem St.setGood_outOfFuel (id : Nat) (tcp : Bool) : (s.setGood id tcp).outOfFuel = s.outOfFuel := by rw [St.setGood_eq]
@[simp, chan_frame] theorem St.setGood_modelFaults (id : Nat) (tcp : Bool) : (s.setGood id tcp).modelFaults = s.modelFaults := by rw [St.setGood_eq]
@[simp, chan_frame] theorem St.setGood_clients (id : Nat) (tcp : Bool) : (s.setGood id tcp).clients = s.clients := by rw [St.setGood_eq]
@[simp, chan_frame] theorem St.setGood_pendingWl (id : Nat) (tcp : Bool) : (s.setGood id tcp).pendingWl = s.pendingWl := by rw [St.setGood_eq]
@[simp, chan_frame] theorem St.setGood_selfVariant (id : Nat) (tcp : Bool) : (s.setGood id tcp).selfVariant = s.selfVariant := by rw [St.setGood_eq]
@[simp, chan_frame] theorem St.setGood_faults (id : Nat) (tcp : Bool) : (s.setGood id tcp).faults = s.faults := by rw [St.setGood_eq]
@[simp, chan_frame] theorem St.setGood_reactions (id : Nat) (tcp : Bool) : (s.setGood id tcp).reactions = s.reactions := by rw [St.setGood_eq]
@[simp, chan_frame] theorem St.setGood_notifyPending (id : Nat) (tcp : Bool) : (s.setGood id tcp).notifyPending = s.notifyPending := by rw [St.setGood_eq]
@[simp, chan_frame] theorem St.setGood_alive (id : Nat) (tcp : Bool) : (s.setGood id tcp).alive = s.alive := by rw [St.setGood_eq]
@[simp, chan_frame] theorem St.setGood_nextClient (id : Nat) (tcp : Bool) : (s.setGood id tcp).nextClient = s.nextClient := by rw [St.setGood_eq]
@[simp, chan_frame] theorem St.setGood_doneToks (id : Nat) (tcp : Bool) : (s.setGood id tcp).doneToks = s.doneToks := by rw [St.setGood_eq]
@[simp, chan_frame] theorem St.setGood_pendingToks (id : Nat) (tcp : Bool) : (s.setGood id tcp).pendingToks = s.pendingToks := by rw [St.setGood_eq]
@[simp, chan_frame] theorem St.setGood_lastQid (id : Nat) (tcp : Bool) : (s.setGood id tcp).lastQid = s.lastQid := by rw [St.setGood_eq]
@[simp, chan_frame] theorem St.setGood_reactSeq (id : Nat) (tcp : Bool) : (s.setGood id tcp).reactSeq = s.reactSeq := by rw [St.setGood_eq]
@[simp, chan_frame] theorem St.setGood_pendingOrder (id : Nat) (tcp : Bool) : (s.setGood id tcp).pendingOrder = s.pendingOrder := by rw [St.setGood_eq]

theorem St.metricsRecord_eq (q : Query) (srv : Option Nat) (st : Status) (rec : Option Reply) : s.metricsRecord q srv st rec = { s with servers := (s.metricsRecord q srv st rec).servers } := by
  unfold St.metricsRecord; repeat (first | rfl | split)
@[simp, chan_frame] theorem St.metricsRecord_cfg (q : Query) (srv : Option Nat) (st : Status) (rec : Option Reply) : (s.metricsRecord q srv st rec).cfg = s.cfg := by rw [St.metricsRecord_eq]
@[simp, chan_frame] theorem St.metricsRecord_now (q : Query) (srv : Option Nat) (st : Status) (rec : Option Reply) : (s.metricsRecord q srv st rec).now = s.now := by rw [St.metricsRecord_eq]
@[simp, chan_frame] theorem St.metricsRecord_conns (q : Query) (srv : Option Nat) (st : Status) (rec : Option Reply) : (s.metricsRecord q srv st rec).conns = s.conns := by rw [St.metricsRecord_eq]
@[simp, chan_frame] theorem St.metricsRecord_qs (q : Query) (srv : Option Nat) (st : Status) (rec : Option Reply) : (s.metricsRecord q srv st rec).qs = s.qs := by rw [St.metricsRecord_eq]
@[simp, chan_frame] theorem St.metricsRecord_nextKey (q : Query) (srv : Option Nat) (st : Status) (rec : Option Reply) : (s.metricsRecord q srv st rec).nextKey = s.nextKey := by rw [St.metricsRecord_eq]
@[simp, chan_frame] theorem St.metricsRecord_all (q : Query) (srv : Option Nat) (st : Status) (rec : Option Reply) : (s.metricsRecord q srv st rec).all = s.all := by rw [St.metricsRecord_eq]
@[simp, chan_frame] theorem St.metricsRecord_byQid (q : Query) (srv : Option Nat) (st : Status) (rec : Option Reply) : (s.metricsRecord q srv st rec).byQid = s.byQid := by rw [St.metricsRecord_eq]
@[simp, chan_frame] theorem St.metricsRecord_byTimeout (q : Query) (srv : Option Nat) (st : Status) (rec : Option Reply) : (s.metricsRecord q srv st rec).byTimeout = s.byTimeout := by rw [St.metricsRecord_eq]
@[simp, chan_frame] theorem St.metricsRecord_listCopy (q : Query) (srv : Option Nat) (st : Status) (rec : Option Reply) : (s.metricsRecord q srv st rec).listCopy = s.listCopy := by rw [St.metricsRecord_eq]
@[simp, chan_frame] theorem St.metricsRecord_socks (q : Query) (srv : Option Nat) (st : Status) (rec : Option Reply) : (s.metricsRecord q srv st rec).socks = s.socks := by rw [St.metricsRecord_eq]
@[simp, chan_frame] theorem St.metricsRecord_nextFd (q : Query) (srv : Option Nat) (st : Status) (rec : Option Reply) : (s.metricsRecord q srv st rec).nextFd = s.nextFd := by rw [St.metricsRecord_eq]
@[simp, chan_frame] theorem St.metricsRecord_txs (q : Query) (srv : Option Nat) (st : Status) (rec : Option Reply) : (s.metricsRecord q srv st rec).txs = s.txs := by rw [St.metricsRecord_eq]
@[simp, chan_frame] theorem St.metricsRecord_cache (q : Query) (srv : Option Nat) (st : Status) (rec : Option Reply) : (s.metricsRecord q srv st rec).cache = s.cache := by rw [St.metricsRecord_eq]
@[simp, chan_frame] theorem St.metricsRecord_requeueArr (q : Query) (srv : Option Nat) (st : Status) (rec : Option Reply) : (s.metricsRecord q srv st rec).requeueArr = s.requeueArr := by rw [St.metricsRecord_eq]
@[simp, chan_frame] theorem St.metricsRecord_writeLog (q : Query) (srv : Option Nat) (st : Status) (rec : Option Reply) : (s.metricsRecord q srv st rec).writeLog = s.writeLog := by rw [St.metricsRecord_eq]
@[simp, chan_frame] theorem St.metricsRecord_notifyLog (q : Query) (srv : Option Nat) (st : Status) (rec : Option Reply) : (s.metricsRecord q srv st rec).notifyLog = s.notifyLog := by rw [St.metricsRecord_eq]
@[simp, chan_frame] theorem St.metricsRecord_sockLog (q : Query) (srv : Option Nat) (st : Status) (rec : Option Reply) : (s.metricsRecord q srv st rec).sockLog = s.sockLog := by rw [St.metricsRecord_eq]
@[simp, chan_frame] theorem St.metricsRecord_accepted (q : Query) (srv : Option Nat) (st : Status) (rec : Option Reply) : (s.metricsRecord q srv st rec).accepted = s.accepted := by rw [St.metricsRecord_eq]
@[simp, chan_frame] theorem St.metricsRecord_picks (q : Query) (srv : Option Nat) (st : Status) (rec : Option Reply) : (s.metricsRecord q srv st rec).picks = s.picks := by rw [St.metricsRecord_eq]
@[simp, chan_frame] theorem St.metricsRecord_destroying (q : Query) (srv : Option Nat) (st : Status) (rec : Option Reply) : (s.metricsRecord q srv st rec).destroying = s.destroying := by rw [St.metricsRecord_eq]
@[simp, chan_frame] theorem St.metricsRecord_destroyed (q : Query) (srv : Option Nat) (st : Status) (rec : Option Reply) : (s.metricsRecord q srv st rec).destroyed = s.destroyed := by rw [St.metricsRecord_eq]
@[simp, chan_frame] theorem St.metricsRecord_outOfFuel (q : Query) (srv : Option Nat) (st : Status) (rec : Option Reply) : (s.metricsRecord q srv st rec).outOfFuel = s.outOfFuel := by rw [St.metricsRecord_eq]
@[simp, chan_frame] theorem St.metricsRecord_modelFaults (q : Query) (srv : Option Nat) (st : Status) (rec : Option Reply) : (s.metricsRecord q srv st rec).modelFaults = s.modelFaults := by rw [St.metricsRecord_eq]
@[simp, chan_frame] theorem St.metricsRecord_clients (q : Query) (srv : Option Nat) (st : Status) (rec : Option Reply) : (s.metricsRecord q srv st rec).clients = s.clients := by rw [St.metricsRecord_eq]
@[simp, chan_frame] theorem St.metricsRecord_pendingWl (q : Query) (srv : Option Nat) (st : Status) (rec : Option Reply) : (s.metricsRecord q srv st rec).pendingWl = s.pendingWl := by rw [St.metricsRecord_eq]
@[simp, chan_frame] theorem St.metricsRecord_selfVariant (q : Query) (srv : Option Nat) (st : Status) (rec : Option Reply) : (s.metricsRecord q srv st rec).selfVariant = s.selfVariant := by rw [St.metricsRecord_eq]
@[simp, chan_frame] theorem St.metricsRecord_faults (q : Query) (srv : Option Nat) (st : Status) (rec : Option Reply) : (s.metricsRecord q srv st rec).faults = s.faults := by rw [St.metricsRecord_eq]
@[simp, chan_frame] theorem St.metricsRecord_reactions (q : Query) (srv : Option Nat) (st : Status) (rec : Option Reply) : (s.metricsRecord q srv st rec).reactions = s.reactions := by rw [St.metricsRecord_eq]
@[simp, chan_frame] theorem St.metricsRecord_notifyPending (q : Query) (srv : Option Nat) (st : Status) (rec : Option Reply) : (s.metricsRecord q srv st rec).notifyPending = s.notifyPending := by rw [St.metricsRecord_eq]
@[simp, chan_frame] theorem St.metricsRecord_alive (q : Query) (srv : Option Nat) (st : Status) (rec : Option Reply) : (s.metricsRecord q srv st rec).alive = s.alive := by rw [St.metricsRecord_eq]
@[simp, chan_frame] theorem St.metricsRecord_nextClient (q : Query) (srv : Option Nat) (st : Status) (rec : Option Reply) : (s.metricsRecord q srv st rec).nextClient = s.nextClient := by rw [St.metricsRecord_eq]
@[simp, chan_frame] theorem St.metricsRecord_doneToks (q : Query) (srv : Option Nat) (st : Status) (rec : Option Reply) : (s.metricsRecord q srv st rec).doneToks = s.doneToks := by rw [St.metricsRecord_eq]
@[simp, chan_frame] theorem St.metricsRecord_pendingToks (q : Query) (srv : Option Nat) (st : Status) (rec : Option Reply) : (s.metricsRecord q srv st rec).pendingToks = s.pendingToks := by rw [St.metricsRecord_eq]
@[simp, chan_frame] theorem St.metricsRecord_lastQid (q : Query) (srv : Option Nat) (st : Status) (rec : Option Reply) : (s.metricsRecord q srv st rec).lastQid = s.lastQid := by rw [St.metricsRecord_eq]
@[simp, chan_frame] theorem St.metricsRecord_reactSeq (q : Query) (srv : Option Nat) (st : Status) (rec : Option Reply) : (s.metricsRecord q srv st rec).reactSeq = s.reactSeq := by rw [St.metricsRecord_eq]
@[simp, chan_frame] theorem St.metricsRecord_pendingOrder (q : Query) (srv : Option Nat) (st : Status) (rec : Option Reply) : (s.metricsRecord q srv st rec).pendingOrder = s.pendingOrder := by rw [St.metricsRecord_eq]

theorem St.notify_eq (fd : Nat) (r w : Bool) : s.notify fd r w = { s with ev := (s.notify fd r w).ev, notifyLog := (s.notify fd r w).notifyLog, conns := (s.notify fd r w).conns } := by
  unfold St.notify; repeat (first | rfl | split)
@[simp, chan_frame] theorem St.notify_cfg (fd : Nat) (r w : Bool) : (s.notify fd r w).cfg = s.cfg := by rw [St.notify_eq]
@[simp, chan_frame] theorem St.notify_now (fd : Nat) (r w : Bool) : (s.notify fd r w).now = s.now := by rw [St.notify_eq]
@[simp, chan_frame] theorem St.notify_servers (fd : Nat) (r w : Bool) : (s.notify fd r w).servers = s.servers := by rw [St.notify_eq]
@[simp, chan_frame] theorem St.notify_qs (fd : Nat) (r w : Bool) : (s.notify fd r w).qs = s.qs := by rw [St.notify_eq]
@[simp, chan_frame] theorem St.notify_nextKey (fd : Nat) (r w : Bool) : (s.notify fd r w).nextKey = s.nextKey := by rw [St.notify_eq]
@[simp, chan_frame] theorem St.notify_all (fd : Nat) (r w : Bool) : (s.notify fd r w).all = s.all := by rw [St.notify_eq]
@[simp, chan_frame] theorem St.notify_byQid (fd : Nat) (r w : Bool) : (s.notify fd r w).byQid = s.byQid := by rw [St.notify_eq]
@[simp, chan_frame] theorem St.notify_byTimeout (fd : Nat) (r w : Bool) : (s.notify fd r w).byTimeout = s.byTimeout := by rw [St.notify_eq]
@[simp, chan_frame] theorem St.notify_listCopy (fd : Nat) (r w : Bool) : (s.notify fd r w).listCopy = s.listCopy := by rw [St.notify_eq]
@[simp, chan_frame] theorem St.notify_socks (fd : Nat) (r w : Bool) : (s.notify fd r w).socks = s.socks := by rw [St.notify_eq]
@[simp, chan_frame] theorem St.notify_nextFd (fd : Nat) (r w : Bool) : (s.notify fd r w).nextFd = s.nextFd := by rw [St.notify_eq]
@[simp, chan_frame] theorem St.notify_txs (fd : Nat) (r w : Bool) : (s.notify fd r w).txs = s.txs := by rw [St.notify_eq]
@[simp, chan_frame] theorem St.notify_cache (fd : Nat) (r w : Bool) : (s.notify fd r w).cache = s.cache := by rw [St.notify_eq]
@[simp, chan_frame] theorem St.notify_requeueArr (fd : Nat) (r w : Bool) : (s.notify fd r w).requeueArr = s.requeueArr := by rw [St.notify_eq]
@[simp, chan_frame] theorem St.notify_writeLog (fd : Nat) (r w : Bool) : (s.notify fd r w).writeLog = s.writeLog := by rw [St.notify_eq]
@[simp, chan_frame] theorem St.notify_sockLog (fd : Nat) (r w : Bool) : (s.notify fd r w).sockLog = s.sockLog := by rw [St.notify_eq]
@[simp, chan_frame] theorem St.notify_accepted (fd : Nat) (r w : Bool) : (s.notify fd r w).accepted = s.accepted := by rw [St.notify_eq]
@[simp, chan_frame] theorem St.notify_picks (fd : Nat) (r w : Bool) : (s.notify fd r w).picks = s.picks := by rw [St.notify_eq]
@[simp, chan_frame] theorem St.notify_destroying (fd : Nat) (r w : Bool) : (s.notify fd r w).destroying = s.destroying := by rw [St.notify_eq]
@[simp, chan_frame] theorem St.notify_destroyed (fd : Nat) (r w : Bool) : (s.notify fd r w).destroyed = s.destroyed := by rw [St.notify_eq]
@[simp, chan_frame] theorem St.notify_outOfFuel (fd : Nat) (r w : Bool) : (s.notify fd r w).outOfFuel = s.outOfFuel := by rw [St.notify_eq]
@[simp, chan_frame] theorem St.notify_modelFaults (fd : Nat) (r w : Bool) : (s.notify fd r w).modelFaults = s.modelFaults := by rw [St.notify_eq]
@[simp, chan_frame] theorem St.notify_clients (fd : Nat) (r w : Bool) : (s.notify fd r w).clients = s.clients := by rw [St.notify_eq]
@[simp, chan_frame] theorem St.notify_pendingWl (fd : Nat) (r w : Bool) : (s.notify fd r w).pendingWl = s.pendingWl := by rw [St.notify_eq]
@[simp, chan_frame] theorem St.notify_selfVariant (fd : Nat) (r w : Bool) : (s.notify fd r w).selfVariant = s.selfVariant := by rw [St.notify_eq]
@[simp, chan_frame] theorem St.notify_faults (fd : Nat) (r w : Bool) : (s.notify fd r w).faults = s.faults := by rw [St.notify_eq]
@[simp, chan_frame] theorem St.notify_reactions (fd : Nat) (r w : Bool) : (s.notify fd r w).reactions = s.reactions := by rw [St.notify_eq]
@[simp, chan_frame] theorem St.notify_notifyPending (fd : Nat) (r w : Bool) : (s.notify fd r w).notifyPending = s.notifyPending := by rw [St.notify_eq]
@[simp, chan_frame] theorem St.notify_alive (fd : Nat) (r w : Bool) : (s.notify fd r w).alive = s.alive := by rw [St.notify_eq]
@[simp, chan_frame] theorem St.notify_nextClient (fd : Nat) (r w : Bool) : (s.notify fd r w).nextClient = s.nextClient := by rw [St.notify_eq]
@[simp, chan_frame] theorem St.notify_doneToks (fd : Nat) (r w : Bool) : (s.notify fd r w).doneToks = s.doneToks := by rw [St.notify_eq]
@[simp, chan_frame] theorem St.notify_pendingToks (fd : Nat) (r w : Bool) : (s.notify fd r w).pendingToks = s.pendingToks := by rw [St.notify_eq]
@[simp, chan_frame] theorem St.notify_lastQid (fd : Nat) (r w : Bool) : (s.notify fd r w).lastQid = s.lastQid := by rw [St.notify_eq]
@[simp, chan_frame] theorem St.notify_reactSeq (fd : Nat) (r w : Bool) : (s.notify fd r w).reactSeq = s.reactSeq := by rw [St.notify_eq]
@[simp, chan_frame] theorem St.notify_pendingOrder (fd : Nat) (r w : Bool) : (s.notify fd r w).pendingOrder = s.pendingOrder := by rw [St.notify_eq]

theorem St.removeFromConn_eq (k : Nat) : s.removeFromConn k = { s with byTimeout := (s.removeFromConn k).byTimeout, pendingOrder := (s.removeFromConn k).pendingOrder, conns := (s.removeFromConn k).conns, qs := (s.removeFromConn k).qs } := by
  unfold St.removeFromConn; repeat (first | rfl | split)
@[simp, chan_frame] theorem St.removeFromConn_cfg (k : Nat) : (s.removeFromConn k).cfg = s.cfg := by rw [St.removeFromConn_eq]
@[simp, chan_frame] theorem St.removeFromConn_now (k : Nat) : (s.removeFromConn k).now = s.now := by rw [St.removeFromConn_eq]
@[simp, chan_frame] theorem St.removeFromConn_servers (k : Nat) : (s.removeFromConn k).servers = s.servers := by rw [St.removeFromConn_eq]
@[simp, chan_frame] theorem St.removeFromConn_nextKey (k : Nat) : (s.removeFromConn k).nextKey = s.nextKey := by rw [St.removeFromConn_eq]
@[simp, chan_frame] theorem St.removeFromConn_all (k : Nat) : (s.removeFromConn k).all = s.all := by rw [St.removeFromConn_eq]
@[simp, chan_frame] theorem St.removeFromConn_byQid (k : Nat) : (s.removeFromConn k).byQid = s.byQid := by rw [St.removeFromConn_eq]
@[simp, chan_frame] theorem St.removeFromConn_listCopy (k : Nat) : (s.removeFromConn k).listCopy = s.listCopy := by rw [St.removeFromConn_eq]
@[simp, chan_frame] theorem St.removeFromConn_socks (k : Nat) : (s.removeFromConn k).socks = s.socks := by rw [St.removeFromConn_eq]
@[simp, chan_frame] theorem St.removeFromConn_nextFd (k : Nat) : (s.removeFromConn k).nextFd = s.nextFd := by rw [St.removeFromConn_eq]
@[simp, chan_frame] theorem St.removeFromConn_txs (k : Nat) : (s.removeFromConn k).txs = s.txs := by rw [St.removeFromConn_eq]
@[simp, chan_frame] theorem St.removeFromConn_cache (k : Nat) : (s.removeFromConn k).cache = s.cache := by rw [St.removeFromConn_eq]
@[simp, chan_frame] theorem St.removeFromConn_requeueArr (k : Nat) : (s.removeFromConn k).requeueArr = s.requeueArr := by rw [St.removeFromConn_eq]
@[simp, chan_frame] theorem St.removeFromConn_writeLog (k : Nat) : (s.removeFromConn k).writeLog = s.writeLog := by rw [St.removeFromConn_eq]
@[simp, chan_frame] theorem St.removeFromConn_notifyLog (k : Nat) : (s.removeFromConn k).notifyLog = s.notifyLog := by rw [St.removeFromConn_eq]
@[simp, chan_frame] theorem St.removeFromConn_sockLog (k : Nat) : (s.removeFromConn k).sockLog = s.sockLog := by rw [St.removeFromConn_eq]
@[simp, chan_frame] theorem St.removeFromConn_accepted (k : Nat) : (s.removeFromConn k).accepted = s.accepted := by rw [St.removeFromConn_eq]
@[simp, chan_frame] theorem St.removeFromConn_picks (k : Nat) : (s.removeFromConn k).picks = s.picks := by rw [St.removeFromConn_eq]
@[simp, chan_frame] theorem St.removeFromConn_destroying (k : Nat) : (s.removeFromConn k).destroying = s.destroying := by rw [St.removeFromConn_eq]
@[simp, chan_frame] theorem St.removeFromConn_destroyed (k : Nat) : (s.removeFromConn k).destroyed = s.destroyed := by rw [St.removeFromConn_eq]
@[simp, chan_frame] theorem St.removeFromConn_outOfFuel (k : Nat) : (s.removeFromConn k).outOfFuel = s.outOfFuel := by rw [St.removeFromConn_eq]
@[simp, chan_frame] theorem St.removeFromConn_modelFaults (k : Nat) : (s.removeFromConn k).modelFaults = s.modelFaults := by rw [St.removeFromConn_eq]
@[simp, chan_frame] theorem St.removeFromConn_clients (k : Nat) : (s.removeFromConn k).clients = s.clients := by rw [St.removeFromConn_eq]
@[simp, chan_frame] theorem St.removeFromConn_pendingWl (k : Nat) : (s.removeFromConn k).pendingWl = s.pendingWl := by rw [St.removeFromConn_eq]
@[simp, chan_frame] theorem St.removeFromConn_selfVariant (k : Nat) : (s.removeFromConn k).selfVariant = s.selfVariant := by rw [St.removeFromConn_eq]
@[simp, chan_frame] theorem St.removeFromConn_faults (k : Nat) : (s.removeFromConn k).faults = s.faults := by rw [St.removeFromConn_eq]
@[simp, chan_frame] theorem St.removeFromConn_reactions (k : Nat) : (s.removeFromConn k).reactions = s.reactions := by rw [St.removeFromConn_eq]
@[simp, chan_frame] theorem St.removeFromConn_notifyPending (k : Nat) : (s.removeFromConn k).notifyPending = s.notifyPending := by rw [St.removeFromConn_eq]
@[simp, chan_frame] theorem St.removeFromConn_alive (k : Nat) : (s.removeFromConn k).alive = s.alive := by rw [St.removeFromConn_eq]
@[simp, chan_frame] theorem St.removeFromConn_nextClient (k : Nat) : (s.removeFromConn k).nextClient = s.nextClient := by rw [St.removeFromConn_eq]
@[simp, chan_frame] theorem St.removeFromConn_doneToks (k : Nat) : (s.removeFromConn k).doneToks = s.doneToks := by rw [St.removeFromConn_eq]
@[simp, chan_frame] theorem St.removeFromConn_pendingToks (k : Nat) : (s.removeFromConn k).pendingToks = s.pendingToks := by rw [St.removeFromConn_eq]
@[simp, chan_frame] theorem St.removeFromConn_lastQid (k : Nat) : (s.removeFromConn k).lastQid = s.lastQid := by rw [St.removeFromConn_eq]
@[simp, chan_frame] theorem St.removeFromConn_reactSeq (k : Nat) : (s.removeFromConn k).reactSeq = s.reactSeq := by rw [St.removeFromConn_eq]

@[simp, chan_frame] theorem St.detach_cfg (k : Nat) : (s.detach k).cfg = s.cfg := by unfold St.detach; split <;> first | rfl | exact St.removeFromConn_cfg s k
@[simp, chan_frame] theorem St.detach_now (k : Nat) : (s.detach k).now = s.now := by unfold St.detach; split <;> first | rfl | exact St.removeFromConn_now s k
@[simp, chan_frame] theorem St.detach_servers (k : Nat) : (s.detach k).servers = s.servers := by unfold St.detach; split <;> first | rfl | exact St.removeFromConn_servers s k
@[simp, chan_frame] theorem St.detach_nextKey (k : Nat) : (s.detach k).nextKey = s.nextKey := by unfold St.detach; split <;> first | rfl | exact St.removeFromConn_nextKey s k
@[simp, chan_frame] theorem St.detach_socks (k : Nat) : (s.detach k).socks = s.socks := by unfold St.detach; split <;> first | rfl | exact St.removeFromConn_socks s k
@[simp, chan_frame] theorem St.detach_nextFd (k : Nat) : (s.detach k).nextFd = s.nextFd := by unfold St.detach; split <;> first | rfl | exact St.removeFromConn_nextFd s k
@[simp, chan_frame] theorem St.detach_txs (k : Nat) : (s.detach k).txs = s.txs := by unfold St.detach; split <;> first | rfl | exact St.removeFromConn_txs s k
@[simp, chan_frame] theorem St.detach_cache (k : Nat) : (s.detach k).cache = s.cache := by unfold St.detach; split <;> first | rfl | exact St.removeFromConn_cache s k
@[simp, chan_frame] theorem St.detach_requeueArr (k : Nat) : (s.detach k).requeueArr = s.requeueArr := by unfold St.detach; split <;> first | rfl | exact St.removeFromConn_requeueArr s k
@[simp, chan_frame] theorem St.detach_writeLog (k : Nat) : (s.detach k).writeLog = s.writeLog := by unfold St.detach; split <;> first | rfl | exact St.removeFromConn_writeLog s k
@[simp, chan_frame] theorem St.detach_notifyLog (k : Nat) : (s.detach k).notifyLog = s.notifyLog := by unfold St.detach; split <;> first | rfl | exact St.removeFromConn_notifyLog s k
@[simp, chan_frame] theorem St.detach_sockLog (k : Nat) : (s.detach k).sockLog = s.sockLog := by unfold St.detach; split <;> first | rfl | exact St.removeFromConn_sockLog s k
@[simp, chan_frame] theorem St.detach_accepted (k : Nat) : (s.detach k).accepted = s.accepted := by unfold St.detach; split <;> first | rfl | exact St.removeFromConn_accepted s k
@[simp, chan_frame] theorem St.detach_picks (k : Nat) : (s.detach k).picks = s.picks := by unfold St.detach; split <;> first | rfl | exact St.removeFromConn_picks s k
@[simp, chan_frame] theorem St.detach_destroying (k : Nat) : (s.detach k).destroying = s.destroying := by unfold St.detach; split <;> first | rfl | exact St.removeFromConn_destroying s k
@[simp, chan_frame] theorem St.detach_destroyed (k : Nat) : (s.detach k).destroyed = s.destroyed := by unfold St.detach; split <;> first | rfl | exact St.removeFromConn_destroyed s k
@[simp, chan_frame] theorem St.detach_outOfFuel (k : Nat) : (s.detach k).outOfFuel = s.outOfFuel := by unfold St.detach; split <;> first | rfl | exact St.removeFromConn_outOfFuel s k
@[simp, chan_frame] theorem St.detach_modelFaults (k : Nat) : (s.detach k).modelFaults = s.modelFaults := by unfold St.detach; split <;> first | rfl | exact St.removeFromConn_modelFaults s k
@[simp, chan_frame] theorem St.detach_clients (k : Nat) : (s.detach k).clients = s.clients := by unfold St.detach; split <;> first | rfl | exact St.removeFromConn_clients s k
@[simp, chan_frame] theorem St.detach_pendingWl (k : Nat) : (s.detach k).pendingWl = s.pendingWl := by unfold St.detach; split <;> first | rfl | exact St.removeFromConn_pendingWl s k
@[simp, chan_frame] theorem St.detach_selfVariant (k : Nat) : (s.detach k).selfVariant = s.selfVariant := by unfold St.detach; split <;> first | rfl | exact St.removeFromConn_selfVariant s k
@[simp, chan_frame] theorem St.detach_faults (k : Nat) : (s.detach k).faults = s.faults := by unfold St.detach; split <;> first | rfl | exact St.removeFromConn_faults s k
@[simp, chan_frame] theorem St.detach_reactions (k : Nat) : (s.detach k).reactions = s.reactions := by unfold St.detach; split <;> first | rfl | exact St.removeFromConn_reactions s k
@[simp, chan_frame] theorem St.detach_notifyPending (k : Nat) : (s.detach k).notifyPending = s.notifyPending := by unfold St.detach; split <;> first | rfl | exact St.removeFromConn_notifyPending s k
@[simp, chan_frame] theorem St.detach_alive (k : Nat) : (s.detach k).alive = s.alive := by unfold St.detach; split <;> first | rfl | exact St.removeFromConn_alive s k
@[simp, chan_frame] theorem St.detach_nextClient (k : Nat) : (s.detach k).nextClient = s.nextClient := by unfold St.detach; split <;> first | rfl | exact St.removeFromConn_nextClient s k
@[simp, chan_frame] theorem St.detach_doneToks (k : Nat) : (s.detach k).doneToks = s.doneToks := by unfold St.detach; split <;> first | rfl | exact St.removeFromConn_doneToks s k
@[simp, chan_frame] theorem St.detach_pendingToks (k : Nat) : (s.detach k).pendingToks = s.pendingToks := by unfold St.detach; split <;> first | rfl | exact St.removeFromConn_pendingToks s k
@[simp, chan_frame] theorem St.detach_lastQid (k : Nat) : (s.detach k).lastQid = s.lastQid := by unfold St.detach; split <;> first | rfl | exact St.removeFromConn_lastQid s k
@[simp, chan_frame] theorem St.detach_reactSeq (k : Nat) : (s.detach k).reactSeq = s.reactSeq := by unfold St.detach; split <;> first | rfl | exact St.removeFromConn_reactSeq s k

@[simp, chan_frame] theorem St.freeQuery_cfg (k : Nat) : (s.freeQuery k).cfg = s.cfg := by unfold St.freeQuery; exact St.detach_cfg s k
@[simp, chan_frame] theorem St.freeQuery_now (k : Nat) : (s.freeQuery k).now = s.now := by unfold St.freeQuery; exact St.detach_now s k
@[simp, chan_frame] theorem St.freeQuery_servers (k : Nat) : (s.freeQuery k).servers = s.servers := by unfold St.freeQuery; exact St.detach_servers s k
@[simp, chan_frame] theorem St.freeQuery_nextKey (k : Nat) : (s.freeQuery k).nextKey = s.nextKey := by unfold St.freeQuery; exact St.detach_nextKey s k
@[simp, chan_frame] theorem St.freeQuery_socks (k : Nat) : (s.freeQuery k).socks = s.socks := by unfold St.freeQuery; exact St.detach_socks s k
@[simp, chan_frame] theorem St.freeQuery_nextFd (k : Nat) : (s.freeQuery k).nextFd = s.nextFd := by unfold St.freeQuery; exact St.detach_nextFd s k
@[simp, chan_frame] theorem St.freeQuery_txs (k : Nat) : (s.freeQuery k).txs = s.txs := by unfold St.freeQuery; exact St.detach_txs s k
@[simp, chan_frame] theorem St.freeQuery_cache (k : Nat) : (s.freeQuery k).cache = s.cache := by unfold St.freeQuery; exact St.detach_cache s k
@[simp, chan_frame] theorem St.freeQuery_requeueArr (k : Nat) : (s.freeQuery k).requeueArr = s.requeueArr := by unfold St.freeQuery; exact St.detach_requeueArr s k
@[simp, chan_frame] theorem St.freeQuery_writeLog (k : Nat) : (s.freeQuery k).writeLog = s.writeLog := by unfold St.freeQuery; exact St.detach_writeLog s k
@[simp, chan_frame] theorem St.freeQuery_notifyLog (k : Nat) : (s.freeQuery k).notifyLog = s.notifyLog := by unfold St.freeQuery; exact St.detach_notifyLog s k
@[simp, chan_frame] theorem St.freeQuery_sockLog (k : Nat) : (s.freeQuery k).sockLog = s.sockLog := by unfold St.freeQuery; exact St.detach_sockLog s k
@[simp, chan_frame] theorem St.freeQuery_accepted (k : Nat) : (s.freeQuery k).accepted = s.accepted := by unfold St.freeQuery; exact St.detach_accepted s k
@[simp, chan_frame] theorem St.freeQuery_picks (k : Nat) : (s.freeQuery k).picks = s.picks := by unfold St.freeQuery; exact St.detach_picks s k
@[simp, chan_frame] theorem St.freeQuery_destroying (k : Nat) : (s.freeQuery k).destroying = s.destroying := by unfold St.freeQuery; exact St.detach_destroying s k
@[simp, chan_frame] theorem St.freeQuery_destroyed (k : Nat) : (s.freeQuery k).destroyed = s.destroyed := by unfold St.freeQuery; exact St.detach_destroyed s k
@[simp, chan_frame] theorem St.freeQuery_outOfFuel (k : Nat) : (s.freeQuery k).outOfFuel = s.outOfFuel := by unfold St.freeQuery; exact St.detach_outOfFuel s k
@[simp, chan_frame] theorem St.freeQuery_modelFaults (k : Nat) : (s.freeQuery k).modelFaults = s.modelFaults := by unfold St.freeQuery; exact St.detach_modelFaults s k
@[simp, chan_frame] theorem St.freeQuery_clients (k : Nat) : (s.freeQuery k).clients = s.clients := by unfold St.freeQuery; exact St.detach_clients s k
@[simp, chan_frame] theorem St.freeQuery_pendingWl (k : Nat) : (s.freeQuery k).pendingWl = s.pendingWl := by unfold St.freeQuery; exact St.detach_pendingWl s k
@[simp, chan_frame] theorem St.freeQuery_selfVariant (k : Nat) : (s.freeQuery k).selfVariant = s.selfVariant := by unfold St.freeQuery; exact St.detach_selfVariant s k
@[simp, chan_frame] theorem St.freeQuery_faults (k : Nat) : (s.freeQuery k).faults = s.faults := by unfold St.freeQuery; exact St.detach_faults s k
@[simp, chan_frame] theorem St.freeQuery_reactions (k : Nat) : (s.freeQuery k).reactions = s.reactions := by unfold St.freeQuery; exact St.detach_reactions s k
@[simp, chan_frame] theorem St.freeQuery_notifyPending (k : Nat) : (s.freeQuery k).notifyPending = s.notifyPending := by unfold St.freeQuery; exact St.detach_notifyPending s k
@[simp, chan_frame] theorem St.freeQuery_alive (k : Nat) : (s.freeQuery k).alive = s.alive := by unfold St.freeQuery; exact St.detach_alive s k
@[simp, chan_frame] theorem St.freeQuery_nextClient (k : Nat) : (s.freeQuery k).nextClient = s.nextClient := by unfold St.freeQuery; exact St.detach_nextClient s k
@[simp, chan_frame] theorem St.freeQuery_doneToks (k : Nat) : (s.freeQuery k).doneToks = s.doneToks := by unfold St.freeQuery; exact St.detach_doneToks s k
@[simp, chan_frame] theorem St.freeQuery_pendingToks (k : Nat) : (s.freeQuery k).pendingToks = s.pendingToks := by unfold St.freeQuery; exact St.detach_pendingToks s k
@[simp, chan_frame] theorem St.freeQuery_lastQid (k : Nat) : (s.freeQuery k).lastQid = s.lastQid := by unfold St.freeQuery; exact St.detach_lastQid s k
@[simp, chan_frame] theorem St.freeQuery_reactSeq (k : Nat) : (s.freeQuery k).reactSeq = s.reactSeq := by unfold St.freeQuery; exact St.detach_reactSeq s k

@[simp, chan_frame] theorem St.cacheExpire_cfg  : (s.cacheExpire).cfg = s.cfg := rfl
@[simp, chan_frame] theorem St.cacheExpire_now  : (s.cacheExpire).now = s.now := rfl
@[simp, chan_frame] theorem St.cacheExpire_servers  : (s.cacheExpire).servers = s.servers := rfl
@[simp, chan_frame] theorem St.cacheExpire_conns  : (s.cacheExpire).conns = s.conns := rfl
@[simp, chan_frame] theorem St.cacheExpire_qs  : (s.cacheExpire).qs = s.qs := rfl
@[simp, chan_frame] theorem St.cacheExpire_nextKey  : (s.cacheExpire).nextKey = s.nextKey := rfl
@[simp, chan_frame] theorem St.cacheExpire_all  : (s.cacheExpire).all = s.all := rfl
@[simp, chan_frame] theorem St.cacheExpire_byQid  : (s.cacheExpire).byQid = s.byQid := rfl
@[simp, chan_frame] theorem St.cacheExpire_byTimeout  : (s.cacheExpire).byTimeout = s.byTimeout := rfl
@[simp, chan_frame] theorem St.cacheExpire_listCopy  : (s.cacheExpire).listCopy = s.listCopy := rfl
@[simp, chan_frame] theorem St.cacheExpire_socks  : (s.cacheExpire).socks = s.socks := rfl
@[simp, chan_frame] theorem St.cacheExpire_nextFd  : (s.cacheExpire).nextFd = s.nextFd := rfl
@[simp, chan_frame] theorem St.cacheExpire_txs  : (s.cacheExpire).txs = s.txs := rfl
@[simp, chan_frame] theorem St.cacheExpire_requeueArr  : (s.cacheExpire).requeueArr = s.requeueArr := rfl
@[simp, chan_frame] theorem St.cacheExpire_writeLog  : (s.cacheExpire).writeLog = s.writeLog := rfl
@[simp, chan_frame] theorem St.cacheExpire_notifyLog  : (s.cacheExpire).notifyLog = s.notifyLog := rfl
@[simp, chan_frame] theorem St.cacheExpire_sockLog  : (s.cacheExpire).sockLog = s.sockLog := rfl
@[simp, chan_frame] theorem St.cacheExpire_accepted  : (s.cacheExpire).accepted = s.accepted := rfl
@[simp, chan_frame] theorem St.cacheExpire_picks  : (s.cacheExpire).picks = s.picks := rfl
@[simp, chan_frame] theorem St.cacheExpire_destroying  : (s.cacheExpire).destroying = s.destroying := rfl
@[simp, chan_frame] theorem St.cacheExpire_destroyed  : (s.cacheExpire).destroyed = s.destroyed := rfl
@[simp, chan_frame] theorem St.cacheExpire_outOfFuel  : (s.cacheExpire).outOfFuel = s.outOfFuel := rfl
@[simp, chan_frame] theorem St.cacheExpire_modelFaults  : (s.cacheExpire).modelFaults = s.modelFaults := rfl
@[simp, chan_frame] theorem St.cacheExpire_clients  : (s.cacheExpire).clients = s.clients := rfl
@[simp, chan_frame] theorem St.cacheExpire_pendingWl  : (s.cacheExpire).pendingWl = s.pendingWl := rfl
@[simp, chan_frame] theorem St.cacheExpire_selfVariant  : (s.cacheExpire).selfVariant = s.selfVariant := rfl
@[simp, chan_frame] theorem St.cacheExpire_faults  : (s.cacheExpire).faults = s.faults := rfl
@[simp, chan_frame] theorem St.cacheExpire_reactions  : (s.cacheExpire).reactions = s.reactions := rfl
@[simp, chan_frame] theorem St.cacheExpire_notifyPending  : (s.cacheExpire).notifyPending = s.notifyPending := rfl
@[simp, chan_frame] theorem St.cacheExpire_alive  : (s.cacheExpire).alive = s.alive := rfl
@[simp, chan_frame] theorem St.cacheExpire_nextClient  : (s.cacheExpire).nextClient = s.nextClient := rfl
@[simp, chan_frame] theorem St.cacheExpire_doneToks  : (s.cacheExpire).doneToks = s.doneToks := rfl
@[simp, chan_frame] theorem St.cacheExpire_pendingToks  : (s.cacheExpire).pendingToks = s.pendingToks := rfl
@[simp, chan_frame] theorem St.cacheExpire_lastQid  : (s.cacheExpire).lastQid = s.lastQid := rfl
@[simp, chan_frame] theorem St.cacheExpire_reactSeq  : (s.cacheExpire).reactSeq = s.reactSeq := rfl
@[simp, chan_frame] theorem St.cacheExpire_pendingOrder  : (s.cacheExpire).pendingOrder = s.pendingOrder := rfl

theorem St.ite_cache_eq (c : Prop) [Decidable c] (x : St) (hx : x = { s with cache := x.cache }) :
    (if c then s else x) = { s with cache := (if c then s else x).cache } := by
  split
  · rfl
  · exact hx
theorem St.cacheInsert_eq (q : Query) (r : Reply) : s.cacheInsert q r = { s with cache := (s.cacheInsert q r).cache } := by
  unfold St.cacheInsert
  exact St.ite_cache_eq s _ _ (St.ite_cache_eq s _ _ (St.ite_cache_eq s _ _ (St.ite_cache_eq s _ _ rfl)))
@[simp, chan_frame] theorem St.cacheInsert_cfg (q : Query) (r : Reply) : (s.cacheInsert q r).cfg = s.cfg := by rw [St.cacheInsert_eq]
@[simp, chan_frame] theorem St.cacheInsert_now (q : Query) (r : Reply) : (s.cacheInsert q r).now = s.now := by rw [St.cacheInsert_eq]
@[simp, chan_frame] theorem St.cacheInsert_servers (q : Query) (r : Reply) : (s.cacheInsert q r).servers = s.servers := by rw [St.cacheInsert_eq]
@[simp, chan_frame] theorem St.cacheInsert_conns (q : Query) (r : Reply) : (s.cacheInsert q r).conns = s.conns := by rw [St.cacheInsert_eq]
@[simp, chan_frame] theorem St.cacheInsert_qs (q : Query) (r : Reply) : (s.cacheInsert q r).qs = s.qs := by rw [St.cacheInsert_eq]
@[simp, chan_frame] theorem St.cacheInsert_nextKey (q : Query) (r : Reply) : (s.cacheInsert q r).nextKey = s.nextKey := by rw [St.cacheInsert_eq]
@[simp, chan_frame] theorem St.cacheInsert_all (q : Query) (r : Reply) : (s.cacheInsert q r).all = s.all := by rw [St.cacheInsert_eq]
@[simp, chan_frame] theorem St.cacheInsert_byQid (q : Query) (r : Reply) : (s.cacheInsert q r).byQid = s.byQid := by rw [St.cacheInsert_eq]
@[simp, chan_frame] theorem St.cacheInsert_byTimeout (q : Query) (r : Reply) : (s.cacheInsert q r).byTimeout = s.byTimeout := by rw [St.cacheInsert_eq]
@[simp, chan_frame] theorem St.cacheInsert_listCopy (q : Query) (r : Reply) : (s.cacheInsert q r).listCopy = s.listCopy := by rw [St.cacheInsert_eq]
@[simp, chan_frame] theorem St.cacheInsert_socks (q : Query) (r : Reply) : (s.cacheInsert q r).socks = s.socks := by rw [St.cacheInsert_eq]
@[simp, chan_frame] theorem St.cacheInsert_nextFd (q : Query) (r : Reply) : (s.cacheInsert q r).nextFd = s.nextFd := by rw [St.cacheInsert_eq]
@[simp, chan_frame] theorem St.cacheInsert_txs (q : Query) (r : Reply) : (s.cacheInsert q r).txs = s.txs := by rw [St.cacheInsert_eq]
@[simp, chan_frame] theorem St.cacheInsert_requeueArr (q : Query) (r : Reply) : (s.cacheInsert q r).requeueArr = s.requeueArr := by rw [St.cacheInsert_eq]
@[simp, chan_frame] theorem St.cacheInsert_writeLog (q : Query) (r : Reply) : (s.cacheInsert q r).writeLog = s.writeLog := by rw [St.cacheInsert_eq]
@[simp, chan_frame] theorem St.cacheInsert_notifyLog (q : Query) (r : Reply) : (s.cacheInsert q r).notifyLog = s.notifyLog := by rw [St.cacheInsert_eq]
@[simp, chan_frame] theorem St.cacheInsert_sockLog (q : Query) (r : Reply) : (s.cacheInsert q r).sockLog = s.sockLog := by rw [St.cacheInsert_eq]
@[simp, chan_frame] theorem St.cacheInsert_accepted (q : Query) (r : Reply) : (s.cacheInsert q r).accepted = s.accepted := by rw [St.cacheInsert_eq]
@[simp, chan_frame] theorem St.cacheInsert_picks (q : Query) (r : Reply) : (s.cacheInsert q r).picks = s.picks := by rw [St.cacheInsert_eq]
@[simp, chan_frame] theorem St.cacheInsert_destroying (q : Query) (r : Reply) : (s.cacheInsert q r).destroying = s.destroying := by rw [St.cacheInsert_eq]
@[simp, chan_frame] theorem St.cacheInsert_destroyed (q : Query) (r : Reply) : (s.cacheInsert q r).destroyed = s.destroyed := by rw [St.cacheInsert_eq]
@[simp, chan_frame] theorem St.cacheInsert_outOfFuel (q : Query) (r : Reply) : (s.cacheInsert q r).outOfFuel = s.outOfFuel := by rw [St.cacheInsert_eq]
@[simp, chan_frame] theorem St.cacheInsert_modelFaults (q : Query) (r : Reply) : (s.cacheInsert q r).modelFaults = s.modelFaults := by rw [St.cacheInsert_eq]
@[simp, chan_frame] theorem St.cacheInsert_clients (q : Query) (r : Reply) : (s.cacheInsert q r).clients = s.clients := by rw [St.cacheInsert_eq]
@[simp, chan_frame] theorem St.cacheInsert_pendingWl (q : Query) (r : Reply) : (s.cacheInsert q r).pendingWl = s.pendingWl := by rw [St.cacheInsert_eq]
@[simp, chan_frame] theorem St.cacheInsert_selfVariant (q : Query) (r : Reply) : (s.cacheInsert q r).selfVariant = s.selfVariant := by rw [St.cacheInsert_eq]
@[simp, chan_frame] theorem St.cacheInsert_faults (q : Query) (r : Reply) : (s.cacheInsert q r).faults = s.faults := by rw [St.cacheInsert_eq]
@[simp, chan_frame] theorem St.cacheInsert_reactions (q : Query) (r : Reply) : (s.cacheInsert q r).reactions = s.reactions := by rw [St.cacheInsert_eq]
@[simp, chan_frame] theorem St.cacheInsert_notifyPending (q : Query) (r : Reply) : (s.cacheInsert q r).notifyPending = s.notifyPending := by rw [St.cacheInsert_eq]
@[simp, chan_frame] theorem St.cacheInsert_alive (q : Query) (r : Reply) : (s.cacheInsert q r).alive = s.alive := by rw [St.cacheInsert_eq]
@[simp, chan_frame] theorem St.cacheInsert_nextClient (q : Query) (r : Reply) : (s.cacheInsert q r).nextClient = s.nextClient := by rw [St.cacheInsert_eq]
@[simp, chan_frame] theorem St.cacheInsert_doneToks (q : Query) (r : Reply) : (s.cacheInsert q r).doneToks = s.doneToks := by rw [St.cacheInsert_eq]
@[simp, chan_frame] theorem St.cacheInsert_pendingToks (q : Query) (r : Reply) : (s.cacheInsert q r).pendingToks = s.pendingToks := by rw [St.cacheInsert_eq]
@[simp, chan_frame] theorem St.cacheInsert_lastQid (q : Query) (r : Reply) : (s.cacheInsert q r).lastQid = s.lastQid := by rw [St.cacheInsert_eq]
@[simp, chan_frame] theorem St.cacheInsert_reactSeq (q : Query) (r : Reply) : (s.cacheInsert q r).reactSeq = s.reactSeq := by rw [St.cacheInsert_eq]
@[simp, chan_frame] theorem St.cacheInsert_pendingOrder (q : Query) (r : Reply) : (s.cacheInsert q r).pendingOrder = s.pendingOrder := by rw [St.cacheInsert_eq]

theorem St.draw2snd_eq  : s.draw2.2 = { s with obs := (s.draw2.2).obs, obsFaults := (s.draw2.2).obsFaults } := by
  unfold St.draw2; repeat (first | rfl | split)
@[simp, chan_frame] theorem St.draw2snd_cfg  : (s.draw2.2).cfg = s.cfg := by rw [St.draw2snd_eq]
@[simp, chan_frame] theorem St.draw2snd_now  : (s.draw2.2).now = s.now := by rw [St.draw2snd_eq]
@[simp, chan_frame] theorem St.draw2snd_servers  : (s.draw2.2).servers = s.servers := by rw [St.draw2snd_eq]
@[simp, chan_frame] theorem St.draw2snd_conns  : (s.draw2.2).conns = s.conns := by rw [St.draw2snd_eq]
@[simp, chan_frame] theorem St.draw2snd_qs  : (s.draw2.2).qs = s.qs := by rw [St.draw2snd_eq]
@[simp, chan_frame] theorem St.draw2snd_nextKey  : (s.draw2.2).nextKey = s.nextKey := by rw [St.draw2snd_eq]
@[simp, chan_frame] theorem St.draw2snd_all  : (s.draw2.2).all = s.all := by rw [St.draw2snd_eq]
@[simp, chan_frame] theorem St.draw2snd_byQid  : (s.draw2.2).byQid = s.byQid := by rw [St.draw2snd_eq]
@[simp, chan_frame] theorem St.draw2snd_byTimeout  : (s.draw2.2).byTimeout = s.byTimeout := by rw [St.draw2snd_eq]
@[simp, chan_frame] theorem St.draw2snd_listCopy  : (s.draw2.2).listCopy = s.listCopy := by rw [St.draw2snd_eq]
@[simp, chan_frame] theorem St.draw2snd_socks  : (s.draw2.2).socks = s.socks := by rw [St.draw2snd_eq]
@[simp, chan_frame] theorem St.draw2snd_nextFd  : (s.draw2.2).nextFd = s.nextFd := by rw [St.draw2snd_eq]
@[simp, chan_frame] theorem St.draw2snd_txs  : (s.draw2.2).txs = s.txs := by rw [St.draw2snd_eq]
@[simp, chan_frame] theorem St.draw2snd_cache  : (s.draw2.2).cache = s.cache := by rw [St.draw2snd_eq]
@[simp, chan_frame] theorem St.draw2snd_requeueArr  : (s.draw2.2).requeueArr = s.requeueArr := by rw [St.draw2snd_eq]
@[simp, chan_frame] theorem St.draw2snd_writeLog  : (s.draw2.2).writeLog = s.writeLog := by rw [St.draw2snd_eq]
@[simp, chan_frame] theorem St.draw2snd_notifyLog  : (s.draw2.2).notifyLog = s.notifyLog := by rw [St.draw2snd_eq]
@[simp, chan_frame] theorem St.draw2snd_sockLog  : (s.draw2.2).sockLog = s.sockLog := by rw [St.draw2snd_eq]
@[simp, chan_frame] theorem St.draw2snd_accepted  : (s.draw2.2).accepted = s.accepted := by rw [St.draw2snd_eq]
@[simp, chan_frame] theorem St.draw2snd_picks  : (s.draw2.2).picks = s.picks := by rw [St.draw2snd_eq]
@[simp, chan_frame] theorem St.draw2snd_destroying  : (s.draw2.2).destroying = s.destroying := by rw [St.draw2snd_eq]
@[simp, chan_frame] theorem St.draw2snd_destroyed  : (s.draw2.2).destroyed = s.destroyed := by rw [St.draw2snd_eq]
@[simp, chan_frame] theorem St.draw2snd_outOfFuel  : (s.draw2.2).outOfFuel = s.outOfFuel := by rw [St.draw2snd_eq]
@[simp, chan_frame] theorem St.draw2snd_modelFaults  : (s.draw2.2).modelFaults = s.modelFaults := by rw [St.draw2snd_eq]
@[simp, chan_frame] theorem St.draw2snd_clients  : (s.draw2.2).clients = s.clients := by rw [St.draw2snd_eq]
@[simp, chan_frame] theorem St.draw2snd_pendingWl  : (s.draw2.2).pendingWl = s.pendingWl := by rw [St.draw2snd_eq]
@[simp, chan_frame] theorem St.draw2snd_selfVariant  : (s.draw2.2).selfVariant = s.selfVariant := by rw [St.draw2snd_eq]
@[simp, chan_frame] theorem St.draw2snd_faults  : (s.draw2.2).faults = s.faults := by rw [St.draw2snd_eq]
@[simp, chan_frame] theorem St.draw2snd_reactions  : (s.draw2.2).reactions = s.reactions := by rw [St.draw2snd_eq]
@[simp, chan_frame] theorem St.draw2snd_notifyPending  : (s.draw2.2).notifyPending = s.notifyPending := by rw [St.draw2snd_eq]
@[simp, chan_frame] theorem St.draw2snd_alive  : (s.draw2.2).alive = s.alive := by rw [St.draw2snd_eq]
@[simp, chan_frame] theorem St.draw2snd_nextClient  : (s.draw2.2).nextClient = s.nextClient := by rw [St.draw2snd_eq]
@[simp, chan_frame] theorem St.draw2snd_doneToks  : (s.draw2.2).doneToks = s.doneToks := by rw [St.draw2snd_eq]
@[simp, chan_frame] theorem St.draw2snd_pendingToks  : (s.draw2.2).pendingToks = s.pendingToks := by rw [St.draw2snd_eq]
@[simp, chan_frame] theorem St.draw2snd_lastQid  : (s.draw2.2).lastQid = s.lastQid := by rw [St.draw2snd_eq]
@[simp, chan_frame] theorem St.draw2snd_reactSeq  : (s.draw2.2).reactSeq = s.reactSeq := by rw [St.draw2snd_eq]
@[simp, chan_frame] theorem St.draw2snd_pendingOrder  : (s.draw2.2).pendingOrder = s.pendingOrder := by rw [St.draw2snd_eq]

theorem St.draw1snd_eq  : s.draw1.2 = { s with obs := (s.draw1.2).obs, obsFaults := (s.draw1.2).obsFaults } := by
  unfold St.draw1; repeat (first | rfl | split)
@[simp, chan_frame] theorem St.draw1snd_cfg  : (s.draw1.2).cfg = s.cfg := by rw [St.draw1snd_eq]
@[simp, chan_frame] theorem St.draw1snd_now  : (s.draw1.2).now = s.now := by rw [St.draw1snd_eq]
@[simp, chan_frame] theorem St.draw1snd_servers  : (s.draw1.2).servers = s.servers := by rw [St.draw1snd_eq]
@[simp, chan_frame] theorem St.draw1snd_conns  : (s.draw1.2).conns = s.conns := by rw [St.draw1snd_eq]
@[simp, chan_frame] theorem St.draw1snd_qs  : (s.draw1.2).qs = s.qs := by rw [St.draw1snd_eq]
@[simp, chan_frame] theorem St.draw1snd_nextKey  : (s.draw1.2).nextKey = s.nextKey := by rw [St.draw1snd_eq]
@[simp, chan_frame] theorem St.draw1snd_all  : (s.draw1.2).all = s.all := by rw [St.draw1snd_eq]
@[simp, chan_frame] theorem St.draw1snd_byQid  : (s.draw1.2).byQid = s.byQid := by rw [St.draw1snd_eq]
@[simp, chan_frame] theorem St.draw1snd_byTimeout  : (s.draw1.2).byTimeout = s.byTimeout := by rw [St.draw1snd_eq]
@[simp, chan_frame] theorem St.draw1snd_listCopy  : (s.draw1.2).listCopy = s.listCopy := by rw [St.draw1snd_eq]
@[simp, chan_frame] theorem St.draw1snd_socks  : (s.draw1.2).socks = s.socks := by rw [St.draw1snd_eq]
@[simp, chan_frame] theorem St.draw1snd_nextFd  : (s.draw1.2).nextFd = s.nextFd := by rw [St.draw1snd_eq]
@[simp, chan_frame] theorem St.draw1snd_txs  : (s.draw1.2).txs = s.txs := by rw [St.draw1snd_eq]
@[simp, chan_frame] theorem St.draw1snd_cache  : (s.draw1.2).cache = s.cache := by rw [St.draw1snd_eq]
@[simp, chan_frame] theorem St.draw1snd_requeueArr  : (s.draw1.2).requeueArr = s.requeueArr := by rw [St.draw1snd_eq]
@[simp, chan_frame] theorem St.draw1snd_writeLog  : (s.draw1.2).writeLog = s.writeLog := by rw [St.draw1snd_eq]
@[simp, chan_frame] theorem St.draw1snd_notifyLog  : (s.draw1.2).notifyLog = s.notifyLog := by rw [St.draw1snd_eq]
@[simp, chan_frame] theorem St.draw1snd_sockLog  : (s.draw1.2).sockLog = s.sockLog := by rw [St.draw1snd_eq]
@[simp, chan_frame] theorem St.draw1snd_accepted  : (s.draw1.2).accepted = s.accepted := by rw [St.draw1snd_eq]
@[simp, chan_frame] theorem St.draw1snd_picks  : (s.draw1.2).picks = s.picks := by rw [St.draw1snd_eq]
@[simp, chan_frame] theorem St.draw1snd_destroying  : (s.draw1.2).destroying = s.destroying := by rw [St.draw1snd_eq]
@[simp, chan_frame] theorem St.draw1snd_destroyed  : (s.draw1.2).destroyed = s.destroyed := by rw [St.draw1snd_eq]
@[simp, chan_frame] theorem St.draw1snd_outOfFuel  : (s.draw1.2).outOfFuel = s.outOfFuel := by rw [St.draw1snd_eq]
@[simp, chan_frame] theorem St.draw1snd_modelFaults  : (s.draw1.2).modelFaults = s.modelFaults := by rw [St.draw1snd_eq]
@[simp, chan_frame] theorem St.draw1snd_clients  : (s.draw1.2).clients = s.clients := by rw [St.draw1snd_eq]
@[simp, chan_frame] theorem St.draw1snd_pendingWl  : (s.draw1.2).pendingWl = s.pendingWl := by rw [St.draw1snd_eq]
@[simp, chan_frame] theorem St.draw1snd_selfVariant  : (s.draw1.2).selfVariant = s.selfVariant := by rw [St.draw1snd_eq]
@[simp, chan_frame] theorem St.draw1snd_faults  : (s.draw1.2).faults = s.faults := by rw [St.draw1snd_eq]
@[simp, chan_frame] theorem St.draw1snd_reactions  : (s.draw1.2).reactions = s.reactions := by rw [St.draw1snd_eq]
@[simp, chan_frame] theorem St.draw1snd_notifyPending  : (s.draw1.2).notifyPending = s.notifyPending := by rw [St.draw1snd_eq]
@[simp, chan_frame] theorem St.draw1snd_alive  : (s.draw1.2).alive = s.alive := by rw [St.draw1snd_eq]
@[simp, chan_frame] theorem St.draw1snd_nextClient  : (s.draw1.2).nextClient = s.nextClient := by rw [St.draw1snd_eq]
@[simp, chan_frame] theorem St.draw1snd_doneToks  : (s.draw1.2).doneToks = s.doneToks := by rw [St.draw1snd_eq]
@[simp, chan_frame] theorem St.draw1snd_pendingToks  : (s.draw1.2).pendingToks = s.pendingToks := by rw [St.draw1snd_eq]
@[simp, chan_frame] theorem St.draw1snd_lastQid  : (s.draw1.2).lastQid = s.lastQid := by rw [St.draw1snd_eq]
@[simp, chan_frame] theorem St.draw1snd_reactSeq  : (s.draw1.2).reactSeq = s.reactSeq := by rw [St.draw1snd_eq]
@[simp, chan_frame] theorem St.draw1snd_pendingOrder  : (s.draw1.2).pendingOrder = s.pendingOrder := by rw [St.draw1snd_eq]

theorem St.pop8_eq  : s.pop8 = { s with obs := (s.pop8).obs, obsFaults := (s.pop8).obsFaults } := by
  unfold St.pop8; repeat (first | rfl | split)
@[simp, chan_frame] theorem St.pop8_cfg  : (s.pop8).cfg = s.cfg := by rw [St.pop8_eq]
@[simp, chan_frame] theorem St.pop8_now  : (s.pop8).now = s.now := by rw [St.pop8_eq]
@[simp, chan_frame] theorem St.pop8_servers  : (s.pop8).servers = s.servers := by rw [St.pop8_eq]
@[simp, chan_frame] theorem St.pop8_conns  : (s.pop8).conns = s.conns := by rw [St.pop8_eq]
@[simp, chan_frame] theorem St.pop8_qs  : (s.pop8).qs = s.qs := by rw [St.pop8_eq]
@[simp, chan_frame] theorem St.pop8_nextKey  : (s.pop8).nextKey = s.nextKey := by rw [St.pop8_eq]
@[simp, chan_frame] theorem St.pop8_all  : (s.pop8).all = s.all := by rw [St.pop8_eq]
@[simp, chan_frame] theorem St.pop8_byQid  : (s.pop8).byQid = s.byQid := by rw [St.pop8_eq]
@[simp, chan_frame] theorem St.pop8_byTimeout  : (s.pop8).byTimeout = s.byTimeout := by rw [St.pop8_eq]
@[simp, chan_frame] theorem St.pop8_listCopy  : (s.pop8).listCopy = s.listCopy := by rw [St.pop8_eq]
@[simp, chan_frame] theorem St.pop8_socks  : (s.pop8).socks = s.socks := by rw [St.pop8_eq]
@[simp, chan_frame] theorem St.pop8_nextFd  : (s.pop8).nextFd = s.nextFd := by rw [St.pop8_eq]
@[simp, chan_frame] theorem St.pop8_txs  : (s.pop8).txs = s.txs := by rw [St.pop8_eq]
@[simp, chan_frame] theorem St.pop8_cache  : (s.pop8).cache = s.cache := by rw [St.pop8_eq]
@[simp, chan_frame] theorem St.pop8_requeueArr  : (s.pop8).requeueArr = s.requeueArr := by rw [St.pop8_eq]
@[simp, chan_frame] theorem St.pop8_writeLog  : (s.pop8).writeLog = s.writeLog := by rw [St.pop8_eq]
@[simp, chan_frame] theorem St.pop8_notifyLog  : (s.pop8).notifyLog = s.notifyLog := by rw [St.pop8_eq]
@[simp, chan_frame] theorem St.pop8_sockLog  : (s.pop8).sockLog = s.sockLog := by rw [St.pop8_eq]
@[simp, chan_frame] theorem St.pop8_accepted  : (s.pop8).accepted = s.accepted := by rw [St.pop8_eq]
@[simp, chan_frame] theorem St.pop8_picks  : (s.pop8).picks = s.picks := by rw [St.pop8_eq]
@[simp, chan_frame] theorem St.pop8_destroying  : (s.pop8).destroying = s.destroying := by rw [St.pop8_eq]
@[simp, chan_frame] theorem St.pop8_destroyed  : (s.pop8).destroyed = s.destroyed := by rw [St.pop8_eq]
@[simp, chan_frame] theorem St.pop8_outOfFuel  : (s.pop8).outOfFuel = s.outOfFuel := by rw [St.pop8_eq]
@[simp, chan_frame] theorem St.pop8_modelFaults  : (s.pop8).modelFaults = s.modelFaults := by rw [St.pop8_eq]
@[simp, chan_frame] theorem St.pop8_clients  : (s.pop8).clients = s.clients := by rw [St.pop8_eq]
@[simp, chan_frame] theorem St.pop8_pendingWl  : (s.pop8).pendingWl = s.pendingWl := by rw [St.pop8_eq]
@[simp, chan_frame] theorem St.pop8_selfVariant  : (s.pop8).selfVariant = s.selfVariant := by rw [St.pop8_eq]
@[simp, chan_frame] theorem St.pop8_faults  : (s.pop8).faults = s.faults := by rw [St.pop8_eq]
@[simp, chan_frame] theorem St.pop8_reactions  : (s.pop8).reactions = s.reactions := by rw [St.pop8_eq]
@[simp, chan_frame] theorem St.pop8_notifyPending  : (s.pop8).notifyPending = s.notifyPending := by rw [St.pop8_eq]
@[simp, chan_frame] theorem St.pop8_alive  : (s.pop8).alive = s.alive := by rw [St.pop8_eq]
@[simp, chan_frame] theorem St.pop8_nextClient  : (s.pop8).nextClient = s.nextClient := by rw [St.pop8_eq]
@[simp, chan_frame] theorem St.pop8_doneToks  : (s.pop8).doneToks = s.doneToks := by rw [St.pop8_eq]
@[simp, chan_frame] theorem St.pop8_pendingToks  : (s.pop8).pendingToks = s.pendingToks := by rw [St.pop8_eq]
@[simp, chan_frame] theorem St.pop8_lastQid  : (s.pop8).lastQid = s.lastQid := by rw [St.pop8_eq]
@[simp, chan_frame] theorem St.pop8_reactSeq  : (s.pop8).reactSeq = s.reactSeq := by rw [St.pop8_eq]
@[simp, chan_frame] theorem St.pop8_pendingOrder  : (s.pop8).pendingOrder = s.pendingOrder := by rw [St.pop8_eq]

@[simp, chan_frame] theorem St.faultsnd_cfg (c : String) : ((s.fault c).2).cfg = s.cfg := rfl
@[simp, chan_frame] theorem St.faultsnd_now (c : String) : ((s.fault c).2).now = s.now := rfl
@[simp, chan_frame] theorem St.faultsnd_servers (c : String) : ((s.fault c).2).servers = s.servers := rfl
@[simp, chan_frame] theorem St.faultsnd_conns (c : String) : ((s.fault c).2).conns = s.conns := rfl
@[simp, chan_frame] theorem St.faultsnd_qs (c : String) : ((s.fault c).2).qs = s.qs := rfl
@[simp, chan_frame] theorem St.faultsnd_nextKey (c : String) : ((s.fault c).2).nextKey = s.nextKey := rfl
@[simp, chan_frame] theorem St.faultsnd_all (c : String) : ((s.fault c).2).all = s.all := rfl
@[simp, chan_frame] theorem St.faultsnd_byQid (c : String) : ((s.fault c).2).byQid = s.byQid := rfl
@[simp, chan_frame] theorem St.faultsnd_byTimeout (c : String) : ((s.fault c).2).byTimeout = s.byTimeout := rfl
@[simp, chan_frame] theorem St.faultsnd_listCopy (c : String) : ((s.fault c).2).listCopy = s.listCopy := rfl
@[simp, chan_frame] theorem St.faultsnd_socks (c : String) : ((s.fault c).2).socks = s.socks := rfl
@[simp, chan_frame] theorem St.faultsnd_nextFd (c : String) : ((s.fault c).2).nextFd = s.nextFd := rfl
@[simp, chan_frame] theorem St.faultsnd_txs (c : String) : ((s.fault c).2).txs = s.txs := rfl
@[simp, chan_frame] theorem St.faultsnd_cache (c : String) : ((s.fault c).2).cache = s.cache := rfl
@[simp, chan_frame] theorem St.faultsnd_requeueArr (c : String) : ((s.fault c).2).requeueArr = s.requeueArr := rfl
@[simp, chan_frame] theorem St.faultsnd_writeLog (c : String) : ((s.fault c).2).writeLog = s.writeLog := rfl
@[simp, chan_frame] theorem St.faultsnd_notifyLog (c : String) : ((s.fault c).2).notifyLog = s.notifyLog := rfl
@[simp, chan_frame] theorem St.faultsnd_sockLog (c : String) : ((s.fault c).2).sockLog = s.sockLog := rfl
@[simp, chan_frame] theorem St.faultsnd_accepted (c : String) : ((s.fault c).2).accepted = s.accepted := rfl
@[simp, chan_frame] theorem St.faultsnd_picks (c : String) : ((s.fault c).2).picks = s.picks := rfl
@[simp, chan_frame] theorem St.faultsnd_destroying (c : String) : ((s.fault c).2).destroying = s.destroying := rfl
@[simp, chan_frame] theorem St.faultsnd_destroyed (c : String) : ((s.fault c).2).destroyed = s.destroyed := rfl
@[simp, chan_frame] theorem St.faultsnd_outOfFuel (c : String) : ((s.fault c).2).outOfFuel = s.outOfFuel := rfl
@[simp, chan_frame] theorem St.faultsnd_modelFaults (c : String) : ((s.fault c).2).modelFaults = s.modelFaults := rfl
@[simp, chan_frame] theorem St.faultsnd_clients (c : String) : ((s.fault c).2).clients = s.clients := rfl
@[simp, chan_frame] theorem St.faultsnd_pendingWl (c : String) : ((s.fault c).2).pendingWl = s.pendingWl := rfl
@[simp, chan_frame] theorem St.faultsnd_selfVariant (c : String) : ((s.fault c).2).selfVariant = s.selfVariant := rfl
@[simp, chan_frame] theorem St.faultsnd_reactions (c : String) : ((s.fault c).2).reactions = s.reactions := rfl
@[simp, chan_frame] theorem St.faultsnd_notifyPending (c : String) : ((s.fault c).2).notifyPending = s.notifyPending := rfl
@[simp, chan_frame] theorem St.faultsnd_alive (c : String) : ((s.fault c).2).alive = s.alive := rfl
@[simp, chan_frame] theorem St.faultsnd_nextClient (c : String) : ((s.fault c).2).nextClient = s.nextClient := rfl
@[simp, chan_frame] theorem St.faultsnd_doneToks (c : String) : ((s.fault c).2).doneToks = s.doneToks := rfl
@[simp, chan_frame] theorem St.faultsnd_pendingToks (c : String) : ((s.fault c).2).pendingToks = s.pendingToks := rfl
@[simp, chan_frame] theorem St.faultsnd_lastQid (c : String) : ((s.fault c).2).lastQid = s.lastQid := rfl
@[simp, chan_frame] theorem St.faultsnd_reactSeq (c : String) : ((s.fault c).2).reactSeq = s.reactSeq := rfl
@[simp, chan_frame] theorem St.faultsnd_pendingOrder (c : String) : ((s.fault c).2).pendingOrder = s.pendingOrder := rfl

theorem St.userCallback_eq (tok : Nat) (st : Status) (timeouts : Nat) (dg : String) : s.userCallback tok st timeouts dg = { s with ev := (s.userCallback tok st timeouts dg).ev, pendingToks := (s.userCallback tok st timeouts dg).pendingToks, doneToks := (s.userCallback tok st timeouts dg).doneToks } := by
  simp only [St.userCallback, St.emit]; repeat (first | rfl | split)
@[simp, chan_frame] theorem St.userCallback_cfg (tok : Nat) (st : Status) (timeouts : Nat) (dg : String) : (s.userCallback tok st timeouts dg).cfg = s.cfg := by rw [St.userCallback_eq]
@[simp, chan_frame] theorem St.userCallback_now (tok : Nat) (st : Status) (timeouts : Nat) (dg : String) : (s.userCallback tok st timeouts dg).now = s.now := by rw [St.userCallback_eq]
@[simp, chan_frame] theorem St.userCallback_servers (tok : Nat) (st : Status) (timeouts : Nat) (dg : String) : (s.userCallback tok st timeouts dg).servers = s.servers := by rw [St.userCallback_eq]
@[simp, chan_frame] theorem St.userCallback_conns (tok : Nat) (st : Status) (timeouts : Nat) (dg : String) : (s.userCallback tok st timeouts dg).conns = s.conns := by rw [St.userCallback_eq]
@[simp, chan_frame] theorem St.userCallback_qs (tok : Nat) (st : Status) (timeouts : Nat) (dg : String) : (s.userCallback tok st timeouts dg).qs = s.qs := by rw [St.userCallback_eq]
@[simp, chan_frame] theorem St.userCallback_nextKey (tok : Nat) (st : Status) (timeouts : Nat) (dg : String) : (s.userCallback tok st timeouts dg).nextKey = s.nextKey := by rw [St.userCallback_eq]
@[simp, chan_frame] theorem St.userCallback_all (tok : Nat) (st : Status) (timeouts : Nat) (dg : String) : (s.userCallback tok st timeouts dg).all = s.all := by rw [St.userCallback_eq]
@[simp, chan_frame] theorem St.userCallback_byQid (tok : Nat) (st : Status) (timeouts : Nat) (dg : String) : (s.userCallback tok st timeouts dg).byQid = s.byQid := by rw [St.userCallback_eq]
@[simp, chan_frame] theorem St.userCallback_byTimeout (tok : Nat) (st : Status) (timeouts : Nat) (dg : String) : (s.userCallback tok st timeouts dg).byTimeout = s.byTimeout := by rw [St.userCallback_eq]
@[simp, chan_frame] theorem St.userCallback_listCopy (tok : Nat) (st : Status) (timeouts : Nat) (dg : String) : (s.userCallback tok st timeouts dg).listCopy = s.listCopy := by rw [St.userCallback_eq]
@[simp, chan_frame] theorem St.userCallback_socks (tok : Nat) (st : Status) (timeouts : Nat) (dg : String) : (s.userCallback tok st timeouts dg).socks = s.socks := by rw [St.userCallback_eq]
@[simp, chan_frame] theorem St.userCallback_nextFd (tok : Nat) (st : Status) (timeouts : Nat) (dg : String) : (s.userCallback tok st timeouts dg).nextFd = s.nextFd := by rw [St.userCallback_eq]
@[simp, chan_frame] theorem St.userCallback_txs (tok : Nat) (st : Status) (timeouts : Nat) (dg : String) : (s.userCallback tok st timeouts dg).txs = s.txs := by rw [St.userCallback_eq]
@[simp, chan_frame] theorem St.userCallback_cache (tok : Nat) (st : Status) (timeouts : Nat) (dg : String) : (s.userCallback tok st timeouts dg).cache = s.cache := by rw [St.userCallback_eq]
@[simp, chan_frame] theorem St.userCallback_requeueArr (tok : Nat) (st : Status) (timeouts : Nat) (dg : String) : (s.userCallback tok st timeouts dg).requeueArr = s.requeueArr := by rw [St.userCallback_eq]
@[simp, chan_frame] theorem St.userCallback_writeLog (tok : Nat) (st : Status) (timeouts : Nat) (dg : String) : (s.userCallback tok st timeouts dg).writeLog = s.writeLog := by rw [St.userCallback_eq]
@[simp, chan_frame] theorem St.userCallback_notifyLog (tok : Nat) (st : Status) (timeouts : Nat) (dg : String) : (s.userCallback tok st timeouts dg).notifyLog = s.notifyLog := by rw [St.userCallback_eq]
@[simp, chan_frame] theorem St.userCallback_sockLog (tok : Nat) (st : Status) (timeouts : Nat) (dg : String) : (s.userCallback tok st timeouts dg).sockLog = s.sockLog := by rw [St.userCallback_eq]
@[simp, chan_frame] theorem St.userCallback_accepted (tok : Nat) (st : Status) (timeouts : Nat) (dg : String) : (s.userCallback tok st timeouts dg).accepted = s.accepted := by rw [St.userCallback_eq]
@[simp, chan_frame] theorem St.userCallback_picks (tok : Nat) (st : Status) (timeouts : Nat) (dg : String) : (s.userCallback tok st timeouts dg).picks = s.picks := by rw [St.userCallback_eq]
@[simp, chan_frame] theorem St.userCallback_destroying (tok : Nat) (st : Status) (timeouts : Nat) (dg : String) : (s.userCallback tok st timeouts dg).destroying = s.destroying := by rw [St.userCallback_eq]
@[simp, chan_frame] theorem St.userCallback_destroyed (tok : Nat) (st : Status) (timeouts : Nat) (dg : String) : (s.userCallback tok st timeouts dg).destroyed = s.destroyed := by rw [St.userCallback_eq]
@[simp, chan_frame] theorem St.userCallback_outOfFuel (tok : Nat) (st : Status) (timeouts : Nat) (dg : String) : (s.userCallback tok st timeouts dg).outOfFuel = s.outOfFuel := by rw [St.userCallback_eq]
@[simp, chan_frame] theorem St.userCallback_modelFaults (tok : Nat) (st : Status) (timeouts : Nat) (dg : String) : (s.userCallback tok st timeouts dg).modelFaults = s.modelFaults := by rw [St.userCallback_eq]
@[simp, chan_frame] theorem St.userCallback_clients (tok : Nat) (st : Status) (timeouts : Nat) (dg : String) : (s.userCallback tok st timeouts dg).clients = s.clients := by rw [St.userCallback_eq]
@[simp, chan_frame] theorem St.userCallback_pendingWl (tok : Nat) (st : Status) (timeouts : Nat) (dg : String) : (s.userCallback tok st timeouts dg).pendingWl = s.pendingWl := by rw [St.userCallback_eq]
@[simp, chan_frame] theorem St.userCallback_selfVariant (tok : Nat) (st : Status) (timeouts : Nat) (dg : String) : (s.userCallback tok st timeouts dg).selfVariant = s.selfVariant := by rw [St.userCallback_eq]
@[simp, chan_frame] theorem St.userCallback_faults (tok : Nat) (st : Status) (timeouts : Nat) (dg : String) : (s.userCallback tok st timeouts dg).faults = s.faults := by rw [St.userCallback_eq]
@[simp, chan_frame] theorem St.userCallback_reactions (tok : Nat) (st : Status) (timeouts : Nat) (dg : String) : (s.userCallback tok st timeouts dg).reactions = s.reactions := by rw [St.userCallback_eq]
@[simp, chan_frame] theorem St.userCallback_notifyPending (tok : Nat) (st : Status) (timeouts : Nat) (dg : String) : (s.userCallback tok st timeouts dg).notifyPending = s.notifyPending := by rw [St.userCallback_eq]
@[simp, chan_frame] theorem St.userCallback_alive (tok : Nat) (st : Status) (timeouts : Nat) (dg : String) : (s.userCallback tok st timeouts dg).alive = s.alive := by rw [St.userCallback_eq]
@[simp, chan_frame] theorem St.userCallback_nextClient (tok : Nat) (st : Status) (timeouts : Nat) (dg : String) : (s.userCallback tok st timeouts dg).nextClient = s.nextClient := by rw [St.userCallback_eq]
@[simp, chan_frame] theorem St.userCallback_lastQid (tok : Nat) (st : Status) (timeouts : Nat) (dg : String) : (s.userCallback tok st timeouts dg).lastQid = s.lastQid := by rw [St.userCallback_eq]
@[simp, chan_frame] theorem St.userCallback_reactSeq (tok : Nat) (st : Status) (timeouts : Nat) (dg : String) : (s.userCallback tok st timeouts dg).reactSeq = s.reactSeq := by rw [St.userCallback_eq]
@[simp, chan_frame] theorem St.userCallback_pendingOrder (tok : Nat) (st : Status) (timeouts : Nat) (dg : String) : (s.userCallback tok st timeouts dg).pendingOrder = s.pendingOrder := by rw [St.userCallback_eq]

@[simp, chan_frame] theorem St.oof_cfg  : (s.oof.1).cfg = s.cfg := rfl
@[simp, chan_frame] theorem St.oof_now  : (s.oof.1).now = s.now := rfl
@[simp, chan_frame] theorem St.oof_servers  : (s.oof.1).servers = s.servers := rfl
@[simp, chan_frame] theorem St.oof_conns  : (s.oof.1).conns = s.conns := rfl
@[simp, chan_frame] theorem St.oof_qs  : (s.oof.1).qs = s.qs := rfl
@[simp, chan_frame] theorem St.oof_nextKey  : (s.oof.1).nextKey = s.nextKey := rfl
@[simp, chan_frame] theorem St.oof_all  : (s.oof.1).all = s.all := rfl
@[simp, chan_frame] theorem St.oof_byQid  : (s.oof.1).byQid = s.byQid := rfl
@[simp, chan_frame] theorem St.oof_byTimeout  : (s.oof.1).byTimeout = s.byTimeout := rfl
@[simp, chan_frame] theorem St.oof_listCopy  : (s.oof.1).listCopy = s.listCopy := rfl
@[simp, chan_frame] theorem St.oof_socks  : (s.oof.1).socks = s.socks := rfl
@[simp, chan_frame] theorem St.oof_nextFd  : (s.oof.1).nextFd = s.nextFd := rfl
@[simp, chan_frame] theorem St.oof_txs  : (s.oof.1).txs = s.txs := rfl
@[simp, chan_frame] theorem St.oof_cache  : (s.oof.1).cache = s.cache := rfl
@[simp, chan_frame] theorem St.oof_requeueArr  : (s.oof.1).requeueArr = s.requeueArr := rfl
@[simp, chan_frame] theorem St.oof_writeLog  : (s.oof.1).writeLog = s.writeLog := rfl
@[simp, chan_frame] theorem St.oof_notifyLog  : (s.oof.1).notifyLog = s.notifyLog := rfl
@[simp, chan_frame] theorem St.oof_sockLog  : (s.oof.1).sockLog = s.sockLog := rfl
@[simp, chan_frame] theorem St.oof_accepted  : (s.oof.1).accepted = s.accepted := rfl
@[simp, chan_frame] theorem St.oof_picks  : (s.oof.1).picks = s.picks := rfl
@[simp, chan_frame] theorem St.oof_destroying  : (s.oof.1).destroying = s.destroying := rfl
@[simp, chan_frame] theorem St.oof_destroyed  : (s.oof.1).destroyed = s.destroyed := rfl
@[simp, chan_frame] theorem St.oof_modelFaults  : (s.oof.1).modelFaults = s.modelFaults := rfl
@[simp, chan_frame] theorem St.oof_clients  : (s.oof.1).clients = s.clients := rfl
@[simp, chan_frame] theorem St.oof_pendingWl  : (s.oof.1).pendingWl = s.pendingWl := rfl
@[simp, chan_frame] theorem St.oof_selfVariant  : (s.oof.1).selfVariant = s.selfVariant := rfl
@[simp, chan_frame] theorem St.oof_faults  : (s.oof.1).faults = s.faults := rfl
@[simp, chan_frame] theorem St.oof_reactions  : (s.oof.1).reactions = s.reactions := rfl
@[simp, chan_frame] theorem St.oof_notifyPending  : (s.oof.1).notifyPending = s.notifyPending := rfl
@[simp, chan_frame] theorem St.oof_alive  : (s.oof.1).alive = s.alive := rfl
@[simp, chan_frame] theorem St.oof_nextClient  : (s.oof.1).nextClient = s.nextClient := rfl
@[simp, chan_frame] theorem St.oof_doneToks  : (s.oof.1).doneToks = s.doneToks := rfl
@[simp, chan_frame] theorem St.oof_pendingToks  : (s.oof.1).pendingToks = s.pendingToks := rfl
@[simp, chan_frame] theorem St.oof_lastQid  : (s.oof.1).lastQid = s.lastQid := rfl
@[simp, chan_frame] theorem St.oof_reactSeq  : (s.oof.1).reactSeq = s.reactSeq := rfl
@[simp, chan_frame] theorem St.oof_pendingOrder  : (s.oof.1).pendingOrder = s.pendingOrder := rfl

theorem St.recordTx_eq (fd : Nat) (tcp : Bool) (f : OutFrame) : s.recordTx fd tcp f = { s with txs := (s.recordTx fd tcp f).txs, sockLog := (s.recordTx fd tcp f).sockLog, qs := (s.recordTx fd tcp f).qs, ev := (s.recordTx fd tcp f).ev } := rfl
@[simp, chan_frame] theorem St.recordTx_cfg (fd : Nat) (tcp : Bool) (f : OutFrame) : (s.recordTx fd tcp f).cfg = s.cfg := by rw [St.recordTx_eq]
@[simp, chan_frame] theorem St.recordTx_now (fd : Nat) (tcp : Bool) (f : OutFrame) : (s.recordTx fd tcp f).now = s.now := by rw [St.recordTx_eq]
@[simp, chan_frame] theorem St.recordTx_servers (fd : Nat) (tcp : Bool) (f : OutFrame) : (s.recordTx fd tcp f).servers = s.servers := by rw [St.recordTx_eq]
@[simp, chan_frame] theorem St.recordTx_conns (fd : Nat) (tcp : Bool) (f : OutFrame) : (s.recordTx fd tcp f).conns = s.conns := by rw [St.recordTx_eq]
@[simp, chan_frame] theorem St.recordTx_nextKey (fd : Nat) (tcp : Bool) (f : OutFrame) : (s.recordTx fd tcp f).nextKey = s.nextKey := by rw [St.recordTx_eq]
@[simp, chan_frame] theorem St.recordTx_all (fd : Nat) (tcp : Bool) (f : OutFrame) : (s.recordTx fd tcp f).all = s.all := by rw [St.recordTx_eq]
@[simp, chan_frame] theorem St.recordTx_byQid (fd : Nat) (tcp : Bool) (f : OutFrame) : (s.recordTx fd tcp f).byQid = s.byQid := by rw [St.recordTx_eq]
@[simp, chan_frame] theorem St.recordTx_byTimeout (fd : Nat) (tcp : Bool) (f : OutFrame) : (s.recordTx fd tcp f).byTimeout = s.byTimeout := by rw [St.recordTx_eq]
@[simp, chan_frame] theorem St.recordTx_listCopy (fd : Nat) (tcp : Bool) (f : OutFrame) : (s.recordTx fd tcp f).listCopy = s.listCopy := by rw [St.recordTx_eq]
@[simp, chan_frame] theorem St.recordTx_socks (fd : Nat) (tcp : Bool) (f : OutFrame) : (s.recordTx fd tcp f).socks = s.socks := by rw [St.recordTx_eq]
@[simp, chan_frame] theorem St.recordTx_nextFd (fd : Nat) (tcp : Bool) (f : OutFrame) : (s.recordTx fd tcp f).nextFd = s.nextFd := by rw [St.recordTx_eq]
@[simp, chan_frame] theorem St.recordTx_cache (fd : Nat) (tcp : Bool) (f : OutFrame) : (s.recordTx fd tcp f).cache = s.cache := by rw [St.recordTx_eq]
@[simp, chan_frame] theorem St.recordTx_requeueArr (fd : Nat) (tcp : Bool) (f : OutFrame) : (s.recordTx fd tcp f).requeueArr = s.requeueArr := by rw [St.recordTx_eq]
@[simp, chan_frame] theorem St.recordTx_writeLog (fd : Nat) (tcp : Bool) (f : OutFrame) : (s.recordTx fd tcp f).writeLog = s.writeLog := by rw [St.recordTx_eq]
@[simp, chan_frame] theorem St.recordTx_notifyLog (fd : Nat) (tcp : Bool) (f : OutFrame) : (s.recordTx fd tcp f).notifyLog = s.notifyLog := by rw [St.recordTx_eq]
@[simp, chan_frame] theorem St.recordTx_accepted (fd : Nat) (tcp : Bool) (f : OutFrame) : (s.recordTx fd tcp f).accepted = s.accepted := by rw [St.recordTx_eq]
@[simp, chan_frame] theorem St.recordTx_picks (fd : Nat) (tcp : Bool) (f : OutFrame) : (s.recordTx fd tcp f).picks = s.picks := by rw [St.recordTx_eq]
@[simp, chan_frame] theorem St.recordTx_destroying (fd : Nat) (tcp : Bool) (f : OutFrame) : (s.recordTx fd tcp f).destroying = s.destroying := by rw [St.recordTx_eq]
@[simp, chan_frame] theorem St.recordTx_destroyed (fd : Nat) (tcp : Bool) (f : OutFrame) : (s.recordTx fd tcp f).destroyed = s.destroyed := by rw [St.recordTx_eq]
@[simp, chan_frame] theorem St.recordTx_outOfFuel (fd : Nat) (tcp : Bool) (f : OutFrame) : (s.recordTx fd tcp f).outOfFuel = s.outOfFuel := by rw [St.recordTx_eq]
@[simp, chan_frame] theorem St.recordTx_modelFaults (fd : Nat) (tcp : Bool) (f : OutFrame) : (s.recordTx fd tcp f).modelFaults = s.modelFaults := by rw [St.recordTx_eq]
@[simp, chan_frame] theorem St.recordTx_clients (fd : Nat) (tcp : Bool) (f : OutFrame) : (s.recordTx fd tcp f).clients = s.clients := by rw [St.recordTx_eq]
@[simp, chan_frame] theorem St.recordTx_pendingWl (fd : Nat) (tcp : Bool) (f : OutFrame) : (s.recordTx fd tcp f).pendingWl = s.pendingWl := by rw [St.recordTx_eq]
@[simp, chan_frame] theorem St.recordTx_selfVariant (fd : Nat) (tcp : Bool) (f : OutFrame) : (s.recordTx fd tcp f).selfVariant = s.selfVariant := by rw [St.recordTx_eq]
@[simp, chan_frame] theorem St.recordTx_faults (fd : Nat) (tcp : Bool) (f : OutFrame) : (s.recordTx fd tcp f).faults = s.faults := by rw [St.recordTx_eq]
@[simp, chan_frame] theorem St.recordTx_reactions (fd : Nat) (tcp : Bool) (f : OutFrame) : (s.recordTx fd tcp f).reactions = s.reactions := by rw [St.recordTx_eq]
@[simp, chan_frame] theorem St.recordTx_notifyPending (fd : Nat) (tcp : Bool) (f : OutFrame) : (s.recordTx fd tcp f).notifyPending = s.notifyPending := by rw [St.recordTx_eq]
@[simp, chan_frame] theorem St.recordTx_alive (fd : Nat) (tcp : Bool) (f : OutFrame) : (s.recordTx fd tcp f).alive = s.alive := by rw [St.recordTx_eq]
@[simp, chan_frame] theorem St.recordTx_nextClient (fd : Nat) (tcp : Bool) (f : OutFrame) : (s.recordTx fd tcp f).nextClient = s.nextClient := by rw [St.recordTx_eq]
@[simp, chan_frame] theorem St.recordTx_doneToks (fd : Nat) (tcp : Bool) (f : OutFrame) : (s.recordTx fd tcp f).doneToks = s.doneToks := by rw [St.recordTx_eq]
@[simp, chan_frame] theorem St.recordTx_pendingToks (fd : Nat) (tcp : Bool) (f : OutFrame) : (s.recordTx fd tcp f).pendingToks = s.pendingToks := by rw [St.recordTx_eq]
@[simp, chan_frame] theorem St.recordTx_lastQid (fd : Nat) (tcp : Bool) (f : OutFrame) : (s.recordTx fd tcp f).lastQid = s.lastQid := by rw [St.recordTx_eq]
@[simp, chan_frame] theorem St.recordTx_reactSeq (fd : Nat) (tcp : Bool) (f : OutFrame) : (s.recordTx fd tcp f).reactSeq = s.reactSeq := by rw [St.recordTx_eq]
@[simp, chan_frame] theorem St.recordTx_pendingOrder (fd : Nat) (tcp : Bool) (f : OutFrame) : (s.recordTx fd tcp f).pendingOrder = s.pendingOrder := by rw [St.recordTx_eq]

theorem advanceOut_writes : ∀ (fuel fd : Nat) (s : St) (n : Nat), ∃ co tx sl qs ev,
    advanceOut fuel fd s n = { s with conns := co, txs := tx, sockLog := sl, qs := qs, ev := ev }
  | 0, _, _, _ => ⟨_, _, _, _, _, rfl⟩
  | fuel + 1, fd, s, n => by
    unfold advanceOut
    split
    · exact ⟨_, _, _, _, _, rfl⟩
    · split
      · exact ⟨_, _, _, _, _, rfl⟩
      · dsimp only
        split
        · split
          · exact ⟨_, _, _, _, _, St.recordTx_eq ..⟩
          · obtain ⟨_, _, _, _, _, h⟩ := advanceOut_writes fuel fd _ _
            rw [h, St.recordTx_eq]; exact ⟨_, _, _, _, _, rfl⟩
        · exact ⟨_, _, _, _, _, rfl⟩
theorem advanceOut_eq (fuel fd : Nat) (s : St) (n : Nat) :
    advanceOut fuel fd s n =
      { s with conns := (advanceOut fuel fd s n).conns, txs := (advanceOut fuel fd s n).txs,
               sockLog := (advanceOut fuel fd s n).sockLog, qs := (advanceOut fuel fd s n).qs,
               ev := (advanceOut fuel fd s n).ev } := by
  obtain ⟨_, _, _, _, _, h⟩ := advanceOut_writes fuel fd s n
  rw [h]
@[simp, chan_frame] theorem advanceOut_cfg : ∀ (fuel fd : Nat) (s : St) (n : Nat), (advanceOut fuel fd s n).cfg = s.cfg :=
  fun fuel fd s n => by rw [advanceOut_eq]
@[simp, chan_frame] theorem advanceOut_now : ∀ (fuel fd : Nat) (s : St) (n : Nat), (advanceOut fuel fd s n).now = s.now :=
  fun fuel fd s n => by rw [advanceOut_eq]
@[simp, chan_frame] theorem advanceOut_servers : ∀ (fuel fd : Nat) (s : St) (n : Nat), (advanceOut fuel fd s n).servers = s.servers :=
  fun fuel fd s n => by rw [advanceOut_eq]
@[simp, chan_frame] theorem advanceOut_nextKey : ∀ (fuel fd : Nat) (s : St) (n : Nat), (advanceOut fuel fd s n).nextKey = s.nextKey :=
  fun fuel fd s n => by rw [advanceOut_eq]
@[simp, chan_frame] theorem advanceOut_all : ∀ (fuel fd : Nat) (s : St) (n : Nat), (advanceOut fuel fd s n).all = s.all :=
  fun fuel fd s n => by rw [advanceOut_eq]
@[simp, chan_frame] theorem advanceOut_byQid : ∀ (fuel fd : Nat) (s : St) (n : Nat), (advanceOut fuel fd s n).byQid = s.byQid :=
  fun fuel fd s n => by rw [advanceOut_eq]
@[simp, chan_frame] theorem advanceOut_byTimeout : ∀ (fuel fd : Nat) (s : St) (n : Nat), (advanceOut fuel fd s n).byTimeout = s.byTimeout :=
  fun fuel fd s n => by rw [advanceOut_eq]
@[simp, chan_frame] theorem advanceOut_listCopy : ∀ (fuel fd : Nat) (s : St) (n : Nat), (advanceOut fuel fd s n).listCopy = s.listCopy :=
  fun fuel fd s n => by rw [advanceOut_eq]
@[simp, chan_frame] theorem advanceOut_socks : ∀ (fuel fd : Nat) (s : St) (n : Nat), (advanceOut fuel fd s n).socks = s.socks :=
  fun fuel fd s n => by rw [advanceOut_eq]
@[simp, chan_frame] theorem advanceOut_nextFd : ∀ (fuel fd : Nat) (s : St) (n : Nat), (advanceOut fuel fd s n).nextFd = s.nextFd :=
  fun fuel fd s n => by rw [advanceOut_eq]
@[simp, chan_frame] theorem advanceOut_cache : ∀ (fuel fd : Nat) (s : St) (n : Nat), (advanceOut fuel fd s n).cache = s.cache :=
  fun fuel fd s n => by rw [advanceOut_eq]
@[simp, chan_frame] theorem advanceOut_requeueArr : ∀ (fuel fd : Nat) (s : St) (n : Nat), (advanceOut fuel fd s n).requeueArr = s.requeueArr :=
  fun fuel fd s n => by rw [advanceOut_eq]
@[simp, chan_frame] theorem advanceOut_writeLog : ∀ (fuel fd : Nat) (s : St) (n : Nat), (advanceOut fuel fd s n).writeLog = s.writeLog :=
  fun fuel fd s n => by rw [advanceOut_eq]
@[simp, chan_frame] theorem advanceOut_notifyLog : ∀ (fuel fd : Nat) (s : St) (n : Nat), (advanceOut fuel fd s n).notifyLog = s.notifyLog :=
  fun fuel fd s n => by rw [advanceOut_eq]
@[simp, chan_frame] theorem advanceOut_accepted : ∀ (fuel fd : Nat) (s : St) (n : Nat), (advanceOut fuel fd s n).accepted = s.accepted :=
  fun fuel fd s n => by rw [advanceOut_eq]
@[simp, chan_frame] theorem advanceOut_picks : ∀ (fuel fd : Nat) (s : St) (n : Nat), (advanceOut fuel fd s n).picks = s.picks :=
  fun fuel fd s n => by rw [advanceOut_eq]
@[simp, chan_frame] theorem advanceOut_destroying : ∀ (fuel fd : Nat) (s : St) (n : Nat), (advanceOut fuel fd s n).destroying = s.destroying :=
  fun fuel fd s n => by rw [advanceOut_eq]
@[simp, chan_frame] theorem advanceOut_destroyed : ∀ (fuel fd : Nat) (s : St) (n : Nat), (advanceOut fuel fd s n).destroyed = s.destroyed :=
  fun fuel fd s n => by rw [advanceOut_eq]
@[simp, chan_frame] theorem advanceOut_outOfFuel : ∀ (fuel fd : Nat) (s : St) (n : Nat), (advanceOut fuel fd s n).outOfFuel = s.outOfFuel :=
  fun fuel fd s n => by rw [advanceOut_eq]
@[simp, chan_frame] theorem advanceOut_modelFaults : ∀ (fuel fd : Nat) (s : St) (n : Nat), (advanceOut fuel fd s n).modelFaults = s.modelFaults :=
  fun fuel fd s n => by rw [advanceOut_eq]
@[simp, chan_frame] theorem advanceOut_clients : ∀ (fuel fd : Nat) (s : St) (n : Nat), (advanceOut fuel fd s n).clients = s.clients :=
  fun fuel fd s n => by rw [advanceOut_eq]
@[simp, chan_frame] theorem advanceOut_pendingWl : ∀ (fuel fd : Nat) (s : St) (n : Nat), (advanceOut fuel fd s n).pendingWl = s.pendingWl :=
  fun fuel fd s n => by rw [advanceOut_eq]
@[simp, chan_frame] theorem advanceOut_selfVariant : ∀ (fuel fd : Nat) (s : St) (n : Nat), (advanceOut fuel fd s n).selfVariant = s.selfVariant :=
  fun fuel fd s n => by rw [advanceOut_eq]
@[simp, chan_frame] theorem advanceOut_faults : ∀ (fuel fd : Nat) (s : St) (n : Nat), (advanceOut fuel fd s n).faults = s.faults :=
  fun fuel fd s n => by rw [advanceOut_eq]
@[simp, chan_frame] theorem advanceOut_reactions : ∀ (fuel fd : Nat) (s : St) (n : Nat), (advanceOut fuel fd s n).reactions = s.reactions :=
  fun fuel fd s n => by rw [advanceOut_eq]
@[simp, chan_frame] theorem advanceOut_notifyPending : ∀ (fuel fd : Nat) (s : St) (n : Nat), (advanceOut fuel fd s n).notifyPending = s.notifyPending :=
  fun fuel fd s n => by rw [advanceOut_eq]
@[simp, chan_frame] theorem advanceOut_alive : ∀ (fuel fd : Nat) (s : St) (n : Nat), (advanceOut fuel fd s n).alive = s.alive :=
  fun fuel fd s n => by rw [advanceOut_eq]
@[simp, chan_frame] theorem advanceOut_nextClient : ∀ (fuel fd : Nat) (s : St) (n : Nat), (advanceOut fuel fd s n).nextClient = s.nextClient :=
  fun fuel fd s n => by rw [advanceOut_eq]
@[simp, chan_frame] theorem advanceOut_doneToks : ∀ (fuel fd : Nat) (s : St) (n : Nat), (advanceOut fuel fd s n).doneToks = s.doneToks :=
  fun fuel fd s n => by rw [advanceOut_eq]
@[simp, chan_frame] theorem advanceOut_pendingToks : ∀ (fuel fd : Nat) (s : St) (n : Nat), (advanceOut fuel fd s n).pendingToks = s.pendingToks :=
  fun fuel fd s n => by rw [advanceOut_eq]
@[simp, chan_frame] theorem advanceOut_lastQid : ∀ (fuel fd : Nat) (s : St) (n : Nat), (advanceOut fuel fd s n).lastQid = s.lastQid :=
  fun fuel fd s n => by rw [advanceOut_eq]
@[simp, chan_frame] theorem advanceOut_reactSeq : ∀ (fuel fd : Nat) (s : St) (n : Nat), (advanceOut fuel fd s n).reactSeq = s.reactSeq :=
  fun fuel fd s n => by rw [advanceOut_eq]
@[simp, chan_frame] theorem advanceOut_pendingOrder : ∀ (fuel fd : Nat) (s : St) (n : Nat), (advanceOut fuel fd s n).pendingOrder = s.pendingOrder :=
  fun fuel fd s n => by rw [advanceOut_eq]

theorem genQid_writes : ∀ (n : Nat) (s : St), ∃ ob of, (genQid n s).2 = { s with obs := ob, obsFaults := of }
  | 0, _ => ⟨_, _, rfl⟩
  | n + 1, s => by
    unfold genQid
    split
    · exact ⟨_, _, rfl⟩
    · simp only []
      split
      · obtain ⟨_, _, h⟩ := genQid_writes n s.draw2.2
        rw [h, St.draw2snd_eq]; exact ⟨_, _, rfl⟩
      · exact ⟨_, _, St.draw2snd_eq s⟩
theorem genQid_eq (n : Nat) (s : St) :
    (genQid n s).2 = { s with obs := (genQid n s).2.obs, obsFaults := (genQid n s).2.obsFaults } := by
  obtain ⟨_, _, h⟩ := genQid_writes n s
  rw [h]
@[simp, chan_frame] theorem genQid_cfg : ∀ (n : Nat) (s : St), (genQid n s).2.cfg = s.cfg :=
  fun n s => by rw [genQid_eq]
@[simp, chan_frame] theorem genQid_now : ∀ (n : Nat) (s : St), (genQid n s).2.now = s.now :=
  fun n s => by rw [genQid_eq]
@[simp, chan_frame] theorem genQid_servers : ∀ (n : Nat) (s : St), (genQid n s).2.servers = s.servers :=
  fun n s => by rw [genQid_eq]
@[simp, chan_frame] theorem genQid_conns : ∀ (n : Nat) (s : St), (genQid n s).2.conns = s.conns :=
  fun n s => by rw [genQid_eq]
@[simp, chan_frame] theorem genQid_qs : ∀ (n : Nat) (s : St), (genQid n s).2.qs = s.qs :=
  fun n s => by rw [genQid_eq]
@[simp, chan_frame] theorem genQid_nextKey : ∀ (n : Nat) (s : St), (genQid n s).2.nextKey = s.nextKey :=
  fun n s => by rw [genQid_eq]
@[simp, chan_frame] theorem genQid_all : ∀ (n : Nat) (s : St), (genQid n s).2.all = s.all :=
  fun n s => by rw [genQid_eq]
@[simp, chan_frame] theorem genQid_byQid : ∀ (n : Nat) (s : St), (genQid n s).2.byQid = s.byQid :=
  fun n s => by rw [genQid_eq]
@[simp, chan_frame] theorem genQid_byTimeout : ∀ (n : Nat) (s : St), (genQid n s).2.byTimeout = s.byTimeout :=
  fun n s => by rw [genQid_eq]
@[simp, chan_frame] theorem genQid_listCopy : ∀ (n : Nat) (s : St), (genQid n s).2.listCopy = s.listCopy :=
  fun n s => by rw [genQid_eq]
@[simp, chan_frame] theorem genQid_socks : ∀ (n : Nat) (s : St), (genQid n s).2.socks = s.socks :=
  fun n s => by rw [genQid_eq]
@[simp, chan_frame] theorem genQid_nextFd : ∀ (n : Nat) (s : St), (genQid n s).2.nextFd = s.nextFd :=
  fun n s => by rw [genQid_eq]
@[simp, chan_frame] theorem genQid_txs : ∀ (n : Nat) (s : St), (genQid n s).2.txs = s.txs :=
  fun n s => by rw [genQid_eq]
@[simp, chan_frame] theorem genQid_cache : ∀ (n : Nat) (s : St), (genQid n s).2.cache = s.cache :=
  fun n s => by rw [genQid_eq]
@[simp, chan_frame] theorem genQid_requeueArr : ∀ (n : Nat) (s : St), (genQid n s).2.requeueArr = s.requeueArr :=
  fun n s => by rw [genQid_eq]
@[simp, chan_frame] theorem genQid_writeLog : ∀ (n : Nat) (s : St), (genQid n s).2.writeLog = s.writeLog :=
  fun n s => by rw [genQid_eq]
@[simp, chan_frame] theorem genQid_notifyLog : ∀ (n : Nat) (s : St), (genQid n s).2.notifyLog = s.notifyLog :=
  fun n s => by rw [genQid_eq]
@[simp, chan_frame] theorem genQid_sockLog : ∀ (n : Nat) (s : St), (genQid n s).2.sockLog = s.sockLog :=
  fun n s => by rw [genQid_eq]
@[simp, chan_frame] theorem genQid_accepted : ∀ (n : Nat) (s : St), (genQid n s).2.accepted = s.accepted :=
  fun n s => by rw [genQid_eq]
@[simp, chan_frame] theorem genQid_picks : ∀ (n : Nat) (s : St), (genQid n s).2.picks = s.picks :=
  fun n s => by rw [genQid_eq]
@[simp, chan_frame] theorem genQid_destroying : ∀ (n : Nat) (s : St), (genQid n s).2.destroying = s.destroying :=
  fun n s => by rw [genQid_eq]
@[simp, chan_frame] theorem genQid_destroyed : ∀ (n : Nat) (s : St), (genQid n s).2.destroyed = s.destroyed :=
  fun n s => by rw [genQid_eq]
@[simp, chan_frame] theorem genQid_outOfFuel : ∀ (n : Nat) (s : St), (genQid n s).2.outOfFuel = s.outOfFuel :=
  fun n s => by rw [genQid_eq]
@[simp, chan_frame] theorem genQid_modelFaults : ∀ (n : Nat) (s : St), (genQid n s).2.modelFaults = s.modelFaults :=
  fun n s => by rw [genQid_eq]
@[simp, chan_frame] theorem genQid_clients : ∀ (n : Nat) (s : St), (genQid n s).2.clients = s.clients :=
  fun n s => by rw [genQid_eq]
@[simp, chan_frame] theorem genQid_pendingWl : ∀ (n : Nat) (s : St), (genQid n s).2.pendingWl = s.pendingWl :=
  fun n s => by rw [genQid_eq]
@[simp, chan_frame] theorem genQid_selfVariant : ∀ (n : Nat) (s : St), (genQid n s).2.selfVariant = s.selfVariant :=
  fun n s => by rw [genQid_eq]
@[simp, chan_frame] theorem genQid_faults : ∀ (n : Nat) (s : St), (genQid n s).2.faults = s.faults :=
  fun n s => by rw [genQid_eq]
@[simp, chan_frame] theorem genQid_reactions : ∀ (n : Nat) (s : St), (genQid n s).2.reactions = s.reactions :=
  fun n s => by rw [genQid_eq]
@[simp, chan_frame] theorem genQid_notifyPending : ∀ (n : Nat) (s : St), (genQid n s).2.notifyPending = s.notifyPending :=
  fun n s => by rw [genQid_eq]
@[simp, chan_frame] theorem genQid_alive : ∀ (n : Nat) (s : St), (genQid n s).2.alive = s.alive :=
  fun n s => by rw [genQid_eq]
@[simp, chan_frame] theorem genQid_nextClient : ∀ (n : Nat) (s : St), (genQid n s).2.nextClient = s.nextClient :=
  fun n s => by rw [genQid_eq]
@[simp, chan_frame] theorem genQid_doneToks : ∀ (n : Nat) (s : St), (genQid n s).2.doneToks = s.doneToks :=
  fun n s => by rw [genQid_eq]
@[simp, chan_frame] theorem genQid_pendingToks : ∀ (n : Nat) (s : St), (genQid n s).2.pendingToks = s.pendingToks :=
  fun n s => by rw [genQid_eq]
@[simp, chan_frame] theorem genQid_lastQid : ∀ (n : Nat) (s : St), (genQid n s).2.lastQid = s.lastQid :=
  fun n s => by rw [genQid_eq]
@[simp, chan_frame] theorem genQid_reactSeq : ∀ (n : Nat) (s : St), (genQid n s).2.reactSeq = s.reactSeq :=
  fun n s => by rw [genQid_eq]
@[simp, chan_frame] theorem genQid_pendingOrder : ∀ (n : Nat) (s : St), (genQid n s).2.pendingOrder = s.pendingOrder :=
  fun n s => by rw [genQid_eq]

end Cares.Chan
