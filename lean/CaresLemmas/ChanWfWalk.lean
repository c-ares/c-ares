import CaresLemmas.ChanWfStep
/-!
# C01 — the list swap of `ares_cancel` on the skeleton: `all_queries` becomes the list being walked, and is dropped
once walked to the end
-/
namespace Cares.Chan

/-- `ares_cancel` swaps the list heads: the walk sees only the queries present on entry -/
def Sk.pushLC (a : Sk) : Sk := { a with listCopy := a.all :: a.listCopy, all := [] }

def Sk.popLC (a : Sk) : Sk := { a with listCopy := a.listCopy.drop 1 }

theorem wf_pushLC {a : Sk} (h : WfS a none) : WfS a.pushLC none := by
  refine ⟨h.q, ?_, h.t, h.c, h.s, h.k, h.tok⟩
  have hi := h.i
  refine ⟨hi.qidLive, List.nodup_nil, fun _ hk => (by cases hk), fun l hl => ?_, ?_, ?_⟩
  · rcases List.mem_cons.mp hl with rfl | hl
    · exact ⟨hi.allNodup, hi.allIdx⟩
    · exact hi.lcOk l hl
  · show ([] ++ (a.all :: a.listCopy).flatten).Nodup
    simpa using hi.disj
  · intro k hk
    rcases hi.nl k hk with h' | ⟨l, hl, hkl⟩
    · exact Or.inr ⟨a.all, List.mem_cons_self, h'⟩
    · exact Or.inr ⟨l, List.mem_cons_of_mem _ hl, hkl⟩

/-- the list on top of the stack has been walked to the end, so it can be dropped -/
theorem wf_popLC {a : Sk} (h : WfS a none) (hh : (a.listCopy.head?).bind (·.head?) = none) : WfS a.popLC none := by
  refine ⟨h.q, ?_, h.t, h.c, h.s, h.k, h.tok⟩
  have hi := h.i
  refine ⟨hi.qidLive, hi.allNodup, hi.allIdx, fun l hl => hi.lcOk l (List.mem_of_mem_drop hl), ?_, ?_⟩
  · show (a.all ++ (a.listCopy.drop 1).flatten).Nodup
    refine (List.Sublist.append (List.Sublist.refl _) ?_).nodup hi.disj
    cases a.listCopy with
    | nil => exact List.Sublist.refl _
    | cons x r => simp
  · intro k hk
    rcases hi.nl k hk with h' | ⟨l, hl, hkl⟩
    · exact Or.inl h'
    · right
      show ∃ l ∈ a.listCopy.drop 1, k ∈ l
      cases hlc : a.listCopy with
      | nil => rw [hlc] at hl; cases hl
      | cons x r =>
        rw [hlc] at hl hh
        rcases List.mem_cons.mp hl with rfl | hl
        · simp only [List.head?_cons, Option.bind_some] at hh
          cases l with
          | nil => cases hkl
          | cons y t => simp at hh
        · exact ⟨l, by simpa using hl, hkl⟩

/-- the walk of `ares_cancel`, seen from outside the list swap -/
theorem StepS.sandwich_cancel {xf xi d} {a b : Sk} (h : StepS xf xi d a.pushLC b) : StepS xf xi d a b.popLC where
  faults := h.faults
  kMono := h.kMono
  keyMono := h.keyMono
  idxNew := h.idxNew
  unl := h.unl
  orphan := h.orphan
  debtAlive := h.debtAlive
  prog := {
    doneMono := h.prog.doneMono
    lcRel := by
      have := h.prog.lcRel
      show LcSub (b.listCopy.drop 1) a.listCopy
      cases hb : b.listCopy with
      | nil => rw [hb] at this; cases this
      | cons x r =>
        rw [hb] at this
        cases this with
        | cons _ ht => exact ht
    allNew := fun k hk => by
      rcases h.prog.allNew k hk with h' | h'
      · cases h'
      · exact Or.inr h'
    keysLt := h.prog.keysLt
    ownKeep := h.prog.ownKeep
    done6 := h.prog.done6 }

theorem LcSub.mem {a b : List (List Nat)} (h : LcSub a b) {l : List Nat} (hl : l ∈ a) :
    ∃ l0 ∈ b, ∀ k ∈ l, k ∈ l0 := by
  induction h with
  | nil => cases hl
  | cons hx _ ih =>
    rcases List.mem_cons.mp hl with rfl | hl
    · exact ⟨_, List.mem_cons_self, hx⟩
    · obtain ⟨l0, h0, hs⟩ := ih hl
      exact ⟨l0, List.mem_cons_of_mem _ h0, hs⟩

end Cares.Chan
