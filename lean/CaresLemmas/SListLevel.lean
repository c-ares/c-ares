import CaresModel.Dsa.SList
import CaresLemmas.ListLemmas
/-! Helper lemmas for the skip-list model: one level list. -/
namespace Cares.Dsa.SList

/-- the test "smaller than `k`" in the form all `takeWhile` / `dropWhile` lemmas of the skip list use -/
abbrev Lt (key : Nat → Nat) (k : Nat) : Nat → Bool := fun x => decide (key x < k)

/-- the way in: the model writes `specInsert` with `fun x => key x < k`; rewrite with this first, then
    `mem_takeWhile_pos`, `takeWhile_eq_filter` and the other lemmas about `Lt key k` match -/
theorem specInsert_eq (key : Nat → Nat) (k n : Nat) (l : List Nat) :
    specInsert key k n l = l.takeWhile (Lt key k) ++ n :: l.dropWhile (Lt key k) := rfl

theorem takeWhile_dropWhile_nil (p : Nat → Bool) (l : List Nat) : (l.dropWhile p).takeWhile p = [] := by
  induction l with
  | nil => rfl
  | cons a l ih =>
    by_cases h : p a = true
    · rw [List.dropWhile_cons_of_pos h]; exact ih
    · rw [List.dropWhile_cons_of_neg h, List.takeWhile_cons_of_neg h]

theorem mem_takeWhile_pos (p : Nat → Bool) (l : List Nat) (a : Nat) (h : a ∈ l.takeWhile p) : p a = true :=
  List.all_eq_true.mp List.all_takeWhile a h

theorem sorted_tail {key : Nat → Nat} {a : Nat} {l : List Nat} (h : Sorted key (a :: l)) : Sorted key l :=
  (List.pairwise_cons.1 h).2

/-- in a sorted list the nodes smaller than `k` are a prefix -/
theorem takeWhile_eq_filter (key : Nat → Nat) (k : Nat) (l : List Nat) (hs : Sorted key l) :
    l.takeWhile (Lt key k) = l.filter (Lt key k) ∧ l.dropWhile (Lt key k) = l.filter (fun x => !Lt key k x) := by
  induction l with
  | nil => exact ⟨rfl, rfl⟩
  | cons a l ih =>
    have hp := List.pairwise_cons.1 hs
    obtain ⟨i1, i2⟩ := ih hp.2
    by_cases h : Lt key k a = true
    · rw [List.takeWhile_cons_of_pos h, List.dropWhile_cons_of_pos h, List.filter_cons_of_pos h,
        List.filter_cons_of_neg (by simp [h]), i1, i2]
      exact ⟨rfl, rfl⟩
    · have hall : ∀ b ∈ l, Lt key k b = false := by
        intro b hb
        have := hp.1 b hb
        simp only [Lt, decide_eq_true_eq, Nat.not_lt, decide_eq_false_iff_not] at h ⊢
        exact Nat.le_trans h this
      rw [List.takeWhile_cons_of_neg h, List.dropWhile_cons_of_neg h, List.filter_cons_of_neg h,
        List.filter_cons_of_pos (by simpa using h)]
      have f1 : l.filter (Lt key k) = [] := by
        rw [List.filter_eq_nil_iff]; intro b hb; rw [hall b hb]; simp
      have f2 : l.filter (fun x => !Lt key k x) = l := by
        rw [List.filter_eq_self]; intro b hb; rw [hall b hb]; rfl
      rw [f1, f2]; exact ⟨rfl, rfl⟩

/-- a walk that moves on to the next node while the test holds ends on the last node of the prefix that passes it -/
theorem walk_eq_getLast {go : Nat → List Nat → Nat} {p : Nat → Bool} (h0 : ∀ cur, go cur [] = cur)
    (h1 : ∀ cur x r, go cur (x :: r) = if p x then go x r else cur) (cur : Nat) (l : List Nat) :
    go cur l = ((l.takeWhile p).getLast?).getD cur := by
  induction l generalizing cur with
  | nil => rw [h0]; rfl
  | cons x r ih =>
    rw [h1, List.takeWhile_cons]
    split
    · rw [ih, List.getLast?_cons]; rfl
    · rfl

theorem advanceGo_eq (key : Nat → Nat) (k cur : Nat) (post : List Nat) :
    advanceGo key k cur post = ((post.takeWhile (Lt key k)).getLast?).getD cur :=
  walk_eq_getLast (fun _ => rfl) (fun _ _ _ => by simp [advanceGo, Lt]) cur post

theorem not_mem_of_nodup_append_cons {pre post : List Nat} {x : Nat} (h : (pre ++ x :: post).Nodup) : x ∉ pre :=
  fun hm => (List.nodup_append.1 h).2.2 x hm x List.mem_cons_self rfl

theorem ne_of_not_mem {x : Nat} {pre : List Nat} (h : x ∉ pre) : ∀ a ∈ pre, (a != x) = true :=
  fun _ ha => bne_iff_ne.mpr fun e => h (e ▸ ha)

theorem after_split (x : Nat) (pre post : List Nat) (h : x ∉ pre) : after x (pre ++ x :: post) = post := by
  unfold after; rw [(takeWhile_append_stop (ne_of_not_mem h) (by simp)).2]; rfl

theorem insertAfter_split (x n : Nat) (pre post : List Nat) (h : x ∉ pre) :
    insertAfter x n (pre ++ x :: post) = pre ++ x :: n :: post := by
  induction pre with
  | nil => simp [insertAfter]
  | cons a l ih =>
    have ha : a ≠ x := fun e => h (e ▸ List.mem_cons_self)
    rw [List.cons_append, insertAfter, if_neg ha, ih (fun hm => h (List.mem_cons_of_mem _ hm))]
    rfl

theorem takeWhile_ne_split (x : Nat) (pre post : List Nat) (h : x ∉ pre) :
    (pre ++ x :: post).takeWhile (· != x) = pre :=
  (takeWhile_append_stop (ne_of_not_mem h) (by simp)).1

theorem prevOf_split (x : Nat) (pre post : List Nat) (h : x ∉ pre) : prevOf x (pre ++ x :: post) = pre.getLast? := by
  unfold prevOf; rw [takeWhile_ne_split x pre post h]

/-- one level of ares_slist_node_push: whatever `left` was carried down from the level above (a node of this
    level with a smaller key, or NULL), the node is linked in front of the first node that is not smaller -/
theorem level_step (key : Nat → Nat) (k n : Nat) (l : List Nat) (hs : Sorted key l) (hnd : l.Nodup)
    (left : Option Nat) (hleft : ∀ x, left = some x → x ∈ l ∧ key x < k) :
    linkLevel ((setLeft key k l left).map (advance key k l)) n l = specInsert key k n l ∧
    (∀ y, (setLeft key k l left).map (advance key k l) = some y → y ∈ l ∧ key y < k) := by
  have htd := List.takeWhile_append_dropWhile (p := Lt key k) (l := l)
  generalize hl1 : setLeft key k l left = left1
  generalize hl2 : left1.map (advance key k l) = left2
  -- left1 is NULL only if no node is smaller; otherwise it is a smaller node of this level
  have h1 : (left1 = none ∧ l.takeWhile (Lt key k) = []) ∨ (∃ x, left1 = some x ∧ x ∈ l ∧ key x < k) := by
    rw [← hl1]
    cases left with
    | some x => right; exact ⟨x, rfl, hleft x rfl⟩
    | none =>
      cases l with
      | nil => left; exact ⟨rfl, rfl⟩
      | cons h r =>
        by_cases hk : k > key h
        · right; exact ⟨h, by simp [setLeft, hk], List.mem_cons_self, hk⟩
        · left; refine ⟨by simp [setLeft, hk], ?_⟩
          rw [List.takeWhile_cons_of_neg (by simpa [Lt] using hk)]
  rcases h1 with ⟨e1, etw⟩ | ⟨x, e1, hxl, hxk⟩
  · have e2 : left2 = none := by rw [← hl2, e1]; rfl
    rw [e2]
    refine ⟨?_, fun y hy => by cases hy⟩
    unfold linkLevel
    rw [specInsert_eq, etw]
    have : l.dropWhile (Lt key k) = l := by have h := htd; rw [etw, List.nil_append] at h; exact h
    rw [this]; rfl
  · -- x is among the smaller nodes, which are a prefix
    have hxt : x ∈ l.takeWhile (Lt key k) := by
      rw [(takeWhile_eq_filter key k l hs).1, List.mem_filter]
      exact ⟨hxl, by simpa [Lt] using hxk⟩
    have hndt : (l.takeWhile (Lt key k)).Nodup := hnd.sublist (List.takeWhile_sublist _)
    obtain ⟨pre, post, etw, hxpre⟩ := List.eq_append_cons_of_mem hxt
    have el : l = pre ++ x :: (post ++ l.dropWhile (Lt key k)) := by
      conv => lhs; rw [← htd, etw]
      simp
    have hafter : after x l = post ++ l.dropWhile (Lt key k) := by
      conv => lhs; rw [el]
      exact after_split x pre _ hxpre
    have hpostP : ∀ a ∈ post, Lt key k a = true := by
      intro a ha
      have : a ∈ l.takeWhile (Lt key k) := by rw [etw]; simp [ha]
      exact mem_takeWhile_pos _ _ _ this
    have htwp : (post ++ l.dropWhile (Lt key k)).takeWhile (Lt key k) = post := by
      rw [List.takeWhile_append_of_pos hpostP, takeWhile_dropWhile_nil, List.append_nil]
    have hadv : advance key k l x = (post.getLast?).getD x := by
      unfold advance; rw [hafter, advanceGo_eq, htwp]
    -- y = the last of the smaller nodes
    have hy : (l.takeWhile (Lt key k)).getLast? = some ((post.getLast?).getD x) := by
      rw [etw, List.getLast?_append, List.getLast?_cons]; rfl
    generalize (post.getLast?).getD x = y at hadv hy
    have e2 : left2 = some (y) := by rw [← hl2, e1, Option.map_some, hadv]
    rw [e2]
    obtain ⟨init, einit⟩ := List.getLast?_eq_some_iff.1 hy
    have hyinit : y ∉ init := not_mem_of_nodup_append_cons (einit ▸ hndt)
    have hymem : y ∈ l.takeWhile (Lt key k) := by rw [einit]; simp
    refine ⟨?_, ?_⟩
    · unfold linkLevel
      simp only
      have el2 : l = init ++ y :: l.dropWhile (Lt key k) := by
        conv => lhs; rw [← htd, einit]
        simp
      conv => lhs; rw [el2]
      rw [insertAfter_split _ n init _ hyinit, specInsert_eq, einit]
      simp
    · intro y' hy'
      cases hy'
      refine ⟨(List.takeWhile_sublist _).subset hymem, ?_⟩
      have := mem_takeWhile_pos _ _ _ hymem
      simpa [Lt] using this

end Cares.Dsa.SList
