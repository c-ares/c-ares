import CaresLemmas.ChanPolicyLookup
import CaresLemmas.ChanReach
/-!
# C09 — how many queries one `ares_send_nolock` creates (`one_probe_per_send`)

Queries are numbered by `nextKey`: the number of queries a run creates is the growth of `nextKey`.  A completion
callback may start new requests, each with a probe of its own; requests started by callback *reactions* are numbered by
`reactSeq`, so the count is stated as a credit argument: every request started — the call itself and each reaction —
pays for two queries (itself and one probe).  Requests started by compound requests (`ares_search`, `ares_getaddrinfo`:
`clients`) are not numbered anywhere in the model; the count is therefore stated for channels without a compound
request in progress.

`K N r0 a s`: no compound request, and `nextKey + a + 2·r0 ≤ N + 2·reactSeq` — `a` is the credit still unspent.  `N` and
`r0` are fixed for a run (`exec_sendNolock_count`): `N` = `nextKey` at its start plus the budget of the call, `r0` =
`reactSeq` at its start; so: queries created so far + credit left ≤ budget + 2 × reactions started so far.
This file: the invariant and the procedures that spend nothing.
-/
namespace Cares.Chan

/-- no compound request; `a` = unspent credit (in queries) -/
def K (N r0 a : Nat) (s : St) : Prop := s.clients = [] ∧ s.nextKey + a + 2 * r0 ≤ N + 2 * s.reactSeq

section
variable {N r0 a : Nat}

theorem K.congr {s s' : St} (h0 : s'.clients = s.clients) (h1 : s'.nextKey = s.nextKey)
    (h2 : s'.reactSeq = s.reactSeq) (h : K N r0 a s) : K N r0 a s' := by
  unfold K at *; rw [h0, h1, h2]; exact h

/-- credit may be dropped -/
theorem K.le {a' : Nat} {s : St} (hle : a ≤ a') (h : K N r0 a' s) : K N r0 a s := ⟨h.1, by have := h.2; omega⟩

theorem K.drop {b : Nat} {s : St} (h : K N r0 (a + b) s) : K N r0 a s := K.le (Nat.le_add_right _ _) h

chan_simple_lemmas K : (K N r0 a) =>
  emit slog mfault oofSt modQuery modConn modServer modSock cacheExpire
end

/-- the calls that spend no credit.  `requeue` qualifies when it counts a try (then the re-sent query has
    `try_count > 0` and does not enter the probe lottery); `sendNolock`, `sendQuery`, `probe` have their own budgets; the
    procedures not reachable from a send are not covered. -/
def Call.free : Call → Bool
  | .requeue _ _ inc _ _ => inc
  | .flush _ | .endQuery .. | .callback .. | .userCb .. | .reactions _ | .connError .. | .closeConn .. | .closeLoop ..
  | .cancel | .cancelLoop .. | .cleanupConns _ => true
  | _ => false

def PreZ (N r0 a : Nat) (c : Call) (s : St) : Prop := c.free = true ∧ K N r0 a s

@[reducible] def GoZ (N r0 a : Nat) (go : Call → St → St × Ret) : Prop := ∀ c s, PreZ N r0 a c s → K N r0 a (go c s).1

/-- one backward step for the count: a free call, the component of a destructured pair, a helper that writes nothing the
    count reads, a `let` variable to unfold -/
macro "k_step " hgo:term : tactic => `(tactic| first
  | assumption
  | ((with_reducible apply $hgo); refine ⟨rfl, ?_⟩)
  | (with_reducible apply pair_fst; assumption)
  | (with_reducible apply pair_snd; assumption)
  | with_reducible (first
      | apply K.emit | apply K.slog | apply K.mfault | apply K.oof | apply K.modQuery
      | apply K.modConn | apply K.modServer | apply K.modSock | apply K.cacheExpire)
  | with_reducible chan_elim
  | (refine K.congr (s := ?s0) ?h0 ?h1 ?h2 ?hI
     case h0 => (dsimp only; exact rfl)
     case h1 => exact rfl
     case h2 => exact rfl)
  | unfold_state_let
  | split)

section
variable {N r0 a : Nat}

/-- `server_probe_cb` / user callback / compound-request callback: with no compound request the last is a fault -/
theorem bodyCallback_z {go : Call → St → St × Ret} (hgo : GoZ N r0 a go) (a1 : Owner) (a2 : List Nat) (a3 : Status)
    (a4 : Nat) (a5 : Option Reply) (s : St) (h : K N r0 a s) : K N r0 a (bodyCallback go a1 a2 a3 a4 a5 s).1 := by
  unfold bodyCallback
  split
  · exact h
  · rename_i id
    have hc : s.client? id = none := by
      unfold St.client?; rw [h.1]; rfl
    rw [hc]
    exact K.mfault h
  · exact hgo _ _ ⟨rfl, h⟩

/-- `ares_send_nolock` creates a query, `ares_search` / `ares_getaddrinfo` a compound request; no other procedure moves
    what the count reads against it (a reaction moves `reactSeq` in its favour) -/
def Call.creates : Call → Bool
  | .sendNolock .. | .clientStart .. => true
  | _ => false

theorem K.prim {c : Call} (hc : c.creates = false) {s s' : St} (p : Prim c s s') (h : K N r0 a s) : K N r0 a s' := by
  cases p
  case genQid | addQuery | addClient => exact Bool.noConfusion hc
  case nextReaction => exact ⟨h.1, Nat.le_trans h.2 (by show _ ≤ N + 2 * (s.reactSeq + 1); omega)⟩
  case modClient => exact ⟨by show s.clients.map _ = []; rw [h.1]; rfl, h.2⟩
  case dropClient => exact ⟨by show s.clients.filter _ = []; rw [h.1]; rfl, h.2⟩
  case sqCommit => rw [sqCommit_shape]; exact h
  case openConn => rw [sqOpen_shape]; exact h
  case closeFinal => rw [closeFinal_shape]; exact h
  all_goals exact K.congr (by simp only [chan_frame]) (by simp only [chan_frame]) (by simp only [chan_frame]) h

/-- `go` with the calls that need credit cut off -/
def freeOnly (go : Call → St → St × Ret) (c : Call) (s : St) : St × Ret := if c.free then go c s else s.oof

theorem GoZ.freeOnly {go : Call → St → St × Ret} (hgo : GoZ N r0 a go) : GoInv (K N r0 a) (freeOnly go) := by
  intro c s h
  unfold Cares.Chan.freeOnly
  split
  · exact hgo c s ⟨‹_›, h⟩
  · exact K.oof h

/-- a body that makes only free calls (`e`, by unfolding) and creates nothing spends nothing -/
theorem execBody_keeps_z {go : Call → St → St × Ret} (hgo : GoZ N r0 a go) (c : Call) (hc : c.creates = false) (s : St)
    (e : execBody (freeOnly go) c s = execBody go c s) (h : K N r0 a s) : K N r0 a (execBody go c s).1 :=
  e ▸ execBody_invariant c (K.prim hc) hgo.freeOnly s h

end

end Cares.Chan
