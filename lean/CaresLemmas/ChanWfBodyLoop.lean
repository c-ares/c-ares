import CaresLemmas.ChanWfClient
import CaresLemmas.ChanWfMid
import CaresLemmas.ChanWfLookup
import CaresLemmas.ChanWfWalk
/-!
# C01 and C12c — body lemmas: `processTimeouts`, `flushRequeue`, `reactions`, `cancel`
-/
namespace Cares.Chan

/-- state in which a reaction of kind `send` calls `ares_send` -/
def newTokSt (s : St) : St :=
  { ({ s with reactSeq := s.reactSeq + 1 } : St).emit s!"react(send,{10000 + s.reactSeq})" with
    pendingToks := s.pendingToks ++ [10000 + s.reactSeq] }

theorem sk_newTokSt (s : St) : (newTokSt s).sk = s.sk.newTok := by
  unfold newTokSt St.emit; rfl

/-- the walk over the swapped list: every request of the application that was in `all_queries` has had its
    callback when the walk returns -/
theorem cancel_walk_done {d} {s : St} {r : St × Ret} (hw : Wf s)
    (hg : Good d (.cancelLoop .cancelled false) { s with listCopy := s.all :: s.listCopy, all := [] } r) :
    ∀ k ∈ s.all, ∀ tok, (k, Owner.user tok) ∈ s.sk.qKO → tok ∈ r.1.doneToks := by
  have hw1 : Wf ({ s with listCopy := s.all :: s.listCopy, all := [] } : St) :=
    (show WfS s.sk.pushLC none from wf_pushLC hw)
  obtain ⟨s2, ret⟩ := r
  intro k hk tok hko
  have hki : k ∈ s.sk.idx := hw.i.allIdx k hk
  have hklt : k < s.sk.nextKey := key_lt_of_idx hw hki
  have hp := hg.step.prog
  have hnot : k ∉ s2.sk.idx := by
    intro hin
    rcases hg.wf.i.nl k hin with ha | ⟨l, hl, hkl⟩
    · rcases hp.allNew k ha with h' | h'
      · cases h'
      · exact absurd h' (by show ¬ s.sk.nextKey ≤ k; omega)
    · have hrel : LcSub s2.listCopy (s.all :: s.listCopy) := hp.lcRel
      have hpost : (s2.listCopy.head?).bind (·.head?) = none := hg.post
      change l ∈ s2.listCopy at hl
      cases hlc : s2.listCopy with
      | nil => rw [hlc] at hl; cases hl
      | cons h2 t2 =>
        rw [hlc] at hrel hl hpost
        cases hrel with
        | cons hx ht =>
          rcases List.mem_cons.mp hl with rfl | hl
          · simp only [List.head?_cons, Option.bind_some] at hpost
            cases l with
            | nil => cases hkl
            | cons y t => simp at hpost
          · obtain ⟨l0, h0, hs⟩ := ht.mem hl
            have hd' := hw.i.disj
            rw [List.nodup_append] at hd'
            exact hd'.2.2 k hk k (List.mem_flatten.mpr ⟨l0, h0, hs k hkl⟩) rfl
  rcases hp.done6 hw1.keysLt (k, .user tok) hko hki hnot tok rfl with h' | h'
  · exact h'
  · cases h'

variable {cid : Nat}

theorem reactOneC_mid {goC : GoC} (h : GoGood cid goC) {d s L} (hw : Wf s) (hd : DebtOk none d s.sk)
    (hL0 : LG cid L 0 s) (i : Nat) :
    MidLO cid d s (L ++ (reactOneC goC i s).2) (reactOneC goC i s).1 := by
  unfold reactOneC
  split
  · exact Or.inr (by rw [List.append_nil]; exact MidL.refl hw hd hL0)
  · split
    · exact ((MidL.refl hw hd hL0).sk_eq (s2 := s.emit "react(cancel)") rfl).call h .cancel
        ⟨Wf.of_sk_eq rfl hw, hd⟩ rfl rfl rfl
    · split
      · rename_i r _ _ _
        show MidLO cid d s (L ++ (goC (.sendNolock none false false { name := r.name, qtype := r.qtype }
          (.user (10000 + s.reactSeq)) r.react) (newTokSt s)).2) ((goC (.sendNolock none false false { name := r.name, qtype := r.qtype }
          (.user (10000 + s.reactSeq)) r.react) (newTokSt s)).1.1.emit _)
        have hsk1 := sk_newTokSt s
        generalize newTokSt s = s1 at hsk1
        have hm1 : MidL cid d s L s1 :=
          ⟨⟨by unfold Wf; rw [hsk1]; exact wf_newTok hw, by rw [hsk1]; exact debt_newTok hw hd,
           by rw [hsk1]; exact step_newTok⟩, hL0.congr (by rw [hsk1]; rfl) (by rw [hsk1]; rfl)⟩
        have hm2 := hm1.call h (.sendNolock none false false { name := r.name, qtype := r.qtype }
          (.user (10000 + s.reactSeq)) r.react)
          ⟨hm1.mid.wf, by rw [hsk1]; exact ownerFree_newTok hw, hm1.mid.debt⟩ rfl rfl rfl
        exact hm2.bind (fun h => by simpa using h) (fun hm => Or.inr (hm.sk_eq rfl))
      · exact Or.inr (by rw [List.append_nil]; exact MidL.refl hw hd hL0)

theorem good_flushRequeue {goC : GoC} (h : GoGood cid goC) {d s L} (hpre : Pre d s .flushRequeue)
    (hL : LG cid L (xtra cid .flushRequeue) s) : GoodL cid d .flushRequeue s L (bodyFlushRequeueC goC s) := by
  obtain ⟨hw, hd⟩ := hpre
  have hm : MidL cid d s L s := MidL.refl hw hd hL
  have next : ∀ {L' s1}, MidLO cid d s L' s1 → GoodL cid d .flushRequeue s L' (goC .flushRequeue s1) := fun hm =>
    hm.tailL h (fun hm => ⟨hm.mid.wf, hm.mid.debt⟩) rfl (Or.inl rfl) (Or.inl rfl) (fun _ => trivial)
  unfold bodyFlushRequeueC
  split
  · exact hm.ret trivial
  · rename_i qid srv rest _
    have hm0 : MidL cid d s L { s with requeueArr := rest } := hm.sk_eq rfl
    simp only
    split
    · exact next (Or.inr hm0)
    · rename_i x key hfind
      have hki : key ∈ s.sk.idx := List.mem_map.mpr ⟨(x, key), List.mem_of_find?_eq_some hfind, rfl⟩
      exact (next (hm0.call h (.sendQuery srv key) ⟨hm0.mid.wf, hki, hm0.mid.debt⟩ rfl rfl rfl)).seq

theorem good_reactions {goC : GoC} (h : GoGood cid goC) {d l s L} (hpre : Pre d s (.reactions l))
    (hL : LG cid L (xtra cid (.reactions l)) s) : GoodL cid d (.reactions l) s L (bodyReactionsC goC l s) := by
  obtain ⟨hw, hd⟩ := hpre
  have hm : MidL cid d s L s := MidL.refl hw hd hL
  unfold bodyReactionsC
  split
  · exact hm.ret trivial
  · rename_i i rest
    split
    · exact hm.ret trivial
    · exact ((reactOneC_mid h hw hd hL i).tailL h (c := .reactions (i :: rest)) (c' := .reactions rest)
        (fun hm => ⟨hm.mid.wf, hm.mid.debt⟩) rfl (Or.inl rfl) (Or.inl rfl) (fun _ => trivial)).seq

theorem good_cancel {goC : GoC} (h : GoGood cid goC) {d s L} (hpre : Pre d s .cancel)
    (hL : LG cid L (xtra cid .cancel) s) : GoodL cid d .cancel s L (bodyCancelC goC s) := by
  obtain ⟨hw, hd⟩ := hpre
  have hL0 : LG cid L 0 s := hL
  unfold bodyCancelC
  by_cases he : s.all.isEmpty = true
  · simp only [he, ↓reduceIte]
    refine GoodL.seq (l1 := []) ?_
    rw [List.append_nil]
    refine (h.callL (d := d) (c := .cleanupConns _) ⟨hw, hd⟩ hL0).tail' (c := .cancel) (s := s) (StepS.refl _ _ _ _)
      (Or.inl rfl) (Or.inl rfl) (fun _ k hk => ?_)
    rw [show s.sk.all = [] from List.isEmpty_iff.mp he] at hk; cases hk
  · simp only [he, Bool.false_eq_true, ↓reduceIte]
    -- swap the list heads, walk, drop the walked list
    have hw1 : Wf ({ s with listCopy := s.all :: s.listCopy, all := [] } : St) :=
      (show WfS s.sk.pushLC none from wf_pushLC hw)
    rcases h.callL (d := d) (c := .cancelLoop .cancelled false) ⟨hw1, hd.congr rfl rfl rfl rfl rfl⟩
      (hL0.congr rfl rfl) with hoof | ⟨hg, hL1⟩
    · exact Or.inl (h.oof hoof)
    have hdone := cancel_walk_done hw hg
    generalize goC (.cancelLoop .cancelled false) { s with listCopy := s.all :: s.listCopy, all := [] } = r
      at hg hL1 hdone
    have hm : MidL cid d s (L ++ r.2) { r.1.1 with listCopy := r.1.1.listCopy.drop 1 } :=
      ⟨⟨show WfS (Sk.popLC _) none from wf_popLC hg.wf hg.post, hg.debt.congr rfl rfl rfl rfl rfl,
        StepS.sandwich_cancel (a := s.sk) hg.step⟩, hL1.congr rfl rfl⟩
    exact ((h.callL (d := d) (c := .cleanupConns _) ⟨hm.mid.wf, hm.mid.debt⟩ hm.lg).tail' (c := .cancel) (s := s)
      hm.mid.step (Or.inl rfl) (Or.inl rfl)
      (fun hg2 k hk tok hko => hg2.step.prog.doneMono tok (hdone k hk tok hko))).seq

theorem good_processTimeouts {goC : GoC} (h : GoGood cid goC) {d s L} (hpre : Pre d s .processTimeouts)
    (hL : LG cid L (xtra cid .processTimeouts) s) : GoodL cid d .processTimeouts s L (bodyProcessTimeoutsC goC s) := by
  obtain ⟨hw, hd⟩ := hpre
  have hm0 : MidL cid d s L s := MidL.refl hw hd hL
  unfold bodyProcessTimeoutsC
  split
  · exact hm0.ret trivial
  · rename_i key hkey
    obtain ⟨hki, fd, hkc⟩ := hw.t.btOk key (List.mem_of_mem_head? hkey)
    obtain ⟨q, hq, hqs⟩ := query?_of_idx hw hki
    simp only [hq]
    split
    · exact hm0.ret trivial
    · have hqc : q.conn = some fd := Sk.qKC_unique hw.q.nodup (query?_sk hq).2.2 hkc
      obtain ⟨cc, hcc, hcfd, _⟩ := hw.c.qc _ hkc fd rfl
      obtain ⟨c, hc⟩ := conn?_of_live (List.mem_map.mpr ⟨cc, hcc, hcfd⟩ : s.sk.liveConn fd)
      simp only [hqc, Option.bind_some, hc]
      have hsk1 : ((s.modQuery key fun q => { q with timeouts := q.timeouts + 1 }).incFailures c.srv q.usingTcp).sk = s.sk := by
        rw [sk_incFailures _ _ _ (show ((s.modQuery key _).servers.map (·.id)).Nodup from server_ids_nodup (s := s) hw)]
        exact sk_modQuery_same _ _ _ fun _ => rfl
      generalize ((s.modQuery key fun q => { q with timeouts := q.timeouts + 1 }).incFailures c.srv q.usingTcp) = s1
        at hsk1
      have hm1 := (hm0.sk_eq hsk1).call h (.requeue key .timeout true none false)
          ⟨by rw [hsk1]; exact WfS.weaken_hole hw, by unfold Sk.Idx; rw [hsk1]; exact hki, by rw [hsk1]; exact hd⟩
          rfl rfl rfl
      exact (hm1.tailL h (c := .processTimeouts) (c' := .processTimeouts) (fun hm => ⟨hm.mid.wf, hm.mid.debt⟩) rfl
        (Or.inl rfl) (Or.inl rfl) (fun _ => trivial)).seq

end Cares.Chan
