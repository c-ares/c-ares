import CaresLemmas.DnsSafe
import CaresLemmas.DnsEscape
import CaresLemmas.BitLemmas
/-!
# The name decompression loop: pointers, iterations, one iteration in closed form, the text it accumulates

Shared by C02, C03 and C04: the mask tests on a length octet as ranges (`byte_lab_iff`, `byte_ptr_iff`,
`ptrOffset_eq`); compression pointers go strictly backwards and the iteration count is bounded (`nameLoop_jumps`,
`nameLoop_iters`, C02); one iteration by the kind of octet at the cursor (`nameLoop_step` and its four cases
`nameLoop_end/_label/_ptr/_ptr_reject`); the output buffer is `escapeName` of the labels read (`accAddAll_escapeName`).
-/
namespace Cares.Dns
open Cares.Generated

/-- the two top bits of a length octet, as `ares_dns_name_parse` masks them -/
theorem toNat_and_c0 (c : UInt8) : (c &&& 0xC0).toNat = 64 * (c.toNat / 64) := by
  have h4 : c.toNat / 64 < 2 ^ 2 := by have := c.toNat_lt; omega
  rw [UInt8.toNat_and]
  exact (and_mul_two_pow c.toNat 3 6).trans (by rw [Nat.and_two_pow_sub_one_of_lt_two_pow (n := 2) h4])

theorem byte_lab_iff (c : UInt8) : (c &&& 0xC0 = 0) ↔ c.toNat < 64 := by
  rw [← UInt8.toNat_inj, toNat_and_c0]
  show 64 * (c.toNat / 64) = 0 ↔ _
  omega

theorem byte_ptr_iff (c : UInt8) : (c &&& 0xC0 = 0xC0) ↔ 192 ≤ c.toNat := by
  rw [← UInt8.toNat_inj, toNat_and_c0]
  show 64 * (c.toNat / 64) = 192 ↔ _
  have := c.toNat_lt
  omega

/-- `(c & 0x3F) << 8 | c2` as a number -/
theorem ptrOffset_eq (c c2 : UInt8) : ptrOffset c c2 = c.toNat % 64 * 256 + c2.toNat := by
  unfold ptrOffset
  rw [Nat.and_two_pow_sub_one_eq_mod c.toNat 6, ← Nat.shiftLeft_add_eq_or_of_lt (i := 8) c2.toNat_lt, Nat.shiftLeft_eq]

/-- a recorded pointer `(position of the pointer, target, label_start then)` goes strictly below
    the lowest position visited so far, which is at most `bound` -/
def JumpOk (bound : Nat) (j : Nat × Nat × Nat) : Prop := j.2.1 < j.2.2 ∧ j.2.2 ≤ j.1 ∧ j.2.2 ≤ bound

theorem JumpOk.weaken {b b' : Nat} {j : Nat × Nat × Nat} (h : JumpOk b j) (hb : b ≤ b') : JumpOk b' j := by
  unfold JumpOk at *; omega

/-- `case7` and `case12` are the two recursive leaves of `nameLoop` (the twelve leaves count in source order): the
    pointer that is followed, and the label that was read; every other leaf returns with `jumps` as it is. -/
theorem nameLoop_jumps (bs : Bytes) (isHost : Bool) (pos ls save : Nat) (acc : BStr) (iters : Nat)
    (jumps : List (Nat × Nat × Nat)) :
    ∃ new, (nameLoop bs isHost pos ls save acc iters jumps).jumps = new ++ jumps ∧
      (∀ j ∈ new, JumpOk (min ls pos) j) ∧ new.Pairwise (fun a b => a.2.1 < b.2.1) := by
  fun_induction nameLoop bs isHost pos ls save acc iters jumps
  case case7 =>  -- the pointer is followed
    rename_i pos ls save acc iters jumps ls' c pos1 h1 hc c2 pos2 h2 offset hge save' hsz ih
    obtain ⟨new, e, hj, hp⟩ := ih
    have hls : ls' = min ls pos := by simp only [ls']; split <;> omega
    refine ⟨new ++ [(pos, offset, ls')], by rw [e]; simp, ?_, ?_⟩
    · intro j hjm
      rcases List.mem_append.1 hjm with hm | hm
      · exact (hj j hm).weaken (by omega)
      · simp only [List.mem_singleton] at hm
        subst hm
        unfold JumpOk
        simp only
        omega
    · rw [List.pairwise_append]
      refine ⟨hp, by simp, ?_⟩
      intro a ha b hb
      simp only [List.mem_singleton] at hb
      subst hb
      have := hj a ha
      unfold JumpOk at this
      simp only
      omega
  case case12 =>  -- a label was read
    rename_i pos ls save acc iters jumps ls' c pos1 h1 hc1 hc2 hz acc' lab pos3 h3 ih
    obtain ⟨new, e, hj, hp⟩ := ih
    have e1 := fetchByte_ok h1
    have e3 := fetchLabel_ok h3
    refine ⟨new, e, ?_, hp⟩
    intro j hjm
    exact (hj j hjm).weaken (by simp only [ls']; split <;> omega)
  all_goals exact ⟨[], by simp, by simp, by simp⟩

theorem nameLoop_iters (bs : Bytes) (isHost : Bool) (pos ls save : Nat) (acc : BStr) (iters : Nat)
    (jumps : List (Nat × Nat × Nat)) :
    (nameLoop bs isHost pos ls save acc iters jumps).iters ≤
      iters + (min ls pos) * (bs.size + 1) + (bs.size - pos) + 1 := by
  fun_induction nameLoop bs isHost pos ls save acc iters jumps
  case case7 =>  -- the pointer is followed
    rename_i pos ls save acc iters jumps ls' c pos1 h1 hc c2 pos2 h2 offset hge save' hsz ih
    have hls : ls' = min ls pos := by simp only [ls']; split <;> omega
    have hm : min ls' offset = offset := by omega
    rw [hm] at ih
    have key : offset * (bs.size + 1) + (bs.size + 1) ≤ (min ls pos) * (bs.size + 1) := by
      have := Nat.mul_le_mul_right (bs.size + 1) (show offset + 1 ≤ min ls pos by omega)
      rw [Nat.add_mul, Nat.one_mul] at this
      exact this
    omega
  case case12 =>  -- a label was read
    rename_i pos ls save acc iters jumps ls' c pos1 h1 hc1 hc2 hz acc' lab pos3 h3 ih
    have e1 := fetchByte_ok h1
    have e3 := fetchLabel_ok h3
    have hm : min ls' pos3 = min ls pos := by simp only [ls']; split <;> omega
    rw [hm] at ih
    omega
  all_goals (simp only; omega)

/-- `label_start` after the update at the top of the loop -/
def lsNext (ls pos : Nat) : Nat := if ls > pos then pos else ls

theorem nameLoop_step (bs : Bytes) (isHost : Bool) (pos ls save : Nat) (acc : BStr) (iters : Nat)
    (jumps : List (Nat × Nat × Nat)) (hle : pos ≤ bs.size) :
    nameLoop bs isHost pos ls save acc iters jumps =
      if hp : pos < bs.size then
        if bs[pos] &&& 0xC0 = 0xC0 then
          if h1 : pos + 1 < bs.size then
            if ptrOffset bs[pos] bs[pos + 1] ≥ lsNext ls pos then ⟨.err .ebadname, iters + 1, jumps⟩
            else nameLoop bs isHost (ptrOffset bs[pos] bs[pos + 1]) (lsNext ls pos)
              (if save = 0 then pos + 2 else save) acc (iters + 1)
              ((pos, ptrOffset bs[pos] bs[pos + 1], lsNext ls pos) :: jumps)
          else ⟨.err .ebadresp, iters + 1, jumps⟩
        else if bs[pos] &&& 0xC0 ≠ 0 then ⟨.err .ebadname, iters + 1, jumps⟩
        else if bs[pos] = 0 then ⟨.ok acc (if save ≠ 0 then save else pos + 1), iters + 1, jumps⟩
        else
          match fetchLabel bs isHost bs[pos].toNat (pos + 1) with
          | .ok lab pos3 =>
            nameLoop bs isHost pos3 (lsNext ls pos) save ((if acc.length ≠ 0 then acc ++ [chDot] else acc) ++ lab)
              (iters + 1) jumps
          | .err e => ⟨.err e, iters + 1, jumps⟩
          | .fault k => ⟨.fault k, iters + 1, jumps⟩
      else ⟨.err .ebadresp, iters + 1, jumps⟩ := by
  rw [nameLoop]
  simp only
  by_cases hp : pos < bs.size
  · have hf : fetchByte bs pos = .ok bs[pos] (pos + 1) := by rw [fetchByte_eq (by omega), dif_pos hp]
    rw [dif_pos hp]
    split
    · rename_i e he; rw [hf] at he; cases he
    · rename_i e he; rw [hf] at he; cases he
    · rename_i c pos1 he
      rw [hf] at he
      cases he
      by_cases hc : bs[pos] &&& 0xC0 = 0xC0
      · rw [if_pos hc, if_pos hc]
        by_cases h1 : pos + 1 < bs.size
        · have hf2 : fetchByte bs (pos + 1) = .ok bs[pos + 1] (pos + 1 + 1) := by
            rw [fetchByte_eq (by omega), dif_pos h1]
          rw [dif_pos h1]
          split
          · rename_i e he; rw [hf2] at he; cases he
          · rename_i e he; rw [hf2] at he; cases he
          · rename_i c2 pos2 he
            rw [hf2] at he
            cases he
            show (if ptrOffset bs[pos] bs[pos + 1] ≥ lsNext ls pos then _ else _) = _
            by_cases hfwd : ptrOffset bs[pos] bs[pos + 1] ≥ lsNext ls pos
            · rw [if_pos hfwd, if_pos hfwd]
            · have hls : lsNext ls pos ≤ pos := by unfold lsNext; split <;> omega
              rw [if_neg hfwd, if_neg hfwd, if_neg (by omega)]
              rfl
        · have hf2 : fetchByte bs (pos + 1) = .err .ebadresp := by
            rw [fetchByte_eq (by omega), dif_neg h1]
          rw [dif_neg h1]
          split
          · rename_i e he; rw [hf2] at he; cases he; rfl
          · rename_i e he; rw [hf2] at he; cases he
          · rename_i c2 pos2 he; rw [hf2] at he; cases he
      · rw [if_neg hc, if_neg hc]
        by_cases hc2 : bs[pos] &&& 0xC0 ≠ 0
        · rw [if_pos hc2, if_pos hc2]
        · rw [if_neg hc2, if_neg hc2]
          by_cases h0 : bs[pos] = 0
          · rw [if_pos h0, if_pos h0]
          · rw [if_neg h0, if_neg h0]
            split <;> rename_i he <;> rw [he] <;> rfl
  · have hf : fetchByte bs pos = .err .ebadresp := by rw [fetchByte_eq hle, dif_neg hp]
    rw [dif_neg hp]
    split
    · rename_i e he; rw [hf] at he; cases he; rfl
    · rename_i e he; rw [hf] at he; cases he
    · rename_i c pos1 he; rw [hf] at he; cases he

/-- append one more label to the text accumulated so far (output side of one loop iteration) -/
def accAdd (acc : BStr) (lab : BStr) : BStr :=
  (if acc.length ≠ 0 then acc ++ [chDot] else acc) ++ escapeLabel lab

def accAddAll (acc : BStr) (labs : List BStr) : BStr := labs.foldl accAdd acc

theorem accAddAll_append (acc : BStr) (l1 l2 : List BStr) :
    accAddAll (accAddAll acc l1) l2 = accAddAll acc (l1 ++ l2) := by
  simp [accAddAll, List.foldl_append]

theorem escapeByte_ne_nil (c : UInt8) : escapeByte c ≠ [] := by
  unfold escapeByte
  split
  · simp
  · split <;> simp

theorem escapeLabel_ne_nil {l : BStr} (h : l ≠ []) : escapeLabel l ≠ [] := by
  cases l with
  | nil => exact (h rfl).elim
  | cons c l =>
    simp only [escapeLabel, List.flatMap_cons]
    intro h0
    exact escapeByte_ne_nil c (List.append_eq_nil_iff.1 h0).1

theorem escapeName_ne_nil {l : BStr} {ls : List BStr} (h : l ≠ []) : escapeName (l :: ls) ≠ [] := by
  cases ls with
  | nil => rw [escapeName_single]; exact escapeLabel_ne_nil h
  | cons l' ls =>
    rw [escapeName_cons₂]
    intro h0
    exact escapeLabel_ne_nil h (List.append_eq_nil_iff.1 h0).1

theorem escapeName_snoc (pre : List BStr) (l : BStr) (hpre : pre ≠ []) :
    escapeName (pre ++ [l]) = escapeName pre ++ chDot :: escapeLabel l := by
  induction pre with
  | nil => exact (hpre rfl).elim
  | cons a rest ih =>
    cases rest with
    | nil => simp [escapeName_cons₂, escapeName_single]
    | cons b rest' =>
      have := ih (by simp)
      simp only [List.cons_append] at this ⊢
      rw [escapeName_cons₂, this, escapeName_cons₂]
      simp

theorem accAdd_escapeName (pre : List BStr) (l : BStr) (hne : ∀ x ∈ pre, x ≠ []) :
    accAdd (escapeName pre) l = escapeName (pre ++ [l]) := by
  cases pre with
  | nil => simp [accAdd, escapeName_nil, escapeName_single]
  | cons a rest =>
    have h1 : escapeName (a :: rest) ≠ [] := escapeName_ne_nil (hne a (by simp))
    have h2 : (escapeName (a :: rest)).length ≠ 0 := by
      intro h0; exact h1 (List.eq_nil_of_length_eq_zero h0)
    rw [escapeName_snoc _ _ (by simp)]
    simp [accAdd, h2]

theorem accAddAll_escapeName (ls pre : List BStr) (hne : ∀ x ∈ pre ++ ls, x ≠ []) :
    accAddAll (escapeName pre) ls = escapeName (pre ++ ls) := by
  induction ls generalizing pre with
  | nil => simp [accAddAll]
  | cons l ls ih =>
    have h1 : accAdd (escapeName pre) l = escapeName (pre ++ [l]) :=
      accAdd_escapeName pre l (fun x hx => hne x (by simp [hx]))
    have := ih (pre ++ [l]) (by intro x hx; apply hne; simp at hx ⊢; exact hx)
    simp only [accAddAll, List.foldl_cons] at this ⊢
    rw [h1, this]
    simp

theorem nameLoop_end {bs : Bytes} {isHost : Bool} {pos ls save : Nat} {acc : BStr} {iters : Nat}
    {jumps : List (Nat × Nat × Nat)} (h : pos < bs.size) (hc : bs[pos] = 0) :
    nameLoop bs isHost pos ls save acc iters jumps =
      ⟨.ok acc (if save ≠ 0 then save else pos + 1), iters + 1, jumps⟩ := by
  rw [nameLoop_step _ _ _ _ _ _ _ _ (by omega), dif_pos h, if_neg (by rw [hc]; decide), if_neg (by rw [hc]; decide),
    if_pos hc]

theorem nameLoop_label {bs : Bytes} {isHost : Bool} {pos ls save : Nat} {acc : BStr} {iters : Nat}
    {jumps : List (Nat × Nat × Nat)} (h : pos < bs.size) (hc0 : bs[pos] ≠ 0) (hc1 : bs[pos] &&& 0xC0 = 0)
    (hfit : pos + 1 + bs[pos].toNat ≤ bs.size)
    (hhost : ¬ (isHost = true ∧ (!(slice bs (pos + 1) bs[pos].toNat).all fun c => isHostnameCh c.toNat) = true)) :
    nameLoop bs isHost pos ls save acc iters jumps =
      nameLoop bs isHost (pos + 1 + bs[pos].toNat) (lsNext ls pos) save
        ((if acc.length ≠ 0 then acc ++ [chDot] else acc) ++ escapeLabel (slice bs (pos + 1) bs[pos].toNat))
        (iters + 1) jumps := by
  have hne : bs[pos].toNat ≠ 0 := fun h0 => hc0 (UInt8.toNat_inj.1 (by simpa using h0))
  rw [nameLoop_step _ _ _ _ _ _ _ _ (by omega), dif_pos h, if_neg (by rw [hc1]; decide), if_neg (fun h => h hc1),
    if_neg hc0, fetchLabel_eq (by omega), if_pos ⟨hne, hfit⟩, if_neg hhost]

theorem nameLoop_ptr {bs : Bytes} {isHost : Bool} {pos ls save : Nat} {acc : BStr} {iters : Nat}
    {jumps : List (Nat × Nat × Nat)} (h : pos + 1 < bs.size) (hc : bs[pos] &&& 0xC0 = 0xC0)
    (hback : ptrOffset bs[pos] bs[pos + 1] < lsNext ls pos) :
    nameLoop bs isHost pos ls save acc iters jumps =
      nameLoop bs isHost (ptrOffset bs[pos] bs[pos + 1]) (lsNext ls pos) (if save = 0 then pos + 2 else save) acc
        (iters + 1) ((pos, ptrOffset bs[pos] bs[pos + 1], lsNext ls pos) :: jumps) := by
  rw [nameLoop_step _ _ _ _ _ _ _ _ (by omega), dif_pos (by omega), if_pos hc, dif_pos h, if_neg (Nat.not_le.2 hback)]

theorem nameLoop_ptr_reject {bs : Bytes} {isHost : Bool} {pos ls save : Nat} {acc : BStr} {iters : Nat}
    {jumps : List (Nat × Nat × Nat)} (h : pos + 1 < bs.size) (hc : bs[pos] &&& 0xC0 = 0xC0)
    (hfwd : ptrOffset bs[pos] bs[pos + 1] ≥ lsNext ls pos) :
    nameLoop bs isHost pos ls save acc iters jumps = ⟨.err .ebadname, iters + 1, jumps⟩ := by
  rw [nameLoop_step _ _ _ _ _ _ _ _ (by omega), dif_pos (by omega), if_pos hc, dif_pos h, if_pos hfwd]

end Cares.Dns
