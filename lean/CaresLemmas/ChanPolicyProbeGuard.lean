import CaresLemmas.ChanPolicyProbe
/-!
# C09 — probes over whole runs: the guarded semantics `execG`

`execG` is `exec` with an assertion at the entry of every *nested* procedure call (the calls a procedure body makes
through `go`): a call `probe srvId key` (`ares_probe_failed_server`) asserts `trigOk`, a call
`sendNolock … owner := probe pid` (the creation of a probe query) asserts `probeSendOk` and that the callback's argument
`pid` is the probed server.  A failed assertion aborts the run
the way running out of fuel does (`St.oof`: the sticky flag `outOfFuel` is set).  `CaresLemmas/ChanPolicyProbeGuardRun.lean`
proves that the assertions never fail: `execG fuel c s = exec fuel c s`.
-/
namespace Cares.Chan

/-- the most recent entry of the pick log is an ordinary attempt (no server requested) of query `key` at server
    `srvId`, and that server had no failures when it was chosen -/
def trigOk (srvId key : Nat) (s : St) : Bool :=
  match s.picks.getLast? with
  | some (k, chosen, requested, prio) => k == key && chosen == srvId && !requested && prio.contains (srvId, 0)
  | none => false

/-- eligibility of server `id` for a probe at the moment the probe query is created: probing is configured, a server
    with this id has failures, its retry time has passed and it has just been marked as being probed; the request that
    triggered the probe (the most recent entry of the pick log) was an ordinary attempt at a *different* server, one
    without failures -/
def probeSendOk (id : Nat) (s : St) : Bool :=
  s.cfg.retryChance != 0 &&
  s.servers.any (fun v => v.id == id && decide (0 < v.failures) && decide (v.nextRetry ≤ s.now) && v.probePending) &&
  match s.picks.getLast? with
  | some (_, chosen, requested, prio) => chosen != id && !requested && prio.contains (chosen, 0)
  | none => false

def ProbeGuard : Call → St → Bool
  | .sendNolock srv nocache noretry _ (.probe pid) react, s =>
    (match srv with
     | some id => nocache && noretry && react.isEmpty && pid == id && probeSendOk id s
     | none => false)
  | .probe srvId key, s => trigOk srvId key s
  | _, _ => true

def guardGo (go : Call → St → St × Ret) : Call → St → St × Ret
  | .sendNolock srv nocache noretry spec (.probe pid) react, s =>
    if ProbeGuard (.sendNolock srv nocache noretry spec (.probe pid) react) s
    then go (.sendNolock srv nocache noretry spec (.probe pid) react) s else s.oof
  | .probe srvId key, s => if ProbeGuard (.probe srvId key) s then go (.probe srvId key) s else s.oof
  | c, s => go c s

def execG : Nat → Call → St → St × Ret
  | 0, _, s => s.oof
  | fuel + 1, call, s => execBody (guardGo (execG fuel)) call s

theorem guardGo_of_guard (go : Call → St → St × Ret) (c : Call) (s : St) (h : ProbeGuard c s = true) :
    guardGo go c s = go c s := by
  unfold guardGo
  split
  · rw [if_pos h]
  · rw [if_pos h]
  · rfl

theorem guardGo_of_not_guard (go : Call → St → St × Ret) (c : Call) (s : St) (h : ProbeGuard c s = false) :
    guardGo go c s = s.oof := by
  unfold guardGo
  split
  · rw [if_neg (by rw [h]; exact Bool.false_ne_true)]
  · rw [if_neg (by rw [h]; exact Bool.false_ne_true)]
  · rename_i h1 h2
    exfalso
    unfold ProbeGuard at h
    split at h
    · exact h1 _ _ _ _ _ _ rfl
    · exact h2 _ _ rfl
    · cases h

/-- every body but `bodyProbe` and `bodySendQuery` makes no guarded call at all: with the assertions in front of `go`
    it is the same function (definitionally) -/
theorem execBody_guard_other (go : Call → St → St × Ret) (c : Call) (s : St)
    (h1 : ∀ a b, c ≠ .probe a b) (h2 : ∀ a b, c ≠ .sendQuery a b) :
    execBody (guardGo go) c s = execBody go c s := by
  cases c
  case probe a b => exact absurd rfl (h1 a b)
  case sendQuery a b => exact absurd rfl (h2 a b)
  all_goals rfl

end Cares.Chan
