import CaresLemmas.ChanWfExec
import CaresLemmas.ChanWfSettle
/-!
# C01 — `ares_destroy`

`ares_destroy` is not called by any other procedure, so it is treated outside the induction on fuel: the walk over
`all_queries` (`cancelLoop … true`) and the closing of the connections are sub-calls covered by `GoGood`.
-/
namespace Cares.Chan

def St.listedFds (s : St) : List Nat := (s.sortedServers.map (·.conns)).flatten

theorem mem_listedFds {s : St} {fd : Nat} : fd ∈ s.listedFds ↔ ∃ v ∈ s.servers, fd ∈ v.conns := by
  unfold St.listedFds
  simp only [List.mem_flatten, List.mem_map]
  constructor
  · rintro ⟨l, ⟨v, hv, rfl⟩, hfd⟩
    exact ⟨v, (sortedServers_perm s).mem_iff.mp hv, hfd⟩
  · rintro ⟨v, hv, hfd⟩
    exact ⟨v.conns, ⟨v, (sortedServers_perm s).mem_iff.mpr hv, rfl⟩, hfd⟩

theorem nodup_flatten_conns {a : Sk} (hw : WfS a none) : ∀ (l : List SSk), (∀ v ∈ l, v ∈ a.servers) →
    (l.map (·.id)).Nodup → (l.map (·.conns)).flatten.Nodup
  | [], _, _ => List.nodup_nil
  | v :: r, hm, hn => by
    simp only [List.map_cons, List.flatten_cons, List.nodup_cons] at hn ⊢
    rw [List.nodup_append]
    refine ⟨hw.s.connsNodup v (hm v List.mem_cons_self),
      nodup_flatten_conns hw r (fun w hw' => hm w (List.mem_cons_of_mem _ hw')) hn.2, ?_⟩
    intro x hx y hy hxy
    subst hxy
    obtain ⟨l, hl, hxl⟩ := List.mem_flatten.mp hy
    obtain ⟨w, hwr, rfl⟩ := List.mem_map.mp hl
    obtain ⟨t1, h1⟩ := hw.s.conns v (hm v List.mem_cons_self) x hx
    obtain ⟨t2, h2⟩ := hw.s.conns w (hm w (List.mem_cons_of_mem _ hwr)) x hxl
    obtain ⟨c1, hc1, e1⟩ := mem_cF4.mp h1
    obtain ⟨c2, hc2, e2⟩ := mem_cF4.mp h2
    simp only [Prod.mk.injEq] at e1 e2
    have := hw.conn_unique hc1 hc2 (by rw [← e1.1, ← e2.1])
    subst this
    exact hn.1 (List.mem_map.mpr ⟨w, hwr, by rw [e2.2.2.1, ← e1.2.2.1]⟩)

theorem nodup_listedFds {s : St} (hw : Wf s) : s.listedFds.Nodup := by
  have hp : (s.sortedServers.map (·.conns)).flatten.Perm (s.servers.map (·.conns)).flatten :=
    ((sortedServers_perm s).map _).flatten
  unfold St.listedFds
  rw [hp.nodup_iff]
  have := nodup_flatten_conns hw s.sk.servers (fun _ h => h) hw.s.nodup
  have e : s.sk.servers.map (·.conns) = s.servers.map (·.conns) := by
    unfold St.sk; simp only [List.map_map]; rfl
  rwa [e] at this

theorem listedFds_linked {s : St} (hw : Wf s) {fd : Nat} (h : fd ∈ s.listedFds) : s.sk.hasConn fd false := by
  obtain ⟨v, hv, hfd⟩ := mem_listedFds.mp h
  obtain ⟨t, ht⟩ := hw.s.conns v.sk (List.mem_map.mpr ⟨v, hv, rfl⟩) fd hfd
  exact hasConn_of_cF4 ht

/-- a connection that has not been unlinked is on a server's list -/
theorem linked_listed {s : St} (hw : Wf s) {fd : Nat} {q : List Nat} (h : (fd, false, q) ∈ s.sk.cFUQ) :
    fd ∈ s.listedFds := by
  obtain ⟨c, hc, he⟩ := mem_cFUQ.mp h
  simp only [Prod.mk.injEq] at he
  obtain ⟨v, hv, _, hfd⟩ := hw.s.linked c.fd c.srv c.tcp (mem_cF4.mpr ⟨c, hc, by rw [← he.2.1]⟩)
  obtain ⟨v0, hv0, rfl⟩ := List.mem_map.mp hv
  exact mem_listedFds.mpr ⟨v0, hv0, by rw [he.1]; exact hfd⟩

variable {cid : Nat}

theorem good_closeAll {goC : GoC} (h : GoGood cid goC) {d} : ∀ (fds : List Nat) (s : St) (L : CLog), fds.Nodup → Wf s →
    DebtOk none d s.sk → s.sk.idx = [] → (∀ fd ∈ fds, s.sk.hasConn fd false) → LG cid L 0 s →
    (closeAllC goC fds s).1.outOfFuel = true ∨
      (Mid d s (closeAllC goC fds s).1 ∧ (closeAllC goC fds s).1.sk.idx = [] ∧
        (closeAllC goC fds s).1.sk.cFUQ = s.sk.cFUQ.filter (fun x => !fds.contains x.1) ∧
        LG cid (L ++ (closeAllC goC fds s).2) 0 (closeAllC goC fds s).1)
  | [], s, L, _, hw, hd, hi, _, hL => Or.inr ⟨Mid.refl hw hd, hi, by
    show s.sk.cFUQ = _
    exact (List.filter_eq_self.mpr (fun _ _ => rfl)).symm, by simpa only [closeAllC, List.append_nil] using hL⟩
  | fd :: rest, s, L, hn, hw, hd, hi, hl, hL => by
    have hn' := List.nodup_cons.mp hn
    simp only [closeAllC, ← List.append_assoc]
    rcases h.call (d := d) (c := .closeConn fd .ok) (s := s) ⟨hw, hl fd List.mem_cons_self, hd⟩ hL with hoof | ⟨hg, hL1⟩
    · left
      rw [closeAllC_fst goC rest (goC (.closeConn fd .ok) s).1.1]
      exact Cares.foldl_inv (P := fun s : St => s.outOfFuel = true) _ (fun _ _ ho => h.1 _ _ ho) rest _ hoof
    · obtain ⟨hc1, hi1⟩ := hg.post hi
      generalize goC (.closeConn fd .ok) s = r1 at hg hc1 hi1 hL1 ⊢
      obtain ⟨⟨s1, ret1⟩, l1⟩ := r1
      simp only at hc1 hi1 hL1 ⊢
      have hl1 : ∀ fd' ∈ rest, s1.sk.hasConn fd' false := by
        intro fd' hfd'
        obtain ⟨q, hq⟩ := hl fd' (List.mem_cons_of_mem _ hfd')
        refine ⟨q, ?_⟩
        rw [hc1]
        refine List.mem_filter.mpr ⟨hq, ?_⟩
        simp only [bne_iff_ne, ne_eq]
        exact fun he => hn'.1 (he ▸ hfd')
      rcases good_closeAll h rest s1 (L ++ l1) hn'.2 hg.wf hg.debt hi1 hl1 hL1 with hoof | ⟨hm, hi2, hc2, hL2⟩
      · exact Or.inl hoof
      · refine Or.inr ⟨(hg.toMid rfl rfl).trans hm, hi2, ?_, hL2⟩
        rw [hc2, hc1, List.filter_filter]
        apply List.filter_congr
        intro x _
        simp only [List.contains_cons, Bool.not_or, bne, Bool.and_comm]

/-- after a completed walk of `ares_cancel` / `ares_destroy` that was not started from inside another walk, nothing
    is linked -/
theorem idx_nil_of_cancelLoop {d st} {s : St} {r : St × Ret} (hg : Good d (.cancelLoop st true) s r)
    (hlc : s.listCopy = []) : r.1.sk.idx = [] := by
  have hall : r.1.all = [] := by
    have : cancelHead r.1 true = none := hg.post
    unfold cancelHead at this
    simp only [↓reduceIte] at this
    cases hs : r.1.all with
    | nil => rfl
    | cons x r => rw [hs] at this; cases this
  have hlc2 : r.1.listCopy = [] := by
    have := hg.step.prog.lcRel
    change LcSub r.1.listCopy s.listCopy at this
    rw [hlc] at this
    exact List.length_eq_zero_iff.mp this.length
  cases hi : r.1.sk.idx with
  | nil => rfl
  | cons k r' =>
    exfalso
    have hk : k ∈ r.1.sk.idx := by rw [hi]; exact List.mem_cons_self
    rcases hg.wf.i.nl k hk with h' | ⟨l, hl, _⟩
    · change k ∈ r.1.all at h'; rw [hall] at h'; cases h'
    · change l ∈ r.1.listCopy at hl; rw [hlc2] at hl; cases hl

/-- `ares_destroy`, called between API calls (no walk in progress) -/
theorem good_destroy {goC : GoC} (h : GoGood cid goC) {d} {s : St} {L : CLog} (hw : Wf s) (hd : DebtOk none d s.sk)
    (hlc : s.listCopy = []) (hL : LG cid L 0 s) :
    (bodyDestroyC goC s).1.1.outOfFuel = true ∨
      (Mid d s (bodyDestroyC goC s).1.1 ∧ (bodyDestroyC goC s).1.1.all = [] ∧ (bodyDestroyC goC s).1.1.byQid = [] ∧
        (∀ c ∈ (bodyDestroyC goC s).1.1.conns, c.unlinked = true) ∧
        (bodyDestroyC goC s).1.1.alive = false ∧ (bodyDestroyC goC s).1.1.destroyed = true ∧
        (∀ k ∈ s.sk.idx, ∀ tok, (k, Owner.user tok) ∈ s.sk.qKO → tok ∈ (bodyDestroyC goC s).1.1.doneToks) ∧
        LG cid (L ++ (bodyDestroyC goC s).2) 0 (bodyDestroyC goC s).1.1) := by
  unfold bodyDestroyC
  simp only
  have hm1 : Mid d s { s with destroying := true } := Mid.of_sk_eq hw hd rfl
  rcases h.call (d := d) (c := .cancelLoop .destruction true) (s := { s with destroying := true })
    ⟨hm1.wf, hm1.debt⟩ (hL.sk_eq rfl) with hoof | ⟨hg, hL2⟩
  · left
    show (closeAllC goC _ _).1.outOfFuel = true
    rw [closeAllC_fst]
    exact Cares.foldl_inv (P := fun s : St => s.outOfFuel = true) _ (fun _ _ ho => h.1 _ _ ho) _ _ hoof
  generalize goC (.cancelLoop .destruction true) { s with destroying := true } = r2 at hg hL2 ⊢
  obtain ⟨⟨s2, ret2⟩, l2⟩ := r2
  simp only at hg hL2 ⊢
  have hw2 : Wf s2 := hg.wf
  have hidx2 : s2.sk.idx = [] := idx_nil_of_cancelLoop hg hlc
  have hdone2 : ∀ k ∈ s.sk.idx, ∀ tok, (k, Owner.user tok) ∈ s.sk.qKO → tok ∈ s2.doneToks := by
    intro k hk tok hko
    rcases hg.step.prog.done6 (WfS.keysLt hm1.wf) (k, .user tok) hko hk (by rw [hidx2]; simp) tok rfl with h' | h'
    · exact h'
    · cases h'
  rcases good_closeAll h s2.listedFds s2 (L ++ l2) (nodup_listedFds hw2) hw2 hg.debt hidx2
    (fun fd hfd => listedFds_linked hw2 hfd) hL2 with hoof | ⟨hm3, hidx3, hc3, hL3⟩
  · exact Or.inl hoof
  have hm : Mid d s (closeAllC goC s2.listedFds s2).1 := (hm1.trans (hg.toMid rfl rfl)).trans hm3
  refine Or.inr ⟨hm.sk_eq rfl, ?_, ?_, ?_, trivial, trivial, ?_, by rw [← List.append_assoc]; exact hL3.congr rfl rfl⟩
  · -- `all` only holds linked keys
    show (closeAllC goC s2.listedFds s2).1.all = []
    cases ha : (closeAllC goC s2.listedFds s2).1.all with
    | nil => rfl
    | cons k r =>
      have := hm3.wf.i.allIdx k (by show k ∈ (closeAllC goC s2.listedFds s2).1.all; rw [ha]; exact List.mem_cons_self)
      change k ∈ (closeAllC goC s2.listedFds s2).1.sk.idx at this
      rw [hidx3] at this; cases this
  · show (closeAllC goC s2.listedFds s2).1.byQid = []
    have : (closeAllC goC s2.listedFds s2).1.byQid.map (·.2) = [] := hidx3
    exact List.map_eq_nil_iff.mp this
  · intro c hc
    show c.unlinked = true
    have hx : (c.fd, c.unlinked, c.queries) ∈ (closeAllC goC s2.listedFds s2).1.sk.cFUQ :=
      mem_cFUQ.mpr ⟨c.sk, List.mem_map.mpr ⟨c, hc, rfl⟩, rfl⟩
    rw [hc3] at hx
    obtain ⟨hx1, hx2⟩ := List.mem_filter.mp hx
    cases hu : c.unlinked with
    | true => rfl
    | false =>
      exfalso
      rw [hu] at hx1
      have := linked_listed hw2 hx1
      simp only [Bool.not_eq_true', List.contains_eq_mem, decide_eq_false_iff_not] at hx2
      exact hx2 this
  · intro k hk tok hko
    exact hm3.step.prog.doneMono tok (hdone2 k hk tok hko)

/-- `ares_destroy` run by the executor: what `good_destroy` says, for `exec` and the log of `execC` -/
theorem exec_destroy {d} (fuel : Nat) {s : St} {L : CLog} (hw : Wf s) (hd : DebtOk none d s.sk) (hlc : s.listCopy = [])
    (hL : LG cid L 0 s) (hf : (exec fuel .destroy s).1.outOfFuel = false) :
    Mid d s (exec fuel .destroy s).1 ∧ (exec fuel .destroy s).1.all = [] ∧ (exec fuel .destroy s).1.byQid = [] ∧
      (∀ c ∈ (exec fuel .destroy s).1.conns, c.unlinked = true) ∧
      (exec fuel .destroy s).1.alive = false ∧ (exec fuel .destroy s).1.destroyed = true ∧
      (∀ k ∈ s.sk.idx, ∀ tok, (k, Owner.user tok) ∈ s.sk.qKO → tok ∈ (exec fuel .destroy s).1.doneToks) ∧
      LG cid (L ++ (execC fuel .destroy s).2) 0 (exec fuel .destroy s).1 := by
  cases fuel with
  | zero => exact absurd hf (by show ¬ (true = false); simp)
  | succ n =>
    have he : execC (n + 1) .destroy s = bodyDestroyC (execC n) s := rfl
    have he' : exec (n + 1) .destroy s = (bodyDestroyC (execC n) s).1 := by rw [← he, execC_fst]
    rw [he, he']
    rw [he'] at hf
    exact (good_destroy (goGood_execC n) hw hd hlc hL).resolve_left (by rw [hf]; simp)

/-- for other properties (C10): the state after the walk of `ares_destroy` over `all_queries` -/
theorem destroy_walk_no_queries (n : Nat) {d} {s : St} (hw : Wf s) (hd : DebtOk none d s.sk) (hlc : s.listCopy = [])
    (hf : (exec n (.cancelLoop .destruction true) { s with destroying := true }).1.outOfFuel = false) :
    Wf (exec n (.cancelLoop .destruction true) { s with destroying := true }).1 ∧
    (exec n (.cancelLoop .destruction true) { s with destroying := true }).1.modelFaults = s.modelFaults ∧
    (∀ c ∈ (exec n (.cancelLoop .destruction true) { s with destroying := true }).1.conns, c.queries = []) ∧
    (∀ c ∈ (exec n (.cancelLoop .destruction true) { s with destroying := true }).1.conns, c.unlinked = false →
      c.fd ∈ ((exec n (.cancelLoop .destruction true) { s with destroying := true }).1.sortedServers.map
        (·.conns)).flatten) := by
  have hm1 : Mid d s { s with destroying := true } := Mid.of_sk_eq hw hd rfl
  have hg := good_exec (d := d) (c := .cancelLoop .destruction true) n ⟨hm1.wf, hm1.debt⟩ hf
  generalize exec n (.cancelLoop .destruction true) { s with destroying := true } = r2 at hg ⊢
  obtain ⟨s2, ret2⟩ := r2
  have hw2 : Wf s2 := hg.wf
  have hidx2 : s2.sk.idx = [] := idx_nil_of_cancelLoop hg hlc
  refine ⟨hw2, hg.step.faults, ?_, ?_⟩
  · intro c hc
    show c.queries = []
    cases hq : c.queries with
    | nil => rfl
    | cons k r =>
      exfalso
      have hk := (hw2.c.cq (c.fd, c.queries) (mem_cFQ.mpr ⟨c.sk, List.mem_map.mpr ⟨c, hc, rfl⟩, rfl⟩) k
        (by rw [hq]; exact List.mem_cons_self)).1
      rw [hidx2] at hk; cases hk
  · intro c hc hu
    exact linked_listed hw2 (q := c.queries) (mem_cFUQ.mpr ⟨c.sk, List.mem_map.mpr ⟨c, hc, rfl⟩, by rw [← hu]; rfl⟩)

end Cares.Chan
