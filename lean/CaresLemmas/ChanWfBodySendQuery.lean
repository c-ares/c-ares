import CaresLemmas.ChanWfSendQ
/-!
# C01 and C12c — body lemmas: `sendQuery`
-/
namespace Cares.Chan

theorem sqConn_ok {d} {s : St} (q : Query) (srv : Server) (hw : Wf s) (hd : DebtOk none d s.sk)
    (hsrv : srv ∈ s.servers) :
    Mid d s (sqConn s q srv).2 ∧ (∀ fd, (sqConn s q srv).1 = .ok fd → (sqConn s q srv).2.sk.hasConn fd false) ∧
      (sqConn s q srv).2.sk.qs = s.sk.qs ∧ (sqConn s q srv).2.sk.byQid = s.sk.byQid := by
  unfold sqConn
  split
  · rename_i fd hex
    refine ⟨Mid.refl hw hd, fun fd' h => ?_, rfl, rfl⟩
    have : fd' = fd := by injection h with h; exact h.symm
    rw [this]; exact fetchConn_hasConn hw hsrv hex
  · exact ⟨(openConn_ok q.usingTcp srv hw hd hsrv).1, (openConn_ok q.usingTcp srv hw hd hsrv).2, by
      rcases openConn_sk s q.usingTcp srv with ⟨h | h, _⟩ | ⟨_, h⟩ <;> rw [h] <;> exact ⟨rfl, rfl⟩⟩

variable {cid : Nat}

/-! `bodySendQueryC` is written over the stages of `ChanExec` (`pickServer`, `fetchConn`, `openConn`, `sqPrepare`,
`sqFlushC`, `sqLinkC`); `pickServer` is `sqChoose`, and `sqLinkPre` with the link is definitionally `sqAttachSt`, whose
skeleton lemma is used here. -/

/-- the flush decision: the skeleton is unchanged -/
theorem sqFlushC_sk {goC : GoC} (h : GoGood cid goC) {d} {s : St} {fd : Nat} {L} (hw : Wf s) (hd : DebtOk none d s.sk)
    (hl : s.sk.liveConn fd) (hL : LG cid L 0 s) :
    (sqFlushC goC fd s).1.2.outOfFuel = true ∨
      ((sqFlushC goC fd s).1.2.sk = s.sk ∧ LG cid (L ++ (sqFlushC goC fd s).2) 0 (sqFlushC goC fd s).1.2) := by
  unfold sqFlushC
  simp only
  split
  · exact Or.inr ⟨rfl, by rw [List.append_nil]; exact hL⟩
  · split
    · exact Or.inr ⟨rfl, by rw [List.append_nil]; exact hL.sk_eq rfl⟩
    · rcases h.call (d := d) (c := .flush fd) (s := s) ⟨hw, hl, hd⟩ hL with hoof | ⟨hg, hL1⟩
      · exact Or.inl hoof
      · exact Or.inr ⟨hg.post, hL1⟩

/-- the query is put on the connection; a downed server may be probed -/
theorem good_sqLink {goC : GoC} (h : GoGood cid goC) {d reqSrv pd key srv fd s0 L} {s : St}
    (hm : MidL cid d s0 L s) (hki : key ∈ s.sk.idx) (hh : s.sk.hasConn fd false) :
    GoodL cid d (.sendQuery reqSrv key) s0 L (sqLinkC goC pd key srv fd s) := by
  have hw := hm.mid.wf
  obtain ⟨q2, hq2, hq2s⟩ := query?_of_idx hw hki
  obtain ⟨c, hc⟩ := conn?_of_live (live_of_hasConn hh)
  unfold sqLinkC
  simp only [hq2, hc]
  have hsk : ((sqLinkPre key srv fd q2 s).modConn fd fun c =>
      { c with queries := c.queries.erase key ++ [key], total := c.total + 1 }).sk = s.sk.attach key fd q2.conn :=
    sk_sqAttachSt s q2 srv key fd
  generalize ((sqLinkPre key srv fd q2 s).modConn fd fun c =>
      { c with queries := c.queries.erase key ++ [key], total := c.total + 1 }) = s2 at hsk ⊢
  have hm2 : MidL cid d s0 L s2 :=
    ⟨hm.mid.trans ⟨by unfold Wf; rw [hsk]; exact wf_attach hw hq2s hki (cFQ_of_hasConn hh),
      by rw [hsk]; exact debt_attach (e := q2.sk) hm.mid.debt,
      by rw [hsk]; exact step_attach (e := q2.sk) (not_unlinked_of_hasConn hw hh)⟩,
     hm.lg.congr (by rw [hsk]; exact attach_qKO) (by rw [hsk]; exact attach_idx)⟩
  split
  · exact (h.callL (d := d) (c := .probe srv.id key) (s := s2) ⟨hm2.mid.wf, hm2.mid.debt⟩ hm2.lg).tail
      (c := .sendQuery reqSrv key) (s := s0) hm2.mid.step (Or.inl rfl) (Or.inl rfl) (fun _ => trivial)
  · exact hm2.ret trivial

/-- every way `ares_send_query` ends once a connection has been found -/
theorem good_sqWriteQ {goC : GoC} (h : GoGood cid goC) {d reqSrv key q srv fd s0 L} {s : St}
    (hm : MidL cid d s0 L s) (hki : key ∈ s.sk.idx) (hh : s.sk.hasConn fd false) :
    GoodL cid d (.sendQuery reqSrv key) s0 L (sqWriteQC goC reqSrv key q srv fd s) := by
  unfold sqWriteQC
  have hskp : (sqPrepare key q srv fd s).1.sk = s.sk := sk_sqPrepare s q srv key fd
  have hqid : (sqPrepare key q srv fd s).2.qid = q.qid := rfl
  have hutcp : (sqPrepare key q srv fd s).2.usingTcp = q.usingTcp := rfl
  generalize sqPrepare key q srv fd s = p at hskp hqid hutcp ⊢
  obtain ⟨sp, qp⟩ := p
  simp only at hskp hqid hutcp ⊢
  have hmp : MidL cid d s0 L sp := hm.sk_eq hskp
  have hf := sqFlushC_sk h (fd := fd) hmp.mid.wf hmp.mid.debt (by rw [hskp]; exact live_of_hasConn hh) hmp.lg
  generalize sqFlushC goC fd sp = f at hf ⊢
  obtain ⟨⟨wst, sw⟩, lf⟩ := f
  simp only at hf ⊢
  rcases hf with hoof | ⟨hskw, hLw⟩
  · -- out of fuel in the flush: every continuation stays out of fuel
    left
    cases wst
    case ok =>
      simp only
      unfold sqLinkC
      split
      · split
        · exact h.oof (by simpa using hoof)
        · simpa using hoof
      · simpa using hoof
      · simpa using hoof
    case nomem => exact h.oof hoof
    case connrefused =>
      simp only
      split
      · exact h.oof hoof
      · exact h.oof (h.oof hoof)
    case badfamily =>
      simp only
      split
      · exact h.oof hoof
      · exact h.oof (h.oof hoof)
    all_goals exact h.oof (by simpa using hoof)
  have hmw : MidL cid d s0 (L ++ lf) sw := ⟨hmp.mid.sk_eq hskw, hLw⟩
  have hkiw : key ∈ sw.sk.idx := by rw [hskw, hskp]; exact hki
  have hhw : sw.sk.hasConn fd false := by rw [hskw, hskp]; exact hh
  have hw := hmw.mid.wf
  -- requeue after a failed write that was not a connection error
  have other : ∀ wst' : Status, GoodL cid d (.sendQuery reqSrv key) s0 (L ++ lf)
      (goC (.requeue key wst' true none false) (sw.incFailures srv.id qp.usingTcp)) := by
    intro wst'
    have h1 := sk_incFailures sw srv.id qp.usingTcp (server_ids_nodup hw)
    have hm1 := hmw.sk_eq h1
    exact (h.callL (d := d) (c := .requeue key wst' true none false)
      ⟨by rw [h1]; exact WfS.weaken_hole hw, by unfold Sk.Idx; rw [h1]; exact hkiw, hm1.mid.debt⟩ hm1.lg).tail'
      hm1.mid.step (Or.inl rfl) (Or.inl rfl) (fun _ => trivial)
  -- a connection error: the connection is closed, then the query (if it survived) is requeued
  have cerr : ∀ wst' : Status, GoodL cid d (.sendQuery reqSrv key) s0 L
      (match (((goC (.connError fd true wst') sw).1.1.byQid.find? (fun (id, k) => id == qp.qid && k == key)).bind
          (fun _ => (goC (.connError fd true wst') sw).1.1.query? key)) with
        | none => (((goC (.connError fd true wst') sw).1.1, Status.cancelled), lf ++ (goC (.connError fd true wst') sw).2)
        | some _ =>
          (((goC (.requeue key wst' true none false) (goC (.connError fd true wst') sw).1.1).1.1,
            if (goC (.requeue key wst' true none false) (goC (.connError fd true wst') sw).1.1).1.2 == .timeout
              then Status.connrefused
              else (goC (.requeue key wst' true none false) (goC (.connError fd true wst') sw).1.1).1.2),
           lf ++ (goC (.connError fd true wst') sw).2 ++
             (goC (.requeue key wst' true none false) (goC (.connError fd true wst') sw).1.1).2)) := by
    intro wst'
    have hm1 := hmw.call h (.connError fd true wst') ⟨hw, hhw, hmw.mid.debt⟩ rfl rfl rfl
    generalize goC (.connError fd true wst') sw = r1 at hm1 ⊢
    obtain ⟨⟨s1, ret1⟩, l1⟩ := r1
    simp only at hm1 ⊢
    rcases hm1 with hoof | hm1
    · left
      split
      · exact hoof
      · exact h.oof hoof
    split
    · exact (hm1.ret (c := .sendQuery reqSrv key) trivial).log_eq (by simp only [List.append_assoc, List.append_nil])
    · rename_i x hx
      -- the close may have run callbacks that cancelled this query: it was looked up again through the qid table
      have hki1 : key ∈ s1.sk.idx := by
        cases hf : s1.byQid.find? (fun (p : Nat × Nat) => p.1 == qp.qid && p.2 == key) with
        | none => rw [hf] at hx; cases hx
        | some p =>
          have h1 := List.find?_some hf
          simp only [Bool.and_eq_true, beq_iff_eq] at h1
          exact List.mem_map.mpr ⟨p, List.mem_of_find?_eq_some hf, h1.2⟩
      exact ((h.callL (d := d) (c := .requeue key wst' true none false) (s := s1)
        ⟨WfS.weaken_hole hm1.mid.wf, hki1, hm1.mid.debt⟩ hm1.lg).tail (c := .sendQuery reqSrv key) (s := s0)
        hm1.mid.step (Or.inl rfl) (Or.inl rfl) (fun _ => trivial)).log_eq
        (by simp only [List.append_assoc])
  cases wst
  case ok => exact (good_sqLink h hmw hkiw hhw).seq
  case nomem =>
    exact ((h.callL (d := d) (c := .endQuery (some srv.id) key .nomem none)
      ⟨WfS.weaken_hole hw, hkiw, hmw.mid.debt⟩ hmw.lg).tail' (c := .sendQuery reqSrv key) (s := s0) hmw.mid.step
      (Or.inl rfl) (Or.inl rfl) (fun _ => trivial)).seq
  case connrefused => exact cerr .connrefused
  case badfamily => exact cerr .badfamily
  all_goals exact (other _).seq

theorem good_sendQuery {goC : GoC} (h : GoGood cid goC) {d reqSrv key s L} (hpre : Pre d s (.sendQuery reqSrv key))
    (hL : LG cid L (xtra cid (.sendQuery reqSrv key)) s) :
    GoodL cid d (.sendQuery reqSrv key) s L (bodySendQueryC goC reqSrv key s) := by
  obtain ⟨hw, hki, hd⟩ := hpre
  have hm0 : MidL cid d s L s := MidL.refl hw hd hL
  obtain ⟨q, hq, hqs⟩ := query?_of_idx hw hki
  unfold bodySendQueryC
  simp only [hq]
  -- the server choice writes at most a random draw
  have hP : (pickServer reqSrv s).2 = s ∨ (pickServer reqSrv s).2 = s.draw1.2 := sqChoose_snd reqSrv s
  have hskP : (pickServer reqSrv s).2.sk = s.sk := by rcases hP with h | h <;> rw [h]; exact sk_draw1 s
  have hsvP : (pickServer reqSrv s).2.servers = s.servers := by
    rcases hP with h | h <;> rw [h]; unfold St.draw1; split <;> rfl
  have hmemP : ∀ {srv : Server}, (pickServer reqSrv s).1 = some srv → srv ∈ s.servers := @sqChoose_fst_mem s reqSrv
  clear hP
  generalize pickServer reqSrv s = P at hskP hsvP hmemP ⊢
  obtain ⟨srv?, sP⟩ := P
  simp only at hskP hsvP hmemP ⊢
  have hmP : MidL cid d s L sP := hm0.sk_eq hskP
  split
  · exact (h.callL (d := d) (c := .endQuery none key .noserver none)
      ⟨WfS.weaken_hole hmP.mid.wf, by unfold Sk.Idx; rw [hskP]; exact hki, hmP.mid.debt⟩ hmP.lg).tail'
      hmP.mid.step (Or.inl rfl) (Or.inl rfl) (fun _ => trivial)
  · rename_i srv
    have hsrvm : srv ∈ s.servers := hmemP rfl
    generalize hs1 : ({ sP with picks := sP.picks ++
        [(key, srv.id, reqSrv.isSome, s.sortedServers.map fun v => (v.id, v.failures))] } : St) = s1
    have hsk1 : s1.sk = s.sk := by rw [← hs1]; exact hskP
    have hsv1 : srv ∈ s1.servers := by rw [← hs1]; show srv ∈ sP.servers; rw [hsvP]; exact hsrvm
    have hm1 : MidL cid d s L s1 := hm0.sk_eq hsk1
    obtain ⟨hmC, hhC, hqC, hbC⟩ := sqConn_ok (d := d) q srv hm1.mid.wf hm1.mid.debt hsv1
    have hiC : (sqConn s1 q srv).2.sk.idx = s1.sk.idx := congrArg (List.map _) hbC
    have hmC' : MidL cid d s L (sqConn s1 q srv).2 :=
      ⟨hm1.mid.trans hmC, hm1.lg.congr (congrArg (List.map _) hqC) hiC⟩
    have hkiC : key ∈ (sqConn s1 q srv).2.sk.idx := by
      rw [hiC, hsk1]; exact hki
    show GoodL cid d _ s L (match (sqConn s1 q srv).1 with
      | .error st => goC (.requeue key st true none false) ((sqConn s1 q srv).2.incFailures srv.id q.usingTcp)
      | .ok fd => sqWriteQC goC reqSrv key q srv fd (sqConn s1 q srv).2)
    generalize sqConn s1 q srv = C at hmC' hhC hkiC ⊢
    obtain ⟨res, sC⟩ := C
    simp only at hmC' hhC hkiC ⊢
    cases res with
    | error st =>
      simp only
      have h1 := sk_incFailures sC srv.id q.usingTcp (server_ids_nodup hmC'.mid.wf)
      have hm2 := hmC'.sk_eq h1
      exact (h.callL (d := d) (c := .requeue key st true none false)
        ⟨by rw [h1]; exact WfS.weaken_hole hmC'.mid.wf, by unfold Sk.Idx; rw [h1]; exact hkiC, hm2.mid.debt⟩
        hm2.lg).tail' hm2.mid.step (Or.inl rfl) (Or.inl rfl) (fun _ => trivial)
    | ok fd =>
      simp only
      exact good_sqWriteQ h hmC' hkiC (hhC fd rfl)

end Cares.Chan
