import CaresLemmas.ChanPolicyWritesSt
import CaresLemmas.ChanReach
/-!
# C06 — the write accounting across calls: what a call needs and what it gives

`PreC`: the credit a call comes with (`sendQuery key`: a write credit for `key`; `requeue key` without `inc_try_count`: a
credit and an exemption; every other call: none).  `GoCredit go`: what the body lemmas assume of the calls they make — the
invariant without credit at exit, the flush frame `FlushRel` (a flush changes nothing the accounting reads but the
spelling of query names: `exec_flush_rel`), the sticky fuel flag.  `c_step`: the leaf tactic of the body lemmas.
-/
namespace Cares.Chan

/-- `s` is `s0` up to the spelling of query names, as far as the accounting projection sees (or out of fuel) -/
def FlushRel (s0 s : St) : Prop :=
  (s0.outOfFuel = true → s.outOfFuel = true) ∧
  (s.outOfFuel = true ∨ ∃ g, NameOnly g ∧ cproj s = { cproj s0 with qs := s0.qs.map g })

theorem FlushRel.refl (s : St) : FlushRel s s := ⟨fun h => h, Or.inr ⟨_, NameOnly.id, (cproj_map_id s).symm⟩⟩

section
variable {s0 : St}

theorem FlushRel.congr {s s' : St} (h1 : cproj s' = cproj s) (h2 : s'.outOfFuel = s.outOfFuel)
    (h : FlushRel s0 s) : FlushRel s0 s' := by
  unfold FlushRel at *; rw [h1, h2]; exact h

theorem FlushRel.mapQs {s s' : St} {g : Query → Query} (hg : NameOnly g)
    (h1 : cproj s' = { cproj s with qs := s.qs.map g }) (h2 : s'.outOfFuel = s.outOfFuel) (h : FlushRel s0 s) :
    FlushRel s0 s' := by
  obtain ⟨ha, hb⟩ := h
  refine ⟨fun h => by rw [h2]; exact ha h, ?_⟩
  rcases hb with hb | ⟨g0, hg0, e0⟩
  · exact Or.inl (by rw [h2]; exact hb)
  · right
    refine ⟨g ∘ g0, hg.comp hg0, ?_⟩
    have hq : s.qs = s0.qs.map g0 := by have := congrArg CP.qs e0; exact this
    rw [h1, hq, e0]; simp [List.map_map]

theorem FlushRel.recordTx {s : St} {fd : Nat} {tcp : Bool} {f : OutFrame} (h : FlushRel s0 s) :
    FlushRel s0 (s.recordTx fd tcp f) := by
  obtain ⟨g, hg, e, ho⟩ := cproj_recordTx s fd tcp f
  exact FlushRel.mapQs hg e ho h

theorem FlushRel.modConn {s : St} {fd : Nat} {f : Conn → Conn} (hf : ∀ c, (f c).fd = c.fd ∧ (f c).tcp = c.tcp)
    (h : FlushRel s0 s) : FlushRel s0 (s.modConn fd f) :=
  FlushRel.congr (s := s) (cproj_modConn s fd f hf) rfl h

theorem FlushRel.advanceOut {s : St} {fuel fd n : Nat} (h : FlushRel s0 s) :
    FlushRel s0 (Cares.Chan.advanceOut fuel fd s n) :=
  advanceOut_induct (fun _ _ _ _ _ _ h => FlushRel.recordTx (FlushRel.modConn (fun _ => ⟨rfl, rfl⟩) h))
    (fun _ _ h => FlushRel.modConn (fun _ => ⟨rfl, rfl⟩) h) fuel s n h

theorem FlushRel.notify {s : St} {fd : Nat} {r w : Bool} (h : FlushRel s0 s) : FlushRel s0 (s.notify fd r w) :=
  FlushRel.congr (cproj_notify s fd r w).1 (cproj_notify s fd r w).2 h

chan_simple_lemmas FlushRel : (FlushRel s0) =>
  emit slog setSock
end

/-- one backward step through `bodyFlush` (a macro and not part of the proof below: every use needs its own `?hf`, `?s0` …) -/
macro "fl_step" : tactic => `(tactic| first
  | with_reducible apply FlushRel.recordTx
  | with_reducible apply FlushRel.advanceOut
  | with_reducible apply FlushRel.notify
  | (with_reducible refine FlushRel.modConn ?hf ?hI; case hf => (intro _; exact ⟨rfl, rfl⟩))
  | with_reducible (first | apply FlushRel.emit | apply FlushRel.slog | apply FlushRel.setSock)
  | (refine FlushRel.congr (s := ?s0) ?h1 ?h2 ?hI
     case h2 => (dsimp only; exact rfl)
     case h1 => exact rfl))

theorem bodyFlush_rel {go : Call → St → St × Ret} {s0 : St}
    (hgo' : ∀ fd s, FlushRel s0 s → FlushRel s0 (go (.flush fd) s).1)
    (fd : Nat) (s : St) (h : FlushRel s0 s) : FlushRel s0 (bodyFlush go fd s).1 := by
  unfold bodyFlush
  body_paths
  all_goals (repeat' (first
              | assumption
              | with_reducible apply hgo'
              | (with_reducible apply pair_fst; assumption)
              | (with_reducible apply pair_snd; assumption)
              | fl_step
              | unfold_state_let
              | split))

/-- **flush frame**: a flush (any fuel) changes nothing the accounting reads except the spelling of query names -/
theorem exec_flush_rel (fuel : Nat) (fd : Nat) (s0 s : St) (h : FlushRel s0 s) :
    FlushRel s0 (exec fuel (.flush fd) s).1 := by
  induction fuel generalizing fd s with
  | zero => exact ⟨fun _ => rfl, Or.inl rfl⟩
  | succ n ih =>
    show FlushRel s0 (bodyFlush (exec n) fd s).1
    exact bodyFlush_rel (fun fd s h => ih fd s h) fd s h

/-- `sendQuery key` needs a write credit for `key`; `requeue key` without `inc_try_count` (the BADCOOKIE path) needs a
    credit and may find the query not yet detached; every other call needs the plain invariant -/
def PreC (tr ns : Nat) : Call → St → Prop
  | .sendQuery _ key, s => CInv tr ns (some key) none s
  | .requeue key _ inc _ _, s => if inc = true then CInv tr ns none none s else CInv tr ns (some key) (some key) s
  | _, s => CInv tr ns none none s

structure GoCredit (tr ns : Nat) (go : Call → St → St × Ret) : Prop where
  inv : ∀ c s, PreC tr ns c s → CInv tr ns none none (go c s).1
  flush : ∀ fd s0 s, FlushRel s0 s → FlushRel s0 (go (.flush fd) s).1
  oof : ∀ c s, s.outOfFuel = true → (go c s).1.outOfFuel = true

section
variable {tr ns : Nat} {cw ex : Option Nat}

theorem CInv.ofFlush {s r : St} (h : CInv tr ns cw ex s) (hf : FlushRel s r) : CInv tr ns cw ex r := by
  rcases h with h | h
  · exact Or.inl (hf.1 h)
  · rcases hf.2 with hr | ⟨g, hg, e⟩
    · exact Or.inl hr
    · right; rw [e]; exact COk.mapQs (coreEq_nameOnly hg) h

theorem PreC.requeueInc {key : Nat} {st : Status} {rec : Option Reply} {d : Bool} {s : St}
    (h : CInv tr ns none none s) : PreC tr ns (.requeue key st true rec d) s := h

end

/-- One backward step for the accounting invariant in the bodies that are proved by hand: the state in the goal is the
    result of a call, the component of a destructured pair, a helper that keeps the invariant, a structure update that
    leaves the projection alone, or a `let` variable to unfold. -/
macro "c_step " hgo:term : tactic => `(tactic| first
  | assumption
  | ((with_reducible apply GoCredit.inv $hgo); show CInv _ _ _ _ _)
  | (with_reducible apply pair_fst; assumption)
  | (with_reducible apply pair_snd; assumption)
  | with_reducible apply CInv.incFailures
  | with_reducible apply CInv.setGood
  | with_reducible apply CInv.mfault
  | (apply cacheInsert_elim; intro _)
  | (refine CInv.ofSameProj (s := ?s0) ?hI ?h1 ?h2
     -- reducing the projection of the outer structure update is what finds `?s0`
     case h2 => (dsimp only; exact rfl)
     case h1 => exact rfl)
  | unfold_state_let
  | split)

end Cares.Chan
