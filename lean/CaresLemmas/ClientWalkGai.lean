import CaresLemmas.ClientWalkHex
import CaresLemmas.ClientExecFold
/-! `host_callback` of the channel model's `gai` client, cut into its two halves
    (`ares_parse_into_addrinfo`, then the decision), and the facts the walk theorems need about each and about
    `next_lookup`. -/
namespace Cares.ClientWalk
open Cares.Chan Cares.Text Cares.Proto

/-- the nodes one answer contributes, rendered "addr/ttl" (the virtual server answers every type other
    than AAAA with A records) -/
def replyNodes (r : Reply) : List String :=
  (List.range r.an).map fun i =>
    s!"{answerAddr (if r.qtype == 28 then 28 else 1) r.mark i}/{r.ttls.getD i (r.ttls.getLastD 300)}"

/-- the nodes the completion `e` adds to the addrinfo: those of its answer when the sub-request succeeded -/
def evNodes (e : Ev) : List String :=
  match e.reply with
  | some r => if effSt e.st e.reply == .ok then replyNodes r else []
  | none => []

/-- `ai->name` after the completion `e` -/
def evAiName (ai : String) (e : Ev) : String :=
  match e.reply with
  | some r =>
    if effSt e.st e.reply == .ok && r.an != 0 then
      (if hexLower ai == hexLower r.name && ai != "" then ai else r.name)
    else ai
  | none => ai

/-- the completion is a successful answer without any record (`addinfo_status = ARES_ENODATA`) -/
def evNodataAns (e : Ev) : Bool :=
  match e.reply with
  | some r => effSt e.st e.reply == .ok && r.an == 0
  | none => false

/-- fields of the client that only `next_lookup` changes -/
structure Same (c c' : Client) : Prop where
  kind : c'.kind = c.kind
  names : c'.names = c.names
  lastName : c'.lastName = c.lastName
  lookups : c'.lookups = c.lookups
  name : c'.name = c.name
  family : c'.family = c.family
  nodataCnt : c'.nodataCnt = c.nodataCnt

theorem replyNodes_nil (r : Reply) (h : r.an = 0) : replyNodes r = [] := by simp [replyNodes, h]

theorem replyNodes_ne_nil (r : Reply) (h : r.an ≠ 0) : replyNodes r ≠ [] := by
  unfold replyNodes
  intro hh
  have := congrArg List.length hh
  simp at this
  exact h this

/-- `.noRetry` actions only (all that the parsing half of `host_callback` returns); such a list is `Quiet` -/
def OnlyNoRetry (acts : List ClientAct) : Prop := ∀ a ∈ acts, ∃ q, a = .noRetry q

theorem OnlyNoRetry.quiet {acts : List ClientAct} (h : OnlyNoRetry acts) : Quiet acts := by
  induction acts with
  | nil => exact Quiet.nil
  | cons x xs ih =>
    obtain ⟨q, rfl⟩ := h x (by simp)
    exact ih fun y hy => h y (by simp [hy])

structure ParseSpec (c : Client) (e : Ev) (p : Client × Chan.Status × List ClientAct) : Prop where
  same : Same c p.1
  remaining : p.1.remaining = c.remaining
  addrs : p.1.addrs = c.addrs ++ evNodes e
  aiName : p.1.aiName = evAiName c.aiName e
  addinfo : p.2.1 = if evNodataAns e then .nodata else .ok
  acts : OnlyNoRetry p.2.2

theorem gaiParse_spec (c : Client) (e : Ev) : ParseSpec c e (gaiParse c (effSt e.st e.reply) e.reply) := by
  unfold gaiParse
  split
  · rename_i st rec r hst hrec
    have hrec' : e.reply = some r := hrec
    have hst' : effSt e.st (some r) = Chan.Status.ok := hrec' ▸ hst
    by_cases han : r.an = 0
    · simp only [han, beq_self_eq_true, ↓reduceIte]
      refine ⟨⟨rfl, rfl, rfl, rfl, rfl, rfl, rfl⟩, rfl, ?_, ?_, ?_, fun a ha => by simp at ha⟩
      · simp [evNodes, hrec', replyNodes_nil r han]
      · simp [evAiName, hrec', han]
      · simp [evNodataAns, hrec', han, hst']
    · have han' : (r.an == 0) = false := by simpa using han
      simp only [han', Bool.false_eq_true, ↓reduceIte]
      split
      · rename_i hq
        simp only [Bool.and_eq_true, Bool.not_eq_eq_eq_not, Bool.not_true, beq_eq_false_iff_ne, ne_eq] at hq
        have h28 : (r.qtype == 28) = false := by simpa using hq.2
        refine ⟨⟨rfl, rfl, rfl, rfl, rfl, rfl, rfl⟩, rfl, ?_, ?_, ?_, fun a ha => by simp at ha⟩
        · simp [evNodes, hrec', hst', replyNodes, h28]
        · simp [evAiName, hrec', hst', han]
        · simp [evNodataAns, hrec', han]
      · rename_i hq
        have hqt : (if (r.qtype == 28) = true then 28 else 1) = r.qtype := by
          by_cases h28 : r.qtype = 28
          · simp [h28]
          · have h1 : r.qtype = 1 := by
              simp only [Bool.and_eq_true, Bool.not_eq_eq_eq_not, Bool.not_true, beq_eq_false_iff_ne, ne_eq,
                not_and, Decidable.not_not] at hq
              exact Classical.byContradiction fun h => h28 (hq h)
            simp [h1]
        refine ⟨⟨rfl, rfl, rfl, rfl, rfl, rfl, rfl⟩, rfl, ?_, ?_, ?_, ?_⟩
        · simp only [evNodes, hrec', hst', replyNodes, hqt, beq_self_eq_true, ↓reduceIte]
        · simp [evAiName, hrec', hst', han]
        · simp [evNodataAns, hrec', han]
        · dsimp only
          split
          · intro a ha; exact ⟨_, by simpa using ha⟩
          · intro a ha; simp at ha
  · rename_i st rec hne
    have hno : ∀ r, e.reply = some r → (effSt e.st e.reply == Chan.Status.ok) = false := by
      intro r hr
      have := hne r
      cases h : effSt e.st e.reply <;> simp_all
    refine ⟨⟨rfl, rfl, rfl, rfl, rfl, rfl, rfl⟩, rfl, ?_, ?_, ?_, fun a ha => by simp at ha⟩
    · cases hr : e.reply with
      | none => simp [evNodes, hr]
      | some r => have h := hno r hr; rw [hr] at h; simp [evNodes, hr, h]
    · cases hr : e.reply with
      | none => simp [evAiName, hr]
      | some r => have h := hno r hr; rw [hr] at h; simp [evAiName, hr, h]
    · cases hr : e.reply with
      | none => simp [evNodataAns, hr]
      | some r => have h := hno r hr; rw [hr] at h; simp [evNodataAns, hr, h]

/-- the outcome of the candidate as `host_callback` judges it when its last sub-request completes with
    status `st` (`nd`: a successful answer without records) and `c.addrs` collected -/
def tailOutcome (c : Client) (st : Chan.Status) (nd : Bool) : Chan.Status :=
  if st == .destruction || st == .cancelled then st
  else if !c.addrs.isEmpty then .ok
  else if nd then .nodata else st

/-- the digest handed to the user callback -/
def tailDigest (c : Client) (st : Chan.Status) : String :=
  if st == .destruction || st == .cancelled then "ai="
  else if !c.addrs.isEmpty then gaiDigest c else "ai="

theorem gaiTail_mid (cfg : Cfg) (st : Chan.Status) (x : Client × Chan.Status × List ClientAct)
    (h : x.1.remaining ≠ 0) : gaiTail cfg st x = (x.1, x.2.2) := by
  unfold gaiTail; simp [h]

/-- the last sub-request of a candidate has completed: `host_callback`'s chain of tests decides as `softB` does on
    the candidate's outcome (go on to the next lookup, or finish) -/
theorem gaiTail_last (cfg : Cfg) (c : Client) (st : Chan.Status) (nd : Bool) (acts : List ClientAct)
    (h0 : c.remaining = 0) (hnd : nd = true → st = .ok) :
    gaiTail cfg st (c, if nd then .nodata else .ok, acts) =
      if softB c.lastName (tailOutcome c st nd) then
        ((gaiNextLookup cfg 8
          { c with nodataCnt := c.nodataCnt + (if tailOutcome c st nd == .nodata then 1 else 0) }
          (if (c.nodataCnt + (if tailOutcome c st nd == .nodata then 1 else 0)) != 0 then .nodata
           else tailOutcome c st nd)).1,
         acts ++ (gaiNextLookup cfg 8
          { c with nodataCnt := c.nodataCnt + (if tailOutcome c st nd == .nodata then 1 else 0) }
          (if (c.nodataCnt + (if tailOutcome c st nd == .nodata then 1 else 0)) != 0 then .nodata
           else tailOutcome c st nd)).2)
      else (c, acts ++ [.finish (tailOutcome c st nd) c.timeouts (tailDigest c st)]) := by
  have hr : (c.remaining != 0) = false := by simp [h0]
  unfold gaiTail tailDigest tailOutcome softB
  simp only [hr, Bool.false_eq_true, ↓reduceIte]
  by_cases hA : (st == .destruction || st == .cancelled) = true
  · have : st = .destruction ∨ st = .cancelled := by simpa using hA
    rcases this with rfl | rfl <;> simp
  · simp only [hA, Bool.false_eq_true, ↓reduceIte]
    cases nd with
    | true =>
      cases hnd rfl
      cases c.addrs.isEmpty <;> simp
    | false =>
      cases c.addrs.isEmpty
      · simp
      · by_cases h1 : st = .nodata
        · subst h1; simp
        · by_cases h2 : st = .notfound
          · subst h2; simp
          · -- neither: the candidate goes on exactly when the server failed on a single-label name
            simp only [h1, h2, beq_iff_eq, Bool.or_eq_true, Bool.and_eq_true, or_self, false_or, bne_iff_ne, ne_eq,
              Bool.false_eq_true, ↓reduceIte, Bool.not_true, Nat.add_zero, reduceCtorEq, not_true_eq_false, false_and]

/-- the sub-requests `next_dns_lookup` starts for one candidate -/
def famSpecs (fam : Nat) (n : String) : List (String × Nat) :=
  if fam == 2 then [(n, 1)] else if fam == 10 then [(n, 28)] else [(n, 1), (n, 28)]

/-- number of sub-requests per candidate -/
def famCount (fam : Nat) : Nat := if fam == 2 then 1 else if fam == 10 then 1 else 2

/-- no candidate left: whatever lookups remain, the request ends with the status carried along and
    without addresses -/
theorem gaiNextLookup_done (cfg : Cfg) (fuel : Nat) : ∀ (c : Client) (st : Chan.Status), c.names = [] →
    ∃ c', gaiNextLookup cfg fuel c st = (c', [.finish st c.timeouts "ai="]) := by
  induction fuel with
  | zero => intro c st _; exact ⟨c, rfl⟩
  | succ f ih =>
    intro c st hn
    unfold gaiNextLookup
    split
    · split
      · simp only [gaiNextDns, hn]
        exact ih _ st rfl
      · exact ih { c with lookups := _ } st hn
    · exact ih { c with lookups := _ } st hn
    · exact ⟨c, rfl⟩

/-- leading `f` (hosts file, empty in the simulator) entries are skipped -/
theorem gaiNextLookup_skip_f (cfg : Cfg) (k : Nat) : ∀ (fuel : Nat) (c : Client) (st : Chan.Status) (l : List Char),
    c.lookups = List.replicate k 'f' ++ l →
    gaiNextLookup cfg (fuel + k) c st = gaiNextLookup cfg fuel { c with lookups := l } st := by
  induction k with
  | zero => intro fuel c st l h; simp at h; subst h; rfl
  | succ k ih =>
    intro fuel c st l h
    rw [List.replicate_succ, List.cons_append] at h
    rw [← Nat.add_assoc]
    conv => lhs; unfold gaiNextLookup
    simp only [h]
    exact ih fuel { c with lookups := List.replicate k 'f' ++ l } st l rfl

end Cares.ClientWalk
