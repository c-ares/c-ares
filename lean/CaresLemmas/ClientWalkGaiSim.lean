import CaresLemmas.ClientWalkGaiStep
import CaresLemmas.ClientWalkSearch
/-! The `gai` client of the channel model is a `Walker`: each candidate receives `famCount family` completions
    (a *group*). -/
namespace Cares.ClientWalk
open Cares.Chan Cares.Text Cares.Proto

/-- all nodes the completions of one candidate delivered, in arrival order -/
def grpNodes (grp : List Ev) : List String := grp.flatMap evNodes
/-- `ai->name` after the completions of one candidate -/
def grpAiName (grp : List Ev) : String := grp.foldl evAiName ""
/-- the candidate's outcome (judged at its last completion).  A group is never empty (`famCount_pos`); `.timeout` for
    `[]` is what model (A) reads for a missing outcome (`outcomeAt`). -/
def grpStatus (grp : List Ev) : Chan.Status :=
  match grp.getLast? with
  | none => .timeout
  | some e => candOut (grpNodes grp) e
def grpOutcome (grp : List Ev) : Outcome := stMap (grpStatus grp)
/-- the digest of a request that finishes at this candidate -/
def grpDigest (grp : List Ev) : String :=
  match grp.getLast? with
  | none => "ai="
  | some e => candDigest (grpNodes grp) (grpAiName grp) e

theorem GSt.cast {c name fam lr cand rest any k k' A A' ai ai'} (h : GSt c name fam lr cand rest any k A ai)
    (hk : k = k') (hA : A = A') (hai : ai = ai') : GSt c name fam lr cand rest any k' A' ai' := by
  subst hk hA hai; exact h

theorem famCount_pos (fam : Nat) : 0 < famCount fam := by
  unfold famCount; split
  · omega
  · split <;> omega

theorem evAiName_of_nodes_nil (ai : String) (e : Ev) (h : evNodes e = []) : evAiName ai e = ai := by
  unfold evNodes at h
  unfold evAiName
  split
  · rename_i r hr
    have hE : effSt e.st e.reply = effSt e.st (some r) := by rw [hr]
    rw [hr] at h
    rw [hE]
    by_cases hok : (effSt e.st (some r) == Chan.Status.ok) = true
    · simp only [hok, ↓reduceIte] at h
      have : r.an = 0 := Classical.byContradiction fun hn => replyNodes_ne_nil r hn h
      simp [this]
    · simp [hok]
  · rfl

theorem foldl_evAiName_nil (pre : List Ev) (ai : String) (h : pre.flatMap evNodes = []) :
    pre.foldl evAiName ai = ai := by
  induction pre generalizing ai with
  | nil => rfl
  | cons e pre ih =>
    simp only [List.flatMap_cons, List.append_eq_nil_iff] at h
    rw [List.foldl_cons, evAiName_of_nodes_nil ai e h.1, ih ai h.2]

/-- the completions before the candidate's last one only collect -/
theorem gai_pre (cfg : Cfg) {name fam lr cand rest any} (pre : List Ev) :
    ∀ (c : Client) (A : List String) (ai : String) (k : Nat) (es : List Ev) (w : Walk), w.fin = none →
      GSt c name fam lr cand rest any (k + 1 + pre.length) A ai →
      ∃ c', walkFrom cfg c (pre ++ es) w = walkFrom cfg c' es w ∧
        GSt c' name fam lr cand rest any (k + 1) (A ++ pre.flatMap evNodes) (pre.foldl evAiName ai) := by
  induction pre with
  | nil => intro c A ai k es w _ h; exact ⟨c, rfl, h.cast rfl (by simp) rfl⟩
  | cons e pre ih =>
    intro c A ai k es w hw h
    have h' := (h.cast (k' := k + pre.length + 2) (by simp only [List.length_cons]; omega) rfl rfl).setQids e.qids
    obtain ⟨hst, hacts⟩ := gai_step_mid cfg h' e
    obtain ⟨c', hwalk, hc'⟩ := ih _ _ _ k es w hw (hst.cast (by omega) rfl rfl)
    refine ⟨c', ?_, hc'.cast rfl (by simp) rfl⟩
    simp only [List.cons_append, walkFrom, hw, Option.isSome_none, Bool.false_eq_true, ↓reduceIte, hacts]
    exact hwalk

/-- the `.finish` action `f` is the one the candidate whose completions are `win` produces: its digest, and
    its status unless all candidates soft-failed and one of them had no data (then ENODATA, no addresses) -/
def FinOk (f : Chan.Status × Nat × String) (win : List Ev) : Prop :=
  f.2.2 = grpDigest win ∧ (f.1 = grpStatus win ∨ (f.1 = .nodata ∧ f.2.2 = "ai="))

/-- what model (A)'s names look like on the wire of the `gai` client -/
def tagFam (fam : Nat) (l : List Name) : List (String × Nat) := l.flatMap fun n => famSpecs fam (hex n)

theorem grp_concat (pre : List Ev) (e : Ev) :
    grpStatus (pre ++ [e]) = candOut (([] ++ pre.flatMap evNodes) ++ evNodes e) e ∧
    grpDigest (pre ++ [e]) =
      candDigest (([] ++ pre.flatMap evNodes) ++ evNodes e) (evAiName (pre.foldl evAiName "") e) e := by
  simp [grpStatus, grpDigest, grpNodes, grpAiName, List.flatMap_append, List.foldl_append]

theorem grpDigest_soft (last : String) (g : List Ev) (h : softB last (grpStatus g) = true) : grpDigest g = "ai=" := by
  unfold grpStatus at h
  unfold grpDigest
  cases hl : g.getLast? with
  | none => rfl
  | some e => rw [hl] at h; exact candDigest_soft last _ _ e h

/-- the `gai` client with all sub-requests of a candidate outstanding; a request that ends at a candidate reports that
    candidate's digest -/
def gaiWalker (cfg : Cfg) (name : String) (fam : Nat) (lr : List Char) (hloc : isLocalhost name = false) :
    Walker cfg where
  At c cand rest any := GSt c name fam lr cand rest any (famCount fam) [] ""
  grp := famCount fam
  out := grpStatus
  specs n := famSpecs fam (hex n)
  Dg dg g := dg = grpDigest g
  idle tail w hat ht hw := by
    obtain ⟨c', h, _⟩ := gai_pre cfg tail _ [] "" (famCount fam - 1 - tail.length) [] w hw (hat.cast (by omega) rfl rfl)
    rw [List.append_nil] at h
    exact h
  step g es w hat hg hw := by
    rcases List.eq_nil_or_concat g with rfl | ⟨pre, e, rfl⟩
    · have := famCount_pos fam; simp at hg; omega
    rw [List.concat_eq_append] at hg ⊢
    obtain ⟨c', hwk, hc'⟩ := gai_pre cfg pre _ [] "" 0 (e :: es) w hw (hat.cast (by simp at hg; omega) rfl rfl)
    obtain ⟨hgs, hgd⟩ := grp_concat pre e
    have hst := gai_step cfg (hc'.setQids e.qids) hloc e
    rw [List.append_assoc, List.singleton_append, hwk, hgs]
    simp only [walkFrom, hw, Option.isSome_none, Bool.false_eq_true, ↓reduceIte]
    split <;> rename_i hv <;> rw [hv] at hst
    · obtain ⟨t, ha⟩ := hst
      exact ⟨t, _, by rw [ha]; exact walkFrom_fin _ _ _ _ rfl, hgd.symm⟩
    · obtain ⟨ha, hn⟩ := hst
      have hnil := candOut_soft_nodes _ _ _ (verdict_next hv).1
      have hai : evAiName (pre.foldl evAiName "") e = "" := by
        simp only [List.nil_append, List.append_eq_nil_iff] at hnil
        rw [evAiName_of_nodes_nil _ e hnil.2, foldl_evAiName_nil pre "" hnil.1]
      exact ⟨_, by rw [ha, hw], hn.cast rfl hnil hai⟩

end Cares.ClientWalk
