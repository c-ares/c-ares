import CaresModel.Dns.Escape
/-!
# Presentation-format names: unescaping the escaped form gives back the label bytes (helper lemmas for C04)
-/
namespace Cares.Dns
open Cares.Generated

/-- shape of the presentation form of one byte, as a decidable check over the generated character
    tables: plain (and then neither `.` nor `\`), `\c` with `c` not a digit, or `\DDD` with value `c` -/
def byteShapeOk (c : UInt8) : Bool :=
  match escapeByte c with
  | [x] => x == c && c != chDot && c != chBackslash
  | [b, x] => b == chBackslash && x == c && !isDigit c.toNat
  | [b, d1, d2, d3] =>
    b == chBackslash && isDigit d1.toNat && isDigit d2.toNat && isDigit d3.toNat &&
      ((d1.toNat - 48) * 100 + (d2.toNat - 48) * 10 + (d3.toNat - 48) == c.toNat)
  | _ => false

/-- table obligation: holds for every byte (kernel evaluation over the 256 bytes) -/
theorem byteShape_all : ∀ n, n < 256 → byteShapeOk n.toUInt8 = true := by decide +kernel

theorem byteShape (c : UInt8) : byteShapeOk c = true := by
  have := byteShape_all c.toNat c.toNat_lt
  simpa using this

theorem splitLoop_escapeByte (c : UInt8) (rest : BStr) (st : SplitSt) :
    splitLoop false (escapeByte c ++ rest) st = splitLoop false rest { st with cur := st.cur ++ [c] } := by
  have h := byteShape c
  unfold byteShapeOk at h
  split at h
  · rename_i x hx
    simp only [Bool.and_eq_true, beq_iff_eq, bne_iff_ne, ne_eq] at h
    obtain ⟨⟨rfl, h1⟩, h2⟩ := h
    rw [hx]
    simp only [List.cons_append, List.nil_append]
    rw [splitLoop]
    simp [h1, h2]
  · rename_i b x hx
    simp only [Bool.and_eq_true, beq_iff_eq, Bool.not_eq_eq_eq_not, Bool.not_true] at h
    obtain ⟨⟨rfl, rfl⟩, h3⟩ := h
    rw [hx]
    simp only [List.cons_append, List.nil_append]
    rw [splitLoop]
    have hbd : chBackslash ≠ chDot := by decide
    have hp : parseEscape false (x :: rest) = .ok (x, rest) := by
      simp [parseEscape, h3]
    simp only [if_neg hbd, ↓reduceIte]
    split
    · rename_i e he; rw [hp] at he; simp at he
    · rename_i b' rest' he
      rw [hp] at he
      injection he with he; cases he; rfl
  · rename_i b d1 d2 d3 hx
    simp only [Bool.and_eq_true, beq_iff_eq] at h
    obtain ⟨⟨⟨⟨rfl, h1⟩, h2⟩, h3⟩, h4⟩ := h
    rw [hx]
    simp only [List.cons_append, List.nil_append]
    rw [splitLoop]
    have hbd : chBackslash ≠ chDot := by decide
    have hv : ¬ (c.toNat > 255) := by have := c.toNat_lt; omega
    have hp : parseEscape false (d1 :: d2 :: d3 :: rest) = .ok (c, rest) := by
      simp [parseEscape, h1, h2, h3, h4, hv]
    simp only [if_neg hbd, ↓reduceIte]
    split
    · rename_i e he; rw [hp] at he; simp at he
    · rename_i b' rest' he
      rw [hp] at he
      injection he with he; cases he; rfl
  · simp at h

theorem splitLoop_escapeLabel (l : BStr) (rest : BStr) (st : SplitSt) :
    splitLoop false (escapeLabel l ++ rest) st = splitLoop false rest { st with cur := st.cur ++ l } := by
  induction l generalizing st with
  | nil => simp [escapeLabel]
  | cons c l ih =>
    simp only [escapeLabel, List.flatMap_cons, List.append_assoc]
    rw [splitLoop_escapeByte]
    have := ih (st := { st with cur := st.cur ++ [c] })
    simp only [escapeLabel] at this
    rw [this]
    simp

theorem escapeName_nil : escapeName [] = [] := by simp [escapeName]
theorem escapeName_single (l : BStr) : escapeName [l] = escapeLabel l := by simp [escapeName]
theorem escapeName_cons₂ (l l' : BStr) (ls : List BStr) :
    escapeName (l :: l' :: ls) = escapeLabel l ++ chDot :: escapeName (l' :: ls) := by
  simp [escapeName, List.intercalate]

theorem splitLoop_escapeName (l : BStr) (ls : List BStr) (st : SplitSt) :
    splitLoop false (escapeName (l :: ls)) st =
      .ok { done := st.done ++ ((st.cur ++ l) :: ls).dropLast, cur := ((st.cur ++ l) :: ls).getLast (by simp) } := by
  induction ls generalizing l st with
  | nil =>
    rw [escapeName_single]
    have := splitLoop_escapeLabel l [] st
    simp only [List.append_nil] at this
    rw [this, splitLoop]
    simp
  | cons l' ls ih =>
    rw [escapeName_cons₂, splitLoop_escapeLabel, splitLoop]
    simp only [↓reduceIte]
    rw [ih]
    simp

theorem unescape_escapeName (labels : List BStr) (hne : ∀ l ∈ labels, l ≠ []) :
    unescapeName false (escapeName labels) = .ok labels := by
  unfold unescapeName
  cases labels with
  | nil =>
    rw [escapeName_nil, splitLoop]
    simp [Except.map, splitFinish]
  | cons l ls =>
    rw [splitLoop_escapeName]
    simp only [Except.map, List.nil_append]
    have hd : (l :: ls).dropLast ++ [(l :: ls).getLast (by simp)] = l :: ls :=
      List.dropLast_concat_getLast (by simp)
    have hlast : (l :: ls).getLast (by simp) ≠ [] := hne _ (List.getLast_mem _)
    congr 1
    unfold splitFinish
    simp only [hd]
    have h1 : (l :: ls).getLast?.map List.length ≠ some 0 := by
      rw [List.getLast?_eq_some_getLast (by simp)]
      simp only [Option.map_some, ne_eq, Option.some.injEq]
      intro h0
      exact hlast (List.eq_nil_of_length_eq_zero h0)
    simp [h1]
end Cares.Dns
