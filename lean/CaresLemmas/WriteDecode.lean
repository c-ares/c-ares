import CaresLemmas.WriteName
/-!
# Name layer of the writer: what the written bytes denote

* `Decodes.append`: appending to a message never changes what an earlier name decodes to;
* `decodes_encodeLabels`, `decodes_pointer`: labels in place, then a terminator or a pointer;
* `findOff_spec`: a match of `ares_nameoffset_find` is a stored name that is a whole-label tail;
* `NInv` / `nameWrite_spec`: the offset-list invariant ("every stored `(name, idx)` decodes at `idx` to
  `name`'s labels, reading only bytes already written, and `idx` fits into 14 bits") is preserved by
  `ares_dns_name_write`, the bytes it appends decode to the labels of the name, and the 14-bit mask
  never drops a bit.
-/
namespace Cares.Dns.NameW
open Cares.Dns

theorem Decodes.pos_lt {msg : BStr} {lo pos e : Nat} {ls : List BStr} (h : Decodes msg lo pos ls e) :
    pos < msg.length := by
  cases h with
  | root h => exact (List.getElem?_eq_some_iff.1 h).1
  | label h => exact (List.getElem?_eq_some_iff.1 h).1
  | ptr h => exact (List.getElem?_eq_some_iff.1 h).1

theorem Decodes.append {msg : BStr} {lo pos e : Nat} {ls : List BStr} (more : BStr)
    (h : Decodes msg lo pos ls e) : Decodes (msg ++ more) lo pos ls e := by
  induction h with
  | root h =>
    exact .root (by rw [List.getElem?_append_left (List.getElem?_eq_some_iff.1 h).1]; exact h)
  | @label lo pos e c lab rest h h0 h63 hl hlen _ ih =>
    have hp := (List.getElem?_eq_some_iff.1 h).1
    refine .label (by rw [List.getElem?_append_left hp]; exact h) h0 h63 ?_ hlen ih
    subst hl
    have : pos + 1 + c.toNat ≤ msg.length := by
      rw [List.length_take, List.length_drop] at hlen; omega
    rw [List.drop_append_of_le_length (by omega), List.take_append_of_le_length]
    rw [List.length_drop]; omega
  | @ptr lo pos e' c d ls h hc hd hlt _ ih =>
    have hp := (List.getElem?_eq_some_iff.1 h).1
    have hp1 := (List.getElem?_eq_some_iff.1 hd).1
    exact .ptr (by rw [List.getElem?_append_left hp]; exact h) hc
      (by rw [List.getElem?_append_left hp1]; exact hd) hlt ih

theorem Decodes.mono_lo {msg : BStr} {lo lo' pos e : Nat} {ls : List BStr} (hle : lo ≤ lo')
    (h : Decodes msg lo pos ls e) : Decodes msg lo' pos ls e := by
  induction h generalizing lo' with
  | root h => exact .root h
  | label h h0 h63 hl hlen _ ih => exact .label h h0 h63 hl hlen (ih hle)
  | ptr h hc hd hlt hr _ => exact .ptr h hc hd (by omega) hr

theorem wireLabels_cons {l : BStr} {ls : List BStr} :
    wireLabels (l :: ls) = true ↔ (0 < l.length ∧ l.length ≤ 63) ∧ wireLabels ls = true := by
  simp [wireLabels]

theorem getElem?_mid (pre : BStr) (x : UInt8) (post : BStr) : (pre ++ x :: post)[pre.length]? = some x := by
  simp

/-- labels written one after the other decode to themselves, followed by whatever the rest denotes -/
theorem decodes_encodeLabels (ls : List BStr) (hw : wireLabels ls = true) (pre tail : BStr) (lo : Nat)
    (rest : List BStr) (e : Nat)
    (h : Decodes (pre ++ encodeLabels ls ++ tail) lo (pre.length + (encodeLabels ls).length) rest e) :
    Decodes (pre ++ encodeLabels ls ++ tail) lo pre.length (ls ++ rest) e := by
  induction ls generalizing pre with
  | nil => simpa [encodeLabels] using h
  | cons l r ih =>
    obtain ⟨⟨h0, h63⟩, hr⟩ := wireLabels_cons.1 hw
    have hmod : l.length % 256 = l.length := by omega
    -- the message seen with the first label moved into the prefix
    have hmsg : pre ++ encodeLabels (l :: r) ++ tail =
        (pre ++ UInt8.ofNat (l.length % 256) :: l) ++ encodeLabels r ++ tail := by
      simp [encodeLabels, List.append_assoc]
    have hlen : (pre ++ UInt8.ofNat (l.length % 256) :: l).length + (encodeLabels r).length =
        pre.length + (encodeLabels (l :: r)).length := by
      simp [encodeLabels]; omega
    rw [hmsg] at h ⊢
    rw [← hlen] at h
    have ih' := ih hr (pre ++ UInt8.ofNat (l.length % 256) :: l) h
    have hc : (UInt8.ofNat (l.length % 256)).toNat = l.length := by
      rw [ofNat_toNat_lt _ (by omega), hmod]
    refine .label (c := UInt8.ofNat (l.length % 256)) ?_ (by omega) (by omega) ?_ (by omega) ?_
    · simp [List.append_assoc]
    · rw [hc]
      simp [List.append_assoc, List.drop_append, List.take_append]
    · rw [hc]
      have : pre.length + 1 + l.length = (pre ++ UInt8.ofNat (l.length % 256) :: l).length := by
        simp; omega
      rw [this]
      exact ih'

/-- the two bytes of `0xC000 | idx` -/
theorem ptrOff_be16 (idx : Nat) (h : idx < 0x4000) :
    ∃ c d : UInt8, be16 (0xC000 + idx % 0x4000) = [c, d] ∧ 192 ≤ c.toNat ∧ ptrOff c d = idx := by
  refine ⟨_, _, rfl, ?_, ?_⟩
  · rw [ofNat_toNat_lt _ (Nat.mod_lt _ (by decide))]; omega
  · unfold ptrOff
    rw [ofNat_toNat_lt _ (Nat.mod_lt _ (by decide)), ofNat_toNat_lt _ (Nat.mod_lt _ (by decide))]; omega

theorem decodes_pointer (pre tail : BStr) (idx lo e' : Nat) (ls : List BStr) (h14 : idx < 0x4000)
    (hlo : idx < lo)
    (h : Decodes (pre ++ be16 (0xC000 + idx % 0x4000) ++ tail) idx idx ls e') :
    Decodes (pre ++ be16 (0xC000 + idx % 0x4000) ++ tail) lo pre.length ls (pre.length + 2) := by
  obtain ⟨c, d, hb, hc, hp⟩ := ptrOff_be16 idx h14
  rw [hb] at h ⊢
  rw [← hp] at h hlo
  refine .ptr (c := c) (d := d) ?_ hc ?_ hlo h
  · simp [List.append_assoc]
  · simp [List.append_assoc]

theorem decodes_root (pre tail : BStr) (lo : Nat) :
    Decodes (pre ++ [0] ++ tail) lo pre.length [] (pre.length + 1) :=
  .root (by simp [List.append_assoc])

/-- what a match guarantees -/
def IsTail (name : BStr) (o : NameOff) : Prop :=
  o.name.length ≤ name.length ∧ name.drop (name.length - o.name.length) = o.name ∧
    (name.length - o.name.length ≠ 0 → name[name.length - o.name.length - 1]? = some dot)

theorem findStep_spec (names : List NameOff) (name : BStr) (best : Option NameOff) (v : NameOff)
    (hv : v ∈ names) (hb : ∀ o, best = some o → o ∈ names ∧ IsTail name o) :
    ∀ o, findStep name best v = some o → o ∈ names ∧ IsTail name o := by
  intro o ho
  unfold findStep at ho
  by_cases c1 : v.name.length > name.length
  · rw [if_pos c1] at ho; exact hb o ho
  rw [if_neg c1] at ho
  have hstep : ∀ (c : Bool), (if c = true then best else
        (have prefixLen := name.length - v.name.length;
        if name.drop prefixLen ≠ v.name then best
        else if (decide (prefixLen ≠ 0) && decide (name[prefixLen - 1]? ≠ some dot)) = true then best
        else if (decide (prefixLen ≠ 0) && decide (backslashesBefore name (prefixLen - 1) % 2 ≠ 0)) = true then best
        else some v)) = some o → o ∈ names ∧ IsTail name o := by
    intro c ho
    by_cases c2 : c = true
    · rw [if_pos c2] at ho; exact hb o ho
    rw [if_neg c2] at ho
    dsimp only at ho
    by_cases c3 : name.drop (name.length - v.name.length) ≠ v.name
    · rw [if_pos c3] at ho; exact hb o ho
    rw [if_neg c3] at ho
    by_cases c4 : (decide (name.length - v.name.length ≠ 0) &&
        decide (name[name.length - v.name.length - 1]? ≠ some dot)) = true
    · rw [if_pos c4] at ho; exact hb o ho
    rw [if_neg c4] at ho
    by_cases c5 : (decide (name.length - v.name.length ≠ 0) &&
        decide (backslashesBefore name (name.length - v.name.length - 1) % 2 ≠ 0)) = true
    · rw [if_pos c5] at ho; exact hb o ho
    rw [if_neg c5] at ho
    cases ho
    refine ⟨hv, by omega, by simpa using c3, ?_⟩
    intro hne
    simpa [hne] using c4
  exact hstep _ ho

theorem findOff_spec (names : List NameOff) (name : BStr) (o : NameOff) (h : findOff names name = some o) :
    o ∈ names ∧ IsTail name o := by
  unfold findOff at h
  split at h
  · cases h
  · have key : ∀ (l : List NameOff) (best : Option NameOff), (∀ v ∈ l, v ∈ names) →
        (∀ o, best = some o → o ∈ names ∧ IsTail name o) →
        ∀ o, l.foldl (findStep name) best = some o → o ∈ names ∧ IsTail name o := by
      intro l
      induction l with
      | nil => intro best _ hb o ho; exact hb o ho
      | cons v rest ih =>
        intro best hl hb o ho
        simp only [List.foldl_cons] at ho
        exact ih (findStep name best v) (fun w hw => hl w (List.mem_cons_of_mem _ hw))
          (findStep_spec names name best v (hl v (List.mem_cons_self)) hb) o ho
    exact key names none (fun v hv => hv) (fun o ho => by cases ho) o h

/-- a proper tail match splits the text at an (unescaped or not) dot -/
theorem IsTail.split {name : BStr} {o : NameOff} (h : IsTail name o) (hne : o.name.length ≠ name.length) :
    name = name.take (name.length - (o.name.length + 1)) ++ dot :: o.name := by
  obtain ⟨hle, hd, hdot⟩ := h
  have hk : name.length - o.name.length ≠ 0 := by omega
  have h1 := hdot hk
  have hlt : name.length - o.name.length - 1 < name.length := by omega
  have h2 : name.drop (name.length - o.name.length - 1) = dot :: name.drop (name.length - o.name.length) := by
    rw [List.drop_eq_getElem_cons hlt]
    have : name[name.length - o.name.length - 1] = dot := by
      have := List.getElem?_eq_some_iff.1 h1
      exact this.2
    rw [this]
    congr 2
    omega
  have h3 : name.length - (o.name.length + 1) = name.length - o.name.length - 1 := by omega
  rw [h3]
  conv => lhs; rw [← List.take_append_drop (name.length - o.name.length - 1) name]
  rw [h2, hd]

theorem trimLabels_append (rp ro : List BStr) (hp : ∀ l ∈ rp, l ≠ []) (hne : rp ≠ [])
    (hro : ro ≠ []) (hlo : trimLabels ro ≠ []) : trimLabels (rp ++ ro) = rp ++ trimLabels ro := by
  have hx : ∀ t : List BStr, rp ++ t ≠ [[]] := by
    intro t hc
    obtain ⟨a, r, rfl⟩ := List.exists_cons_of_ne_nil hne
    simp only [List.cons_append, List.cons.injEq] at hc
    exact hp a List.mem_cons_self hc.1
  have hlast : (rp ++ ro).getLast? = ro.getLast? := by
    rw [List.getLast?_append]
    cases h : ro.getLast? with
    | none => exact absurd (List.getLast?_eq_none_iff.1 h) hro
    | some x => rfl
  unfold trimLabels at hlo ⊢
  rw [hlast]
  by_cases hl : ro.getLast? = some []
  · simp only [hl, ↓reduceIte] at hlo ⊢
    rw [List.dropLast_append_of_ne_nil hro]
    simp only [hx, ↓reduceIte]
    split at hlo
    · exact absurd rfl hlo
    · rename_i h; rw [if_neg h]
  · simp only [hl, ↓reduceIte] at hlo ⊢
    simp only [hx, ↓reduceIte]
    split at hlo
    · exact absurd rfl hlo
    · rename_i h; rw [if_neg h]

theorem splitRaw_ne_nil (v : Bool) (n : BStr) (ls : List BStr) (h : splitRaw v n = .ok ls) : ls ≠ [] := by
  obtain ⟨s, _, _, h3⟩ := (splitRaw_ok_iff _ _ _).1 h
  simp [h3]

theorem unescape_of_split (v : Bool) (n : BStr) (ls : List BStr) (h : splitDnsName v n true = .ok ls) :
    unescape n = .ok ls ∧ wireLabels ls = true := by
  have h' := splitDnsName_mono v true n ls h
  unfold splitDnsName at h'
  unfold unescape
  cases hr : splitRaw false n with
  | error e => simp [hr] at h'
  | ok r =>
    simp only [hr, ↓reduceIte] at h' ⊢
    split at h'
    · rename_i hok
      cases h'
      refine ⟨rfl, ?_⟩
      simp only [labelsOk, Bool.and_eq_true] at hok
      exact hok.1
    · cases h'

/-- labels of `p ++ "." ++ m` when `p` is accepted as the text in front of a pointer -/
theorem unescape_tail (v : Bool) (p m : BStr) (lp lm : List BStr)
    (hp : splitDnsName v p false = .ok lp) (hm : unescape m = .ok lm) (hlm : lm ≠ []) :
    unescape (p ++ dot :: m) = .ok (lp ++ lm) ∧ wireLabels lp = true ∧ lp ≠ [] := by
  have hp' := splitDnsName_mono v false p lp hp
  unfold splitDnsName at hp'
  unfold unescape at hm ⊢
  cases hrp : splitRaw false p with
  | error e => simp [hrp] at hp'
  | ok rp' =>
    simp only [hrp, Bool.false_eq_true, ↓reduceIte] at hp'
    split at hp'
    · rename_i hok
      have hrl : rp' = lp := by injection hp'
      rw [hrl] at hrp hok
      cases hrm : splitRaw false m with
      | error e => simp [hrm] at hm
      | ok rm =>
        simp only [hrm] at hm
        cases hm
        rw [splitRaw_append_dot p m lp rm hrp hrm]
        have hne := splitRaw_ne_nil _ _ _ hrp
        refine ⟨?_, ?_, hne⟩
        · simp only [trimLabels_append lp rm (labelsOk_nonempty lp hok) hne (splitRaw_ne_nil _ _ _ hrm) hlm]
        · simp only [labelsOk, Bool.and_eq_true] at hok
          exact hok.1
    · cases hp'

/-- every stored `(name, idx)`: `idx` fits into 14 bits and the message decodes at `idx` to the
    (non-empty) labels of `name` -/
def NInv (names : List NameOff) (out : BStr) : Prop :=
  ∀ o ∈ names, o.idx < 0x4000 ∧ ∃ ls e, ls ≠ [] ∧ unescape o.name = .ok ls ∧ wireLabels ls = true ∧
    Decodes out o.idx o.idx ls e

theorem NInv.nil (out : BStr) : NInv [] out := by intro o ho; cases ho

theorem NInv.append {names : List NameOff} {out : BStr} (more : BStr) (h : NInv names out) :
    NInv names (out ++ more) := by
  intro o ho
  obtain ⟨h1, ls, e, h2, h3, h4, h5⟩ := h o ho
  exact ⟨h1, ls, e, h2, h3, h4, h5.append more⟩

/-- what one successful `ares_dns_name_write` establishes: the appended bytes decode (at the position
    where they start) to the labels of the name, and the 14-bit mask dropped nothing -/
def NameSpec (out : BStr) (name : BStr) (o : NameOut) : Prop :=
  ∃ ls, unescape name = .ok ls ∧ wireLabels ls = true ∧
    Decodes (out ++ o.bytes) out.length out.length ls (out.length + o.bytes.length) ∧ o.trunc = false

theorem remember_spec (out bytes : BStr) (names names' : List NameOff) (name : BStr) (nameLen : Nat)
    (lsw ls : List BStr) (hinv : NInv names out)
    (hr : remember out.length names name nameLen lsw = .ok names')
    (hne : lsw ≠ [] → ls ≠ []) (hu : unescape name = .ok ls) (hw : wireLabels ls = true) (e : Nat)
    (hd : Decodes (out ++ bytes) out.length out.length ls e) : NInv names' (out ++ bytes) := by
  unfold remember at hr
  split at hr
  · rename_i hc
    split at hr
    · cases hr
    · cases hr
      simp only [Bool.and_eq_true, decide_eq_true_eq, Bool.not_eq_true', List.isEmpty_eq_false_iff] at hc
      intro o ho
      rcases List.mem_append.1 ho with ho | ho
      · exact (hinv.append bytes) o ho
      · simp only [List.mem_singleton] at ho
        subst ho
        exact ⟨by simp only; omega, ls, e, hne hc.1.2, hu, hw, hd⟩
  · cases hr
    exact hinv.append bytes

theorem ptrBytes_length (o : NameOff) : (ptrBytes o).1.length = 2 := rfl

/-- **offset-list invariant**: `ares_dns_name_write` keeps it, and what it appends denotes the name -/
theorem nameWrite_spec (out : BStr) (names : List NameOff) (useList v : Bool) (name : BStr) (o : NameOut)
    (hinv : NInv names out) (h : nameWrite out.length names useList v name = .ok o) :
    NameSpec out name o ∧ NInv o.names (out ++ o.bytes) := by
  unfold nameWrite at h
  split at h
  · cases h
  · split at h
    · -- no earlier name usable: all labels, terminator
      unfold nameWriteFull at h
      cases hs : splitDnsName v name true with
      | error e => simp [hs] at h
      | ok ls =>
        obtain ⟨hu, hw⟩ := unescape_of_split v name ls hs
        have hdec : Decodes (out ++ (encodeLabels ls ++ [0])) out.length out.length ls
            (out.length + (encodeLabels ls ++ [0]).length) := by
          have h0 := decodes_root (out ++ encodeLabels ls) [] out.length
          have h1 := decodes_encodeLabels ls hw out ([0] ++ []) out.length [] _
            (by simpa [List.append_assoc] using h0)
          simpa [List.append_assoc, Nat.add_assoc] using h1
        simp only [hs] at h
        split at h
        · cases hrem : remember out.length names name name.length ls with
          | error e => simp [hrem] at h
          | ok names' =>
            simp only [hrem] at h
            cases h
            exact ⟨⟨ls, hu, hw, hdec, rfl⟩,
              remember_spec out _ names names' name name.length ls ls hinv hrem id hu hw _ hdec⟩
        · cases h
          exact ⟨⟨ls, hu, hw, hdec, rfl⟩, hinv.append _⟩
    · rename_i o' hoff
      have hfind : findOff names name = some o' := by
        split at hoff
        · exact hoff
        · cases hoff
      obtain ⟨hmem, htail⟩ := findOff_spec names name o' hfind
      obtain ⟨h14, ls', e', hne', hu', hw', hd'⟩ := hinv o' hmem
      have hlt : o'.idx < out.length := hd'.pos_lt
      split at h
      · -- exact match: pointer only
        rename_i hlen
        cases h
        have hname : name = o'.name := by
          have := htail.2.1
          rw [hlen] at this
          simpa using this
        refine ⟨⟨ls', by rw [hname]; exact hu', hw', ?_, ?_⟩, hinv.append _⟩
        · have := decodes_pointer out [] o'.idx out.length e' ls' h14 hlt
            (by simpa using hd'.append (be16 (0xC000 + o'.idx % 0x4000)))
          simpa [nameWriteExact, ptrBytes, be16] using this
        · simp only [nameWriteExact, ptrBytes, decide_eq_false_iff_not]; omega
      · -- proper tail: labels in front, then pointer
        rename_i hlen
        unfold nameWriteTail at h
        dsimp only at h
        cases hs : splitDnsName v (name.take (name.length - (o'.name.length + 1))) false with
        | error e => simp [hs] at h
        | ok lp =>
          have hsplit := htail.split hlen
          obtain ⟨hu, hwp, hnep⟩ := unescape_tail v _ o'.name lp ls' hs hu' hne'
          rw [← hsplit] at hu
          have hw : wireLabels (lp ++ ls') = true := by
            simp only [wireLabels, List.all_append, Bool.and_eq_true] at hwp hw' ⊢
            exact ⟨hwp, hw'⟩
          have hdec : Decodes (out ++ (encodeLabels lp ++ (ptrBytes o').1)) out.length out.length (lp ++ ls')
              (out.length + (encodeLabels lp ++ (ptrBytes o').1).length) := by
            have hp := decodes_pointer (out ++ encodeLabels lp) [] o'.idx out.length e' ls' h14 hlt
              (by simpa [List.append_assoc] using hd'.append (encodeLabels lp ++ be16 (0xC000 + o'.idx % 0x4000)))
            have h1 := decodes_encodeLabels lp hwp out ((ptrBytes o').1 ++ []) out.length ls' _
              (by simpa [List.append_assoc, ptrBytes] using hp)
            simpa [List.append_assoc, Nat.add_assoc, ptrBytes_length] using h1
          simp only [hs] at h
          cases hrem : remember out.length names name (name.length - (o'.name.length + 1)) lp with
          | error e => simp [hrem] at h
          | ok names' =>
            simp only [hrem] at h
            cases h
            refine ⟨⟨lp ++ ls', hu, hw, hdec, ?_⟩,
              remember_spec out _ names names' name _ lp (lp ++ ls') hinv hrem (fun _ => by simp [hnep]) hu hw _ hdec⟩
            simp only [ptrBytes, decide_eq_false_iff_not]; omega

end Cares.Dns.NameW
