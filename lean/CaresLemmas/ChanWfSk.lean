import CaresModel.Chan.Core
import CaresLemmas.ListLemmas
/-!
# C01 — skeleton of the channel state

The ownership / index invariant of the channel model only reads a small part of the state: for each
query its `(key, qid, owner, conn)`, for each connection `(fd, srv, tcp, unlinked, queries)`, for each
server `(id, conns, tcpConn)`, for each compound request `(id, tok, outstanding)`, the descriptor numbers of the
virtual sockets, the index lists, the allocation counters, the token accounting and the safety-fault
log.  `St.sk` projects the state onto that skeleton; every helper of `Chan.Core` that only touches other
fields satisfies `(f s).sk = s.sk` (`ChanWfFrame`), so all invariants (stated over the skeleton) are
transported through them by rewriting.
-/
namespace Cares.Chan

structure QSk where
  key : Nat
  qid : Nat
  owner : Owner
  conn : Option Nat
  deriving Repr, DecidableEq

structure CSk where
  fd : Nat
  srv : Nat
  tcp : Bool
  unlinked : Bool
  queries : List Nat
  deriving Repr, DecidableEq

structure SSk where
  id : Nat
  conns : List Nat
  tcpConn : Option Nat
  deriving Repr, DecidableEq

structure KSk where
  id : Nat
  tok : Nat
  /-- ghost measure: sub-requests the compound request is still waiting for (see `Client.outstanding`) -/
  out : Nat
  deriving Repr, DecidableEq

def Query.sk (q : Query) : QSk := ⟨q.key, q.qid, q.owner, q.conn⟩
def Conn.sk (c : Conn) : CSk := ⟨c.fd, c.srv, c.tcp, c.unlinked, c.queries⟩
def Server.sk (v : Server) : SSk := ⟨v.id, v.conns, v.tcpConn⟩
/-- how many completion callbacks of sub-requests the compound request still expects, as far as its own
    bookkeeping is concerned: `ares_getaddrinfo` counts them in `remaining`; `ares_query` / `ares_search`
    always wait for exactly one.  The *client contract* (`ChanWfContract`) says the pure client logic keeps
    this number right and completes only when it reaches zero. -/
def Client.outstanding (c : Client) : Nat := if c.kind == "gai" then c.remaining else 1

def Client.sk (c : Client) : KSk := ⟨c.id, c.tok, c.outstanding⟩

structure Sk where
  qs : List QSk
  conns : List CSk
  servers : List SSk
  clients : List KSk
  socks : List Nat
  all : List Nat
  byQid : List (Nat × Nat)
  byTimeout : List Nat
  pendingOrder : List Nat
  listCopy : List (List Nat)
  nextKey : Nat
  nextFd : Nat
  nextClient : Nat
  reactSeq : Nat
  pendingToks : List Nat
  doneToks : List Nat
  faults : List String

def St.sk (s : St) : Sk where
  qs := s.qs.map Query.sk
  conns := s.conns.map Conn.sk
  servers := s.servers.map Server.sk
  clients := s.clients.map Client.sk
  socks := s.socks.map (·.fd)
  all := s.all
  byQid := s.byQid
  byTimeout := s.byTimeout
  pendingOrder := s.pendingOrder
  listCopy := s.listCopy
  nextKey := s.nextKey
  nextFd := s.nextFd
  nextClient := s.nextClient
  reactSeq := s.reactSeq
  pendingToks := s.pendingToks
  doneToks := s.doneToks
  faults := s.modelFaults

def Sk.modQ (a : Sk) (k : Nat) (g : QSk → QSk) : Sk :=
  { a with qs := a.qs.map fun e => if e.key == k then g e else e }
def Sk.modC (a : Sk) (fd : Nat) (g : CSk → CSk) : Sk :=
  { a with conns := a.conns.map fun e => if e.fd == fd then g e else e }
def Sk.modS (a : Sk) (id : Nat) (g : SSk → SSk) : Sk :=
  { a with servers := a.servers.map fun e => if e.id == id then g e else e }

theorem Sk.modQ_id (a : Sk) (k : Nat) (g : QSk → QSk) (h : ∀ e ∈ a.qs, e.key = k → g e = e) :
    a.modQ k g = a := by
  unfold Sk.modQ
  rw [map_if_id a.qs (fun e => e.key == k) g (fun x hx hp => h x hx (by simpa using hp))]
theorem Sk.modC_id (a : Sk) (fd : Nat) (g : CSk → CSk) (h : ∀ e ∈ a.conns, e.fd = fd → g e = e) :
    a.modC fd g = a := by
  unfold Sk.modC
  rw [map_if_id a.conns (fun e => e.fd == fd) g (fun x hx hp => h x hx (by simpa using hp))]
theorem Sk.modS_id (a : Sk) (id : Nat) (g : SSk → SSk) (h : ∀ e ∈ a.servers, e.id = id → g e = e) :
    a.modS id g = a := by
  unfold Sk.modS
  rw [map_if_id a.servers (fun e => e.id == id) g (fun x hx hp => h x hx (by simpa using hp))]

theorem sk_modQuery (s : St) (k : Nat) (f : Query → Query) (g : QSk → QSk)
    (h : ∀ q, (f q).sk = g q.sk) : (s.modQuery k f).sk = s.sk.modQ k g := by
  unfold St.modQuery St.sk Sk.modQ
  simp only
  rw [map_if_comm s.qs Query.sk (fun x => x.key == k) (fun e => e.key == k) f g (fun _ => rfl) h]
theorem sk_modConn (s : St) (fd : Nat) (f : Conn → Conn) (g : CSk → CSk)
    (h : ∀ q, (f q).sk = g q.sk) : (s.modConn fd f).sk = s.sk.modC fd g := by
  unfold St.modConn St.sk Sk.modC
  simp only
  rw [map_if_comm s.conns Conn.sk (fun x => x.fd == fd) (fun e => e.fd == fd) f g (fun _ => rfl) h]
theorem sk_modServer (s : St) (id : Nat) (f : Server → Server) (g : SSk → SSk)
    (h : ∀ q, (f q).sk = g q.sk) : (s.modServer id f).sk = s.sk.modS id g := by
  unfold St.modServer St.sk Sk.modS
  simp only
  rw [map_if_comm s.servers Server.sk (fun x => x.id == id) (fun e => e.id == id) f g (fun _ => rfl) h]

theorem sk_modQuery_same (s : St) (k : Nat) (f : Query → Query) (h : ∀ q, (f q).sk = q.sk) :
    (s.modQuery k f).sk = s.sk := by
  rw [sk_modQuery s k f id h, Sk.modQ_id]; intros; rfl
theorem sk_modConn_same (s : St) (fd : Nat) (f : Conn → Conn) (h : ∀ q, (f q).sk = q.sk) :
    (s.modConn fd f).sk = s.sk := by
  rw [sk_modConn s fd f id h, Sk.modC_id]; intros; rfl
theorem sk_modServer_same (s : St) (i : Nat) (f : Server → Server) (h : ∀ q, (f q).sk = q.sk) :
    (s.modServer i f).sk = s.sk := by
  rw [sk_modServer s i f id h, Sk.modS_id]; intros; rfl

theorem sk_modSock (s : St) (fd : Nat) (f : VSock → VSock) (h : ∀ v, (f v).fd = v.fd) :
    (s.modSock fd f).sk = s.sk := by
  unfold St.modSock St.sk
  simp only [Sk.mk.injEq, true_and, and_true]
  exact map_if_keep _ fun v _ _ => h v

theorem sk_setSock (s : St) (v : VSock) : (s.setSock v).sk = s.sk := by
  unfold St.setSock St.sk
  simp only [Sk.mk.injEq, true_and, and_true]
  exact map_if_keep _ fun _ _ h => (beq_iff_eq.mp h).symm

theorem sk_modClient (s : St) (id : Nat) (f : Client → Client) (h : ∀ c, c.id = id → (f c).sk = c.sk) :
    (s.modClient id f).sk = s.sk := by
  unfold St.modClient St.sk
  simp only [Sk.mk.injEq, true_and, and_true]
  exact map_if_keep _ fun c _ hc => h c (beq_iff_eq.mp hc)

end Cares.Chan
