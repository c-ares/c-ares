import CaresLemmas.QcacheKey
/-!
# The cache invariant (helpers for C08)

`Op` = `insert | fetch | flush` with the instant carried by the operation; `runOps`; `CInv`: the expiry list is sorted,
every table entry points at a live list entry with that (folded) key, entry identities are unique, and every entry is
an accepted response stored under the key of its own request with `expire = insert + min(max_ttl, ttl)`.
-/
namespace Cares.Proto.Qcache
open Cares.Generated.Proto

def lk (e : Entry) : Chars := lowerAll e.key

theorem slistInsert_perm (e : Entry) (l : List Entry) : (slistInsert e l).Perm (e :: l) :=
  insert_perm (ins := slistInsert e) (fun x _ => ¬ x.expireTs ≤ e.expireTs) rfl
    (fun _ _ => by simp only [slistInsert, ite_not]) l

theorem mem_slistInsert (e x : Entry) (l : List Entry) : x ∈ slistInsert e l ↔ x = e ∨ x ∈ l := by
  rw [(slistInsert_perm e l).mem_iff]; simp

def Sorted (l : List Entry) : Prop := l.Pairwise (fun a b => a.expireTs ≤ b.expireTs)

theorem sorted_slistInsert (e : Entry) (l : List Entry) (h : Sorted l) : Sorted (slistInsert e l) := by
  induction l with
  | nil => simp [slistInsert, Sorted]
  | cons x xs ih =>
    simp only [slistInsert]
    have hx := List.pairwise_cons.mp h
    split
    · rename_i hle
      refine List.pairwise_cons.mpr ⟨?_, ih hx.2⟩
      intro y hy
      rcases (mem_slistInsert e y xs).mp hy with rfl | hy
      · exact hle
      · exact hx.1 y hy
    · rename_i hlt
      refine List.pairwise_cons.mpr ⟨?_, h⟩
      intro y hy
      rcases List.mem_cons.mp hy with rfl | hy
      · omega
      · have := hx.1 y hy; omega

theorem uniq_eq {l : List Entry} (h : l.Pairwise (fun a b => a.eid ≠ b.eid)) {x y : Entry} (hx : x ∈ l) (hy : y ∈ l)
    (he : x.eid = y.eid) : x = y :=
  inj_of_nodup_map (f := Entry.eid) (List.pairwise_map.mpr h) hx hy he

theorem mem_tableRemove (k : Chars) (t : List (Chars × Nat)) (p : Chars × Nat) :
    p ∈ tableRemove k t ↔ p ∈ t ∧ p.1 ≠ k := by
  simp [tableRemove]

theorem tableGet_some (k : Chars) (t : List (Chars × Nat)) (id : Nat) (h : tableGet k t = some id) : (k, id) ∈ t := by
  unfold tableGet at h
  obtain ⟨p, hf, rfl⟩ := Option.map_eq_some_iff.mp h
  have hp : p.1 = k := by simpa using List.find?_some hf
  exact hp ▸ List.mem_of_find?_eq_some hf

def Live (t : List (Chars × Nat)) (l : List Entry) : Prop :=
  ∀ k id, (k, id) ∈ t → ∃ e ∈ l, e.eid = id ∧ lk e = k

theorem expireLoop_suffix (now : Int) (l : List Entry) (t : List (Chars × Nat)) :
    ∃ pre, l = pre ++ (expireLoop now l t).1 := by
  induction l generalizing t with
  | nil => exact ⟨[], rfl⟩
  | cons e es ih =>
    simp only [expireLoop]
    split
    · exact ⟨[], rfl⟩
    · obtain ⟨pre, h⟩ := ih (tableRemove (lowerAll e.key) t)
      exact ⟨e :: pre, by rw [List.cons_append, ← h]⟩

theorem expireLoop_live (now : Int) (l : List Entry) (t : List (Chars × Nat)) (h : Live t l) :
    Live (expireLoop now l t).2 (expireLoop now l t).1 := by
  induction l generalizing t with
  | nil => exact h
  | cons e es ih =>
    simp only [expireLoop]
    split
    · exact h
    · apply ih
      intro k id hm
      obtain ⟨hm1, hm2⟩ := (mem_tableRemove _ _ _).mp hm
      obtain ⟨e', he', h1, h2⟩ := h k id hm1
      rcases List.mem_cons.mp he' with rfl | he'
      · exact absurd h2 (fun hh => hm2 hh.symm)
      · exact ⟨e', he', h1, h2⟩

theorem expireLoop_fresh (now : Int) (l : List Entry) (t : List (Chars × Nat)) (h : Sorted l) :
    ∀ e ∈ (expireLoop now l t).1, e.expireTs > now := by
  induction l generalizing t with
  | nil => intro e he; cases he
  | cons x xs ih =>
    simp only [expireLoop]
    have hx := List.pairwise_cons.mp h
    split
    · rename_i hgt
      intro e he
      rcases List.mem_cons.mp he with rfl | he
      · exact hgt
      · have := hx.1 e he; omega
    · exact ih _ hx.2

theorem expireLoop_table_sub (now : Int) (l : List Entry) (t : List (Chars × Nat)) :
    ∀ p ∈ (expireLoop now l t).2, p ∈ t := by
  induction l generalizing t with
  | nil => intro p hp; exact hp
  | cons e es ih =>
    simp only [expireLoop]
    split
    · intro p hp; exact hp
    · intro p hp; exact ((mem_tableRemove _ _ _).mp (ih _ p hp)).1

theorem flushLoop_mem (l : List Entry) (t : List (Chars × Nat)) (p : Chars × Nat) (hp : p ∈ flushLoop l t) :
    p ∈ t ∧ ∀ e ∈ l, lk e ≠ p.1 := by
  induction l generalizing t with
  | nil => exact ⟨hp, by intro e he; cases he⟩
  | cons x xs ih =>
    simp only [flushLoop] at hp
    obtain ⟨h1, h2⟩ := ih _ hp
    obtain ⟨h3, h4⟩ := (mem_tableRemove _ _ _).mp h1
    refine ⟨h3, ?_⟩
    intro e he
    rcases List.mem_cons.mp he with rfl | he
    · exact fun hh => h4 hh.symm
    · exact h2 e he

theorem flushLoop_empty (l : List Entry) (t : List (Chars × Nat)) (h : Live t l) : flushLoop l t = [] := by
  apply List.eq_nil_iff_forall_not_mem.mpr
  intro p hp
  obtain ⟨h1, h2⟩ := flushLoop_mem l t p hp
  obtain ⟨e, he, _, hk⟩ := h p.1 p.2 h1
  exact h2 e he hk

inductive Op where
  | insert (now : Int) (req : Req) (resp : Resp)
  | fetch (now : Int) (req : Req)
  | flush
deriving Repr

def stepOp (c : Cache) : Op → Cache
  | .insert now req resp => (insert c now req resp).1
  | .fetch now req => (fetch c now req).1
  | .flush => flush c

def runOps (c : Cache) : List Op → Cache
  | [] => c
  | op :: ops => runOps (stepOp c op) ops

/-- only requests the library can send and get an answer for are ever stored (the channel inserts after
    `same_questions` on a parsed response); looked-up requests are arbitrary API records -/
def OpOk : Op → Prop
  | .insert _ req _ => WireReq req
  | .fetch _ req => ApiReq req
  | .flush => True

structure EntryOk (maxTtl : Nat) (e : Entry) : Prop where
  key : e.key = calcKey e.req
  cacheable : cacheable e.resp = true
  ttl_pos : 0 < effTtl maxTtl e.resp
  expire : e.expireTs = e.insertTs + (effTtl maxTtl e.resp : Int)
  wire : WireReq e.req

structure CInv (c : Cache) : Prop where
  sorted : Sorted c.expire
  live : Live c.table c.expire
  ids : ∀ e ∈ c.expire, e.eid < c.nextId
  uniq : c.expire.Pairwise (fun a b => a.eid ≠ b.eid)
  ok : ∀ e ∈ c.expire, EntryOk c.maxTtl e

theorem cinv_empty (m : Nat) : CInv (Cache.empty m) where
  sorted := by unfold Sorted; exact List.Pairwise.nil
  live := by intro k id h; simp [Cache.empty] at h
  ids := by intro e h; simp [Cache.empty] at h
  uniq := List.Pairwise.nil
  ok := by intro e h; simp [Cache.empty] at h

/-- `insert` stores the response iff it is cacheable and has a positive lifetime -/
theorem insert_eq (c : Cache) (now : Int) (req : Req) (resp : Resp) : insert c now req resp =
    if cacheable resp = true ∧ 0 < effTtl c.maxTtl resp then
      ({ c with nextId := c.nextId + 1,
                table := tableInsert (lowerAll (calcKey req)) c.nextId c.table,
                expire := slistInsert ⟨c.nextId, calcKey req, resp, now + (effTtl c.maxTtl resp : Int), now, req⟩ c.expire },
        .ok)
    else (c, if cacheable resp = true then .refused else .notimp) := by
  unfold insert cacheable
  by_cases h1 : resp.rcode ≠ RCODE_NOERROR ∧ resp.rcode ≠ RCODE_NXDOMAIN
  · simp [h1]
  · have : resp.rcode = RCODE_NOERROR ∨ resp.rcode = RCODE_NXDOMAIN := by
      by_cases hn : resp.rcode = RCODE_NOERROR
      · exact Or.inl hn
      · exact Or.inr (Classical.not_not.mp fun hx => h1 ⟨hn, hx⟩)
    rw [if_neg h1]
    cases resp.tc
    · by_cases h3 : effTtl c.maxTtl resp = 0
      · simp [this, h3]
      · simp [this, h3, Nat.pos_of_ne_zero h3]
    · simp

theorem insert_maxTtl (c : Cache) (now req resp) : (insert c now req resp).1.maxTtl = c.maxTtl := by
  rw [insert_eq]; split <;> rfl

theorem insert_ok_shape (c : Cache) (now : Int) (req : Req) (resp : Resp) (h : (insert c now req resp).2 = .ok) :
    cacheable resp = true ∧ 0 < effTtl c.maxTtl resp ∧
    (insert c now req resp).1 =
      { c with nextId := c.nextId + 1,
               table := tableInsert (lowerAll (calcKey req)) c.nextId c.table,
               expire := slistInsert ⟨c.nextId, calcKey req, resp, now + (effTtl c.maxTtl resp : Int), now, req⟩ c.expire } := by
  rw [insert_eq] at h ⊢
  split at h
  next hc => rw [if_pos hc]; exact ⟨hc.1, hc.2, rfl⟩
  · split at h <;> cases h

theorem insert_not_ok (c : Cache) (now : Int) (req : Req) (resp : Resp) (h : (insert c now req resp).2 ≠ .ok) :
    (insert c now req resp).1 = c := by
  rw [insert_eq] at h ⊢
  split
  next hc => rw [if_pos hc] at h; exact absurd rfl h
  · rfl

theorem cinv_insert (c : Cache) (now : Int) (req : Req) (resp : Resp) (h : CInv c) (hw : WireReq req) :
    CInv (insert c now req resp).1 := by
  by_cases hok : (insert c now req resp).2 = .ok
  · obtain ⟨hc, hp, hs⟩ := insert_ok_shape c now req resp hok
    rw [hs]
    generalize he : (⟨c.nextId, calcKey req, resp, now + (effTtl c.maxTtl resp : Int), now, req⟩ : Entry) = e
    have heid : e.eid = c.nextId := by rw [← he]
    refine ⟨sorted_slistInsert e _ h.sorted, ?_, ?_, ?_, ?_⟩
    · intro k id hm
      simp only [tableInsert, List.mem_cons] at hm
      rcases hm with hm | hm
      · refine ⟨e, (mem_slistInsert e e _).mpr (Or.inl rfl), ?_, ?_⟩
        · rw [heid]; exact (Prod.mk.inj hm).2.symm
        · rw [← he]; exact (Prod.mk.inj hm).1.symm
      · obtain ⟨e', he', h1, h2⟩ := h.live k id ((mem_tableRemove _ _ _).mp hm).1
        exact ⟨e', (mem_slistInsert e e' _).mpr (Or.inr he'), h1, h2⟩
    · intro x hx
      rcases (mem_slistInsert e x _).mp hx with rfl | hx
      · simp only [heid]; omega
      · have := h.ids x hx; simp only []; omega
    · rw [(slistInsert_perm e c.expire).pairwise_iff (fun hh => fun h2 => hh h2.symm)]
      refine List.pairwise_cons.mpr ⟨?_, h.uniq⟩
      intro x hx
      have := h.ids x hx
      rw [heid]; omega
    · intro x hx
      rcases (mem_slistInsert e x _).mp hx with rfl | hx
      · rw [← he]; exact ⟨rfl, hc, hp, rfl, hw⟩
      · exact h.ok x hx
  · rw [insert_not_ok c now req resp hok]; exact h

theorem cinv_expire (c : Cache) (now : Int) (h : CInv c) : CInv (expire c now) := by
  obtain ⟨pre, hpre⟩ := expireLoop_suffix now c.expire c.table
  have hsub : ∀ e ∈ (expireLoop now c.expire c.table).1, e ∈ c.expire := by
    intro e he; rw [hpre]; exact List.mem_append_right _ he
  have hsl : List.Sublist (expireLoop now c.expire c.table).1 c.expire := by
    conv => rhs; rw [hpre]
    exact List.sublist_append_right _ _
  exact ⟨List.Pairwise.sublist hsl h.sorted, expireLoop_live now _ _ h.live, fun e he => h.ids e (hsub e he),
         List.Pairwise.sublist hsl h.uniq, fun e he => h.ok e (hsub e he)⟩

theorem cinv_flush (c : Cache) (h : CInv c) : CInv (flush c) where
  sorted := by unfold Sorted; exact List.Pairwise.nil
  live := by
    simp only [flush, flushLoop_empty c.expire c.table h.live]
    intro k id hm; cases hm
  ids := by intro e he; simp [flush] at he
  uniq := List.Pairwise.nil
  ok := by intro e he; simp [flush] at he

theorem fetch_cache (c : Cache) (now : Int) (req : Req) : (fetch c now req).1 = expire c now := by
  unfold fetch
  simp only []
  split
  · rfl
  · split <;> rfl

theorem cinv_step (c : Cache) (op : Op) (h : CInv c) (hop : OpOk op) : CInv (stepOp c op) := by
  cases op with
  | insert now req resp => exact cinv_insert c now req resp h hop
  | fetch now req => simp only [stepOp, fetch_cache]; exact cinv_expire c now h
  | flush => exact cinv_flush c h

theorem cinv_run (ops : List Op) : ∀ (c : Cache), CInv c → (∀ op ∈ ops, OpOk op) → CInv (runOps c ops) := by
  induction ops with
  | nil => intro c h _; exact h
  | cons op ops ih =>
    intro c h hok
    exact ih _ (cinv_step c op h (hok op List.mem_cons_self)) (fun o ho => hok o (List.mem_cons_of_mem _ ho))
end Cares.Proto.Qcache
