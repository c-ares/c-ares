import CaresLemmas.ChanTactics
import CaresLemmas.ChanShape
/-!
# Invariants proved body by body: the pieces of the leaf tactics

For an invariant whose hypothesis about the recursive calls depends on the call (`GoCredit`, `GoP`, `GoZ`) the procedure
bodies in which something happens to it are proved one by one (the others come from `execBody_invariant`,
`ChanReach`), each path walked backwards, by a leaf tactic where there is one (`c_step`, `k_step`).  What these
share:

* `GoInv I go`: the hypothesis that every call keeps `I`; `pair_fst` / `pair_snd`: a predicate carried across a pair that
  `split` has destructured (`go_pair`, the same across the result of a call, has no user);
* `chan_elim`: replace a helper that the hand-written bodies meet (`incFailures`, `removeFromConn`, the random draws,
  `genQid`, `cacheInsert`) by an arbitrary update of the fields it may touch (the `*_elim` lemmas of `ChanShape`);
* `chan_simple_lemmas`: the command that states, for an invariant that does not read the field a plain helper writes, that
  the helper keeps it (by `rfl`).
-/
namespace Cares.Chan

/-- strip one non-trivial helper from the state the goal talks about -/
macro "chan_elim" : tactic => `(tactic| first
  | (apply incFailures_elim; intro _ _)
  | (apply removeFromConn_elim; intro _ _ _ _)
  | (apply draw1_elim; intro _ _)
  | (apply draw2_elim; intro _ _)
  | (apply genQid_elim; intro _ _)
  | (apply cacheInsert_elim; intro _))

@[reducible] def GoInv (I : St → Prop) (go : Call → St → St × Ret) : Prop := ∀ c s, I s → I (go c s).1

/-- a predicate carried across a pair destructured by `split` -/
theorem pair_fst {β : Type} {I : St → Prop} {e : St × β} {s1 : St} {r : β} (heq : e = (s1, r)) (h : I e.1) :
    I s1 := by
  subst heq; exact h

theorem pair_snd {α : Type} {I : St → Prop} {e : α × St} {s1 : St} {a : α} (heq : e = (a, s1)) (h : I e.2) :
    I s1 := by
  subst heq; exact h

/-- an invariant carried across a call whose result was destructured by `split` -/
theorem go_pair {I : St → Prop} {go : Call → St → St × Ret} (hgo : ∀ c s, I s → I (go c s).1)
    {c : Call} {s s1 : St} {r : Ret} (heq : go c s = (s1, r)) (h : I s) : I s1 := by
  have := hgo c s h; rw [heq] at this; exact this

open Lean in
/-- generate `NS.emit … NS.cacheExpire`: the invariant `I` is preserved (definitionally) by the helpers that are plain
    structure updates of fields it does not read; the list says which helpers -/
macro "chan_simple_lemmas " ns:ident " : " I:term " => " hs:ident* : command => do
  let n (s : String) := mkIdent (ns.getId ++ Name.mkSimple s)
  let mut cmds : Array (TSyntax `command) := #[]
  for h in hs do
    let c ← match h.getId.toString with
      | "emit" => `(theorem $(n "emit") {s : St} {e : String} (h : $I s) : $I (s.emit e) := h)
      | "slog" => `(theorem $(n "slog") {s : St} {fd : Nat} {c : String} (h : $I s) : $I (s.slog fd c) := h)
      | "ofault" => `(theorem $(n "ofault") {s : St} {e : String} (h : $I s) : $I (s.ofault e) := h)
      | "mfault" => `(theorem $(n "mfault") {s : St} {e : String} (h : $I s) : $I (s.mfault e) := h)
      | "oofSt" => `(theorem $(n "oof") {s : St} (h : $I s) : $I s.oof.1 := h)
      | "setQuery" => `(theorem $(n "setQuery") {s : St} {q : Query} (h : $I s) : $I (s.setQuery q) := h)
      | "setConn" => `(theorem $(n "setConn") {s : St} {c : Conn} (h : $I s) : $I (s.setConn c) := h)
      | "setServer" => `(theorem $(n "setServer") {s : St} {v : Server} (h : $I s) : $I (s.setServer v) := h)
      | "setSock" => `(theorem $(n "setSock") {s : St} {v : VSock} (h : $I s) : $I (s.setSock v) := h)
      | "modQuery" => `(theorem $(n "modQuery") {s : St} {k : Nat} {f : Query → Query} (h : $I s) : $I (s.modQuery k f) := h)
      | "modConn" => `(theorem $(n "modConn") {s : St} {k : Nat} {f : Conn → Conn} (h : $I s) : $I (s.modConn k f) := h)
      | "modServer" => `(theorem $(n "modServer") {s : St} {k : Nat} {f : Server → Server} (h : $I s) : $I (s.modServer k f) := h)
      | "modSock" => `(theorem $(n "modSock") {s : St} {k : Nat} {f : VSock → VSock} (h : $I s) : $I (s.modSock k f) := h)
      | "modClient" => `(theorem $(n "modClient") {s : St} {k : Nat} {f : Client → Client} (h : $I s) : $I (s.modClient k f) := h)
      | "cacheExpire" => `(theorem $(n "cacheExpire") {s : St} (h : $I s) : $I s.cacheExpire := h)
      | _ => Macro.throwError s!"unknown helper {h.getId}"
    cmds := cmds.push c
  return ⟨mkNullNode cmds⟩

end Cares.Chan
