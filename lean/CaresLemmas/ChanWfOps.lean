import CaresLemmas.ChanWfDefs
/-!
# C01 — the skeleton-changing helpers (`removeFromConn`, `detach`, `freeQuery`) on the skeleton

The groups of `WfS` (`WfQP qK nextKey`, `WfIP qKQ byQid all lc`, …) take projected lists (`Sk.qK`, `qKQ`, `qKC`, `qKO`,
`cFQ`, `cF4`, `cFUQ`), not the skeleton.  An operation is therefore described by what it does to each projection;
where it leaves one unchanged (`rfc_qK`, `attach_cF4`, `detach_proj`, …) the groups that read only unchanged
projections are carried over by `rw`, and only the others need an argument (`WfCP.eraseAt`, `WfTP.erase`, …).
-/
namespace Cares.Chan

def Sk.q? (a : Sk) (k : Nat) : Option QSk := a.qs.find? (·.key == k)
def Sk.c? (a : Sk) (fd : Nat) : Option CSk := a.conns.find? (·.fd == fd)

theorem sk_q? (s : St) (k : Nat) : s.sk.q? k = (s.query? k).map Query.sk := by
  unfold Sk.q? St.query? St.sk
  simp only [List.find?_map]
  rfl
theorem sk_c? (s : St) (fd : Nat) : s.sk.c? fd = (s.conn? fd).map Conn.sk := by
  unfold Sk.c? St.conn? St.sk
  simp only [List.find?_map]
  rfl

theorem Sk.q?_some {a : Sk} {k : Nat} {e : QSk} (h : a.q? k = some e) : e ∈ a.qs ∧ e.key = k :=
  ⟨List.mem_of_find?_eq_some h, find?_key_eq h⟩
theorem Sk.c?_some {a : Sk} {fd : Nat} {e : CSk} (h : a.c? fd = some e) : e ∈ a.conns ∧ e.fd = fd :=
  ⟨List.mem_of_find?_eq_some h, find?_key_eq h⟩
theorem Sk.q?_none {a : Sk} {k : Nat} (h : a.q? k = none) : ∀ e ∈ a.qs, e.key ≠ k := by
  intro e he hk
  have := List.find?_eq_none.mp h e he
  simp [hk] at this
theorem Sk.c?_none {a : Sk} {fd : Nat} (h : a.c? fd = none) : ∀ e ∈ a.conns, e.fd ≠ fd := by
  intro e he hk
  have := List.find?_eq_none.mp h e he
  simp [hk] at this

theorem Sk.q?_of_mem {a : Sk} (hn : (a.qs.map (·.key)).Nodup) {e : QSk} (he : e ∈ a.qs) : a.q? e.key = some e :=
  find?_of_nodup_map hn he
theorem Sk.c?_of_mem {a : Sk} (hn : (a.conns.map (·.fd)).Nodup) {e : CSk} (he : e ∈ a.conns) : a.c? e.fd = some e :=
  find?_of_nodup_map hn he

theorem Sk.q?_mem_proj {a : Sk} {k : Nat} {e : QSk} (h : a.q? k = some e) :
    (k, e.conn) ∈ a.qKC ∧ (k, e.owner) ∈ a.qKO ∧ (k, e.qid) ∈ a.qKQ ∧ k ∈ a.qK := by
  obtain ⟨hm, rfl⟩ := Sk.q?_some h
  exact ⟨List.mem_map.mpr ⟨e, hm, rfl⟩, List.mem_map.mpr ⟨e, hm, rfl⟩, List.mem_map.mpr ⟨e, hm, rfl⟩,
    List.mem_map.mpr ⟨e, hm, rfl⟩⟩

/-- ares_query_remove_from_conn on the skeleton -/
def Sk.removeFromConn (a : Sk) (k : Nat) : Sk :=
  match a.q? k with
  | none => a
  | some e =>
    let a := { a with byTimeout := a.byTimeout.erase k, pendingOrder := a.pendingOrder.erase k }
    let a := match e.conn with
      | some fd => a.modC fd fun c => { c with queries := c.queries.erase k }
      | none => a
    a.modQ k fun e => { e with conn := none }

def Sk.detach (a : Sk) (k : Nat) : Sk :=
  match a.q? k with
  | none => a
  | some e =>
    let a := a.removeFromConn k
    { a with byQid := a.byQid.filter (fun (p : Nat × Nat) => !(p.1 == e.qid && p.2 == k)),
             all := a.all.erase k, listCopy := a.listCopy.map (·.erase k) }

def Sk.freeQuery (a : Sk) (k : Nat) : Sk :=
  let a := a.detach k
  { a with qs := a.qs.filter (·.key != k) }

theorem sk_removeFromConn (s : St) (k : Nat) : (s.removeFromConn k).sk = s.sk.removeFromConn k := by
  unfold St.removeFromConn Sk.removeFromConn
  rw [sk_q?]
  cases hq : s.query? k with
  | none => rfl
  | some q =>
    simp only [Option.map_some]
    rw [sk_modQuery _ _ _ (fun e => { e with conn := none }) (fun _ => rfl)]
    congr 1
    show _ = match q.conn with | some fd => _ | none => _
    cases q.conn with
    | none => rfl
    | some fd => exact sk_modConn _ _ _ (fun c => { c with queries := c.queries.erase k }) (fun _ => rfl)

theorem sk_detach (s : St) (k : Nat) : (s.detach k).sk = s.sk.detach k := by
  unfold St.detach Sk.detach
  rw [sk_q?]
  cases hq : s.query? k with
  | none => rfl
  | some q =>
    simp only [Option.map_some]
    rw [← sk_removeFromConn]
    rfl

theorem sk_freeQuery (s : St) (k : Nat) : (s.freeQuery k).sk = s.sk.freeQuery k := by
  unfold St.freeQuery Sk.freeQuery
  simp only
  rw [← sk_detach]
  unfold St.sk
  simp only [Sk.mk.injEq, and_true, List.filter_map]
  rfl

theorem proj_modQ {β} (a : Sk) (k : Nat) (g : QSk → QSk) (π : QSk → β) (h : ∀ e, π (g e) = π e) :
    (a.modQ k g).qs.map π = a.qs.map π := by
  unfold Sk.modQ; exact map_if_keep _ fun e _ _ => h e
theorem proj_modC {β} (a : Sk) (fd : Nat) (g : CSk → CSk) (π : CSk → β) (h : ∀ e, π (g e) = π e) :
    (a.modC fd g).conns.map π = a.conns.map π := by
  unfold Sk.modC; exact map_if_keep _ fun e _ _ => h e

theorem qKC_modQ_conn (a : Sk) (k : Nat) (v : Option Nat) :
    (a.modQ k fun e => { e with conn := v }).qKC = a.qKC.map fun p => if p.1 == k then (p.1, v) else p := by
  unfold Sk.modQ Sk.qKC; exact map_if_comm _ _ _ _ _ _ (fun _ => rfl) fun _ => rfl
theorem cFQ_modC_queries (a : Sk) (fd : Nat) (h : List Nat → List Nat) :
    (a.modC fd fun c => { c with queries := h c.queries }).cFQ =
      a.cFQ.map fun c => if c.1 == fd then (c.1, h c.2) else c := by
  unfold Sk.modC Sk.cFQ; exact map_if_comm _ _ _ _ _ _ (fun _ => rfl) fun _ => rfl
theorem cFUQ_modC_queries (a : Sk) (fd : Nat) (h : List Nat → List Nat) :
    (a.modC fd fun c => { c with queries := h c.queries }).cFUQ =
      a.cFUQ.map fun c => if c.1 == fd then (c.1, c.2.1, h c.2.2) else c := by
  unfold Sk.modC Sk.cFUQ; exact map_if_comm _ _ _ _ _ _ (fun _ => rfl) fun _ => rfl

theorem Sk.removeFromConn_eq (a : Sk) (k : Nat) (e : QSk) (h : a.q? k = some e) :
    a.removeFromConn k =
      { ((match e.conn with
         | some fd => a.modC fd fun c => { c with queries := c.queries.erase k }
         | none => a).modQ k fun e => { e with conn := none }) with
        byTimeout := a.byTimeout.erase k, pendingOrder := a.pendingOrder.erase k } := by
  unfold Sk.removeFromConn; rw [h]; simp only [Sk.modQ, Sk.modC]; cases e.conn <;> rfl

end Cares.Chan
