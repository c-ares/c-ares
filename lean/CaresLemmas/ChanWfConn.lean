import CaresLemmas.ChanWfRemove
/-!
# C01 — closing a connection on the skeleton: unlinking it from its server, removing it from the store
-/
namespace Cares.Chan

theorem WfS.fds_nodup {a : Sk} {hole} (h : WfS a hole) : (a.conns.map (·.fd)).Nodup := by
  have := h.c.nodup
  have e : a.cFQ.map (·.1) = a.conns.map fun c => c.fd := by unfold Sk.cFQ; rw [List.map_map]; rfl
  rwa [e] at this

theorem WfS.conn_unique {a : Sk} {hole} (h : WfS a hole) {c1 c2 : CSk} (h1 : c1 ∈ a.conns) (h2 : c2 ∈ a.conns)
    (he : c1.fd = c2.fd) : c1 = c2 := inj_of_nodup_map h.fds_nodup h1 h2 he

theorem mem_cF4 {a : Sk} {x : Nat × Bool × Nat × Bool} :
    x ∈ a.cF4 ↔ ∃ c ∈ a.conns, x = (c.fd, c.unlinked, c.srv, c.tcp) := by
  simp only [Sk.cF4, List.mem_map]; constructor <;> rintro ⟨c, hc, h⟩ <;> exact ⟨c, hc, h.symm⟩
theorem mem_cFQ {a : Sk} {x : Nat × List Nat} : x ∈ a.cFQ ↔ ∃ c ∈ a.conns, x = (c.fd, c.queries) := by
  simp only [Sk.cFQ, List.mem_map]; constructor <;> rintro ⟨c, hc, h⟩ <;> exact ⟨c, hc, h.symm⟩
theorem mem_cFUQ {a : Sk} {x : Nat × Bool × List Nat} :
    x ∈ a.cFUQ ↔ ∃ c ∈ a.conns, x = (c.fd, c.unlinked, c.queries) := by
  simp only [Sk.cFUQ, List.mem_map]; constructor <;> rintro ⟨c, hc, h⟩ <;> exact ⟨c, hc, h.symm⟩

/-- `ares_close_connection`, first half: the connection leaves its server's lists -/
def Sk.markUnlinked (a : Sk) (fd srv : Nat) (tcp : Bool) : Sk :=
  (a.modS srv fun v => { v with conns := v.conns.erase fd, tcpConn := if tcp then none else v.tcpConn }).modC fd
    fun c => { c with unlinked := true }

/-- `ares_close_connection`, last step: the connection is released -/
def Sk.removeConn (a : Sk) (fd : Nat) : Sk := { a with conns := a.conns.filter (·.fd != fd) }

section mark
variable {a : Sk} {c0 : CSk}

theorem mem_conns_mark {c : CSk} : c ∈ (a.markUnlinked c0.fd c0.srv c0.tcp).conns ↔
    ∃ c1 ∈ a.conns, c = if c1.fd = c0.fd then { c1 with unlinked := true } else c1 := by
  simp only [Sk.markUnlinked, Sk.modC, Sk.modS, List.mem_map, beq_iff_eq]
  constructor <;> rintro ⟨c1, h1, rfl⟩ <;> exact ⟨c1, h1, rfl⟩

theorem mem_servers_mark {v : SSk} : v ∈ (a.markUnlinked c0.fd c0.srv c0.tcp).servers ↔
    ∃ v1 ∈ a.servers, v = if v1.id = c0.srv then
      { v1 with conns := v1.conns.erase c0.fd, tcpConn := if c0.tcp then none else v1.tcpConn } else v1 := by
  simp only [Sk.markUnlinked, Sk.modC, Sk.modS, List.mem_map, beq_iff_eq]
  constructor <;> rintro ⟨c1, h1, rfl⟩ <;> exact ⟨c1, h1, rfl⟩

theorem mark_cFQ : (a.markUnlinked c0.fd c0.srv c0.tcp).cFQ = a.cFQ := by
  unfold Sk.markUnlinked Sk.cFQ
  exact proj_modC _ _ _ _ (fun _ => rfl)

theorem mark_server_ids : (a.markUnlinked c0.fd c0.srv c0.tcp).servers.map (·.id) = a.servers.map (·.id) :=
  map_if_keep _ fun _ _ _ => rfl

theorem wf_mark (h : WfS a none) (hc0 : c0 ∈ a.conns) : WfS (a.markUnlinked c0.fd c0.srv c0.tcp) none := by
  have hs := h.s
  refine ⟨h.q, h.i, h.t, ?_, ?_, h.k, h.tok⟩
  · rw [mark_cFQ]; exact h.c
  · -- entry of the connection table for a descriptor other than `c0.fd` is unchanged
    have keep : ∀ fd' u v t, (fd', u, v, t) ∈ a.cF4 → fd' ≠ c0.fd →
        (fd', u, v, t) ∈ (a.markUnlinked c0.fd c0.srv c0.tcp).cF4 := by
      intro fd' u v t hm hne
      obtain ⟨c, hc, he⟩ := mem_cF4.mp hm
      simp only [Prod.mk.injEq] at he
      refine mem_cF4.mpr ⟨c, mem_conns_mark.mpr ⟨c, hc, ?_⟩, by simp [he]⟩
      rw [if_neg (by rw [← he.1]; exact hne)]
    -- an entry for `c0.fd` is `c0`'s
    have own : ∀ u v t, (c0.fd, u, v, t) ∈ a.cF4 → u = c0.unlinked ∧ v = c0.srv ∧ t = c0.tcp := by
      intro u v t hm
      obtain ⟨c, hc, he⟩ := mem_cF4.mp hm
      simp only [Prod.mk.injEq] at he
      have := h.conn_unique hc hc0 he.1.symm
      subst this
      exact ⟨he.2.1, he.2.2.1, he.2.2.2⟩
    refine ⟨by rw [mark_server_ids]; exact hs.nodup, ?_, ?_, ?_, ?_⟩
    rotate_left 3
    · -- a connection that is still linked is another one; its server still lists it
      intro fd' srv t hm
      obtain ⟨c, hc, he⟩ := mem_cF4.mp hm
      obtain ⟨c1, hc1, rfl⟩ := mem_conns_mark.mp hc
      simp only [Prod.mk.injEq] at he
      by_cases hfd : c1.fd = c0.fd
      · simp only [hfd, ↓reduceIte] at he
        exact absurd he.2.1 (by simp)
      · simp only [hfd, ↓reduceIte] at he
        obtain ⟨v, hv, hvid, hvc⟩ := hs.linked c1.fd c1.srv c1.tcp (mem_cF4.mpr ⟨c1, hc1, by
          have : c1.unlinked = false := he.2.1.symm
          rw [this]⟩)
        refine ⟨_, mem_servers_mark.mpr ⟨v, hv, rfl⟩, ?_, ?_⟩
        · rw [he.2.2.1, ← hvid]; split <;> rfl
        · rw [he.1]
          split
          · exact (List.mem_erase_of_ne hfd).mpr hvc
          · exact hvc
    · intro v hv
      obtain ⟨v1, hv1, rfl⟩ := mem_servers_mark.mp hv
      split
      · exact (hs.connsNodup v1 hv1).erase _
      · exact hs.connsNodup v1 hv1
    · intro v hv fd' hfd'
      obtain ⟨v1, hv1, rfl⟩ := mem_servers_mark.mp hv
      by_cases hid : v1.id = c0.srv
      · simp only [hid, ↓reduceIte] at hfd' ⊢
        have hm := (List.Nodup.mem_erase_iff (hs.connsNodup v1 hv1)).mp hfd'
        obtain ⟨t, ht⟩ := hs.conns v1 hv1 fd' hm.2
        exact ⟨t, by rw [← hid]; exact keep _ _ _ _ ht hm.1⟩
      · simp only [hid, ↓reduceIte] at hfd' ⊢
        obtain ⟨t, ht⟩ := hs.conns v1 hv1 fd' hfd'
        refine ⟨t, keep _ _ _ _ ht (fun he => ?_)⟩
        rw [he] at ht
        exact hid (own _ _ _ ht).2.1
    · intro v hv fd' hfd'
      obtain ⟨v1, hv1, rfl⟩ := mem_servers_mark.mp hv
      by_cases hid : v1.id = c0.srv
      · simp only [hid, ↓reduceIte] at hfd' ⊢
        by_cases htcp : c0.tcp = true
        · simp [htcp] at hfd'
        · simp only [htcp, Bool.false_eq_true, ↓reduceIte] at hfd'
          have ht := hs.tcp v1 hv1 fd' hfd'
          rw [← hid]
          refine keep _ _ _ _ ht (fun he => ?_)
          rw [he] at ht
          exact htcp (own _ _ _ ht).2.2.symm
      · simp only [hid, ↓reduceIte] at hfd' ⊢
        have ht := hs.tcp v1 hv1 fd' hfd'
        refine keep _ _ _ _ ht (fun he => ?_)
        rw [he] at ht
        exact hid (own _ _ _ ht).2.1

theorem mark_same : (a.markUnlinked c0.fd c0.srv c0.tcp).qKO = a.qKO ∧ (a.markUnlinked c0.fd c0.srv c0.tcp).idx = a.idx ∧
    (a.markUnlinked c0.fd c0.srv c0.tcp).clients = a.clients ∧
    (a.markUnlinked c0.fd c0.srv c0.tcp).pendingToks = a.pendingToks ∧
    (a.markUnlinked c0.fd c0.srv c0.tcp).nextClient = a.nextClient ∧
    (a.markUnlinked c0.fd c0.srv c0.tcp).nextKey = a.nextKey ∧
    (a.markUnlinked c0.fd c0.srv c0.tcp).faults = a.faults := ⟨rfl, rfl, rfl, rfl, rfl, rfl, rfl⟩

theorem step_mark {xf xi d} : StepS xf xi d a (a.markUnlinked c0.fd c0.srv c0.tcp) := by
  refine StepS.of_same rfl rfl rfl rfl rfl rfl rfl ?_
  intro fd q hm _
  obtain ⟨c, hc, he⟩ := mem_cFUQ.mp hm
  simp only [Prod.mk.injEq] at he
  refine ⟨q, mem_cFUQ.mpr ⟨_, mem_conns_mark.mpr ⟨c, hc, rfl⟩, ?_⟩, fun _ hx => hx⟩
  split <;> simp [he]

/-- unlinking only changes the entry of the connection itself -/
theorem mark_cFUQ_filter :
    (a.markUnlinked c0.fd c0.srv c0.tcp).cFUQ.filter (fun x => x.1 != c0.fd) = a.cFUQ.filter (fun x => x.1 != c0.fd) := by
  unfold Sk.cFUQ
  rw [List.filter_map, List.filter_map]
  exact congrArg _ (filter_ne_update (key := CSk.fd) (f := fun c => { c with unlinked := true }) (fun _ h => h) _)

theorem debt_mark {x d} (hd : DebtOk x d a) : DebtOk x d (a.markUnlinked c0.fd c0.srv c0.tcp) :=
  hd.congr rfl rfl rfl rfl rfl

theorem hasConn_mark (hc0 : c0 ∈ a.conns) : (a.markUnlinked c0.fd c0.srv c0.tcp).hasConn c0.fd true :=
  ⟨c0.queries, mem_cFUQ.mpr ⟨_, mem_conns_mark.mpr ⟨c0, hc0, rfl⟩, by simp⟩⟩

end mark

section remove
variable {a : Sk} {c0 : CSk}

theorem mem_conns_remove {c : CSk} : c ∈ (a.removeConn c0.fd).conns ↔ c ∈ a.conns ∧ c.fd ≠ c0.fd := by
  simp [Sk.removeConn, List.mem_filter]

theorem wf_removeConn (h : WfS a none) (hc0 : c0 ∈ a.conns) (hu : c0.unlinked = true) (hq : c0.queries = []) :
    WfS (a.removeConn c0.fd) none := by
  have hc := h.c
  have sub : ∀ x ∈ (a.removeConn c0.fd).cFQ, x ∈ a.cFQ := by
    intro x hx
    obtain ⟨c, hcm, rfl⟩ := mem_cFQ.mp hx
    exact mem_cFQ.mpr ⟨c, (mem_conns_remove.mp hcm).1, rfl⟩
  refine ⟨h.q, h.i, h.t, ?_, ?_, h.k, h.tok⟩
  · refine ⟨?_, fun c hcm => hc.lt c (sub c hcm), fun c hcm => hc.sock c (sub c hcm),
      fun c hcm => hc.qNodup c (sub c hcm), fun c hcm => hc.cq c (sub c hcm), ?_⟩
    · have : ((a.removeConn c0.fd).cFQ.map (·.1)).Sublist (a.cFQ.map (·.1)) := by
        unfold Sk.cFQ Sk.removeConn
        exact List.Sublist.map _ (List.Sublist.map _ List.filter_sublist)
      exact this.nodup hc.nodup
    · intro p hp fd hfd
      obtain ⟨c, hcm, hcfd, hor⟩ := hc.qc p hp fd hfd
      obtain ⟨c1, hc1, rfl⟩ := mem_cFQ.mp hcm
      refine ⟨_, mem_cFQ.mpr ⟨c1, mem_conns_remove.mpr ⟨hc1, fun he => ?_⟩, rfl⟩, hcfd, hor⟩
      have := h.conn_unique hc1 hc0 he
      subst this
      rcases hor with hor | hor
      · simp only [hq] at hor; cases hor
      · cases hor
  · have hs := h.s
    have keep : ∀ fd' v t, (fd', false, v, t) ∈ a.cF4 → (fd', false, v, t) ∈ (a.removeConn c0.fd).cF4 := by
      intro fd' v t hm
      obtain ⟨c, hcm, he⟩ := mem_cF4.mp hm
      simp only [Prod.mk.injEq] at he
      refine mem_cF4.mpr ⟨c, mem_conns_remove.mpr ⟨hcm, fun hfd => ?_⟩, by simp [he]⟩
      have := h.conn_unique hcm hc0 hfd
      subst this
      rw [hu] at he; exact absurd he.2.1 (by simp)
    exact ⟨hs.nodup, hs.connsNodup, fun v hv fd' hfd' => by
      obtain ⟨t, ht⟩ := hs.conns v hv fd' hfd'; exact ⟨t, keep _ _ _ ht⟩,
      fun v hv fd' hfd' => keep _ _ _ (hs.tcp v hv fd' hfd'),
      fun fd' srv t hm => by
        obtain ⟨c, hcm, he⟩ := mem_cF4.mp hm
        exact hs.linked fd' srv t (mem_cF4.mpr ⟨c, (mem_conns_remove.mp hcm).1, he⟩)⟩

theorem step_removeConn {xi d} : StepS (some c0.fd) xi d a (a.removeConn c0.fd) := by
  refine StepS.of_same rfl rfl rfl rfl rfl rfl rfl ?_
  intro fd q hm hne
  obtain ⟨c, hc, he⟩ := mem_cFUQ.mp hm
  simp only [Prod.mk.injEq] at he
  refine ⟨q, mem_cFUQ.mpr ⟨c, mem_conns_remove.mpr ⟨hc, fun hfd => hne ?_⟩, by simp [he]⟩, fun _ hx => hx⟩
  rw [he.1, hfd]

theorem removeConn_cFUQ : (a.removeConn c0.fd).cFUQ = a.cFUQ.filter (fun x => x.1 != c0.fd) := by
  unfold Sk.removeConn Sk.cFUQ
  simp only [List.filter_map]
  rfl

theorem debt_removeConn {x d} (hd : DebtOk x d a) : DebtOk x d (a.removeConn c0.fd) :=
  hd.congr rfl rfl rfl rfl rfl

end remove

end Cares.Chan
