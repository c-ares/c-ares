import CaresLemmas.DnsRfcName
/-!
# Field-by-field agreement of the script interpreter with the RFC format decoder (helper lemmas for C04)

One equation per layer: the parser's successes that end inside the RDATA window `[S, S + n)` (`Res.within`) are
what the reference decodes there, filtered by `fieldSupported` and shown by `toVal` (`fieldAt`, `present`).
-/
namespace Cares.Dns
open Cares.Generated

theorem u16At_eq (bs : Bytes) (p : Nat) :
    Rfc.u16At bs p = if h : p + 2 ≤ bs.size then some (be16At bs p h) else none := by
  unfold Rfc.u16At
  split
  · rw [be16At_eq]
  · rfl

theorem u32At_eq (bs : Bytes) (p : Nat) :
    Rfc.u32At bs p = if h : p + 4 ≤ bs.size then some (be32At bs p h) else none := by
  unfold Rfc.u32At
  split
  · rw [be32At_eq]
  · rfl

theorem byteAt_eq (bs : Bytes) (p : Nat) :
    Rfc.byteAt bs p = if h : p < bs.size then some bs[p].toNat else none := by
  unfold Rfc.byteAt
  split
  · rename_i h; simp [h]
  · rename_i h; simp [h]

/-- which script kind decodes which RFC field form -/
def compatKind : FieldKind → Rfc.FieldSpec → Bool
  | .be16, .u16 | .be32, .u32 | .u8, .u8 | .name false, .domainName | .addr4, .ipv4 | .addr6, .ipv6
  | .abin false, .charStrings | .binRest, .opaqueRest | .strRest, .textRest | .opts, .tlvRest => true
  | .str blankAllowed, .charString nonEmpty => blankAllowed == !nonEmpty
  | _, _ => false

theorem printable_eq (b : BStr) : Rfc.printable b = b.all fun c => isPrint c.toNat := by
  unfold Rfc.printable
  congr 1
  funext c
  have : ∀ n, n < 256 → (decide (32 ≤ n) && decide (n ≤ 126)) = isPrint n := by decide +kernel
  exact this c.toNat c.toNat_lt

def isAbin : FieldKind → Bool
  | .abin _ => true
  | _ => false

/-- the RFC field form a script kind decodes -/
def specOf : FieldKind → Rfc.FieldSpec
  | .be16 => .u16
  | .be32 => .u32
  | .u8 => .u8
  | .name _ => .domainName
  | .str blankAllowed => .charString (!blankAllowed)
  | .addr4 => .ipv4
  | .addr6 => .ipv6
  | .abin _ => .charStrings
  | .binRest => .opaqueRest
  | .strRest => .textRest
  | .opts => .tlvRest

theorem compatKind_specOf {kind : FieldKind} {spec : Rfc.FieldSpec} (hk : compatKind kind spec = true) :
    spec = specOf kind := by
  cases kind <;> cases spec <;> simp_all [compatKind, specOf]

def compatScript : Script → List Rfc.FieldSpec → Bool
  | [], [] => true
  | kk :: rest, s :: ss => compatKind kk.1 s && compatScript rest ss
  | _, _ => false

def noAbin (script : Script) : Bool := script.all fun kk => !isAbin kk.1

/-- the string-array kind measures its window from where it starts, so it must come first (TXT) -/
def abinOk (script : Script) : Bool :=
  noAbin script || (match script with
    | [(.abin false, _)] => true
    | _ => false)

theorem abin_cons {kind : FieldKind} {key : Nat} {rest : Script} {p rdStart : Nat}
    (hab : noAbin ((kind, key) :: rest) = true ∨ (p = rdStart ∧ abinOk ((kind, key) :: rest) = true)) :
    noAbin rest = true ∧ (isAbin kind = true → p = rdStart) := by
  constructor
  · rcases hab with hn | ⟨_, hn⟩
    · simp only [noAbin, List.all_cons, Bool.and_eq_true] at hn ⊢; exact hn.2
    · unfold abinOk at hn
      rcases (Bool.or_eq_true_iff).1 hn with hn | hn
      · simp only [noAbin, List.all_cons, Bool.and_eq_true] at hn ⊢; exact hn.2
      · split at hn
        · rename_i k heq
          injection heq with _ heq; subst heq; rfl
        · simp at hn
  · intro hk
    rcases hab with hn | ⟨hp, _⟩
    · simp only [noAbin, List.all_cons, Bool.and_eq_true, Bool.not_eq_eq_eq_not, Bool.not_true] at hn
      rw [hk] at hn; simp at hn
    · exact hp

/-- the successful outcome of a reader step, provided it ends at or before `e` -/
def Res.within {α : Type} (e : Nat) : Res α → Option (α × Nat)
  | .ok a p => if p ≤ e then some (a, p) else none
  | _ => none

def Res.toOpt {α : Type} : Res α → Option (α × Nat)
  | .ok a p => some (a, p)
  | _ => none

theorem Res.toOpt_bind {α β : Type} {m : P α} {f : α → P β} {p : Nat} :
    ((m >>= f) p).toOpt = (m p).toOpt.bind fun r => (f r.1 r.2).toOpt := by
  cases h : m p with
  | ok a p1 => rw [P.bind_ok h]; rfl
  | err e => rw [P.bind_err h]; rfl
  | fault k => rw [P.bind_fault h]; rfl

section window
variable {bs : Bytes} {S n : Nat}

theorem tlvs_past {e p : Nat} (h : e < p) : Rfc.tlvs bs e p = none := by
  rw [Rfc.tlvs, if_neg (by omega), dif_neg (by omega)]

theorem tlvs_at {e p : Nat} (h4 : p + 4 ≤ bs.size) (hpe : p < e) :
    Rfc.tlvs bs e p =
      if p + 4 + be16At bs (p + 2) (by omega) ≤ e then
        (Rfc.tlvs bs e (p + 4 + be16At bs (p + 2) (by omega))).map
          ((be16At bs p (by omega), slice bs (p + 4) (be16At bs (p + 2) (by omega))) :: ·)
      else none := by
  by_cases h4e : p + 4 ≤ e
  · rw [Rfc.tlvs, if_neg (by omega), dif_pos ⟨h4e, h4⟩, be16At_eq, be16At_eq]
    simp only
    split
    · cases Rfc.tlvs bs e (p + 4 + (bs[p + 2].toNat * 256 + bs[p + 2 + 1].toNat)) <;> rfl
    · rfl
  · rw [Rfc.tlvs, if_neg (by omega), dif_neg (by omega), if_neg (by omega)]

/-- the option loop inside the window `[S, S + n)` reads exactly the TLV list that tiles the rest of the window -/
theorem optLoop_within (wf : S + n ≤ bs.size) (acc : List (Nat × BStr)) (p : Nat) (h1 : S ≤ p) (h2 : p ≤ bs.size) :
    (optLoop bs (bs.size - S) n acc p).within (S + n) =
      (Rfc.tlvs bs (S + n) p).map fun tl => (optFold acc tl, S + n) := by
  fun_induction optLoop bs (bs.size - S) n acc p
  -- the leaves of `optLoop` in source order: remaining-length err / fault, step err / fault, step ok, done
  case case1 hrem | case2 hrem => rw [rrRemainingLen_eq h2 h1 rfl] at hrem; cases hrem
  case case4 hstep => exact ((safe_optStep h2).not_fault hstep).elim
  case case3 acc p rem x hrem hne e hstep =>  -- the triple does not fit: no tiling either
    rw [rrRemainingLen_eq h2 h1 rfl] at hrem
    injection hrem with hrem _
    rw [optStep_eq h2] at hstep
    by_cases h4 : p + 4 ≤ bs.size
    · rw [dif_pos h4] at hstep
      split at hstep
      · cases hstep
      · rw [tlvs_at h4 (by omega), if_neg (by omega)]; rfl
    · rw [Rfc.tlvs, if_neg (by omega), dif_neg (by omega)]; rfl
  case case5 acc p rem x hrem hne o p1 hstep ih =>  -- one more option, go on
    rw [rrRemainingLen_eq h2 h1 rfl] at hrem
    injection hrem with hrem _
    rw [optStep_eq h2] at hstep
    by_cases h4 : p + 4 ≤ bs.size
    · rw [dif_pos h4] at hstep
      split at hstep
      · cases hstep
        rw [ih (by omega) (by omega), tlvs_at h4 (by omega)]
        split
        · cases Rfc.tlvs bs (S + n) (p + 4 + be16At bs (p + 2) (by omega)) <;> rfl
        · rw [tlvs_past (by omega)]; rfl
      · cases hstep
    · rw [dif_neg h4] at hstep; cases hstep
  case case6 acc p rem x hrem hz =>  -- done: at the end of the window, or past it
    rw [rrRemainingLen_eq h2 h1 rfl] at hrem
    injection hrem with hrem _
    by_cases he : p = S + n
    · rw [Rfc.tlvs, if_pos he]; simp [Res.within, he, optFold]
    · rw [tlvs_past (by omega)]; simp [Res.within]; omega

theorem charStrings_past {e p : Nat} (h : e ≤ p) :
    Rfc.charStrings bs e p = if p = e then some [] else none := by
  rw [Rfc.charStrings, dif_neg (by omega)]

theorem charStrings_at {e p : Nat} (hp : p < bs.size) (hpe : p < e) :
    Rfc.charStrings bs e p =
      if p + 1 + bs[p].toNat ≤ e then
        (Rfc.charStrings bs e (p + 1 + bs[p].toNat)).map (slice bs (p + 1) bs[p].toNat :: ·)
      else none := by
  rw [Rfc.charStrings, dif_pos ⟨hpe, hp⟩]
  simp only
  split
  · cases Rfc.charStrings bs e (p + 1 + bs[p].toNat) <;> rfl
  · rfl

/-- the TXT loop started at `S` with `remaining_len = n` reads exactly the character-strings that tile the rest of
    `[S, S + n)`; it fails if it never ran -/
theorem multistringLoop_within (wf : S + n ≤ bs.size) (acc : List BStr) (ran : Bool) (p : Nat) (h1 : S ≤ p)
    (h2 : p ≤ bs.size) :
    (multistringLoop bs (bs.size - S) n false acc ran p).within (S + n) =
      (Rfc.charStrings bs (S + n) p).bind fun sl =>
        if ran = true ∨ sl ≠ [] then some (acc ++ sl, S + n) else none := by
  fun_induction multistringLoop bs (bs.size - S) n false acc ran p
  -- the leaves of `multistringLoop` in source order: length test err / fault, step err / fault, step ok, done, never ran
  case case1 hu | case2 hu => rw [bufLen_sub_eq h2 (by omega)] at hu; cases hu
  case case4 hstep => exact ((safe_multistringStep false h2).not_fault hstep).elim
  case case3 acc ran p used x hu hlt e hstep =>  -- the string does not fit: no tiling either
    rw [bufLen_sub_eq h2 (by omega)] at hu
    injection hu with hu _
    rw [multistringStep_eq h2] at hstep
    by_cases hp : p < bs.size
    · rw [dif_pos hp] at hstep
      split at hstep
      · cases hstep
      · rw [charStrings_at hp (by omega), if_neg (by omega)]; rfl
    · omega
  case case5 acc ran p used x hu hlt s p1 hstep ih =>  -- one more string, go on
    rw [bufLen_sub_eq h2 (by omega)] at hu
    injection hu with hu _
    rw [multistringStep_eq h2] at hstep
    by_cases hp : p < bs.size
    · rw [dif_pos hp] at hstep
      split at hstep
      · cases hstep
        rw [ih (by omega) (by omega), charStrings_at hp (by omega)]
        split
        · cases Rfc.charStrings bs (S + n) (p + 1 + bs[p].toNat) <;> simp
        · rw [charStrings_past (by omega), if_neg (by omega)]; rfl
      · cases hstep
    · omega
  case case6 acc p used x hu hge =>  -- done, and the body ran
    rw [bufLen_sub_eq h2 (by omega)] at hu
    injection hu with hu _
    rw [charStrings_past (by omega)]
    by_cases he : p = S + n <;> simp [Res.within, he]
    omega
  case case7 acc ran p used x hu hge hran =>  -- the body never ran: EBADRESP
    rw [bufLen_sub_eq h2 (by omega)] at hu
    injection hu with hu _
    rw [charStrings_past (by omega)]
    by_cases he : p = S + n <;> simp [Res.within, he, hran]

/-- the field the reference decoder finds at `p`, as the record API shows it, if c-ares supports its value -/
def fieldAt (bs : Bytes) (e : Nat) (spec : Rfc.FieldSpec) (p : Nat) : Option (Val × Nat) :=
  (Rfc.decodeField bs e spec p).bind fun r =>
    if Rfc.fieldSupported spec r.1 = true then (Rfc.toVal spec r.1).map (·, r.2) else none

theorem Res.within_map {α β : Type} {m : P α} {f : α → β} {p e : Nat} :
    ((m >>= fun a => pure (f a)) p).within e = ((m p).within e).map fun r => (f r.1, r.2) := by
  cases h : m p with
  | ok a p1 => rw [P.bind_ok h]; simp only [P.pure_apply, Res.within]; split <;> rfl
  | err e => rw [P.bind_err h]; rfl
  | fault k => rw [P.bind_fault h]; rfl

theorem Res.within_bind {α β : Type} {m : P α} {f : α → P β} {p e : Nat} :
    ((m >>= f) p).within e = match m p with
      | .ok a p1 => (f a p1).within e
      | _ => none := by
  cases h : m p with
  | ok a p1 => rw [P.bind_ok h]
  | err e => rw [P.bind_err h]; rfl
  | fault k => rw [P.bind_fault h]; rfl

/-- `hk` excludes exactly the kinds no RFC form stands for: names with host-name validation and string arrays with
    printable validation (`.name true`, `.abin true`); every other kind is compatible with its own `specOf` -/
theorem parseField_within {bs : Bytes} {S n : Nat} (wf : S + n ≤ bs.size) {kind : FieldKind} (hk : compatKind kind (specOf kind) = true)
    {p : Nat} (h1 : S ≤ p) (h2 : p ≤ bs.size) (habin : isAbin kind = true → p = S) :
    (parseField bs (bs.size - S) n kind p).within (S + n) = fieldAt bs (S + n) (specOf kind) p := by
  cases kind <;> simp only [specOf, fieldAt, Rfc.decodeField, parseField]
  case be16 =>
    rw [Res.within_map, fetchBe16_eq h2, u16At_eq]
    by_cases hfit : p + 2 ≤ S + n
    · simp [Res.within, hfit, show p + 2 ≤ bs.size by omega, Rfc.fieldSupported, Rfc.toVal]
    · by_cases hs : p + 2 ≤ bs.size <;> simp [Res.within, hfit, hs]
  case be32 =>
    rw [Res.within_map, fetchBe32_eq h2, u32At_eq]
    by_cases hfit : p + 4 ≤ S + n
    · simp [Res.within, hfit, show p + 4 ≤ bs.size by omega, Rfc.fieldSupported, Rfc.toVal]
    · by_cases hs : p + 4 ≤ bs.size <;> simp [Res.within, hfit, hs]
  case u8 =>
    rw [Res.within_map, fetchByte_eq h2, byteAt_eq]
    by_cases hfit : p + 1 ≤ S + n
    · simp [Res.within, hfit, show p < bs.size by omega, Rfc.fieldSupported, Rfc.toVal]
    · by_cases hs : p < bs.size <;> simp [Res.within, hfit, hs]
  case addr4 =>
    rw [Res.within_map, fetchBytes_eq h2]
    by_cases hfit : p + 4 ≤ S + n
    · simp [Res.within, hfit, show p + 4 ≤ bs.size by omega, Rfc.fieldSupported, Rfc.toVal]
    · by_cases hs : p + 4 ≤ bs.size <;> simp [Res.within, hfit, hs]
  case addr6 =>
    rw [Res.within_map, fetchBytes_eq h2]
    by_cases hfit : p + 16 ≤ S + n
    · simp [Res.within, hfit, show p + 16 ≤ bs.size by omega, Rfc.fieldSupported, Rfc.toVal]
    · by_cases hs : p + 16 ≤ bs.size <;> simp [Res.within, hfit, hs]
  case name isHost =>
    cases isHost
    · rw [Res.within_map, parseName_eq_rfc bs p h2]
      cases Rfc.name bs p with
      | none => rfl
      | some r => by_cases hfit : r.2 ≤ S + n <;> simp [Res.within, hfit, Rfc.fieldSupported, Rfc.toVal]
    · cases hk
  case str blank =>
    rw [P.bind_ok (rrRemainingLen_eq h2 h1 rfl), Res.within_bind, byteAt_eq]
    cases hr : parseDnsBinstr bs (S + n - p) true p with
    | ok s p1 =>
      obtain ⟨hp, hl, hfit, hpr, rfl, rfl⟩ := (parseDnsStr_ok_iff h2).1 hr
      replace hpr := (printable_eq _).trans hpr
      have hlen := slice_length hfit
      have hin : p + 1 + bs[p].toNat ≤ S + n := by omega
      by_cases hb : blank = false ∧ bs[p].toNat = 0
      · simp [Res.within, hp, hb, slice_zero, show p + 1 ≤ S + n by omega]
      · have hb' : ¬ ((!blank) = true ∧ (slice bs (p + 1) bs[p].toNat).length = 0) := by rw [hlen]; simpa using hb
        have hb'' : (!blank) = true → bs[p].toNat ≠ 0 := by simpa using hb
        simp only [if_neg hb', P.pure_apply, Res.within, if_pos hin, dif_pos hp, if_pos (show p + 1 ≤ S + n by omega),
          if_pos (And.intro hin hb''), Option.bind_some, Rfc.fieldSupported, hpr, if_true, Rfc.toVal, Option.map_some]
    | err e =>
      have hno : ∀ hp : p < bs.size, p + 1 + bs[p].toNat ≤ S + n →
          ¬ Rfc.printable (slice bs (p + 1) bs[p].toNat) = true := fun hp hin hpr =>
        nomatch hr.symm.trans ((parseDnsStr_ok_iff h2).2 ⟨hp, by omega, by omega, (printable_eq _).symm.trans hpr, rfl, rfl⟩)
      by_cases hp : p < bs.size
      · by_cases hin : p + 1 + bs[p].toNat ≤ S + n
        · by_cases hb : (!blank) = true → bs[p].toNat ≠ 0
          · simp only [dif_pos hp, if_pos (And.intro hin hb)]
            split <;> simp [Rfc.fieldSupported, hno hp hin]
          · simp only [dif_pos hp, if_neg (fun h : _ ∧ _ => hb h.2)]
            split <;> rfl
        · simp [hp, hin]
      · simp [hp]
    | fault k => exact ((post_parseDnsBinstr _ true h2).safe.not_fault hr).elim
  case binRest =>
    rw [P.bind_ok (rrRemainingLen_eq h2 h1 rfl)]
    by_cases hlt : p < S + n
    · have hl := slice_length (bs := bs) (off := p) (len := S + n - p) (by omega)
      rw [if_neg (by omega), Res.within_map, fetchBytes_eq h2, if_pos ⟨by omega, by omega⟩, if_pos (by omega)]
      simp [Res.within, Rfc.fieldSupported, Rfc.toVal, hl, show p + (S + n - p) = S + n by omega]
      omega
    · rw [if_pos (by omega)]
      by_cases he : p ≤ S + n
      · have hl := slice_length (bs := bs) (off := p) (len := S + n - p) (by omega)
        simp [Res.within, he, Rfc.fieldSupported, hl]; omega
      · simp [Res.within, he]
  case strRest =>
    rw [P.bind_ok (rrRemainingLen_eq h2 h1 rfl)]
    by_cases hlt : p < S + n
    · rw [if_neg (by omega), Res.within_map, if_pos hlt]
      cases hr : fetchStrDup bs (S + n - p) p with
      | ok s p1 =>
        obtain ⟨_, _, hpr, rfl, rfl⟩ := (fetchStrDup_ok_iff h2).1 hr
        simp [Res.within, Rfc.fieldSupported, Rfc.toVal, printable_eq, hpr, show p + (S + n - p) = S + n by omega]
      | err e =>
        have : ¬ Rfc.printable (slice bs p (S + n - p)) = true := fun hpr =>
          nomatch hr.symm.trans ((fetchStrDup_ok_iff h2).2 ⟨by omega, by omega, printable_eq _ ▸ hpr, rfl, rfl⟩)
        simp [Res.within, Rfc.fieldSupported, this]
      | fault k => exact ((safe_fetchStrDup _ h2).not_fault hr).elim
    · rw [if_pos (by omega), if_neg hlt]; rfl
  case opts =>
    rw [Res.within_map, optLoop_within wf [] p h1 h2]
    cases Rfc.tlvs bs (S + n) p <;> simp [Rfc.fieldSupported, Rfc.toVal, optFold]
  case abin vp =>
    cases vp
    · obtain rfl := habin rfl
      rw [Res.within_map]
      unfold parseMultistring
      rw [P.bind_ok (bufLen_eq h2)]
      by_cases h0 : n = 0
      · rw [if_pos h0, charStrings_past (by omega)]
        simp [Res.within, h0]
      · rw [if_neg h0, multistringLoop_within wf [] false p (Nat.le_refl _) h2]
        rcases Rfc.charStrings bs (p + n) p with _ | _ | ⟨a, l⟩ <;> simp [Rfc.fieldSupported, Rfc.toVal]
    · cases hk

def specsOf (script : Script) : List Rfc.FieldSpec := script.map fun kk => specOf kk.1

/-- how the record API shows the decoded values under the script's keys; nothing if c-ares does not support one -/
def present (specs : List Rfc.FieldSpec) (keys : List Nat) (vals : List Rfc.FieldVal) : Option (List (Nat × Val)) :=
  if Rfc.fieldsSupported specs vals = true then (Rfc.toVals specs vals).map (keys.zip ·) else none

theorem compatScript_specsOf {sc : Script} {specs : List Rfc.FieldSpec} (h : compatScript sc specs = true) :
    specsOf sc = specs ∧ ∀ kk ∈ sc, compatKind kk.1 (specOf kk.1) = true := by
  induction sc generalizing specs with
  | nil => cases specs <;> simp_all [compatScript, specsOf]
  | cons kk rest ih =>
    cases specs with
    | nil => simp [compatScript] at h
    | cons s ss =>
      simp only [compatScript, Bool.and_eq_true] at h
      obtain ⟨e, hr⟩ := ih h.2
      obtain rfl := compatKind_specOf h.1
      refine ⟨by simp only [specsOf, List.map_cons] at e ⊢; rw [e], fun kk hkk => ?_⟩
      rcases List.mem_cons.1 hkk with rfl | hm
      · exact h.1
      · exact hr kk hm

theorem decodeFields_cons (e : Nat) (s : Rfc.FieldSpec) (ss : List Rfc.FieldSpec) (k : Nat) (ks : List Nat) (p : Nat) :
    (Rfc.decodeFields bs e (s :: ss) p).bind (present (s :: ss) (k :: ks)) =
      (fieldAt bs e s p).bind fun r => ((Rfc.decodeFields bs e ss r.2).bind (present ss ks)).map ((k, r.1) :: ·) := by
  simp only [Rfc.decodeFields, fieldAt]
  cases Rfc.decodeField bs e s p with
  | none => rfl
  | some r =>
    obtain ⟨fv, p1⟩ := r
    cases hd : Rfc.decodeFields bs e ss p1 with
    | none => cases hs : Rfc.fieldSupported s fv <;> cases ht : Rfc.toVal s fv <;> simp [hd, hs, ht]
    | some vs =>
      cases hs : Rfc.fieldSupported s fv <;> cases ht : Rfc.toVal s fv <;>
        cases hss : Rfc.fieldsSupported ss vs <;> cases hts : Rfc.toVals ss vs <;>
        simp [present, Rfc.fieldsSupported, Rfc.toVals, hs, ht, hss, hts, hd]

theorem parseFields_within {bs : Bytes} {S n : Nat} (wf : S + n ≤ bs.size) (script : Script)
    (hk : ∀ kk ∈ script, compatKind kk.1 (specOf kk.1) = true) {p : Nat} (h1 : S ≤ p) (h2 : p ≤ S + n)
    (hab : noAbin script = true ∨ (p = S ∧ abinOk script = true)) :
    ((parseFields bs (bs.size - S) n script p).within (S + n)).map (·.1) =
      (Rfc.decodeFields bs (S + n) (specsOf script) p).bind (present (specsOf script) (script.map (·.2))) := by
  induction script generalizing p with
  | nil => simp [parseFields, Res.within, h2, Rfc.decodeFields, specsOf, present, Rfc.fieldsSupported, Rfc.toVals]
  | cons kk rest ih =>
    obtain ⟨kind, key⟩ := kk
    obtain ⟨hrest, habin⟩ := abin_cons hab
    have hp : p ≤ bs.size := by omega
    simp only [specsOf, List.map_cons]
    rw [decodeFields_cons, ← parseField_within wf (hk _ List.mem_cons_self) h1 hp habin]
    unfold parseFields
    cases hf : parseField bs (bs.size - S) n kind p with
    | ok v p1 =>
      have b1 := (post_parseField (bs.size - S) n kind hp (by omega)).safe.ok hf
      rw [P.bind_ok hf, Res.within_map]
      by_cases hp1 : p1 ≤ S + n
      · have := ih (fun kk h => hk kk (List.mem_cons_of_mem _ h)) (p := p1) (by omega) hp1 (Or.inl hrest)
        simp only [specsOf] at this
        simp only [Res.within, if_pos hp1, Option.bind_some, ← this, Option.map_map]
        rfl
      · have : (parseFields bs (bs.size - S) n rest p1).within (S + n) = none := by
          cases hr : parseFields bs (bs.size - S) n rest p1 with
          | ok vs p2 =>
            have := (post_parseFields (bs.size - S) n rest b1.2 (by omega)).safe.ok hr
            simp only [Res.within]; rw [if_neg (by omega)]
          | _ => rfl
        rw [this]; simp [Res.within, hp1]
    | err e => rw [P.bind_err hf]; rfl
    | fault k => rw [P.bind_fault hf]; rfl

theorem decodeField_le {e : Nat} {spec : Rfc.FieldSpec} {p p' : Nat} {fv : Rfc.FieldVal}
    (hd : Rfc.decodeField bs e spec p = some (fv, p')) : p' ≤ e := by
  cases spec <;> simp only [Rfc.decodeField] at hd
  case u8 | u16 | u32 =>
    split at hd
    · obtain ⟨v, _, hv⟩ := Option.map_eq_some_iff.1 hd
      cases hv; assumption
    · cases hd
  case ipv4 | ipv6 => split at hd <;> cases hd; assumption
  case opaqueRest | textRest => split at hd <;> cases hd; exact Nat.le_refl _
  case domainName =>
    split at hd
    · split at hd <;> cases hd; assumption
    · cases hd
  case charString =>
    split at hd
    · split at hd
      · split at hd <;> cases hd
        rename_i h; exact h.1
      · cases hd
    · cases hd
  case charStrings => split at hd <;> cases hd; exact Nat.le_refl _
  case tlvRest =>
    obtain ⟨l, _, hv⟩ := Option.map_eq_some_iff.1 hd
    cases hv; exact Nat.le_refl _

theorem decodeField_toVal {e p p' : Nat} {spec : Rfc.FieldSpec} {fv : Rfc.FieldVal}
    (h : Rfc.decodeField bs e spec p = some (fv, p')) : (Rfc.toVal spec fv).isSome = true := by
  cases spec <;> simp only [Rfc.decodeField] at h
  case u8 | u16 | u32 =>
    split at h
    · obtain ⟨v, _, hv⟩ := Option.map_eq_some_iff.1 h
      cases hv; rfl
    · cases h
  case ipv4 | ipv6 | opaqueRest | textRest => split at h <;> cases h <;> rfl
  case domainName =>
    split at h
    · split at h <;> cases h <;> rfl
    · cases h
  case charString =>
    split at h
    · split at h
      · split at h <;> cases h <;> rfl
      · cases h
    · cases h
  case charStrings => split at h <;> cases h <;> rfl
  case tlvRest =>
    obtain ⟨l, _, hv⟩ := Option.map_eq_some_iff.1 h
    cases hv; rfl

theorem toVals_isSome {e : Nat} (specs : List Rfc.FieldSpec) :
    ∀ {p : Nat} {vals : List Rfc.FieldVal}, Rfc.decodeFields bs e specs p = some vals →
      (Rfc.toVals specs vals).isSome = true := by
  induction specs with
  | nil => intro p vals h; cases h; rfl
  | cons s ss ih =>
    intro p vals h
    simp only [Rfc.decodeFields] at h
    cases hd : Rfc.decodeField bs e s p with
    | none => simp [hd] at h
    | some r =>
      cases hds : Rfc.decodeFields bs e ss r.2 with
      | none => simp [hd, hds] at h
      | some vs =>
        simp only [hd, hds, Option.some.injEq] at h
        subst h
        obtain ⟨v, hv⟩ := Option.isSome_iff_exists.1 (decodeField_toVal hd)
        obtain ⟨xs, hxs⟩ := Option.isSome_iff_exists.1 (ih hds)
        simp [Rfc.toVals, hv, hxs]

end window

end Cares.Dns
