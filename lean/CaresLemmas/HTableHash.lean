import CaresModel.Dsa.HTable
/-! Helper lemmas for the hash functions of ares_htable.c. -/
namespace Cares.Dsa
open Cares.Generated

theorem fnvShiftAdd_eq_mul (hv : Nat) : fnvShiftAdd hv = (hv * 16777619) % 2 ^ 32 := by
  unfold fnvShiftAdd u32
  -- the inner reductions mod 2^32 can be dropped; what is left is 1 + 2 + 16 + 128 + 256 + 2^24 = 16777619
  simp only [Nat.add_mod_mod, Nat.mod_add_mod, Nat.shiftLeft_eq, Nat.reducePow]
  congr 1
  omega

theorem fnv1aCase_foldl_congr (a b : List Nat) (hv : Nat)
    (ha : ∀ c ∈ a, tolower c ≠ 0) (hb : ∀ c ∈ b, tolower c ≠ 0) (h : strCaseEq a b = true) :
    a.foldl (fun hv c => fnvStep hv (tolower c)) hv = b.foldl (fun hv c => fnvStep hv (tolower c)) hv := by
  induction a generalizing b hv with
  | nil =>
    cases b with
    | nil => rfl
    | cons y ys =>
      simp only [strCaseEq, beq_iff_eq] at h
      exact absurd h.symm (hb y List.mem_cons_self)
  | cons x xs ih =>
    cases b with
    | nil =>
      simp only [strCaseEq, beq_iff_eq] at h
      exact absurd h (ha x List.mem_cons_self)
    | cons y ys =>
      simp only [strCaseEq, Bool.and_eq_true, beq_iff_eq] at h
      simp only [List.foldl_cons, h.1]
      exact ih ys _ (fun c hc => ha c (List.mem_cons_of_mem _ hc)) (fun c hc => hb c (List.mem_cons_of_mem _ hc)) h.2

end Cares.Dsa
