import CaresModel.Chan.Core
import CaresLemmas.CookieValidate
/-!
# `process_answer`: the acceptance decision

`bodyProcessAnswer` is decomposed (definitionally) into the checks, `ares_cookie_validate`'s side effects (`paPre`), and
the tail `paDeliver` that runs once a response has been accepted.  `acceptKey` is the pure decision; `Authentic` spells
out what it has checked; `bodyProcessAnswer_accept` / `_reject` are the two ways the procedure goes.
-/
namespace Cares.Chan
open Cares.Proto

/-- same_questions(): type, class, and the name — compared exactly when 0x20 is on and the query went over UDP,
    case-insensitively otherwise -/
def sameQuestion (cfg : Cfg) (q : Query) (r : Reply) : Bool :=
  q.qtype == r.qtype && q.qclass == r.qclass &&
    (if cfg.dns0x20 && !q.usingTcp then q.name == r.name else hexLower q.name == hexLower r.name)

/-- the call of `ares_cookie_validate` made by `process_answer` for query `q` and response `r` arriving on `c` -/
def cookieCheck (s : St) (c : Conn) (q : Query) (r : Reply) : Cookie.ValidateOut :=
  Cookie.validate ((s.server? c.srv).getD default).cookie { cookieTry := q.cookieTry, usingTcp := q.usingTcp }
    (if q.edns then q.reqCookie else none) (if r.hasOpt then r.cookie.map hexToBytes else none) r.rcode s.tv

theorem cookieCheck_requeue_drop (s : St) (c : Conn) (q : Query) (r : Reply)
    (h : (cookieCheck s c q r).requeue = true) : (cookieCheck s c q r).verdict = .drop :=
  Cookie.validateWith_requeue_drop h

/-- the state after `ares_cookie_validate` has updated the server's cookie state and the query's cookie fields -/
def paPre (s : St) (c : Conn) (key : Nat) (q : Query) (r : Reply) : St :=
  (s.modServer c.srv fun v => { v with cookie := (cookieCheck s c q r).ck }).modQuery key fun q' =>
    { q' with cookieTry := (cookieCheck s c q r).q.cookieTry, usingTcp := (cookieCheck s c q r).q.usingTcp }

/-- `process_answer` once the response has passed every check: record it, unlink the query from its connection,
    then EDNS downgrade / TC→TCP / server-failure requeue / cache + `end_query` -/
def paDeliver (go : Call → St → St × Ret) (fd : Nat) (r : Reply) (c : Conn) (key : Nat) (q0 : Query) (s : St) : St × Ret :=
  let q := (s.query? key).getD q0
  let s := { s with accepted := s.accepted ++ [(fd, key, r)] }
  let s := s.modConn (q.conn.getD fd) fun c => { c with queries := c.queries.erase key }
  let s := s.modQuery key fun q => { q with inConnList := false }
  let ednsIssue := r.rcode == 1 && q.edns &&
    (!r.hasOpt || (q.reqCookie.isSome && r.hasOpt))
  if ednsIssue then
    let s := s.removeFromConn key
    let s := s.modQuery key fun q => { q with edns := false, reqCookie := none, cookie := "-" }
    ({ s with requeueArr := s.requeueArr ++ [(q.qid, some c.srv)] }, .ok)
  else if r.tc && !c.tcp && !s.cfg.igntc then
    let s := s.removeFromConn key
    let s := s.modQuery key fun q => { q with usingTcp := true }
    ({ s with requeueArr := s.requeueArr ++ [(q.qid, none)] }, .ok)
  else if !s.cfg.nocheckresp && (r.rcode == 2 || r.rcode == 4 || r.rcode == 5) then
    let st : Status := if r.rcode == 2 then .servfail else if r.rcode == 4 then .notimp else .refused
    let s := s.incFailures c.srv q.usingTcp
    let (s, _) := go (.requeue key st true (some r) true) s
    (s, .ok)
  else
    let s := s.cacheInsert q r
    let s := s.setGood c.srv q.usingTcp
    let (s, _) := go (.endQuery (some c.srv) key .ok (some r)) s
    (s, .ok)

theorem bodyProcessAnswer_stages (go : Call → St → St × Ret) (fd : Nat) (r : Reply) (s : St) :
    bodyProcessAnswer go fd r s =
      match s.conn? fd with
      | none => (s.mfault s!"uaf-conn({fd}) in process_answer", .other)
      | some c =>
        if r.empty then (s, .ok) else
        if r.garbage then (s, .badresp) else
        match s.byQid.find? (·.1 == r.id) with
        | none => (s, .ok)
        | some (_, key) =>
          match s.query? key with
          | none => (s.mfault s!"dangling-qid({r.id})", .other)
          | some q =>
            if q.conn != some fd then (s, .ok) else
            if !sameQuestion s.cfg q r then (s, .ok) else
            let (s', _) := if (cookieCheck s c q r).requeue then go (.requeue key .ok false none true) (paPre s c key q r)
                           else (paPre s c key q r, Status.ok)
            if (cookieCheck s c q r).verdict == .drop then (s', .ok) else paDeliver go fd r c key q s' := by
  rfl

/-- the decision of `process_answer`: the key of the query that response `r`, arriving on `fd`, answers -/
def acceptKey (s : St) (fd : Nat) (r : Reply) : Option Nat :=
  match s.conn? fd with
  | none => none
  | some c =>
    if r.empty then none else
    if r.garbage then none else
    match s.byQid.find? (·.1 == r.id) with
    | none => none
    | some (_, key) =>
      match s.query? key with
      | none => none
      | some q =>
        if q.conn != some fd then none else
        if !sameQuestion s.cfg q r then none else
        if (cookieCheck s c q r).verdict == .drop then none else some key

/-- everything `process_answer` has checked, in the state in which it examined the response, before it records
    `(fd, key, r)` as accepted -/
structure Authentic (s : St) (fd key : Nat) (r : Reply) : Prop where
  notEmpty : r.empty = false
  notGarbage : r.garbage = false
  /-- it arrived on a live connection of this channel -/
  conn : ∃ c, s.conn? fd = some c
  /-- the qid table maps the response's id to `key` … -/
  qid : (r.id, key) ∈ s.byQid ∧ (s.byQid.find? (·.1 == r.id)).map (·.2) = some key
  /-- … which is a live query -/
  live : ∃ q, s.query? key = some q
  /-- … currently assigned to the connection the response arrived on -/
  assigned : ∀ q, s.query? key = some q → q.conn = some fd
  qtype : ∀ q, s.query? key = some q → q.qtype = r.qtype
  qclass : ∀ q, s.query? key = some q → q.qclass = r.qclass
  /-- the name matches exactly when 0x20 is on and the query went over UDP -/
  nameExact : ∀ q, s.query? key = some q → s.cfg.dns0x20 = true → q.usingTcp = false → q.name = r.name
  /-- … and up to ASCII case otherwise -/
  nameCi : ∀ q, s.query? key = some q → hexLower q.name = hexLower r.name
  /-- the DNS-cookie checks accept it -/
  cookie : ∀ c q, s.conn? fd = some c → s.query? key = some q → (cookieCheck s c q r).verdict = .accept

theorem acceptKey_some {s : St} {fd key : Nat} {r : Reply} (h : acceptKey s fd r = some key) :
    ∃ c id q, s.conn? fd = some c ∧ r.empty = false ∧ r.garbage = false ∧
      s.byQid.find? (·.1 == r.id) = some (id, key) ∧ s.query? key = some q ∧ q.conn = some fd ∧
      sameQuestion s.cfg q r = true ∧ (cookieCheck s c q r).verdict = .accept := by
  unfold acceptKey at h
  split at h
  · cases h
  · rename_i c hc
    split at h
    · cases h
    · rename_i hempty
      split at h
      · cases h
      · rename_i hgarb
        split at h
        · cases h
        · rename_i id key' hfind
          split at h
          · cases h
          · rename_i q hq
            split at h
            · cases h
            · rename_i hconn
              split at h
              · cases h
              · rename_i hsame
                split at h
                · cases h
                · rename_i hdrop
                  cases h
                  refine ⟨c, id, q, hc, by simpa using hempty, by simpa using hgarb, hfind, hq, by simpa using hconn,
                    ?_, ?_⟩
                  · cases h' : sameQuestion s.cfg q r with
                    | true => rfl
                    | false => simp [h'] at hsame
                  · cases hv : (cookieCheck s c q r).verdict with
                    | accept => rfl
                    | drop => rw [hv] at hdrop; simp at hdrop

theorem acceptKey_authentic {s : St} {fd key : Nat} {r : Reply} (h : acceptKey s fd r = some key) :
    Authentic s fd key r := by
  obtain ⟨c, id, q, hc, hempty, hgarb, hfind, hq, hconn, hs, hv⟩ := acceptKey_some h
  have hmem := List.find?_some hfind
  have hin := List.mem_of_find?_eq_some hfind
  simp only [beq_iff_eq] at hmem
  subst hmem
  simp only [sameQuestion, Bool.and_eq_true, beq_iff_eq] at hs
  obtain ⟨⟨hqt, hqc⟩, hname⟩ := hs
  refine ⟨hempty, hgarb, ⟨c, hc⟩, ⟨hin, by rw [hfind]; rfl⟩, ⟨q, hq⟩, ?_, ?_, ?_, ?_, ?_, ?_⟩
  · intro q' hq'; rw [hq] at hq'; cases hq'; exact hconn
  · intro q' hq'; rw [hq] at hq'; cases hq'; exact hqt
  · intro q' hq'; rw [hq] at hq'; cases hq'; exact hqc
  · intro q' hq' h0 hu; rw [hq] at hq'; cases hq'
    simpa [h0, hu] using hname
  · intro q' hq'; rw [hq] at hq'; cases hq'
    split at hname
    · simp only [beq_iff_eq] at hname; rw [hname]
    · simpa using hname
  · intro c' q' hc' hq'
    rw [hc] at hc'; rw [hq] at hq'; cases hc'; cases hq'
    exact hv

/-- conversely: a response that satisfies all the checks is accepted (the checks are exactly these) -/
theorem acceptKey_of_authentic {s : St} {fd key : Nat} {r : Reply} (h : Authentic s fd key r) :
    acceptKey s fd r = some key := by
  obtain ⟨c, hc⟩ := h.conn
  obtain ⟨q, hq⟩ := h.live
  unfold acceptKey
  simp only [hc, h.notEmpty, h.notGarbage, Bool.false_eq_true, ↓reduceIte]
  have hf := h.qid.2
  cases hfind : s.byQid.find? (·.1 == r.id) with
  | none => rw [hfind] at hf; cases hf
  | some p =>
    obtain ⟨id, k⟩ := p
    rw [hfind] at hf
    simp only [Option.map_some, Option.some.injEq] at hf
    subst hf
    simp only [hq]
    have hs : sameQuestion s.cfg q r = true := by
      simp only [sameQuestion, Bool.and_eq_true, beq_iff_eq]
      refine ⟨⟨h.qtype q hq, h.qclass q hq⟩, ?_⟩
      split
      · rename_i hc0
        simp only [Bool.and_eq_true, Bool.not_eq_true'] at hc0
        simpa using h.nameExact q hq hc0.1 hc0.2
      · simpa using h.nameCi q hq
    have hcn : (q.conn != some fd) = false := by simp [h.assigned q hq]
    simp only [hcn, hs, Bool.not_true, Bool.false_eq_true, ↓reduceIte, h.cookie c q hc hq]
    rfl

/-- **accepted**: `process_answer` is its tail, run in the state `ares_cookie_validate` leaves -/
theorem bodyProcessAnswer_accept {s : St} {fd key : Nat} {r : Reply} (h : acceptKey s fd r = some key) :
    ∃ c q, s.conn? fd = some c ∧ s.query? key = some q ∧ q.conn = some fd ∧
      ∀ go, bodyProcessAnswer go fd r s = paDeliver go fd r c key q (paPre s c key q r) := by
  obtain ⟨c, id, q, hc, hempty, hgarb, hfind, hq, hconn, hs, hv⟩ := acceptKey_some h
  refine ⟨c, q, hc, hq, hconn, ?_⟩
  have hrq : (cookieCheck s c q r).requeue = false := by
    cases h' : (cookieCheck s c q r).requeue with
    | false => rfl
    | true => rw [cookieCheck_requeue_drop s c q r h'] at hv; cases hv
  intro go
  rw [bodyProcessAnswer_stages]
  simp only [hc, hempty, hgarb, hfind, hq, hconn, hs, hrq, hv, bne_self_eq_false, Bool.false_eq_true, ↓reduceIte,
    Bool.not_true]
  rfl

/-- **not accepted**: apart from faults, nothing happens except what `ares_cookie_validate` does (server cookie state,
    the query's cookie counters, a BADCOOKIE re-send) -/
theorem bodyProcessAnswer_reject {s : St} {fd : Nat} {r : Reply} (h : acceptKey s fd r = none) :
    (∃ st, ∀ go, bodyProcessAnswer go fd r s = (s, st)) ∨ (∃ e, ∀ go, bodyProcessAnswer go fd r s = (s.mfault e, .other)) ∨
      ∃ c key q, s.conn? fd = some c ∧ s.query? key = some q ∧ (cookieCheck s c q r).verdict = .drop ∧
        ∀ go, bodyProcessAnswer go fd r s =
          (if (cookieCheck s c q r).requeue then (go (.requeue key .ok false none true) (paPre s c key q r)).1
            else paPre s c key q r, .ok) := by
  simp only [bodyProcessAnswer_stages]
  unfold acceptKey at h
  split
  · exact .inr (.inl ⟨_, fun _ => rfl⟩)
  · rename_i c hcn
    simp only [hcn] at h
    by_cases hempty : r.empty = true
    · simp only [if_pos hempty]; exact .inl ⟨_, fun _ => rfl⟩
    by_cases hgarb : r.garbage = true
    · simp only [if_neg hempty, if_pos hgarb]; exact .inl ⟨_, fun _ => rfl⟩
    simp only [if_neg hempty, if_neg hgarb] at h ⊢
    split
    · exact .inl ⟨_, fun _ => rfl⟩
    · rename_i id key hfind
      simp only [hfind] at h
      split
      · exact .inr (.inl ⟨_, fun _ => rfl⟩)
      · rename_i q hq
        simp only [hq] at h
        by_cases hconn : (q.conn != some fd) = true
        · simp only [if_pos hconn]; exact .inl ⟨_, fun _ => rfl⟩
        by_cases hsame : (!sameQuestion s.cfg q r) = true
        · simp only [if_neg hconn, if_pos hsame]; exact .inl ⟨_, fun _ => rfl⟩
        simp only [if_neg hconn, if_neg hsame] at h ⊢
        have hd : ((cookieCheck s c q r).verdict == Cookie.Verdict.drop) = true := by
          cases hv : ((cookieCheck s c q r).verdict == Cookie.Verdict.drop) with
          | true => rfl
          | false => simp [hv] at h
        refine .inr (.inr ⟨c, key, q, hcn, hq, by simpa using hd, fun go => ?_⟩)
        simp only [hd, ↓reduceIte]
        cases (cookieCheck s c q r).requeue <;> rfl

end Cares.Chan
