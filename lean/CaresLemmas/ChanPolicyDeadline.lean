import CaresLemmas.ChanPolicySettle
import CaresLemmas.ChanExec
/-!
# C06 — every attempt waits at least the base timeout and at most the configured maximum

`sqDeadline` is the deadline computation of `bodySendQuery` (`ares_calc_query_timeout` + `timeadd`, see
`bodySendQuery_eq`).  The jitter (`rounds > 0`) is not computed by the model: the deadline is `.pending lo hi` and
`St.settle` takes the observed value, logging an observation fault when it lies outside `[lo, hi]`.
-/
namespace Cares.Chan

/-- the cap `ares_metrics_server_timeout` applies -/
def timeoutCap (c : Cfg) : Nat := if c.maxtimeout != 0 then c.maxtimeout else 5000

theorem serverTimeout_le_cap (s : St) (v : Server) : s.serverTimeout v ≤ timeoutCap s.cfg := by
  unfold St.serverTimeout timeoutCap
  dsimp only
  repeat' split
  all_goals omega

/-- floor and cap of the base timeout: at least 250 ms unless the cap is lower -/
theorem serverTimeout_ge (s : St) (v : Server) : min 250 (timeoutCap s.cfg) ≤ s.serverTimeout v := by
  unfold St.serverTimeout timeoutCap
  dsimp only
  repeat' split
  all_goals omega

theorem draw2_now (s : St) : s.draw2.2.now = s.now := by
  unfold St.draw2; split <;> rfl

/-- the deadline `ares_send_query` sets is at least `now + base` (base = the server's
    current timeout as `ares_metrics_server_timeout` yields it) and, when a maximum is configured, at most
    `now + maxtimeout`; for a jittered deadline this holds for both ends of the admitted interval -/
theorem deadline_within_policy (s : St) (srvNow : Server) (tryCount : Nat) :
    (sqDeadline s srvNow tryCount).2.now = s.now ∧
    match (sqDeadline s srvNow tryCount).1 with
    | .at d => s.now + s.serverTimeout srvNow ≤ d ∧ (s.cfg.maxtimeout ≠ 0 → d ≤ s.now + s.cfg.maxtimeout)
    | .pending lo hi =>
      s.now + s.serverTimeout srvNow ≤ lo ∧ lo ≤ hi ∧ (s.cfg.maxtimeout ≠ 0 → hi ≤ s.now + s.cfg.maxtimeout)
    | .none => False := by
  have hcap := serverTimeout_le_cap s srvNow
  unfold sqDeadline
  dsimp only
  split
  ·
    refine ⟨draw2_now s, ?_⟩
    dsimp only
    rw [draw2_now]
    refine ⟨by omega, by omega, ?_⟩
    intro hm
    unfold timeoutCap at hcap
    have hne : (s.cfg.maxtimeout != 0) = true := by simpa using hm
    rw [if_pos hne] at hcap
    split
    · omega
    · rename_i hcond
      simp only [hne, Bool.true_and, decide_eq_true_eq, Nat.not_lt] at hcond
      omega
  · refine ⟨rfl, ?_⟩
    dsimp only
    refine ⟨by omega, ?_⟩
    intro hm
    unfold timeoutCap at hcap
    have hne : (s.cfg.maxtimeout != 0) = true := by simpa using hm
    rw [if_pos hne] at hcap
    split
    · omega
    · rename_i hcond
      simp only [hne, Bool.true_and, decide_eq_true_eq, Nat.not_lt] at hcond
      omega

/-- the first pass (`try_count < servers`) is not jittered: the deadline is exact -/
theorem deadline_first_pass (s : St) (srvNow : Server) (tryCount : Nat) (h : tryCount / s.servers.length = 0) :
    ∃ d, (sqDeadline s srvNow tryCount).1 = .at d := by
  unfold sqDeadline
  dsimp only
  rw [h]
  exact ⟨_, rfl⟩

/-- `settle` admits an observed jittered deadline only inside the interval: otherwise an observation fault is
    logged -/
theorem settleStep_within (s : St) (k : Nat) (q : Query) (lo hi : Nat) (hq : s.query? k = some q)
    (hd : q.deadline = .pending lo hi) :
    (settleStep s k).obsFaults.length > s.obsFaults.length ∨
    ∃ v, lo ≤ v ∧ v ≤ hi ∧ (settleStep s k).dl? k = some (.at v) := by
  unfold settleStep
  rw [hq]
  dsimp only
  rw [hd]
  dsimp only
  split
  · rename_i rem _
    generalize hv : (Int.ofNat s.now + rem).toNat = v
    have hk : q.key = k := query?_key hq
    by_cases hin : (decide (lo ≤ v) && decide (v ≤ hi)) = true
    · right
      simp only [Bool.and_eq_true, decide_eq_true_eq] at hin
      refine ⟨v, hin.1, hin.2, ?_⟩
      rw [if_pos (by simpa using hin)]
      show (St.dl? _ k) = _
      unfold St.dl?
      show Option.map _ ((s.modQuery q.key fun q => { q with deadline := .at v }).query? k) = _
      rw [hk, query?_modQuery_self, hq]
      · rfl
      · intro _; rfl
    · left
      rw [if_neg hin]
      show (s.obsFaults ++ [_]).length > _
      simp
  · left
    show (s.obsFaults ++ [_]).length > _
    simp

end Cares.Chan
