import CaresLemmas.ChanSockProto
import CaresLemmas.ChanSockFrame
import CaresLemmas.ChanReach
/-!
# The socket protocol of the channel model (C10): the invariant over the model

`St.sview` projects a channel state to the view of `ChanSockProto`; every primitive update of the model either leaves
the view alone or has one of the view-level effects for which `SockInv` is preserved (`SInv.prim`), so the invariant holds
along every run (`exec_SInv`).
-/
namespace Cares.Chan

def ckey (c : Conn) : Nat × Bool × Bool := (c.fd, c.notR, c.notW)

def St.sview (s : St) : SView :=
  { conns := s.conns.map ckey, log := s.sockLog, nlog := s.notifyLog, nextFd := s.nextFd }

abbrev SInv (w : Option (Nat × List (Bool × Bool))) (s : St) : Prop := SockInv w s.sview

/-! The helpers that leave the view alone, one lemma each; `sview_frame` is the set the last line of `SInv.prim` rewrites
with. -/
section
variable (s : St)

@[simp, sview_frame] theorem sview_emit (e : String) : (s.emit e).sview = s.sview := by
  simp only [St.sview, chan_frame]
@[simp, sview_frame] theorem sview_ofault (e : String) : (s.ofault e).sview = s.sview := by
  simp only [St.sview, chan_frame]
@[simp, sview_frame] theorem sview_mfault (e : String) : (s.mfault e).sview = s.sview := by
  simp only [St.sview, chan_frame]
@[simp, sview_frame] theorem sview_setQuery (q : Query) : (s.setQuery q).sview = s.sview := by
  simp only [St.sview, chan_frame]
@[simp, sview_frame] theorem sview_setServer (v : Server) : (s.setServer v).sview = s.sview := by
  simp only [St.sview, chan_frame]
@[simp, sview_frame] theorem sview_setSock (v : VSock) : (s.setSock v).sview = s.sview := by
  simp only [St.sview, chan_frame]
@[simp, sview_frame] theorem sview_modQuery (k : Nat) (f : Query → Query) : (s.modQuery k f).sview = s.sview := by
  simp only [St.sview, chan_frame]
@[simp, sview_frame] theorem sview_modServer (id : Nat) (f : Server → Server) : (s.modServer id f).sview = s.sview := by
  simp only [St.sview, chan_frame]
@[simp, sview_frame] theorem sview_modSock (fd : Nat) (f : VSock → VSock) : (s.modSock fd f).sview = s.sview := by
  simp only [St.sview, chan_frame]
@[simp, sview_frame] theorem sview_modClient (id : Nat) (f : Client → Client) : (s.modClient id f).sview = s.sview := by
  simp only [St.sview, chan_frame]
@[simp, sview_frame] theorem sview_incFailures (id : Nat) (tcp : Bool) : (s.incFailures id tcp).sview = s.sview := by
  simp only [St.sview, chan_frame]
@[simp, sview_frame] theorem sview_setGood (id : Nat) (tcp : Bool) : (s.setGood id tcp).sview = s.sview := by
  simp only [St.sview, chan_frame]
@[simp, sview_frame] theorem sview_metricsRecord (q : Query) (srv : Option Nat) (st : Status) (rec : Option Reply) : (s.metricsRecord q srv st rec).sview = s.sview := by
  simp only [St.sview, chan_frame]
@[simp, sview_frame] theorem sview_cacheExpire  : (s.cacheExpire).sview = s.sview := by
  simp only [St.sview, chan_frame]
@[simp, sview_frame] theorem sview_cacheInsert (q : Query) (r : Reply) : (s.cacheInsert q r).sview = s.sview := by
  simp only [St.sview, chan_frame]
@[simp, sview_frame] theorem sview_draw2snd  : (s.draw2.2).sview = s.sview := by
  simp only [St.sview, chan_frame]
@[simp, sview_frame] theorem sview_draw1snd  : (s.draw1.2).sview = s.sview := by
  simp only [St.sview, chan_frame]
@[simp, sview_frame] theorem sview_pop8  : (s.pop8).sview = s.sview := by
  simp only [St.sview, chan_frame]
@[simp, sview_frame] theorem sview_faultsnd (c : String) : ((s.fault c).2).sview = s.sview := by
  simp only [St.sview, chan_frame]
@[simp, sview_frame] theorem sview_userCallback (tok : Nat) (st : Status) (timeouts : Nat) (dg : String) : (s.userCallback tok st timeouts dg).sview = s.sview := by
  simp only [St.sview, chan_frame]
@[simp, sview_frame] theorem sview_oof  : (s.oof.1).sview = s.sview := by
  simp only [St.sview, chan_frame]
@[simp, sview_frame] theorem sview_genQid (n : Nat) : ((genQid n s).2).sview = s.sview := by
  simp only [St.sview, chan_frame]

theorem sview_modConn (fd : Nat) (f : Conn → Conn) (hf : ∀ c, ckey (f c) = ckey c) :
    (s.modConn fd f).sview = s.sview := by
  unfold St.sview
  rw [connsMap_modConn ckey s fd f hf]
  rfl

theorem sview_removeFromConn (k : Nat) : (s.removeFromConn k).sview = s.sview := by
  unfold St.removeFromConn
  split
  · rfl
  · simp only [sview_modQuery]
    split
    · rw [sview_modConn]
      · rfl
      · intro c; rfl
    · rfl

theorem sview_detach (k : Nat) : (s.detach k).sview = s.sview := by
  unfold St.detach
  split
  · rfl
  · exact sview_removeFromConn s k

theorem sview_freeQuery (k : Nat) : (s.freeQuery k).sview = s.sview := by
  unfold St.freeQuery
  exact sview_detach s k

/-- The view of a state written out field by field, and back (`sview_fold`): the constructors of `Prim` that are raw
    `{ s with … }` updates reach `SInv.prim` as `St.mk …` terms, whose view `sview_mk` reads off and `sview_fold` folds
    back to `s.sview`. -/
theorem sview_mk (cfg' : Cfg) (alive' : Bool) (now' : Nat) (servers' : List Server) (conns' : List Conn) (qs' : List Query) (nextKey' : Nat) (all' : List Nat) (byQid' : List (Nat × Nat)) (byTimeout' : List Nat) (listCopy' : List (List Nat)) (socks' : List VSock) (nextFd' : Nat) (faults' : List ScriptedFault) (pendingWl' : List Nat) (txs' : List Tx) (cache' : List CacheEntry) (reactions' : List (Nat × Reaction)) (pendingToks' : List Nat) (doneToks' : List Nat) (notifyPending' : Bool) (ev' : List String) (obs' : Obs) (modelFaults' : List String) (obsFaults' : List String) (outOfFuel' : Bool) (destroyed' : Bool) (destroying' : Bool) (selfVariant' : Nat) (lastQid' : Nat) (clients' : List Client) (nextClient' : Nat) (reactSeq' : Nat) (pendingOrder' : List Nat) (requeueArr' : List (Nat × Option Nat)) (writeLog' : List Nat) (notifyLog' : List (Nat × Bool × Bool)) (sockLog' : List (Nat × String)) (accepted' : List (Nat × Nat × Reply)) (picks' : List (Nat × Nat × Bool × List (Nat × Nat))) :
    St.sview (St.mk cfg' alive' now' servers' conns' qs' nextKey' all' byQid' byTimeout' listCopy' socks' nextFd' faults' pendingWl' txs' cache' reactions' pendingToks' doneToks' notifyPending' ev' obs' modelFaults' obsFaults' outOfFuel' destroyed' destroying' selfVariant' lastQid' clients' nextClient' reactSeq' pendingOrder' requeueArr' writeLog' notifyLog' sockLog' accepted' picks') = ⟨conns'.map ckey, sockLog', notifyLog', nextFd'⟩ := rfl

theorem sview_fold : (⟨s.conns.map ckey, s.sockLog, s.notifyLog, s.nextFd⟩ : SView) = s.sview := rfl

theorem sview_slog (fd : Nat) (c : String) :
    (s.slog fd c).sview = { s.sview with log := s.sview.log ++ [(fd, c)] } := rfl

theorem sview_recordTx (fd : Nat) (tcp : Bool) (f : OutFrame) :
    (s.recordTx fd tcp f).sview = { s.sview with log := s.sview.log ++ [(fd, "send")] } := rfl

theorem sview_notify (fd : Nat) (r w : Bool) : (s.notify fd r w).sview = vnotify s.sview fd r w := by
  unfold St.notify vnotify
  have hf : s.sview.conns.find? (·.1 == fd) = (s.conn? fd).map ckey := List.find?_map
  rw [hf]
  cases hc : s.conn? fd with
  | none => rfl
  | some c =>
    simp only [Option.map_some]
    have hmap : ∀ s' : St, s'.conns = s.conns → s'.nextFd = s.nextFd → s'.sockLog = s.sockLog →
        (s'.modConn fd fun c => { c with notR := r, notW := w }).sview =
          { s.sview with conns := s.sview.conns.map (setFlags fd r w), nlog := s'.notifyLog } := by
      intro s' h1 h2 h3
      simp only [St.sview, St.modConn, h1, h2, h3, SView.mk.injEq, and_true]
      exact map_if_comm s.conns ckey _ (·.1 == fd) _ (fun e => (e.1, r, w)) (fun _ => rfl) (fun _ => rfl)
    split
    · rename_i hne
      rw [hmap _ (by rfl) (by rfl) (by rfl)]
      have hne' : (ckey c).2 ≠ (r, w) := by
        simp only [ckey, ne_eq, Prod.mk.injEq, not_and]
        simp only [bne_iff_ne, ne_eq, Bool.or_eq_true] at hne
        rcases hne with h | h
        · exact fun h1 => absurd h1 h
        · exact fun _ h2 => absurd h2 h
      simp only [hne', ne_eq, not_false_eq_true, ↓reduceIte]
      rfl
    · rename_i hne
      rw [hmap _ (by rfl) (by rfl) (by rfl)]
      have hne' : ¬ (ckey c).2 ≠ (r, w) := by
        simp only [ckey, ne_eq, Prod.mk.injEq, not_and, Classical.not_imp, Decidable.not_not]
        simp only [bne_iff_ne, ne_eq, Bool.or_eq_true, not_or, Decidable.not_not] at hne
        exact hne
      simp only [hne', ↓reduceIte]
      rfl

end

theorem conn?_mem {s : St} {fd : Nat} {c : Conn} (h : s.conn? fd = some c) : ∃ k ∈ s.sview.conns, k.1 = fd :=
  ⟨ckey c, List.mem_map_of_mem (List.mem_of_find?_eq_some h), (find?_key_eq h : c.fd = fd)⟩

section
variable {w : Option (Nat × List (Bool × Bool))} {s : St}

theorem SInv_slog (h : SInv w s) {fd : Nat} {c : Conn} (hc : s.conn? fd = some c) (call : String)
    (hio : isIo call = true) : SInv w (s.slog fd call) :=
  h.io fd call (conn?_mem hc) hio

theorem SInv_recordTx (h : SInv w s) {fd : Nat} {c : Conn} (hc : s.conn? fd = some c) (tcp : Bool) (f : OutFrame) :
    SInv w (s.recordTx fd tcp f) :=
  h.io fd "send" (conn?_mem hc) (by decide)

theorem SInv_notify (h : SInv w s) (fd : Nat) (r wr : Bool) (hnz : (r, wr) ≠ (false, false)) :
    SInv w (s.notify fd r wr) := by
  show SockInv w (s.notify fd r wr).sview
  rw [sview_notify]; exact h.notify fd r wr hnz

theorem SInv_modConn (h : SInv w s) (fd : Nat) (f : Conn → Conn) (hf : ∀ c, ckey (f c) = ckey c) :
    SInv w (s.modConn fd f) := by
  show SockInv w (s.modConn fd f).sview
  rw [sview_modConn s fd f hf]; exact h

theorem SInv_advanceOut : ∀ (fuel fd : Nat) (s : St) (n : Nat), SInv w s → SInv w (advanceOut fuel fd s n)
  | 0, _, _, _, h => h
  | fuel + 1, fd, s, n, h => by
    unfold advanceOut
    split
    · exact h
    · rename_i c hc
      split
      · exact h
      · rename_i f rest _
        dsimp only
        split
        · have h1 : SInv w (s.modConn fd fun c => { c with out := rest, outOff := 0 }) :=
            SInv_modConn h fd _ (fun _ => rfl)
          have hc' := (conn?_modConn_self s fd (fun c => { c with out := rest, outOff := 0 }) fun _ => rfl).trans
            (congrArg _ hc)
          have h2 := SInv_recordTx h1 hc' true f
          split
          · exact h2
          · exact SInv_advanceOut fuel fd _ _ h2
        · exact SInv_modConn h fd _ (fun _ => rfl)

end

theorem sview_ocSock (s1 : St) (tcp : Bool) (srv : Server) :
    (ocSock s1 tcp srv).sview =
      { s1.sview with log := s1.sview.log ++ [(s1.nextFd, "open")], nextFd := s1.nextFd + 1 } := by
  unfold ocSock
  simp only [sview_modSock, sview_slog, sview_emit]
  rfl

theorem OcOpened.sview {s t : St} {tcp : Bool} {srv : Server} (h : OcOpened s tcp srv t) :
    t.sview = { s.sview with log := s.sview.log ++ [(s.nextFd, "open")] ++ [(s.nextFd, "connect")],
                             nextFd := s.nextFd + 1 } := by
  obtain ⟨_, _, rfl⟩ := h
  have hu := sview_ocSock s tcp srv
  generalize ocSock s tcp srv = u at hu ⊢
  show { u.sview with log := u.sview.log ++ [(s.nextFd, "connect")] } = _
  rw [hu]

theorem sview_ocClose (s : St) (fd : Nat) :
    (ocClose s fd).sview = { s.sview with log := s.sview.log ++ [(fd, "close")] } := by
  unfold ocClose
  simp only [sview_slog, sview_emit, sview_modSock]

theorem sview_ocFinish (s : St) (fd : Nat) (tcp : Bool) (srv : Server) :
    (ocFinish s fd tcp srv).sview =
      vnotify { s.sview with conns := s.sview.conns ++ [(fd, false, false)] } fd true tcp := by
  unfold ocFinish
  simp only [sview_notify, sview_modServer]
  congr 1
  simp [St.sview, ckey]

/-- **`ares_open_connection` at the view level**: nothing (no socket), or socket opened, connected and closed again
    (failure unwind), or socket opened, connected, connection added and read interest announced (exactly when it
    returns a descriptor, which is the next unused one) -/
theorem sview_openConn (s : St) (tcp : Bool) (srv : Server) :
    ((openConn s tcp srv).2.sview = s.sview ∧ ∀ fd, (openConn s tcp srv).1 ≠ .ok fd) ∨
    ((openConn s tcp srv).2.sview = vopenFail s.sview ∧ ∀ fd, (openConn s tcp srv).1 ≠ .ok fd) ∨
    ((openConn s tcp srv).2.sview = vnotify (vopen s.sview) s.nextFd true tcp ∧
      (openConn s tcp srv).1 = .ok s.nextFd) := by
  rcases openConn_paths s tcp srv with ⟨e, h⟩ | ⟨t, ht, h | h⟩ <;> rw [h]
  · exact .inl ⟨by simp only [sview_emit, sview_faultsnd], fun fd h => by cases h⟩
  · exact .inr (.inl ⟨by rw [sview_ocClose, ht.sview]; rfl, fun fd h => by cases h⟩)
  · exact .inr (.inr ⟨by rw [sview_ocFinish, ht.sview]; rfl, rfl⟩)

theorem SInv_openConn {w} {s : St} (h : SInv w s) (tcp : Bool) (srv : Server) : SInv w (openConn s tcp srv).2 := by
  show SockInv w (openConn s tcp srv).2.sview
  rcases sview_openConn s tcp srv with ⟨e, _⟩ | ⟨e, _⟩ | ⟨e, _⟩ <;> rw [e]
  · exact h
  · exact h.openFail
  · exact h.open.notify _ _ _ (by simp)

theorem sview_closeFinal (s : St) (fd : Nat) : (closeFinal s fd).sview = vclose s.sview fd := by
  unfold closeFinal vclose
  simp only []
  have : ∀ s' : St, St.sview { s' with conns := s'.conns.filter (·.fd != fd) } =
      { s'.sview with conns := s'.sview.conns.filter (·.1 != fd) } := by
    intro s'
    simp only [St.sview, List.filter_map, SView.mk.injEq, and_true]
    rfl
  rw [this]
  simp only [sview_slog, sview_emit, sview_modSock, sview_notify]

theorem SInv_closeFinal {w} {s : St} (h : SInv w s) {fd : Nat} {c : Conn} (hc : s.conn? fd = some c) :
    SInv w (closeFinal s fd) := by
  show SockInv w (closeFinal s fd).sview
  rw [sview_closeFinal]; exact h.close fd (conn?_mem hc)

attribute [sview_frame] sview_removeFromConn sview_detach sview_freeQuery

theorem sview_sqCommit (s : St) (q : Query) (key fd : Nat) (dl : Deadline) : (sqCommit s q key fd dl).sview = s.sview := by
  unfold sqCommit
  show (St.modConn _ fd _).sview = _
  refine (sview_modConn _ _ _ ?_).trans ?_
  · exact fun _ => rfl
  cases q.conn with
  | none => rfl
  | some old => exact sview_modConn { s with byTimeout := s.byTimeout.erase key } old _ (fun _ => rfl)

/-- The socket calls and the notifications are the cases with a lemma of their own; every other update leaves the
    view alone. -/
theorem SInv.prim {w : Option (Nat × List (Bool × Bool))} {c : Call} {s s' : St} (p : Prim c s s') (h : SInv w s) :
    SInv w s' := by
  cases p
  case slog hio hc => exact SInv_slog h hc _ (by rcases hio with rfl | rfl <;> rfl)
  case notify => exact SInv_notify h _ _ _ (by simp)
  case modConn hf => exact SInv_modConn h _ _ fun c => by simp only [ckey, hf.fd, hf.notR, hf.notW]
  case advanceOut => exact SInv_advanceOut _ _ _ _ h
  case udpSent ho hc =>
    exact SInv_modConn (SInv_notify (SInv_recordTx h hc _ _) _ _ _ (by simp)) _ _ fun _ => rfl
  case openConn => exact SInv_openConn h _ _
  case closeFinal hc => exact SInv_closeFinal h hc
  case resetConn => exact SInv_modConn h _ _ fun _ => rfl
  case recvUdp | consume => exact SInv_modConn h _ _ fun _ => rfl
  case recvTcp => exact SInv_modConn (s := s.modSock _ _) h _ _ fun _ => rfl
  case enqueue => exact SInv_modConn h _ _ fun _ => rfl
  case sqCommit => show SockInv w _; rw [sview_sqCommit]; exact h
  all_goals (show SockInv w _; simpa only [sview_frame, sview_mk, sview_fold] using h)

/-- **The socket-protocol invariant holds along every run** (any procedure, any fuel) -/
theorem exec_SInv (w : Option (Nat × List (Bool × Bool))) (fuel : Nat) (c : Call) (s : St) (h : SInv w s) :
    SInv w (exec fuel c s).1 :=
  exec_invariant SInv.prim (fun _ h => h) fuel c s h

theorem SInv_init (s : St) (hc : s.conns = []) (hl : s.sockLog = []) (hn : s.notifyLog = []) : SInv none s := by
  refine ⟨?_, ?_, ?_, ?_, ?_, ?_, ?_, ?_, ?_⟩ <;>
    simp [St.sview, hc, hl, hn, fdState, nproj, NotifyOK.nil]

/-- once a descriptor is closed, its state and its notification stream never change again -/
theorem exec_closed_frozen (fuel : Nat) (c : Call) (s : St) (h : SInv none s) (fd : Nat)
    (hcl : fdState s.sockLog fd = .closed) :
    fdState (exec fuel c s).1.sockLog fd = .closed ∧
      nproj (exec fuel c s).1.notifyLog fd = nproj s.notifyLog fd := by
  have h' : SInv (some (fd, nproj s.notifyLog fd)) s :=
    ⟨h.notBad, h.connOpen, h.fresh, h.nodup, h.openHasConn, h.nOK, h.nLast, h.nFinal,
      fun p hp => by cases hp; exact ⟨hcl, rfl⟩⟩
  exact (exec_SInv _ fuel c s h').frozen _ rfl

end Cares.Chan
