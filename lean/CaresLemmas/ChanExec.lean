import CaresModel.Chan.Core
/-!
# The executor's induction principle, and `ares_send_query` / `ares_send_nolock` in named pieces

`exec_induct`: induction for `exec` (open recursion through `execBody`).

`bodySendQuery` is cut twice, and each cut is the same function by `rfl` (`bodySendQuery_eq`, `bodySendQuery_stages`):
into the blocks of `sendQueryBlocks`, over which the policy lemmas are proved block by block, and into the stages at
which the socket state changes hands, over which the socket proofs, the instrumented executor (`ClientExecLog`) and
C01's lemmas about the pieces of `ares_send_query` (`ChanWfSendQ`) are written.  `fetchConn` and `sqFlush` are pieces of
both cuts.  Three blocks are stages under another name (`sqChoose = pickServer`, `sqOpen … none = openConn`,
`sqEnqueue = (sqPrepare …).1`): the equations, by `rfl`, record that; no proof rewrites with them, a lemma about a stage
applies to the block as it stands (the two unfold to the same term).  State a lemma over the name the file it is for
speaks.

`openConn_paths`: the three ways `ares_open_connection` ends, with the state `OcOpened` in which it decides; every
lemma about the opening of a connection goes through it.  Which to use: `sqOpen_cases` (`ChanShape`), its elimination
form with the socket side forgotten, for a predicate of the resulting state that reads `conns`, `servers` or `nextFd`;
`sqOpen_shape` for one that reads none of the written fields; `openConn_paths` itself with `OcOpened.fields` where the
socket log matters or a view of the new connection is wanted, as in `sview_openConn` (C10, the view of the socket
protocol), `ukeys_openConn` (C10, `(fd, tcp, total)` of the connections, servers, `nextFd`), `uflags_openConn` (C10,
`(fd, unlinked)`), `openConn_views` (C20).
`bodySendNolock_stages` / `snCreate` do the same for `ares_send_nolock`.  `closeFinal` is the last step of
`ares_close_connection`, one unit of `Prim` (`ChanReach`).  `settleStep` is the step function of `St.settle` (`settle_eq`, by `rfl`).
-/
namespace Cares.Chan

theorem exec_induct {P : Call → St → St × Ret → Prop}
    (h0 : ∀ c s, P c s s.oof)
    (hstep : ∀ go : Call → St → St × Ret, (∀ c s, P c s (go c s)) → ∀ c s, P c s (execBody go c s)) :
    ∀ fuel c s, P c s (exec fuel c s) := by
  intro fuel
  induction fuel with
  | zero => intro c s; exact h0 c s
  | succ n ih => intro c s; exact hstep (exec n) ih c s

/-- the server choice of `ares_send_query` -/
def sqChoose (reqSrv : Option Nat) (s : St) : Option Server × St :=
  match reqSrv with
  | some id => (s.server? id, s)
  | none =>
    if s.cfg.rotate then
      let nbest := countBest s.sortedServers
      if nbest == 0 then (none, s) else
      let (c, s') := s.draw1
      (s.sortedServers[c % nbest]?, s')
    else (s.sortedServers.head?, s)

/-- `ares_fetch_connection` -/
def fetchConn (s : St) (q : Query) (srv : Server) : Option Nat :=
  if q.usingTcp then srv.tcpConn
  else match srv.conns.head? with
    | none => none
    | some fd =>
      match s.conn? fd with
      | none => none
      | some c =>
        if c.tcp then none
        else if s.cfg.udpMax > 0 && c.total ≥ s.cfg.udpMax then none
        else some fd

/-- `ares_open_connection` (when no connection can be reused) -/
def sqOpen (s : St) (q : Query) (srv : Server) (existing : Option Nat) : (Except Status Nat) × St :=
  match existing with
  | some fd => (.ok fd, s)
  | none =>
    let tcp := q.usingTcp
    let (f, s) := s.fault "socket"
    match f with
    | some _ => (.error .connrefused, s.emit s!"sock!({if tcp then "tcp" else "udp"})")
    | none =>
      let fd := s.nextFd
      let wl := if tcp then s.pendingWl else []
      let s := { s with nextFd := fd + 1,
                        pendingWl := if tcp then [] else s.pendingWl,
                        socks := s.socks ++ [({ fd := fd, tcp := tcp, wl := wl } : VSock)] }
      let s := (s.emit s!"sock({fd},{if tcp then "tcp" else "udp"},4)").slog fd "open"
      let port := if tcp then srv.tcpPort else srv.udpPort
      let s := s.modSock fd fun v => { v with peer := srv.addr, port := port }
      let (f, s) := s.fault "connect"
      let s := s.slog fd "connect"
      let connFail := match f with
        | some e => !isWouldBlock e
        | none => false
      let s := match f with
        | some _ => s.emit s!"conn!({fd},{srv.addr}#{port})"
        | none => s.emit s!"conn({fd},{srv.addr}#{port})"
      if connFail then
        let s := ((s.modSock fd fun v => { v with isOpen := false }).emit s!"close({fd})").slog fd "close"
        (.error .connrefused, s)
      else
        let (f, s) := s.fault "getsockname"
        match f with
        | some _ =>
          let s := ((s.modSock fd fun v => { v with isOpen := false }).emit s!"close({fd})").slog fd "close"
          (.error .connrefused, s)
        | none =>
          let c : Conn := { fd := fd, srv := srv.id, tcp := tcp, selfIp := s.selfVariant }
          let s := { s with conns := s.conns ++ [c] }
          let s := s.modServer srv.id fun v =>
            { v with conns := if tcp then v.conns ++ [fd] else fd :: v.conns,
                     tcpConn := if tcp then some fd else v.tcpConn }
          let s := s.notify fd true tcp
          (.ok fd, s)

/-- the cookie option the request carries on this attempt (`ares_cookie_apply`) -/
def sqApply (s : St) (q : Query) (srv : Server) (fd : Nat) : Cares.Proto.Cookie.ApplyOut :=
  let cTcp := ((s.conn? fd).map (·.tcp)).getD q.usingTcp
  let cSelf := ((s.conn? fd).map (·.selfIp)).getD 0
  let srvNow0 := (s.server? srv.id).getD srv
  let reqOpt : Cares.Proto.Cookie.ReqOpt := if q.edns then some q.reqCookie else none
  Cares.Proto.Cookie.apply srvNow0.cookie { selfIp := selfAddr cSelf, tcp := cTcp } s.tv s.peek8 reqOpt

def sqCookie (ao : Cares.Proto.Cookie.ApplyOut) : String :=
  match ao.req.join with
  | some b => bytesToHex b
  | none => "-"

/-- `ares_conn_query_write` up to the flush: cookie applied, frame appended to the out buffer, ghost write log -/
def sqEnqueue (s : St) (q : Query) (srv : Server) (key fd : Nat) : St :=
  let ao := sqApply s q srv fd
  let s := if ao.draws > 0 then s.pop8 else s
  let s := s.modServer srv.id fun v => { v with cookie := ao.ck }
  let newCk : Option (List UInt8) := ao.req.join
  let cookie := sqCookie ao
  let s := s.modQuery key fun q => { q with reqCookie := newCk, cookie := cookie }
  let q := { q with reqCookie := newCk, cookie := cookie }
  let frame : OutFrame := { len := frameLen q.name q.edns cookie, key := key, qid := q.qid, name := q.name,
                            qtype := q.qtype, qclass := q.qclass, rd := q.rd, edns := q.edns, cookie := cookie }
  let s := s.modConn fd fun c => { c with out := c.out ++ [frame] }
  { s with writeLog := s.writeLog ++ [key] }

/-- the flush decision of `ares_conn_query_write` -/
def sqFlush (go : Call → St → St × Ret) (fd : Nat) (s : St) : Status × St :=
  let c := (s.conn? fd).getD default
  if c.tcp && !c.connected then (.ok, s)
  else if s.cfg.pendingWrite && !s.notifyPending && c.tcp then
    (.ok, ({ s with notifyPending := true }).emit "pendingwrite")
  else
    let (s, r) := go (.flush fd) s
    (r, s)

/-- `ares_calc_query_timeout` + `timeadd` -/
def sqDeadline (s : St) (srvNow : Server) (tryCount : Nat) : Deadline × St :=
  let timeout := s.serverTimeout srvNow
  let nsrv := s.servers.length
  let rounds := tryCount / nsrv
  let timeplus := if rounds > 0 then timeout * 2 ^ rounds else timeout
  let timeplus := if s.cfg.maxtimeout != 0 && timeplus > s.cfg.maxtimeout then s.cfg.maxtimeout else timeplus
  if rounds > 0 then
    let (_, s) := s.draw2
    let lo := max timeout (timeplus - timeplus / 2)
    let hi := max timeout timeplus
    (.pending (s.now + lo) (s.now + hi), s)
  else (.at (s.now + max timeplus timeout), s)

/-- the bookkeeping after a successful write -/
def sqCommit (s : St) (q : Query) (key fd : Nat) (dl : Deadline) : St :=
  let s := { s with byTimeout := s.byTimeout.erase key }
  let s := match q.conn with
    | some old => s.modConn old fun c => { c with queries := c.queries.erase key }
    | none => s
  let s := s.modQuery key fun q => { q with ts := s.now, deadline := dl, conn := some fd, inConnList := true }
  let s := { s with pendingOrder := s.pendingOrder.erase key ++ [key] }
  s.modConn fd fun c => { c with queries := c.queries.erase key ++ [key], total := c.total + 1 }

/-- what happens after the write, by its status -/
def sqAfter (go : Call → St → St × Ret) (q : Query) (srv : Server) (key fd : Nat) (probeDowned : Bool)
    (wst : Status) (s : St) : St × Ret :=
  match wst with
  | .ok =>
    match s.query? key, s.conn? fd with
    | some q, some _ =>
      let srvNow := (s.server? srv.id).getD srv
      let (dl, s) := sqDeadline s srvNow q.tryCount
      let s := sqCommit s q key fd dl
      if probeDowned then
        let (s, _) := go (.probe srv.id key) s
        (s, .ok)
      else (s, .ok)
    | none, _ => (s.mfault s!"uaf-query({key}) after write in ares_send_query", .other)
    | _, none => (s.mfault s!"uaf-conn({fd}) after write in ares_send_query", .other)
  | .nomem => go (.endQuery (some srv.id) key .nomem none) s
  | .connrefused | .badfamily =>
    let (s, _) := go (.connError fd true wst) s
    match (s.byQid.find? (fun (id, k) => id == q.qid && k == key)).bind (fun _ => s.query? key) with
    | none => (s, .cancelled)
    | some _ =>
      let (s, r) := go (.requeue key wst true none false) s
      (s, if r == .timeout then .connrefused else r)
  | wst' =>
    let s := s.incFailures srv.id q.usingTcp
    go (.requeue key wst' true none false) s

/-- `bodySendQuery` as the composition of the blocks -/
def sendQueryBlocks (go : Call → St → St × Ret) (reqSrv : Option Nat) (key : Nat) (s : St) : St × Ret :=
  match s.query? key with
  | none => (s.mfault s!"uaf-query({key}) in ares_send_query", .other)
  | some q =>
  let sorted := s.sortedServers
  let (srv?, s) := sqChoose reqSrv s
  match srv? with
  | none => go (.endQuery none key .noserver none) s
  | some srv =>
  let s := { s with picks := s.picks ++ [(key, srv.id, reqSrv.isSome, sorted.map fun v => (v.id, v.failures))] }
  let probeDowned := reqSrv.isNone && srv.failures == 0 && q.tryCount == 0
  let existing := fetchConn s q srv
  let (connRes, s) := sqOpen s q srv existing
  match connRes with
  | .error st =>
    let s := s.incFailures srv.id q.usingTcp
    go (.requeue key st true none false) s
  | .ok fd =>
  let cookie := sqCookie (sqApply s q srv fd)
  let newCk := (sqApply s q srv fd).req.join
  let s := sqEnqueue s q srv key fd
  let q := { q with reqCookie := newCk, cookie := cookie }
  let (wst, s) := sqFlush go fd s
  sqAfter go q srv key fd probeDowned wst s

theorem bodySendQuery_eq (go : Call → St → St × Ret) (reqSrv : Option Nat) (key : Nat) (s : St) :
    bodySendQuery go reqSrv key s = sendQueryBlocks go reqSrv key s := by
  rfl

/-! ### the stages

`ares_send_query` cut at the places where the socket state changes hands (`pickServer`, `fetchConn`, `openConn` and its
steps, `sqPrepare`, `sqFlush`, `sqLinkPre`, `sqLink`, `sqWriteQ`), `ares_send_nolock` at the creation of the query
(`snCreate`).  Both cuts are the same function (`bodySendQuery_eq`, `bodySendQuery_stages`), and where a stage is a
block the two are equal by `rfl`: a lemma about the one is a lemma about the other. -/

/-- server choice of `ares_send_query` -/
def pickServer (reqSrv : Option Nat) (s : St) : Option Server × St :=
  match reqSrv with
  | some id => (s.server? id, s)
  | none =>
    if s.cfg.rotate then
      let nbest := countBest s.sortedServers
      if nbest == 0 then (none, s) else
      let (c, s') := s.draw1
      (s.sortedServers[c % nbest]?, s')
    else (s.sortedServers.head?, s)

/-- `ares_open_connection` -/
def openConn (s : St) (tcp : Bool) (srv : Server) : (Except Status Nat) × St :=
  let (f, s) := s.fault "socket"
  match f with
  | some _ => (.error .connrefused, s.emit s!"sock!({if tcp then "tcp" else "udp"})")
  | none =>
    let fd := s.nextFd
    let wl := if tcp then s.pendingWl else []
    let s := { s with nextFd := fd + 1,
                      pendingWl := if tcp then [] else s.pendingWl,
                      socks := s.socks ++ [({ fd := fd, tcp := tcp, wl := wl } : VSock)] }
    let s := (s.emit s!"sock({fd},{if tcp then "tcp" else "udp"},4)").slog fd "open"
    let port := if tcp then srv.tcpPort else srv.udpPort
    let s := s.modSock fd fun v => { v with peer := srv.addr, port := port }
    let (f, s) := s.fault "connect"
    let s := s.slog fd "connect"
    let connFail := match f with
      | some e => !isWouldBlock e
      | none => false
    let s := match f with
      | some _ => s.emit s!"conn!({fd},{srv.addr}#{port})"
      | none => s.emit s!"conn({fd},{srv.addr}#{port})"
    if connFail then
      let s := ((s.modSock fd fun v => { v with isOpen := false }).emit s!"close({fd})").slog fd "close"
      (.error .connrefused, s)
    else
      let (f, s) := s.fault "getsockname"
      match f with
      | some _ =>
        let s := ((s.modSock fd fun v => { v with isOpen := false }).emit s!"close({fd})").slog fd "close"
        (.error .connrefused, s)
      | none =>
        let c : Conn := { fd := fd, srv := srv.id, tcp := tcp, selfIp := s.selfVariant }
        let s := { s with conns := s.conns ++ [c] }
        let s := s.modServer srv.id fun v =>
          { v with conns := if tcp then v.conns ++ [fd] else fd :: v.conns,
                   tcpConn := if tcp then some fd else v.tcpConn }
        let s := s.notify fd true tcp
        (.ok fd, s)

/-- state after a successful `socket()`: descriptor allocated, virtual socket created and configured -/
def ocSock (s1 : St) (tcp : Bool) (srv : Server) : St :=
  let fd := s1.nextFd
  let wl := if tcp then s1.pendingWl else []
  let s := { s1 with nextFd := fd + 1,
                     pendingWl := if tcp then [] else s1.pendingWl,
                     socks := s1.socks ++ [({ fd := fd, tcp := tcp, wl := wl } : VSock)] }
  let s := (s.emit s!"sock({fd},{if tcp then "tcp" else "udp"},4)").slog fd "open"
  let port := if tcp then srv.tcpPort else srv.udpPort
  s.modSock fd fun v => { v with peer := srv.addr, port := port }

/-- state after `connect()` was attempted on `fd` with scripted result `f` -/
def ocConnect (s2 : St) (fd : Nat) (tcp : Bool) (srv : Server) (f : Option Nat) : St :=
  let port := if tcp then srv.tcpPort else srv.udpPort
  let s := s2.slog fd "connect"
  match f with
  | some _ => s.emit s!"conn!({fd},{srv.addr}#{port})"
  | none => s.emit s!"conn({fd},{srv.addr}#{port})"

/-- `connect()` failed for good (an error other than "in progress") -/
def ocFail (f : Option Nat) : Bool :=
  match f with
  | some e => !isWouldBlock e
  | none => false

def ocClose (s : St) (fd : Nat) : St :=
  ((s.modSock fd fun v => { v with isOpen := false }).emit s!"close({fd})").slog fd "close"

def ocFinish (s : St) (fd : Nat) (tcp : Bool) (srv : Server) : St :=
  let c : Conn := { fd := fd, srv := srv.id, tcp := tcp, selfIp := s.selfVariant }
  let s := { s with conns := s.conns ++ [c] }
  let s := s.modServer srv.id fun v =>
    { v with conns := if tcp then v.conns ++ [fd] else fd :: v.conns,
             tcpConn := if tcp then some fd else v.tcpConn }
  s.notify fd true tcp

theorem openConn_eq (s : St) (tcp : Bool) (srv : Server) :
    openConn s tcp srv =
      match (s.fault "socket").1 with
      | some _ => (.error .connrefused, (s.fault "socket").2.emit s!"sock!({if tcp then "tcp" else "udp"})")
      | none =>
        let fd := (s.fault "socket").2.nextFd
        let s2 := ocSock (s.fault "socket").2 tcp srv
        let f := (s2.fault "connect").1
        let s3 := ocConnect (s2.fault "connect").2 fd tcp srv f
        if ocFail f then (.error .connrefused, ocClose s3 fd)
        else
          match (s3.fault "getsockname").1 with
          | some _ => (.error .connrefused, ocClose (s3.fault "getsockname").2 fd)
          | none => (.ok fd, ocFinish (s3.fault "getsockname").2 fd tcp srv) := by
  rfl

/-- the state in which `ares_open_connection` decides between unwinding and finishing: socket created and configured,
    `connect` attempted (and possibly `getsockname`), no connection object yet -/
def OcOpened (s : St) (tcp : Bool) (srv : Server) (t : St) : Prop :=
  ∃ fa ev, t = { ocSock s tcp srv with faults := fa, ev := ev,
                                       sockLog := (ocSock s tcp srv).sockLog ++ [(s.nextFd, "connect")] }

/-- the three ways `ares_open_connection` ends: no socket; socket opened and closed again; connection added -/
theorem openConn_paths (s : St) (tcp : Bool) (srv : Server) :
    (∃ e, openConn s tcp srv = (.error .connrefused, (s.fault "socket").2.emit e)) ∨
    ∃ t, OcOpened s tcp srv t ∧
      (openConn s tcp srv = (.error .connrefused, ocClose t s.nextFd) ∨
        openConn s tcp srv = (.ok s.nextFd, ocFinish t s.nextFd tcp srv)) := by
  have hf : ∀ (t : St) c, OcOpened s tcp srv t → OcOpened s tcp srv (t.fault c).2 := by
    rintro t c ⟨_, _, rfl⟩; exact ⟨_, _, rfl⟩
  rw [openConn_eq]
  split
  · exact .inl ⟨_, rfl⟩
  · refine .inr ?_
    dsimp only
    obtain ⟨fa, h1⟩ : ∃ fa, (s.fault "socket").2 = { s with faults := fa } := ⟨_, rfl⟩
    rw [h1]
    have h3 : ∀ f, OcOpened s tcp srv
        (ocConnect ((ocSock { s with faults := fa } tcp srv).fault "connect").2 s.nextFd tcp srv f) := by
      obtain ⟨fa', ev, e⟩ : ∃ fa' ev, ((ocSock { s with faults := fa } tcp srv).fault "connect").2 =
          { ocSock s tcp srv with faults := fa', ev := ev } := ⟨_, _, rfl⟩
      rw [e]; intro f; cases f <;> exact ⟨_, _, rfl⟩
    split
    · exact ⟨_, h3 _, .inl rfl⟩
    · split
      · exact ⟨_, hf _ _ (h3 _), .inl rfl⟩
      · exact ⟨_, hf _ _ (h3 _), .inr rfl⟩

/-- `ares_conn_query_write` up to the append to out_buf: `ares_cookie_apply`, frame, write log (pure) -/
def sqPrepare (key : Nat) (q : Query) (srv : Server) (fd : Nat) (s : St) : St × Query :=
  let cTcp := ((s.conn? fd).map (·.tcp)).getD q.usingTcp
  let cSelf := ((s.conn? fd).map (·.selfIp)).getD 0
  let srvNow0 := (s.server? srv.id).getD srv
  let reqOpt : Cares.Proto.Cookie.ReqOpt := if q.edns then some q.reqCookie else none
  let ao := Cares.Proto.Cookie.apply srvNow0.cookie { selfIp := selfAddr cSelf, tcp := cTcp } s.tv s.peek8 reqOpt
  let s := if ao.draws > 0 then s.pop8 else s
  let s := s.modServer srv.id fun v => { v with cookie := ao.ck }
  let newCk : Option (List UInt8) := ao.req.join
  let cookie := match newCk with
    | some b => bytesToHex b
    | none => "-"
  let s := s.modQuery key fun q => { q with reqCookie := newCk, cookie := cookie }
  let q := { q with reqCookie := newCk, cookie := cookie }
  let frame : OutFrame := { len := frameLen q.name q.edns cookie, key := key, qid := q.qid, name := q.name,
                            qtype := q.qtype, qclass := q.qclass, rd := q.rd, edns := q.edns, cookie := cookie }
  let s := s.modConn fd fun c => { c with out := c.out ++ [frame] }
  let s := { s with writeLog := s.writeLog ++ [key] }
  (s, q)

/-- `ares_send_query` after a successful write: timeout computation (`ares_calc_query_timeout`), by-timeout index,
    unlinking from the previous connection's list, deadline (pure) -/
def sqLinkPre (key : Nat) (srv : Server) (fd : Nat) (q : Query) (s : St) : St :=
  let srvNow := (s.server? srv.id).getD srv
  let timeout := s.serverTimeout srvNow
  let nsrv := s.servers.length
  let rounds := q.tryCount / nsrv
  let timeplus := if rounds > 0 then timeout * 2 ^ rounds else timeout
  let timeplus := if s.cfg.maxtimeout != 0 && timeplus > s.cfg.maxtimeout then s.cfg.maxtimeout else timeplus
  let (dl, s) : Deadline × St :=
    if rounds > 0 then
      let (_, s) := s.draw2
      let lo := max timeout (timeplus - timeplus / 2)
      let hi := max timeout timeplus
      (.pending (s.now + lo) (s.now + hi), s)
    else (.at (s.now + max timeplus timeout), s)
  let s := { s with byTimeout := s.byTimeout.erase key }
  let s := match q.conn with
    | some old => s.modConn old fun c => { c with queries := c.queries.erase key }
    | none => s
  let s := s.modQuery key fun q => { q with ts := s.now, deadline := dl, conn := some fd, inConnList := true }
  { s with pendingOrder := s.pendingOrder.erase key ++ [key] }

/-- … then the query is linked to (and counted on) its connection, and a downed server may be probed -/
def sqLink (go : Call → St → St × Ret) (probeDowned : Bool) (key : Nat) (srv : Server) (fd : Nat) (s : St) : St × Ret :=
  match s.query? key, s.conn? fd with
  | some q, some _ =>
    let s := sqLinkPre key srv fd q s
    let s := s.modConn fd fun c => { c with queries := c.queries.erase key ++ [key], total := c.total + 1 }
    if probeDowned then
      let (s, _) := go (.probe srv.id key) s
      (s, .ok)
    else (s, .ok)
  | none, _ => (s.mfault s!"uaf-query({key}) after write in ares_send_query", .other)
  | _, none => (s.mfault s!"uaf-conn({fd}) after write in ares_send_query", .other)

/-- the part of `ares_send_query` after a connection has been found: `ares_conn_query_write`, timeout, linking -/
def sqWriteQ (go : Call → St → St × Ret) (reqSrv : Option Nat) (key : Nat) (q : Query) (srv : Server) (fd : Nat) (s : St) : St × Ret :=
  let probeDowned := reqSrv.isNone && srv.failures == 0 && q.tryCount == 0
  let (s, q) := sqPrepare key q srv fd s
  let (wst, s) : Status × St := sqFlush go fd s
  match wst with
  | .ok => sqLink go probeDowned key srv fd s
  | .nomem => go (.endQuery (some srv.id) key .nomem none) s
  | .connrefused | .badfamily =>
    let (s, _) := go (.connError fd true wst) s
    match (s.byQid.find? (fun (id, k) => id == q.qid && k == key)).bind (fun _ => s.query? key) with
    | none => (s, .cancelled)
    | some _ =>
      let (s, r) := go (.requeue key wst true none false) s
      (s, if r == .timeout then .connrefused else r)
  | wst' =>
    let s := s.incFailures srv.id q.usingTcp
    go (.requeue key wst' true none false) s

theorem bodySendQuery_stages (go : Call → St → St × Ret) (reqSrv : Option Nat) (key : Nat) (s : St) :
    bodySendQuery go reqSrv key s =
      match s.query? key with
      | none => (s.mfault s!"uaf-query({key}) in ares_send_query", .other)
      | some q =>
        let sorted := s.sortedServers
        let (srv?, s) : Option Server × St := pickServer reqSrv s
        match srv? with
        | none => go (.endQuery none key .noserver none) s
        | some srv =>
          let s := { s with picks := s.picks ++ [(key, srv.id, reqSrv.isSome, sorted.map fun v => (v.id, v.failures))] }
          let (connRes, s) : (Except Status Nat) × St :=
            match fetchConn s q srv with
            | some fd => (.ok fd, s)
            | none => openConn s q.usingTcp srv
          match connRes with
          | .error st => go (.requeue key st true none false) (s.incFailures srv.id q.usingTcp)
          | .ok fd => sqWriteQ go reqSrv key q srv fd s := by
  rfl

/-- `ares_send_nolock` once the request is known to go on the wire: the 0x20 draws and the new query -/
def snCreate (s : St) (qid : Nat) (noretry : Bool) (spec : ReqSpec) (owner : Owner) (react : List Nat) : St :=
  let sentName := normEscapes (stripDot spec.name)
  let nbytes := (nameTextLen sentName + 7) / 8
  let s1 := if s.cfg.dns0x20 && !s.cfg.usevc && nameTextLen sentName > 0 then
      (if nbytes == 1 then s.draw1.2 else if nbytes == 2 then s.draw2.2 else s) else s
  let q : Query := { key := s.nextKey, qid := qid, owner := owner, react := react, name := sentName,
                     qtype := spec.qtype, qclass := spec.qclass, rd := spec.rd, edns := spec.edns,
                     usingTcp := s.cfg.usevc, noRetries := noretry }
  { s1 with lastQid := qid, nextKey := s.nextKey + 1, qs := s1.qs ++ [q], all := s1.all ++ [s.nextKey],
            byQid := s1.byQid ++ [(qid, s.nextKey)] }

/-- `ares_send_nolock` decomposed (definitional): id, the three ways of completing at once (no server, cache hit,
    name too long), and the new query handed to `ares_send_query` -/
theorem bodySendNolock_stages (go : Call → St → St × Ret) (reqSrv : Option Nat) (nocache noretry : Bool)
    (spec : ReqSpec) (owner : Owner) (react : List Nat) (s : St) :
    bodySendNolock go reqSrv nocache noretry spec owner react s =
      let p := genQid 70000 s
      if p.2.servers.isEmpty then ((go (.callback owner react .noserver 0 none) p.2).1, .noserver)
      else
        let s1 := if nocache then p.2 else p.2.cacheExpire
        match (if nocache then none else s1.cacheFetch spec.name spec.qtype spec.qclass spec.rd) with
        | some e =>
          ((go (.callback owner react .ok 0
              (some { e.reply with ttls := e.reply.ttls.map (· - (s1.nowSec - e.insert)) })) s1).1, .ok)
        | none =>
          if nameTextLen spec.name > 255 then ((go (.callback owner react .formerr 0 none) s1).1, .formerr)
          else go (.sendQuery reqSrv s1.nextKey) (snCreate s1 p.1 noretry spec owner react) := by
  rfl

theorem sqChoose_eq : sqChoose = pickServer := rfl
theorem sqOpen_none (s : St) (q : Query) (srv : Server) : sqOpen s q srv none = openConn s q.usingTcp srv := rfl
theorem sqEnqueue_eq (s : St) (q : Query) (srv : Server) (key fd : Nat) :
    sqEnqueue s q srv key fd = (sqPrepare key q srv fd s).1 := rfl

/-- the last step of `ares_close_connection` (connection's query list empty): final notification, `close`,
    release -/
def closeFinal (s : St) (fd : Nat) : St :=
  let s := s.notify fd false false
  let s := ((s.modSock fd fun v => { v with isOpen := false }).emit s!"close({fd})").slog fd "close"
  { s with conns := s.conns.filter (·.fd != fd) }

/-- the step function of `St.settle` -/
def settleStep (s : St) (k : Nat) : St :=
  match s.query? k with
  | none => s
  | some q =>
    match q.deadline with
    | .pending lo hi =>
      match s.obs.dls.find? (·.1 == q.qid) with
      | some (_, rem) =>
        let v := (Int.ofNat s.now + rem).toNat
        let s := if lo ≤ v && v ≤ hi then s
                 else s.ofault s!"deadline-out-of-policy(qid={q.qid},{v},[{lo},{hi}])"
        let s := s.modQuery q.key fun q => { q with deadline := .at v }
        { s with byTimeout := insertByDeadline s.qs q.key v s.byTimeout }
      | none => s.ofault s!"deadline-unobserved(qid={q.qid})"
    | .at ms => { s with byTimeout := insertByDeadline s.qs q.key ms (s.byTimeout.erase q.key) }
    | .none => s

theorem settle_eq (s : St) : s.settle = { s.pendingOrder.foldl settleStep s with pendingOrder := [] } := rfl

end Cares.Chan
