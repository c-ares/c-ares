import CaresLemmas.ChanWfMid
import CaresLemmas.ChanWfLookup
import CaresLemmas.ChanWfHole
/-!
# C01 and C12c — body lemmas: `processAnswer`
-/
namespace Cares.Chan

theorem sk_paPre (s : St) (c : Conn) (key : Nat) (q : Query) (r : Reply) : (paPre s c key q r).sk = s.sk := by
  unfold paPre
  rw [sk_modQuery_same, sk_modServer_same] <;> intro <;> rfl

/-- the reply is accepted: the query leaves the list of connection `fd` -/
def paAccept (s : St) (fd key : Nat) (r : Reply) : St :=
  (({ s with accepted := s.accepted ++ [(fd, key, r)] } : St).modConn fd fun c =>
    { c with queries := c.queries.erase key }).modQuery key fun q => { q with inConnList := false }

theorem sk_paAccept (s : St) (fd key : Nat) (r : Reply) : (paAccept s fd key r).sk = s.sk.hole fd key := by
  unfold paAccept
  rw [sk_modQuery_same, sk_modConn _ _ _ (fun c => { c with queries := c.queries.erase key }) (fun _ => rfl)]
  · rfl
  · intro; rfl

/-- what the four ways `process_answer` goes on after accepting the reply need, of any state `s6` whose skeleton is
    that of `s` with a hole at `key`: putting the query on the requeue list closes the hole; marking the server up or
    down changes nothing -/
theorem paAccept_facts {d : Nat → Nat} {s0 s s6 : St} {fd key : Nat} (r : Reply) (hm : Mid d s0 s)
    (hki : key ∈ s.sk.idx) (hsk6 : s6.sk = s.sk.hole fd key) :
    WfS s6.sk (some key) ∧ DebtOk none d s6.sk ∧ StepS none none d s0.sk s6.sk ∧ s6.sk.Idx key ∧
      s6.sk.qKO = s.sk.qKO ∧ s6.sk.idx = s.sk.idx ∧
      (∀ (f : Query → Query) x, (∀ q, (f q).sk = q.sk) →
        Mid d s0 { (s6.removeFromConn key).modQuery key f with requeueArr := x } ∧
          ({ (s6.removeFromConn key).modQuery key f with requeueArr := x } : St).sk.qKO = s.sk.qKO ∧
          ({ (s6.removeFromConn key).modQuery key f with requeueArr := x } : St).sk.idx = s.sk.idx) ∧
      (∀ srv tcp, (s6.incFailures srv tcp).sk = s6.sk) ∧
      (∀ q' srv tcp, ((s6.cacheInsert q' r).setGood srv tcp).sk = s6.sk) := by
  have hw := hm.wf
  obtain ⟨q2, hq2, hq2s⟩ := query?_of_idx hw hki
  have hw6 : WfS s6.sk (some key) := by rw [hsk6]; exact wf_hole hw
  have hd6 : DebtOk none d s6.sk := by rw [hsk6]; exact debt_hole hm.debt
  have hs6 : StepS none none d s0.sk s6.sk := by rw [hsk6]; exact hm.step.trans step_hole
  have hq6 : s6.sk.q? key = some q2.sk := by rw [hsk6, hole_q?]; exact hq2s
  have hnd6 : (s6.servers.map (·.id)).Nodup := server_ids_nodup hw6
  refine ⟨hw6, hd6, hs6, by unfold Sk.Idx; rw [hsk6]; exact hki, by rw [hsk6]; rfl, by rw [hsk6]; rfl,
    fun f x hf => ?_, fun srv tcp => sk_incFailures s6 srv tcp hnd6, fun q' srv tcp => ?_⟩
  · have h8 : ({ (s6.removeFromConn key).modQuery key f with requeueArr := x } : St).sk = s6.sk.removeFromConn key := by
      rw [sk_set_requeueArr, sk_modQuery_same _ _ _ hf, sk_removeFromConn]
    refine ⟨⟨by unfold Wf; rw [h8]; exact wf_rfc hw6 (Or.inr rfl) hq6, by rw [h8]; exact debt_rfc key hd6,
      by rw [h8]; exact hs6.trans (step_rfc hq6)⟩, by rw [h8, rfc_qKO, hsk6]; rfl, by rw [h8, rfc_idx, hsk6]; rfl⟩
  · rw [sk_setGood, sk_cacheInsert]
    rw [St.cacheInsert_servers]; exact hnd6

variable {cid : Nat}

/-- `process_answer` once the reply is accepted -/
theorem good_paDeliver {goC : GoC} (h : GoGood cid goC) {d fd r c key q s0 L s}
    (hm : MidL cid d s0 L s) (hki : key ∈ s.sk.idx) (hconn : ∀ q2, s.query? key = some q2 → q2.conn = some fd) :
    GoodL cid d (.processAnswer fd r) s0 L (paDeliverC goC fd r c key q s) := by
  unfold paDeliverC
  obtain ⟨q2, hq2, -⟩ := query?_of_idx hm.mid.wf hki
  have hgetD : ((s.query? key).getD q).conn.getD fd = fd := by rw [hq2]; simp [hconn q2 hq2]
  simp only [hgetD]
  obtain ⟨hw6, hd6, hs6, hk6, hqKO, hidx, hreq, hdown, hup⟩ := paAccept_facts r hm.mid hki (sk_paAccept s fd key r)
  have hL6 := hm.lg.congr hqKO hidx
  unfold paAccept at hw6 hd6 hs6 hk6 hL6 hreq hdown hup
  have req : ∀ (f : Query → Query) x, (∀ q, (f q).sk = q.sk) → GoodL cid d (.processAnswer fd r) s0 L
      ((({ (St.removeFromConn _ key).modQuery key f with requeueArr := x } : St), Status.ok), []) := fun f x hf =>
    MidL.ret ⟨(hreq f x hf).1, hm.lg.congr (hreq f x hf).2.1 (hreq f x hf).2.2⟩ trivial
  ite_split
  · exact req _ _ (fun _ => rfl)
  ite_split
  · exact req _ _ (fun _ => rfl)
  ite_split
  · have h7 := hdown c.srv ((s.query? key).getD q).usingTcp
    exact (h.callL (d := d) (c := .requeue key _ true (some r) true)
      ⟨by rw [h7]; exact hw6, by rw [h7]; exact hk6, by rw [h7]; exact hd6⟩ (hL6.sk_eq h7)).tail
      (c := .processAnswer fd r) (s := s0) (by rw [h7]; exact hs6) (Or.inl rfl) (Or.inl rfl) (fun _ => trivial)
  · have h7 := hup ((s.query? key).getD q) c.srv ((s.query? key).getD q).usingTcp
    exact (h.callL (d := d) (c := .endQuery (some c.srv) key .ok (some r))
      ⟨by rw [h7]; exact hw6, by rw [h7]; exact hk6, by rw [h7]; exact hd6⟩ (hL6.sk_eq h7)).tail
      (c := .processAnswer fd r) (s := s0) (by rw [h7]; exact hs6) (Or.inl rfl) (Or.inl rfl) (fun _ => trivial)

theorem good_processAnswer {goC : GoC} (h : GoGood cid goC) {d fd r s L} (hpre : Pre d s (.processAnswer fd r))
    (hL : LG cid L (xtra cid (.processAnswer fd r)) s) :
    GoodL cid d (.processAnswer fd r) s L (bodyProcessAnswerC goC fd r s) := by
  obtain ⟨hw, hl, hd⟩ := hpre
  have hm0 : MidL cid d s L s := MidL.refl hw hd hL
  obtain ⟨c, hcn⟩ := conn?_of_live hl
  unfold bodyProcessAnswerC
  simp only [hcn]
  ite_split
  · exact hm0.ret trivial
  · ite_split
    · exact hm0.ret trivial
    · split
      · exact hm0.ret trivial
      · rename_i x key hfind
        have hki : key ∈ s.sk.idx := List.mem_map.mpr ⟨(x, key), List.mem_of_find?_eq_some hfind, rfl⟩
        obtain ⟨q, hq, hqs⟩ := query?_of_idx hw hki
        simp only [hq]
        ite_split
        · exact hm0.ret trivial
        · have hqc' : q.conn = some fd := by simpa using hc
          ite_split
          · exact hm0.ret trivial
          · have hsk2 := sk_paPre s c key q r
            have hm2 : MidL cid d s L (paPre s c key q r) := hm0.sk_eq hsk2
            by_cases hr : (cookieCheck s c q r).requeue = true
            · -- a requeue for a new cookie drops the reply
              have hv : ((cookieCheck s c q r).verdict == .drop) = true := by
                rw [cookieCheck_requeue_drop s c q r hr]; rfl
              simp only [hr, hv, ↓reduceIte]
              exact (h.callL (d := d) (c := .requeue key .ok false none true)
                ⟨WfS.weaken_hole hm2.mid.wf, by unfold Sk.Idx; rw [hsk2]; exact hki, hm2.mid.debt⟩ hm2.lg).tail
                (c := .processAnswer fd r) (s := s) hm2.mid.step (Or.inl rfl) (Or.inl rfl) (fun _ => trivial)
            · have hr' : (cookieCheck s c q r).requeue = false := by simpa using hr
              simp only [hr', Bool.false_eq_true, ↓reduceIte]
              ite_split
              · exact hm2.ret trivial
              · refine GoodL.seq (l1 := []) ?_
                rw [List.append_nil]
                refine good_paDeliver h hm2 (by rw [hsk2]; exact hki) (fun q2 hq2 => ?_)
                have h1 := (query?_sk hq2).2.2
                rw [hsk2] at h1
                rw [← hqc']
                exact Sk.qKC_unique hw.q.nodup h1 (query?_sk hq).2.2

end Cares.Chan
