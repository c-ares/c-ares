import CaresLemmas.ChanPolicyTimeout
/-!
# `St.settle` (the replay of the skip-list insertions at the end of an API call) keeps the by-timeout index sorted
-/
namespace Cares.Chan

/-- the key `insertByDeadline` computes for an existing entry -/
def xmsOf (qs : List Query) (x : Nat) : Nat :=
  ((qs.find? (·.key == x)).bind fun q => deadlineMs q.deadline).getD 0

theorem insertByDeadline_sorted (qs : List Query) (k ms : Nat) (l : List Nat) (d : Nat → Nat)
    (hd : ∀ x ∈ l, xmsOf qs x = d x) (hk : d k = ms) (hs : l.Pairwise (fun a b => d a ≤ d b)) :
    (insertByDeadline qs k ms l).Pairwise (fun a b => d a ≤ d b) := by
  induction l with
  | nil => simp [insertByDeadline]
  | cons x r ih =>
    unfold insertByDeadline
    dsimp only
    have hx : xmsOf qs x = d x := hd x List.mem_cons_self
    unfold xmsOf at hx
    rw [hx]
    rw [List.pairwise_cons] at hs
    split
    · rename_i hle
      refine List.pairwise_cons.2 ⟨?_, List.pairwise_cons.2 hs⟩
      intro y hy
      rcases List.mem_cons.1 hy with rfl | hy
      · rw [hk]; exact hle
      · have := hs.1 y hy; rw [hk]; omega
    · rename_i hle
      refine List.pairwise_cons.2 ⟨?_, ih (fun y hy => hd y (List.mem_cons_of_mem _ hy)) hs.2⟩
      intro y hy
      rcases mem_insertByDeadline.1 hy with rfl | hy
      · rw [hk]; omega
      · exact hs.1 y hy

theorem xmsOf_eq_dlOf (s : St) (x : Nat) : xmsOf s.qs x = s.dlOf x := rfl

theorem BT0.insert {s : St} {k v : Nat} (h : BT0 s) (hk : k ∉ s.byTimeout) (hdl : s.dl? k = some (.at v)) :
    BT0 { s with byTimeout := insertByDeadline s.qs k v s.byTimeout } := by
  obtain ⟨hn, hs, hl⟩ := h
  have hdk : s.dlOf k = v := by rw [dlOf_eq, hdl]; rfl
  refine ⟨insertByDeadline_nodup hn hk, ?_, ?_⟩
  · exact insertByDeadline_sorted s.qs k v s.byTimeout s.dlOf (fun x _ => xmsOf_eq_dlOf s x) hdk hs
  · intro x hx
    rcases mem_insertByDeadline.1 hx with rfl | hx
    · exact ⟨v, hdl⟩
    · exact hl x hx

theorem BT0.erase {s : St} (k : Nat) (h : BT0 s) : BT0 { s with byTimeout := s.byTimeout.erase k } :=
  h.transfer List.erase_sublist fun _ _ => rfl

def Deadline.isAt (d : Deadline) : Prop := ∃ ms, d = .at ms

/-- the fold invariant of `settle`: index well-formed; the observation-fault log only grows; every definite deadline
    is in the index or still to be replayed, and as long as the log has not grown so is every deadline (also a jittered
    one awaiting its observed value) -/
def SettleInv (n0 : Nat) (rest : List Nat) (s : St) : Prop :=
  BT0 s ∧ n0 ≤ s.obsFaults.length ∧
  ∀ k d, s.dl? k = some d → d.isAt ∨ s.obsFaults.length = n0 ∧ d ≠ .none → k ∈ s.byTimeout ∨ k ∈ rest

/-- replaying key `k`: the index is well-formed again, the fault log has not shrunk, the other queries keep their
    deadlines and their place in the index, and `k` itself is now in the index or has a deadline that need not be -/
theorem SettleInv.step {n0 k : Nat} {rest : List Nat} {s s' : St} (h : SettleInv n0 (k :: rest) s) (hb : BT0 s')
    (hn : s.obsFaults.length ≤ s'.obsFaults.length) (hdl : ∀ k', k' ≠ k → s'.dl? k' = s.dl? k')
    (hbt : ∀ k' ∈ s.byTimeout, k' ≠ k → k' ∈ s'.byTimeout)
    (hk : k ∈ s'.byTimeout ∨ ∀ d, s'.dl? k = some d → ¬ d.isAt ∧ (s'.obsFaults.length = n0 → d = .none)) :
    SettleInv n0 rest s' := by
  obtain ⟨_, hn0, hcov⟩ := h
  refine ⟨hb, Nat.le_trans hn0 hn, fun k' d hd hp => ?_⟩
  by_cases hkk : k' = k
  · subst hkk
    rcases hk with hk | hk
    · exact .inl hk
    · rcases hp with hp | ⟨he, hne⟩
      · exact absurd hp (hk d hd).1
      · exact absurd ((hk d hd).2 he) hne
  · rw [hdl k' hkk] at hd
    rcases hcov k' d hd (hp.imp_right fun ⟨he, hne⟩ => ⟨by omega, hne⟩) with hh | hh
    · exact .inl (hbt k' hh hkk)
    · rcases List.mem_cons.1 hh with e | hh
      · exact absurd e hkk
      · exact .inr hh

theorem dl?_modQuery_deadline (s : St) (k : Nat) (d : Deadline) (k' : Nat) :
    (s.modQuery k fun q => { q with deadline := d }).dl? k' =
      if k' = k then (s.dl? k').map (fun _ => d) else s.dl? k' := by
  unfold St.dl?
  rw [query?_modQuery]
  rotate_left
  · intro _; rfl
  cases hq : s.query? k' with
  | none => simp
  | some q =>
    have hk := query?_key hq
    by_cases hkk : k' = k
    · subst hkk; simp [hk]
    · have : q.key ≠ k := by rw [hk]; exact hkk
      simp [this, hkk]

theorem settleStep_inv (n0 : Nat) (k : Nat) (rest : List Nat) (s : St) (h : SettleInv n0 (k :: rest) s) :
    SettleInv n0 rest (settleStep s k) := by
  have h0 := h.1
  have hgrow : ∀ e : String, (s.ofault e).obsFaults.length = s.obsFaults.length + 1 := by
    intro e; show (s.obsFaults ++ [_]).length = _; simp
  unfold settleStep
  split
  · -- no such query
    rename_i hnone
    refine h.step h0 (Nat.le_refl _) (fun _ _ => rfl) (fun _ hk' _ => hk') (.inr fun d hd => ?_)
    unfold St.dl? at hd; rw [hnone] at hd; cases hd
  · rename_i q hq
    have hqk : q.key = k := query?_key hq
    have hdlk : s.dl? k = some q.deadline := by unfold St.dl?; rw [hq]; rfl
    split
    · -- jittered deadline awaiting its observed value
      rename_i lo hi hpend
      rw [hpend] at hdlk
      have hknot : k ∉ s.byTimeout := by
        intro hk
        obtain ⟨ms, hms⟩ := h0.2.2 k hk
        rw [hdlk] at hms; cases hms
      split
      · rename_i rem _
        -- observed
        dsimp only
        generalize hv : (Int.ofNat s.now + rem).toNat = v
        -- the optional fault note does not matter for the lists
        have key : ∀ s1 : St, s1.qs = s.qs → s1.byTimeout = s.byTimeout → s.obsFaults.length ≤ s1.obsFaults.length →
            SettleInv n0 rest
              { (s1.modQuery q.key fun q => { q with deadline := .at v }) with
                byTimeout := insertByDeadline (s1.modQuery q.key fun q => { q with deadline := .at v }).qs q.key v
                  (s1.modQuery q.key fun q => { q with deadline := .at v }).byTimeout } := by
          intro s1 hqs hbt hn1
          rw [hqk]
          have hdl1 : ∀ k', (s1.modQuery k fun q => { q with deadline := .at v }).dl? k' =
              if k' = k then (s.dl? k').map (fun _ => Deadline.at v) else s.dl? k' := by
            intro k'
            rw [dl?_modQuery_deadline]
            have : s1.dl? k' = s.dl? k' := by unfold St.dl? St.query?; rw [hqs]
            rw [this]
          have hb0 : BT0 (s1.modQuery k fun q => { q with deadline := .at v }) :=
            h0.transfer (by show s1.byTimeout.Sublist _; rw [hbt]; exact List.Sublist.refl _) fun x hx => by
              have hx' : x ∈ s.byTimeout := by rw [← hbt]; exact hx
              have hne : x ≠ k := fun e => hknot (e ▸ hx')
              rw [hdl1, if_neg hne]
          have hdlk' : (s1.modQuery k fun q => { q with deadline := .at v }).dl? k = some (.at v) := by
            rw [hdl1, if_pos rfl, hdlk]; rfl
          have hknot' : k ∉ (s1.modQuery k fun q => { q with deadline := .at v }).byTimeout := by
            show k ∉ s1.byTimeout; rw [hbt]; exact hknot
          exact h.step (BT0.insert hb0 hknot' hdlk') hn1 (fun k' hne => (hdl1 k').trans (if_neg hne))
            (fun k' hk' _ => mem_insertByDeadline.2 (.inr (hbt ▸ hk'))) (.inl (mem_insertByDeadline.2 (.inl rfl)))
        split
        · exact key s rfl rfl (Nat.le_refl _)
        · exact key (s.ofault _) rfl rfl (by rw [hgrow]; omega)
      · -- not observed: a fault is logged, nothing else changes
        refine h.step (s' := s.ofault _) h0 (by rw [hgrow]; omega) (fun _ _ => rfl) (fun _ hk' _ => hk')
          (.inr fun d hd => ⟨fun ⟨ms, e⟩ => ?_, fun he => ?_⟩)
        · have hd' : s.dl? k = some d := hd
          rw [hdlk] at hd'; cases hd'; cases e
        · rw [hgrow] at he; have := h.2.1; omega
    · -- definite deadline: re-inserted
      rename_i ms hatms
      rw [hatms] at hdlk
      rw [hqk]
      have he : BT0 { s with byTimeout := s.byTimeout.erase k } := BT0.erase k h0
      have hknot : k ∉ ({ s with byTimeout := s.byTimeout.erase k } : St).byTimeout := by
        show k ∉ s.byTimeout.erase k
        rw [h0.1.mem_erase_iff]; exact fun hh => hh.1 rfl
      have := BT0.insert (s := { s with byTimeout := s.byTimeout.erase k }) (k := k) (v := ms) he hknot hdlk
      exact h.step this (Nat.le_refl _) (fun _ _ => rfl)
        (fun k' hk' hne => mem_insertByDeadline.2 (.inr ((List.mem_erase_of_ne hne).2 hk')))
        (.inl (mem_insertByDeadline.2 (.inl rfl)))
    · -- no deadline
      rename_i hnone
      rw [hnone] at hdlk
      refine h.step h0 (Nat.le_refl _) (fun _ _ => rfl) (fun _ hk' _ => hk') (.inr fun d hd => ?_)
      rw [hdlk] at hd; cases hd
      exact ⟨(by rintro ⟨ms, e⟩; cases e), fun _ => rfl⟩

theorem settle_fold_inv (n0 : Nat) (l : List Nat) (s : St) (h : SettleInv n0 l s) :
    SettleInv n0 [] (l.foldl settleStep s) := by
  induction l generalizing s with
  | nil => exact h
  | cons k r ih => exact ih _ (settleStep_inv n0 k r s h)

/-- C07a: `settle` keeps the index duplicate-free, sorted and live; afterwards every query with a definite deadline is
    in the index; and unless an observation fault was logged (a jittered deadline whose observed value is missing) the
    full invariant `BT` holds again -/
theorem settle_bt (s : St) (h : BT s) :
    BT0 s.settle ∧ s.settle.pendingOrder = [] ∧
    (∀ k ms, s.settle.dl? k = some (.at ms) → k ∈ s.settle.byTimeout) ∧
    (s.settle.obsFaults.length = s.obsFaults.length → BT s.settle) := by
  have hinit : SettleInv s.obsFaults.length s.pendingOrder s :=
    ⟨h.toBT0, Nat.le_refl _, fun k d hd hp => h.cover hd
      (hp.elim (fun ⟨ms, e⟩ => by simp [e]) fun hp => hp.2)⟩
  obtain ⟨h0, hn, hcov⟩ := settle_fold_inv _ _ _ hinit
  rw [settle_eq]
  refine ⟨h0, rfl, ?_, ?_⟩
  · intro k ms hd
    rcases hcov k _ hd (.inl ⟨ms, rfl⟩) with hh | hh
    · exact hh
    · cases hh
  · intro he
    refine ⟨h0.1, h0.2.1, h0.2.2, ?_⟩
    intro k d hd hne
    rcases hcov k d hd (.inr ⟨he, hne⟩) with hh | hh
    · exact Or.inl hh
    · cases hh

end Cares.Chan
