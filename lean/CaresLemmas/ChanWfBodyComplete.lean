import CaresLemmas.ChanWfClient
import CaresLemmas.ChanWfMid
import CaresLemmas.ChanWfLookup
/-!
# C01 and C12c — body lemmas: `userCb`, `callback`, `endQuery`, `cancelLoop`

Each lemma has the shape
`GoGood cid goC → Pre d s call → LG cid L (xtra cid call) s → GoodL cid d call s L (bodyXxxC goC … s)` (`ChanWfMid`): one
walk through the instrumented body gives C01's guarantee and C12c's log invariant.
-/
namespace Cares.Chan

theorem post_callback_user {s : St} {r : St × Ret} {o : Owner} {react st t rec}
    (h : Post s r (.callback o react st t rec)) : ∀ tok, o = .user tok → tok ∈ r.1.sk.doneToks := by
  intro tok ho; subst ho; exact h

theorem sk_modClient_set {s : St} {id : Nat} {c0 c' : Client} (hu : ∀ x ∈ s.clients, x.id = id → x = c0)
    (hid : c'.id = c0.id) (htok : c'.tok = c0.tok) (h0 : c0.id = id) :
    (s.modClient id fun _ => c').sk = s.sk.setOut id c'.outstanding := by
  unfold St.modClient St.sk Sk.setOut
  simp only [List.map_map, Sk.mk.injEq, true_and, and_true]
  apply List.map_congr_left
  intro x hx
  simp only [Function.comp]
  by_cases hxi : x.id = id
  · have := hu x hx hxi
    subst this
    have e1 : (x.id == id) = true := by simpa using hxi
    have e2 : (x.sk.id == id) = true := e1
    rw [if_pos e1, if_pos e2]
    unfold Client.sk
    rw [hid, htok]
  · have e1 : (x.id == id) = false := by simpa using hxi
    have e2 : (x.sk.id == id) = false := e1
    simp only [e1, e2, Bool.false_eq_true, ↓reduceIte]

/-- state handed to the callback by `end_query` -/
def endQueryPre (s : St) (srv : Option Nat) (key : Nat) (st : Status) (rec : Option Reply) (q : Query) : St :=
  ((match srv with
    | some id => s.modServer id fun v => { v with probePending := false }
    | none => s).metricsRecord q srv st rec).detach key

theorem sk_endQueryPre (s : St) (srv : Option Nat) (key : Nat) (st : Status) (rec : Option Reply) (q : Query) :
    (endQueryPre s srv key st rec q).sk = s.sk.detach key := by
  unfold endQueryPre
  rw [sk_detach, sk_metricsRecord]
  cases srv with
  | none => rfl
  | some id => simp only; rw [sk_modServer_same]; intro; rfl

theorem cancelHead_idx {s : St} {fromAll : Bool} {key : Nat} (hw : Wf s) (h : cancelHead s fromAll = some key) :
    key ∈ s.sk.idx := by
  unfold cancelHead at h
  cases fromAll with
  | true =>
    simp only [↓reduceIte] at h
    exact hw.i.allIdx key (List.mem_of_mem_head? h)
  | false =>
    simp only [Bool.false_eq_true, ↓reduceIte] at h
    cases hl : s.listCopy.head? with
    | none => rw [hl] at h; cases h
    | some l =>
      rw [hl] at h
      exact (hw.i.lcOk l (List.mem_of_mem_head? hl)).2 key (List.mem_of_mem_head? h)

variable {cid : Nat}

/-- the precondition of the `runActs` call made by the completion callback of a sub-request -/
theorem callback_client_pre {d id react st timeouts rec} {s : St}
    (hpre : Pre d s (.callback (.client id) react st timeouts rec)) :
    ∃ c0, s.client? id = some c0 ∧
      Pre d (s.modClient id fun _ => (clientOnCb s.cfg c0 st timeouts rec).1)
        (.runActs id (clientOnCb s.cfg c0 st timeouts rec).2) ∧
      (s.modClient id fun _ => (clientOnCb s.cfg c0 st timeouts rec).1).sk =
        s.sk.setOut id (clientOnCb s.cfg c0 st timeouts rec).1.outstanding := by
  obtain ⟨hw, hof, hdf⟩ := hpre
  obtain ⟨c0, hc0, hid0, hm0, hp0, hu0⟩ := client?_of_active hw hof
  refine ⟨c0, hc0, ?_⟩
  have hd1 : DebtOk none (bump d id 1) s.sk := hdf
  have hcnt := hd1.cnt c0.sk hm0 hp0 (fun hh => by cases hh)
  have hcid : c0.sk.id = id := hid0
  rw [hcid, bump_self] at hcnt
  have hout : c0.outstanding = s.sk.subs id + d id + 1 := by
    have : c0.sk.out = c0.outstanding := rfl
    omega
  have hk := clientOnCb_ok s.cfg c0 st timeouts rec (by omega)
  generalize clientOnCb s.cfg c0 st timeouts rec = r at hk
  obtain ⟨c', acts⟩ := r
  obtain ⟨k1, k2, k3⟩ := hk
  simp only at k1 k2 k3 ⊢
  have hsk := sk_modClient_set (c' := c') hu0 k1 k2 hid0
  have hw1 : Wf (s.modClient id fun _ => c') := by unfold Wf; rw [hsk]; exact wf_setOut hw
  have hlt : id < s.sk.nextClient := by have := hw.k.lt c0.sk hm0; omega
  have hfresh : ∀ n i, s.sk.nextClient ≤ i → bump d id n i = 0 := by
    intro n i hi
    rw [bump_ne _ _ (by omega)]
    have := hd1.fresh i hi
    rw [bump_ne _ _ (by omega)] at this; exact this
  have hfresh0 : ∀ i, s.sk.nextClient ≤ i → d i = 0 := by
    intro i hi; have := hfresh 0 i hi; rwa [bump_zero] at this
  refine ⟨⟨hw1, ?_⟩, hsk⟩
  rw [hsk]
  split
  · rename_i hf
    rw [if_pos hf] at k3
    have hs0 : s.sk.subs id = 0 ∧ d id = 0 := by omega
    refine ⟨active_setOut.mpr hof, k3.1, subsP_eq_zero.mp hs0.1, hs0.2, ?_⟩
    refine debt_setOut hd1 hfresh0 (fun i hi => (bump_ne _ _ hi).symm) (fun hx => absurd rfl hx)
  · rename_i hf
    rw [if_neg hf] at k3
    refine ⟨?_, fun _ => active_setOut.mpr hof⟩
    refine debt_setOut hd1 (hfresh _) (fun i hi => by rw [bump_ne _ _ hi, bump_ne _ _ hi]) ?_
    intro _ c hc hci hp
    rw [bump_self]
    show c'.outstanding = _
    have : (Sk.subs s.sk id) = s.sk.subs id := rfl
    omega

theorem good_userCb {goC : GoC} (h : GoGood cid goC) {d tok react st timeouts dg s L}
    (hpre : Pre d s (.userCb tok react st timeouts dg)) (hL : LG cid L (xtra cid (.userCb tok react st timeouts dg)) s) :
    GoodL cid d (.userCb tok react st timeouts dg) s L (bodyUserCbC goC tok react st timeouts dg s) := by
  obtain ⟨hw, ⟨x, hd, hx⟩, hp, hq, hc⟩ := hpre
  have hsk : _ = s.sk.userCb tok := sk_userCallback s tok st timeouts dg
  have hm1 : MidL cid d s L (s.userCallback tok st timeouts dg) :=
    ⟨⟨by unfold Wf; rw [hsk]; exact wf_userCb hw hp hq (fun c hcm he => (hc c hcm he).1),
      by rw [hsk]; exact debt_userCb' hw hd hx,
      by rw [hsk]; exact step_userCb hw (fun c hcm he => (hc c hcm he).2)⟩,
     hL.congr (by rw [hsk]; rfl) (by rw [hsk]; rfl)⟩
  have hdone1 : tok ∈ (s.userCallback tok st timeouts dg).sk.doneToks := by
    rw [hsk]; exact List.mem_append.mpr (Or.inr (List.mem_singleton.mpr rfl))
  unfold bodyUserCbC
  simp only
  split
  · exact hm1.ret hdone1
  · exact (h.callL (d := d) (c := .reactions react) ⟨hm1.mid.wf, hm1.mid.debt⟩ hm1.lg).tail' hm1.mid.step
      (Or.inl rfl) (Or.inl rfl) (fun hg => hg.step.prog.doneMono tok hdone1)

theorem good_callback {goC : GoC} (h : GoGood cid goC) {d owner react st timeouts rec s L}
    (hpre : Pre d s (.callback owner react st timeouts rec))
    (hL : LG cid L (xtra cid (.callback owner react st timeouts rec)) s) :
    GoodL cid d (.callback owner react st timeouts rec) s L (bodyCallbackC goC owner react st timeouts rec s) := by
  unfold bodyCallbackC
  cases owner with
  | probe pid =>
    -- `server_probe_cb` only resets `probe_pending`, which the skeleton does not see
    refine MidL.ret ((MidL.refl hpre.1 hpre.2.2 hL).sk_eq ?_) trivial
    exact sk_modServer_same _ _ _ fun _ => rfl
  | user tok =>
    obtain ⟨hw, ⟨h1, h2, h3⟩, hdf⟩ := hpre
    exact (h.callL (d := d) (c := .userCb tok react st timeouts (digest rec))
      ⟨hw, ⟨none, hdf, fun _ _ he => by cases he⟩, h1, h2, fun c hc he => absurd he (h3 c hc)⟩ hL).tail'
      (StepS.refl _ _ _ _) (Or.inl rfl) (Or.inl rfl) (fun hg => hg.post)
  | client id =>
    obtain ⟨c0, hc0, hpre1, hsk⟩ := callback_client_pre hpre
    simp only [hc0]
    have hL1 : LG cid (L ++ [.cb id st timeouts rec c0.qidA c0.qidAAAA]) 0
        (s.modClient id fun _ => (clientOnCb s.cfg c0 st timeouts rec).1) :=
      (LG.snoc_cb_any hL st timeouts rec c0.qidA c0.qidAAAA).congr (by rw [hsk]; rfl) (by rw [hsk]; rfl)
    exact ((h.callL hpre1 hL1).tail' (c := .callback (.client id) react st timeouts rec) (s := s)
      (by rw [hsk]; exact step_setOut) (Or.inl rfl) (Or.inr rfl) (fun _ => trivial)).seq

theorem good_cancelLoop {goC : GoC} (h : GoGood cid goC) {d st fromAll s L}
    (hpre : Pre d s (.cancelLoop st fromAll)) (hL : LG cid L (xtra cid (.cancelLoop st fromAll)) s) :
    GoodL cid d (.cancelLoop st fromAll) s L (bodyCancelLoopC goC st fromAll s) := by
  obtain ⟨hw, hd⟩ := hpre
  unfold bodyCancelLoopC
  cases hh : cancelHead s fromAll with
  | none =>
    have hh' := hh
    unfold cancelHead at hh
    simp only [hh]
    exact (MidL.refl hw hd hL).ret hh'
  | some key =>
    have hk := cancelHead_idx hw hh
    obtain ⟨q, hq, hqs⟩ := query?_of_idx hw hk
    unfold cancelHead at hh
    simp only [hh, hq]
    have hsk1 := sk_freeQuery s key
    generalize s.freeQuery key = s1 at hsk1
    obtain ⟨hof, hdf⟩ := owner_freeQuery hw hqs hk hd
    -- the released query is the hand-over in flight of its owner
    have hL1 : LG cid L (xtra cid (.callback q.owner q.react st 0 none)) s1 := by
      refine hL.of_cnt ?_
      rw [hsk1]
      have := subs_freeQuery_linked hw hqs hk cid
      show _ + ownerX cid q.owner = _ + 0
      rw [ownerX_eq]
      have e : q.sk.owner = q.owner := rfl
      rw [e] at this
      omega
    rcases h.callL (d := d) (c := .callback q.owner q.react st 0 none) (s := s1)
      ⟨by unfold Wf; rw [hsk1]; exact wf_freeQuery hw, by rw [hsk1]; exact hof, by rw [hsk1]; exact hdf⟩ hL1
      with hoof | ⟨hg, hL2⟩
    · exact Or.inl (h.oof hoof)
    have hs := hg.step
    rw [exId_callback, hsk1] at hs
    have h01 : StepT none (ownerId q.sk.owner) (ownerTok q.sk.owner) d s.sk (s.sk.freeQuery key) := by
      have := step_freeQuery (xf := none) (xi := ownerId q.sk.owner) (d := d) (k := key) hw
      rwa [show freeTok s.sk key = ownerTok q.sk.owner by unfold freeTok; rw [hqs]] at this
    exact ((h.callL (d := d) (c := .cancelLoop st fromAll) ⟨hg.wf, hg.debt⟩ hL2).tail'
      (c := .cancelLoop st fromAll) (s := s) (StepS.drop_owner hqs hk (h01.trans hs.toT) (post_callback_user hg.post)) (Or.inl rfl) (Or.inl rfl)
      (fun hg2 => hg2.post)).seq

theorem good_endQuery {goC : GoC} (h : GoGood cid goC) {d srv key st rec s L}
    (hpre : Pre d s (.endQuery srv key st rec)) (hL : LG cid L (xtra cid (.endQuery srv key st rec)) s) :
    GoodL cid d (.endQuery srv key st rec) s L (bodyEndQueryC goC srv key st rec s) := by
  obtain ⟨hw, hk, hd⟩ := hpre
  obtain ⟨q, hq, hqs⟩ := query?_of_idx hw hk
  unfold bodyEndQueryC
  simp only [hq]
  show GoodL cid d _ s L (((goC (.callback q.owner q.react st q.timeouts rec) (endQueryPre s srv key st rec q)).1.1.freeQuery key, .ok),
    (goC (.callback q.owner q.react st q.timeouts rec) (endQueryPre s srv key st rec q)).2)
  have hsk3 := sk_endQueryPre s srv key st rec q
  generalize endQueryPre s srv key st rec q = s3 at hsk3
  obtain ⟨hof, hdf⟩ := owner_detach hw hqs hk hd
  have hL3 : LG cid L (xtra cid (.callback q.owner q.react st q.timeouts rec)) s3 := by
    refine hL.of_cnt ?_
    rw [hsk3]
    have := subs_detach hw hqs hk cid
    show _ + ownerX cid q.owner = _ + 0
    rw [ownerX_eq]
    have e : q.sk.owner = q.owner := rfl
    rw [e] at this
    omega
  rcases h.callL (d := d) (c := .callback q.owner q.react st q.timeouts rec) (s := s3)
    ⟨by unfold Wf; rw [hsk3]; exact wf_detach hw (Or.inr rfl) hqs, by rw [hsk3]; exact hof, by rw [hsk3]; exact hdf⟩
    hL3 with hoof | ⟨hg, hL4⟩
  · exact Or.inl (by simpa using hoof)
  generalize goC (.callback q.owner q.react st q.timeouts rec) s3 = x at hg hL4
  obtain ⟨⟨s4, ret⟩, l⟩ := x
  have hnk : key ∉ s4.sk.idx := by
    intro hin
    rcases hg.step.idxNew key hin with h' | h'
    · rw [hsk3] at h'; exact not_idx_detach hw hqs h'
    · rw [hsk3] at h'
      have : (s.sk.detach key).nextKey = s.sk.nextKey := (detach_same hqs).nextKey
      have := key_lt_of_idx hw hk
      omega
  refine Or.inr ⟨⟨?_, ?_, ?_, trivial⟩, hL4.subs_eq ?_⟩
  · show Wf (s4.freeQuery key)
    unfold Wf; rw [sk_freeQuery]; exact wf_freeQuery hg.wf
  · show DebtOk none d (s4.freeQuery key).sk
    rw [sk_freeQuery]; exact debt_freeQuery_unlinked hg.wf hnk hg.debt
  · show StepS none none d s.sk (s4.freeQuery key).sk
    rw [sk_freeQuery]
    have hs := hg.step
    rw [exId_callback, hsk3] at hs
    have h04 : StepS none none d s.sk s4.sk :=
      StepS.drop_owner hqs hk ((step_detach hw hqs).trans hs.toT) (post_callback_user hg.post)
    exact h04.trans (step_freeQuery_unlinked hg.wf hnk)
  · show (St.freeQuery _ key).sk.subs cid = _
    rw [sk_freeQuery]
    exact subs_freeQuery_unlinked hg.wf hnk cid

end Cares.Chan
