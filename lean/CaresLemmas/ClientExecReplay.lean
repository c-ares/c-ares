import CaresLemmas.ClientExecKeep
/-!
# The log of client events replays on a pure machine (exec-level refinement, unconditional part)

`rstep` / `replay` interpret a log of client events as transformations of the *client store*
`(clients, nextClient)` plus the stack of client frames in progress, innermost first: `(id, some acts)` is a `runActs` frame of compound
request `id` that has still to execute `acts`; `(id, none)` says the user callback of `id`'s `.finish` is running:

* `.start`  the new record is `clientStart …`'s, its id is `nextClient`, a frame with `clientStart`'s actions is pushed;
* `.cb`     the record found is replaced by `clientOnCb`'s result on it, a frame with `clientOnCb`'s actions is pushed;
* `.act`    the action executed is the *first pending action of the innermost frame* (and that frame belongs to
            the same compound request); `.finish` drops the rest of the frame and opens a `(id, none)` frame;
* `.slot`   a query id is stored in the record; `.rel` closes the `(id, none)` frame and removes the record;
            `.ret` pops an exhausted `runActs` frame;
* `.lost`   no record exists (the frame's pending `.finish` is abandoned).

`exec_replays` (proved by induction over `execC`, every body for an arbitrary `goC` satisfying the same
specification) says: unless fuel runs out, the log of any procedure replays, from the client store before the call
to the client store after it, with the frame stack restored (`runActs id acts` consumes the frame `(id, acts)`).
That is: the channel model changes a compound request's record *only* by `clientStart` / `clientOnCb` / storing a
query id / release, and it executes exactly the actions those two functions returned, in order, frame by frame.
-/
namespace Cares.Chan

deriving instance DecidableEq for ReqSpec
deriving instance DecidableEq for ClientAct
deriving instance DecidableEq for CItem

structure RSt where
  clients : List Client
  next : Nat
  stack : List (Nat × Option (List ClientAct))

def setSlot (slot qid : Nat) (c : Client) : Client :=
  if slot == 0 then { c with qidA := qid } else { c with qidAAAA := qid }

def modC (l : List Client) (id : Nat) (f : Client → Client) : List Client :=
  l.map fun c => if c.id == id then f c else c

/-- the frames on top of the stack once the first action `a` of the innermost frame `(id, a :: rest)` has been
    started -/
def afterAct (id : Nat) (a : ClientAct) (rest : List ClientAct) : List (Nat × Option (List ClientAct)) :=
  match a with
  | .finish _ _ _ => [(id, none), (id, some [])]
  | _ => [(id, some rest)]

def rstep (cfg : Cfg) (r : RSt) : CItem → Option RSt
  | .start id kind tok react spec fam =>
    if id = r.next then
      some ⟨r.clients ++ [(clientStart cfg id kind tok react spec fam).1], id + 1,
            (id, some (clientStart cfg id kind tok react spec fam).2) :: r.stack⟩
    else none
  | .cb id st t rec qa qb =>
    match r.clients.find? (·.id == id) with
    | none => none
    | some c =>
      if c.qidA = qa ∧ c.qidAAAA = qb then
        some ⟨modC r.clients id (fun _ => (clientOnCb cfg c st t rec).1), r.next,
              (id, some (clientOnCb cfg c st t rec).2) :: r.stack⟩
      else none
  | .act id a =>
    match r.stack with
    | (id', some (a' :: rest)) :: σ =>
      if id' = id ∧ a' = a then some ⟨r.clients, r.next, afterAct id a rest ++ σ⟩ else none
    | _ => none
  | .slot id slot qid => some ⟨modC r.clients id (setSlot slot qid), r.next, r.stack⟩
  | .lost id =>
    match r.stack with
    | (id', some (.finish _ _ _ :: _)) :: σ =>
      if id' = id ∧ (r.clients.find? (·.id == id)).isNone then some ⟨r.clients, r.next, (id, some []) :: σ⟩ else none
    | _ => none
  | .rel id =>
    match r.stack with
    | (id', none) :: σ => if id' = id then some ⟨r.clients.filter (·.id != id), r.next, σ⟩ else none
    | _ => none
  | .ret id =>
    match r.stack with
    | (id', some []) :: σ => if id' = id then some ⟨r.clients, r.next, σ⟩ else none
    | _ => none

/-- what a step of the machine does, event by event -/
inductive RStep (cfg : Cfg) : RSt → CItem → RSt → Prop
  | start {r} (k tok re sp f) : RStep cfg r (.start r.next k tok re sp f)
      ⟨r.clients ++ [(clientStart cfg r.next k tok re sp f).1], r.next + 1,
        (r.next, some (clientStart cfg r.next k tok re sp f).2) :: r.stack⟩
  | cb {r id c} (st t rec) (hc : r.clients.find? (·.id == id) = some c) :
      RStep cfg r (.cb id st t rec c.qidA c.qidAAAA)
        ⟨modC r.clients id (fun _ => (clientOnCb cfg c st t rec).1), r.next,
          (id, some (clientOnCb cfg c st t rec).2) :: r.stack⟩
  | act {cl nx id a rest σ} : RStep cfg ⟨cl, nx, (id, some (a :: rest)) :: σ⟩ (.act id a) ⟨cl, nx, afterAct id a rest ++ σ⟩
  | slot {r} (id slot qid) : RStep cfg r (.slot id slot qid) ⟨modC r.clients id (setSlot slot qid), r.next, r.stack⟩
  | lost {cl nx id st t dg rest σ} (hn : cl.find? (·.id == id) = none) :
      RStep cfg ⟨cl, nx, (id, some (.finish st t dg :: rest)) :: σ⟩ (.lost id) ⟨cl, nx, (id, some []) :: σ⟩
  | rel {cl nx id σ} : RStep cfg ⟨cl, nx, (id, none) :: σ⟩ (.rel id) ⟨cl.filter (·.id != id), nx, σ⟩
  | ret {cl nx id σ} : RStep cfg ⟨cl, nx, (id, some []) :: σ⟩ (.ret id) ⟨cl, nx, σ⟩

theorem RStep.of {cfg : Cfg} {r r1 : RSt} {i : CItem} (h : rstep cfg r i = some r1) : RStep cfg r i r1 := by
  obtain ⟨cl, nx, stk⟩ := r
  cases i <;> simp only [rstep] at h
  case start => split at h <;> cases h; subst ‹_ = _›; exact .start ..
  case cb =>
    split at h
    · cases h
    · split at h <;> cases h
      obtain ⟨rfl, rfl⟩ := ‹_ ∧ _›
      exact .cb _ _ _ ‹_›
  case act =>
    split at h
    · split at h <;> cases h
      obtain ⟨rfl, rfl⟩ := ‹_ ∧ _›
      exact .act
    · cases h
  case slot => cases h; exact .slot ..
  case lost =>
    split at h
    · split at h <;> cases h
      obtain ⟨rfl, hn⟩ := ‹_ ∧ _›
      exact .lost (Option.isNone_iff_eq_none.mp hn)
    · cases h
  case rel =>
    split at h
    · split at h <;> cases h
      subst ‹_ = _›; exact .rel
    · cases h
  case ret =>
    split at h
    · split at h <;> cases h
      subst ‹_ = _›; exact .ret
    · cases h

def replay (cfg : Cfg) : RSt → CLog → Option RSt
  | r, [] => some r
  | r, i :: l => (rstep cfg r i).bind fun r' => replay cfg r' l

theorem replay_append (cfg : Cfg) (r : RSt) (l1 l2 : CLog) :
    replay cfg r (l1 ++ l2) = (replay cfg r l1).bind fun r' => replay cfg r' l2 := by
  induction l1 generalizing r with
  | nil => rfl
  | cons i l ih =>
    simp only [List.cons_append, replay]
    cases rstep cfg r i with
    | none => rfl
    | some r' => simp only [Option.bind_some, ih]

theorem replay_snoc (cfg : Cfg) (r : RSt) (l : CLog) (i : CItem) :
    replay cfg r (l ++ [i]) = (replay cfg r l).bind fun r' => rstep cfg r' i := by
  rw [replay_append]
  congr 1
  funext r'
  simp only [replay]
  cases rstep cfg r' i <;> rfl

/-- the frame a procedure expects on top of the stack when it is called -/
def preσ : Call → List (Nat × Option (List ClientAct)) → List (Nat × Option (List ClientAct))
  | .runActs id acts, σ => (id, some acts) :: σ
  | _, σ => σ

/-- unless fuel has run out, the log so far replays from `r0` to this client store and frame stack.  Three spellings:
    `RPv` on the fields it reads, so that a step names what it changes; `RP` on a state, as the theorems read; `RPk` on
    the view `CView`, the shape `Keeps` and `execCBody_ev` (ClientExecKeep, ClientExecReplayExec) take.  `PVv` / `Prov` /
    `PVk` of ClientExecProv likewise. -/
def RPv (cfg : Cfg) (r0 : RSt) (L : CLog) (σ : List (Nat × Option (List ClientAct))) (oof : Bool) (c : Cfg)
    (cl : List Client) (nx : Nat) : Prop :=
  oof = true ∨ (c = cfg ∧ replay cfg r0 L = some ⟨cl, nx, σ⟩)

abbrev RP (cfg : Cfg) (r0 : RSt) (L : CLog) (σ : List (Nat × Option (List ClientAct))) (s : St) : Prop :=
  RPv cfg r0 L σ s.outOfFuel s.cfg s.clients s.nextClient

/-- the specification of the recursive calls -/
abbrev GoRP (cfg : Cfg) (r0 : RSt) (goC : GoC) : Prop :=
  ∀ c s L σ, RP cfg r0 L (preσ c σ) s → RP cfg r0 (L ++ (goC c s).2) σ (goC c s).1.1

/-- `RP` as an invariant of the log and the view of the state -/
abbrev RPk (cfg : Cfg) (r0 : RSt) (σ : List (Nat × Option (List ClientAct))) : CLog → CView → Prop :=
  fun L v => RPv cfg r0 L σ v.oof v.cfg v.clients v.next

end Cares.Chan
