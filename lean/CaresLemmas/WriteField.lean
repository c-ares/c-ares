import CaresLemmas.WriteParseName
import CaresLemmas.DnsShape
import CaresModel.Dns.Write
/-!
# Field level: the parser model reads back what each writer helper wrote

One lemma per `FieldKind` (`parseField` after `writeField`), then the generic lemma for whole scripts:
`compatible parseScript writeScript → parseFields (writeFields v) = canon v`.
-/
namespace Cares.Dns.Write
open Cares.Dns Cares.Dns.NameW Cares.Dns.Build

/-- a written name, read back in place: the parser returns the canonical spelling and stops behind it;
    the offset-list invariant carries over to the longer message -/
theorem parseName_nameWrite (out rest : BStr) (names : List NameOff) (useList v : Bool) (name : BStr)
    (o : NameOut) (hinv : NInv names out) (h : nameWrite out.length names useList v name = .ok o) :
    parseName (out ++ o.bytes ++ rest).toArray false out.length =
        .ok (canonName name) (out.length + o.bytes.length) ∧
      NInv o.names (out ++ o.bytes) ∧ o.trunc = false := by
  obtain ⟨⟨ls, hu, _, hd, ht⟩, hinv'⟩ := nameWrite_spec out names useList v name o hinv h
  refine ⟨?_, hinv', ht⟩
  rw [parseName_of_decodes (hd.append rest)]
  simp [canonName, hu]

@[simp] theorem be16_length (n : Nat) : (be16 n).length = 2 := rfl
@[simp] theorem be32_length (n : Nat) : (be32 n).length = 4 := rfl

theorem getElem_piece (out b rest : BStr) (i : Nat) (hi : i < b.length)
    (h : out.length + i < (out ++ b ++ rest).toArray.size) :
    (out ++ b ++ rest).toArray[out.length + i] = b[i] := by
  simp [List.getElem_append_right, List.getElem_append_left, hi]

theorem size_piece (out b rest : BStr) : (out ++ b ++ rest).toArray.size = out.length + b.length + rest.length := by
  simp; omega

/-! The lemmas about reading a piece back (`be16At_written` … `multistringLoop_written`) are stated for a reader at
    `pos` = the length of a prefix `out` of the message that is followed by the piece; both side conditions are for
    `simp`. -/

theorem be16At_written {msg : BStr} (out : BStr) {pos n : Nat} (hn : n < 65536) (h : out ++ be16 n <+: msg)
    (hp : pos = out.length) (hfit : pos + 2 ≤ msg.toArray.size) : be16At msg.toArray pos hfit = n := by
  obtain ⟨rest, rfl⟩ := h
  subst hp
  have h0 := getElem_piece out (be16 n) rest 0 (by simp) (by omega)
  have h1 := getElem_piece out (be16 n) rest 1 (by simp) (by omega)
  simp only [Nat.add_zero] at h0
  rw [be16At_eq, h0, h1]
  simp only [be16, List.getElem_cons_zero, List.getElem_cons_succ]
  rw [ofNat_toNat_lt _ (Nat.mod_lt _ (by decide)), ofNat_toNat_lt _ (Nat.mod_lt _ (by decide))]
  omega

theorem be32At_written {msg : BStr} (out : BStr) {pos n : Nat} (hn : n < 4294967296) (h : out ++ be32 n <+: msg)
    (hp : pos = out.length) (hfit : pos + 4 ≤ msg.toArray.size) : be32At msg.toArray pos hfit = n := by
  obtain ⟨rest, rfl⟩ := h
  subst hp
  have h0 := getElem_piece out (be32 n) rest 0 (by simp) (by omega)
  have h1 := getElem_piece out (be32 n) rest 1 (by simp) (by omega)
  have h2 := getElem_piece out (be32 n) rest 2 (by simp) (by omega)
  have h3 := getElem_piece out (be32 n) rest 3 (by simp) (by omega)
  simp only [Nat.add_zero] at h0
  rw [be32At_eq, h0, h1, h2, h3]
  simp only [be32, List.getElem_cons_zero, List.getElem_cons_succ]
  rw [ofNat_toNat_lt _ (Nat.mod_lt _ (by decide)), ofNat_toNat_lt _ (Nat.mod_lt _ (by decide)),
    ofNat_toNat_lt _ (Nat.mod_lt _ (by decide)), ofNat_toNat_lt _ (Nat.mod_lt _ (by decide))]
  omega

theorem fetchBe16_at {msg : BStr} (out : BStr) {pos n : Nat} (hn : n < 65536) (h : out ++ be16 n <+: msg)
    (hp : pos = out.length) : fetchBe16 msg.toArray pos = .ok n (pos + 2) := by
  have hfit : pos + 2 ≤ msg.toArray.size := by
    have := h.length_le
    simp only [List.length_append, be16_length] at this
    rw [List.size_toArray]; omega
  rw [fetchBe16_eq (by omega), dif_pos hfit, be16At_written out hn h hp]

theorem fetchBe32_at {msg : BStr} (out : BStr) {pos n : Nat} (hn : n < 4294967296) (h : out ++ be32 n <+: msg)
    (hp : pos = out.length) : fetchBe32 msg.toArray pos = .ok n (pos + 4) := by
  have hfit : pos + 4 ≤ msg.toArray.size := by
    have := h.length_le
    simp only [List.length_append, be32_length] at this
    rw [List.size_toArray]; omega
  rw [fetchBe32_eq (by omega), dif_pos hfit, be32At_written out hn h hp]

theorem byteAt_written {msg : BStr} (out : BStr) {pos : Nat} (c : UInt8) (h : out ++ [c] <+: msg)
    (hp : pos = out.length) (hlt : pos < msg.toArray.size) : msg.toArray[pos] = c := by
  obtain ⟨rest, rfl⟩ := h
  subst hp
  simp

theorem fetchByte_at {msg : BStr} (out : BStr) {pos : Nat} (c : UInt8) (h : out ++ [c] <+: msg)
    (hp : pos = out.length) : fetchByte msg.toArray pos = .ok c (pos + 1) := by
  obtain ⟨rest, rfl⟩ := h
  subst hp
  rw [fetchByte_eq (by simp), dif_pos (by simp)]
  congr 1
  simp

theorem fetchBytes_at {msg : BStr} (out b : BStr) {pos : Nat} (hb : b.length ≠ 0) (h : out ++ b <+: msg)
    (hp : pos = out.length) : fetchBytes msg.toArray b.length pos = .ok b (pos + b.length) := by
  obtain ⟨rest, rfl⟩ := h
  subst hp
  have hsz := size_piece out b rest
  rw [fetchBytes_eq (by omega), if_pos ⟨hb, by omega⟩]
  congr 1
  rw [slice_toArray]
  simp [List.append_assoc]

theorem allPrintable_generated (s : BStr) :
    (s.all fun c => Cares.Generated.isPrint c.toNat) = allPrintable s := by
  simp [allPrintable, isPrint_generated]

/-- `<len> s` read back by `ares_buf_parse_dns_str` -/
theorem parseDnsBinstr_written (out s rest : BStr) (rem : Nat) (hlen : s.length ≤ 255)
    (hrem : s.length + 1 ≤ rem) (hp : allPrintable s = true) :
    parseDnsBinstr (out ++ (UInt8.ofNat s.length :: s) ++ rest).toArray rem true out.length =
      .ok s (out.length + (s.length + 1)) := by
  have hlt : out.length < (out ++ (UInt8.ofNat s.length :: s) ++ rest).toArray.size := by simp +arith
  have hc := byteAt_written out (UInt8.ofNat s.length) (by simp) rfl hlt
  refine (parseDnsStr_ok_iff (Nat.le_of_lt hlt)).2 ⟨hlt, ?_⟩
  rw [hc, ofNat_toNat_lt _ (by omega), slice_toArray]
  have hs : List.take s.length (List.drop (out.length + 1) (out ++ (UInt8.ofNat s.length :: s) ++ rest)) = s := by
    simp +arith
  rw [hs]
  refine ⟨hrem, by simp +arith, ?_, rfl, by omega⟩
  rw [allPrintable_generated]; exact hp

theorem optStep_written (out msg v : BStr) (id : Nat) (hid : id < 65536) (hv : v.length < 65536)
    (h : out ++ (be16 id ++ be16 v.length ++ v) <+: msg) :
    optStep msg.toArray out.length = .ok (id, v) (out.length + (4 + v.length)) := by
  obtain ⟨rest, rfl⟩ := h
  have h4 : out.length + 4 ≤ (out ++ (be16 id ++ be16 v.length ++ v) ++ rest).toArray.size := by simp +arith
  rw [optStep_eq (by omega), dif_pos h4, be16At_written out hid (by simp) rfl,
    be16At_written (out ++ be16 id) hv (by simp) (by simp), if_pos (by simp +arith), slice_toArray]
  simp +arith [be16]

theorem writeOpts_notrunc (l : List (Nat × BStr)) (h : ∀ q ∈ l, q.1 < 65536 ∧ q.2.length < 65536) :
    (writeOpts l).2 = false := by
  induction l with
  | nil => rfl
  | cons a r ih =>
    obtain ⟨id, v⟩ := a
    have hv := (h (id, v) List.mem_cons_self).2
    dsimp only at hv
    simp only [writeOpts, u16t, Bool.or_eq_false_iff, decide_eq_false_iff_not]
    exact ⟨by omega, ih (fun q hq => h q (List.mem_cons_of_mem _ hq))⟩

/-- the loop only asks how far the end `E` of RDATA is: `hrem` is `rrRemainingLen_eq` for this message -/
theorem optLoop_written (msg : BStr) (origLen rdlength E : Nat) (l : List (Nat × BStr)) :
    ∀ (out : BStr) (acc : List (Nat × BStr)),
      (∀ p ∈ l, p.1 < 65536 ∧ p.2.length < 65536) →
      (∀ q, out.length ≤ q → q ≤ E → rrRemainingLen msg.toArray origLen rdlength q = .ok (E - q) q) →
      E = out.length + (writeOpts l).1.length → out ++ (writeOpts l).1 <+: msg →
      optLoop msg.toArray origLen rdlength acc out.length = .ok (optFold acc l) E := by
  induction l with
  | nil =>
    intro out acc _ hrem hE _
    rw [optLoop, hrem out.length (Nat.le_refl _) (hE ▸ Nat.le_add_right _ _), hE]
    simp [optFold, writeOpts]
  | cons pv l ih =>
    obtain ⟨id, v⟩ := pv
    intro out acc hval hrem hE hpre
    obtain ⟨hid, hv⟩ := hval (id, v) List.mem_cons_self
    have hw : (writeOpts ((id, v) :: l)).1 = (be16 id ++ be16 v.length ++ v) ++ (writeOpts l).1 := by
      simp [writeOpts, u16t, Nat.mod_eq_of_lt hid, Nat.mod_eq_of_lt hv]
    rw [hw, ← List.append_assoc] at hpre
    have hlen2 : (out ++ (be16 id ++ be16 v.length ++ v)).length = out.length + (4 + v.length) := by
      simp only [List.length_append, be16_length]
    have hE2 : E = out.length + (4 + v.length) + (writeOpts l).1.length := by
      rw [hE, hw]; simp only [List.length_append, be16_length]; omega
    rw [optLoop, hrem out.length (Nat.le_refl _) (hE ▸ Nat.le_add_right _ _)]
    simp only
    rw [if_pos (by rw [hE2]; omega)]
    split
    · rename_i e he; rw [optStep_written out msg v id hid hv (List.IsPrefix.trans (List.prefix_append _ _) hpre)] at he; cases he
    · rename_i k he; rw [optStep_written out msg v id hid hv (List.IsPrefix.trans (List.prefix_append _ _) hpre)] at he; cases he
    · rename_i o pos1 he
      rw [optStep_written out msg v id hid hv (List.IsPrefix.trans (List.prefix_append _ _) hpre)] at he
      injection he with h1 h2
      subst h1; subst h2
      have := ih (out ++ (be16 id ++ be16 v.length ++ v)) (setOpt acc id v)
        (fun p hp => hval p (List.mem_cons_of_mem _ hp))
        (fun q hq hq' => hrem q (by rw [hlen2] at hq; omega) hq') (by rw [hlen2]; exact hE2) hpre
      rw [hlen2] at this
      rw [this]
      rfl

theorem setOpt_fresh (acc : List (Nat × BStr)) (id : Nat) (v : BStr) (h : ∀ p ∈ acc, p.1 ≠ id) :
    setOpt acc id v = acc ++ [(id, v)] := by
  induction acc with
  | nil => rfl
  | cons a r ih =>
    obtain ⟨i, w⟩ := a
    have hi : i ≠ id := h (i, w) List.mem_cons_self
    simp only [setOpt, hi, ↓reduceIte, List.cons_append]
    rw [ih (fun p hp => h p (List.mem_cons_of_mem _ hp))]

theorem optFold_nodup (l acc : List (Nat × BStr)) (h : ((acc ++ l).map (·.1)).Nodup) :
    optFold acc l = acc ++ l := by
  induction l generalizing acc with
  | nil => simp [optFold]
  | cons p r ih =>
    obtain ⟨id, v⟩ := p
    simp only [optFold, List.foldl_cons]
    have hfresh : ∀ q ∈ acc, q.1 ≠ id := by
      intro q hq hc
      rw [List.map_append, List.nodup_append] at h
      exact h.2.2 q.1 (List.mem_map_of_mem hq) id (by simp) hc
    rw [setOpt_fresh acc id v hfresh]
    have := ih (acc ++ [(id, v)]) (by simpa [List.append_assoc] using h)
    simpa [optFold, List.append_assoc] using this

/-- one character-string on the wire -/
def encChunk (c : BStr) : BStr := UInt8.ofNat c.length :: c

theorem split255_spec (bs : BStr) :
    binstr bs = ((split255 bs).map encChunk).flatten ∧ (∀ c ∈ split255 bs, c.length ≤ 255) ∧ split255 bs ≠ [] := by
  induction h : bs.length using Nat.strongRecOn generalizing bs with
  | _ n ih =>
    rw [binstr, split255]
    by_cases hle : bs.length ≤ 255
    · simp [hle, encChunk]
    · simp only [hle, ↓reduceDIte]
      obtain ⟨h1, h2, _⟩ := ih (bs.drop 255).length (by simp; omega) (bs.drop 255) rfl
      refine ⟨?_, ?_, by simp⟩
      · rw [h1]
        have : (bs.take 255).length = 255 := by simp; omega
        simp [encChunk, this]
      · intro c hc
        rcases List.mem_cons.1 hc with rfl | hc
        · simp; omega
        · exact h2 c hc

theorem multistringStep_written (out msg c : BStr) (hc : c.length ≤ 255) (h : out ++ encChunk c <+: msg) :
    multistringStep msg.toArray false out.length = .ok c (out.length + (c.length + 1)) := by
  obtain ⟨rest, rfl⟩ := h
  have hlt : out.length < (out ++ encChunk c ++ rest).toArray.size := by simp +arith [encChunk]
  rw [multistringStep_eq (by omega), dif_pos hlt, byteAt_written out (UInt8.ofNat c.length) (by simp [encChunk]) rfl hlt,
    ofNat_toNat_lt _ (by omega), if_pos (by simp +arith [encChunk]), slice_toArray]
  simp +arith [encChunk]

/-- `S` is where the sequence starts (`origLen` was taken there), `S + rdlength` where it ends -/
theorem multistringLoop_written (msg : BStr) (S origLen rdlength : Nat) (ho : origLen = msg.toArray.size - S)
    (cs : List BStr) :
    ∀ (out : BStr) (acc : List BStr) (ran : Bool),
      (∀ c ∈ cs, c.length ≤ 255) → S ≤ out.length →
      S + rdlength = out.length + (cs.map encChunk).flatten.length →
      out ++ (cs.map encChunk).flatten <+: msg → (ran = true ∨ cs ≠ []) →
      multistringLoop msg.toArray origLen rdlength false acc ran out.length = .ok (acc ++ cs) (S + rdlength) := by
  induction cs with
  | nil =>
    intro out acc ran _ hS hr hpre hran
    have hp := hpre.length_le
    rw [multistringLoop]
    have hp' : out.length ≤ msg.toArray.size := by simpa using hp
    simp only [bufLen_sub_eq (origLen := origLen) hp' (by omega),
      show origLen - (msg.toArray.size - out.length) = out.length - S by omega]
    have hran' : ran = true := hran.resolve_right (fun h => h rfl)
    have hz : ¬ (out.length - S < rdlength) := by simp at hr; omega
    simp [hran', hz, hr]
  | cons c cs ih =>
    intro out acc ran hlen hS hr hpre _
    have hfl : ((c :: cs).map encChunk).flatten = encChunk c ++ (cs.map encChunk).flatten := by simp
    have hlen2 : (out ++ encChunk c).length = out.length + (c.length + 1) := by simp [encChunk]
    rw [hfl, ← List.append_assoc] at hpre
    have hp := hpre.length_le
    rw [hfl, List.length_append, ← Nat.add_assoc, ← List.length_append] at hr
    rw [multistringLoop]
    have hp' : out.length + (c.length + 1) ≤ msg.toArray.size := by
      rw [List.length_append, hlen2] at hp; simp only [List.size_toArray]; omega
    simp only [bufLen_sub_eq (origLen := origLen) (Nat.le_trans (Nat.le_add_right _ _) hp') (by omega),
      show origLen - (msg.toArray.size - out.length) = out.length - S by omega]
    rw [if_pos (by rw [hlen2] at hr; omega)]
    have hstep := multistringStep_written out msg c (hlen c List.mem_cons_self)
      (List.IsPrefix.trans (List.prefix_append _ _) hpre)
    split
    · rename_i e he; rw [hstep] at he; cases he
    · rename_i k he; rw [hstep] at he; cases he
    · rename_i s pos1 he
      rw [hstep] at he
      injection he with h1 h2
      subst h1; subst h2
      have := ih (out ++ encChunk c) (acc ++ [c]) true (fun x hx => hlen x (List.mem_cons_of_mem _ hx))
        (by rw [hlen2]; omega) hr hpre (Or.inl rfl)
      rw [hlen2] at this
      rw [this, List.append_assoc, List.singleton_append]

theorem fetchStrDup_written (out s rest : BStr) (h0 : s.length ≠ 0) (hp : allPrintable s = true) :
    fetchStrDup (out ++ s ++ rest).toArray s.length out.length = .ok s (out.length + s.length) := by
  have hsl : slice (out ++ s ++ rest).toArray out.length s.length = s := by
    rw [slice_toArray]; simp [List.append_assoc]
  refine (fetchStrDup_ok_iff (by simp +arith)).2 ⟨h0, by simp +arith, ?_, hsl.symm, rfl⟩
  rw [hsl]
  rw [allPrintable_generated]; exact hp

/-- the common frame of a field inside an RDATA: `S` = where the RDATA starts, the field's bytes sit at
    `out.length`, the RDATA ends (at `S + rdlength`) at or behind the field -/
structure Frame (out b msg : BStr) (S origLen rdlength : Nat) : Prop where
  hS : S ≤ out.length
  hpre : out ++ b <+: msg
  horig : origLen = msg.length - S
  hrd : out.length + b.length ≤ S + rdlength

theorem parseField_writeField (pk wk : FieldKind) (key : Nat) (hm : kindMatch pk wk = true)
    (out msg : BStr) (S origLen rdlength : Nat) (names : List NameOff) (comp : Bool) (rr : RR) (p : Piece)
    (hw : writeField out.length names comp rr wk key = .ok p) (hinv : NInv names out)
    (hok : fieldOk rr pk key = true) (hf : Frame out p.bytes msg S origLen rdlength)
    (hlast : isRest pk = true → S + rdlength = out.length + p.bytes.length) :
    parseField msg.toArray origLen rdlength pk out.length = .ok (canonVal rr wk key) (out.length + p.bytes.length) ∧
      NInv p.names (out ++ p.bytes) ∧ p.trunc = false := by
  obtain ⟨pb, pn, pt⟩ := p
  obtain ⟨hS, ⟨post, rfl⟩, horig, hrd⟩ := hf
  dsimp only at horig hrd hlast ⊢
  have hsz := size_piece out pb post
  have hrem : ∀ q, q ≤ (out ++ pb ++ post).toArray.size → S ≤ q →
      rrRemainingLen (out ++ pb ++ post).toArray origLen rdlength q = .ok (S + rdlength - q) q :=
    fun q hq hSq => rrRemainingLen_eq hq hSq (by rw [List.size_toArray]; exact horig)
  have hout : out.length ≤ (out ++ pb ++ post).toArray.size := by rw [hsz, Nat.add_assoc]; exact Nat.le_add_right _ _
  have hlastE : isRest pk = true → S + rdlength - out.length = pb.length := fun h => by
    rw [hlast h, Nat.add_sub_cancel_left]
  revert hm
  fun_cases kindMatch pk wk <;> intro hm
  · -- be16
    simp only [writeField] at hw
    split at hw
    · cases hw
      simp only [fieldOk, decide_eq_true_eq] at hok
      refine ⟨?_, hinv.append _, rfl⟩
      simp only [parseField, canonVal]
      rw [P.bind_ok (fetchBe16_at out hok (by simp [Nat.mod_eq_of_lt hok]) rfl)]
      rfl
    · cases hw
  · -- be32
    simp only [writeField] at hw
    split at hw
    · cases hw
      simp only [fieldOk, decide_eq_true_eq] at hok
      refine ⟨?_, hinv.append _, rfl⟩
      simp only [parseField, canonVal]
      rw [P.bind_ok (fetchBe32_at out hok (by simp [Nat.mod_eq_of_lt hok]) rfl)]
      rfl
    · cases hw
  · -- u8
    simp only [writeField] at hw
    split at hw
    · cases hw
      simp only [fieldOk, decide_eq_true_eq] at hok
      refine ⟨?_, hinv.append _, rfl⟩
      simp only [parseField, canonVal]
      rw [P.bind_ok (fetchByte_at out (UInt8.ofNat (getU rr key % 256)) (by simp) rfl)]
      simp [Nat.mod_eq_of_lt hok, ofNat_toNat_lt _ hok]
    · cases hw
  · -- addr4
    simp only [writeField] at hw
    cases hg : getAddr rr key with
    | none => simp [hg] at hw
    | some b =>
      simp only [hg] at hw
      cases hw
      simp only [fieldOk, hg, beq_iff_eq] at hok
      refine ⟨?_, hinv.append _, rfl⟩
      simp only [parseField, canonVal, hg, Option.getD_some]
      have := fetchBytes_at (msg := out ++ pb ++ post) out pb (by omega) (by simp) rfl
      rw [hok] at this
      rw [P.bind_ok this]
      simp [hok]
  · -- addr6
    simp only [writeField] at hw
    cases hg : getAddr rr key with
    | none => simp [hg] at hw
    | some b =>
      simp only [hg] at hw
      cases hw
      simp only [fieldOk, hg, beq_iff_eq] at hok
      refine ⟨?_, hinv.append _, rfl⟩
      simp only [parseField, canonVal, hg, Option.getD_some]
      have := fetchBytes_at (msg := out ++ pb ++ post) out pb (by omega) (by simp) rfl
      rw [hok] at this
      rw [P.bind_ok this]
      simp [hok]
  · -- name
    rename_i wh
    simp only [writeField] at hw
    cases hg : getStr rr key with
    | none => simp [hg] at hw
    | some n =>
      simp only [hg] at hw
      cases hn : nameWrite out.length names comp wh n with
      | error e => simp [hn] at hw
      | ok o =>
        simp only [hn] at hw
        cases hw
        obtain ⟨h1, h2, h3⟩ := parseName_nameWrite out post names comp wh n o hinv hn
        refine ⟨?_, h2, h3⟩
        simp only [parseField, canonVal, hg, Option.map_some]
        rw [P.bind_ok h1]
        rfl
  · -- str
    rename_i pb wb
    simp only [writeField] at hw
    cases hg : getStr rr key with
    | none => simp [hg] at hw
    | some s =>
      simp only [hg] at hw
      split at hw
      · cases hw
      · rename_i hlen
        cases hw
        simp only [fieldOk, hg, Bool.and_eq_true, Bool.or_eq_true, Bool.not_eq_true',
          List.isEmpty_eq_false_iff] at hok
        simp only [List.length_cons] at hrd
        refine ⟨?_, hinv.append _, rfl⟩
        simp only [parseField, canonVal, hg]
        rw [P.bind_ok (hrem out.length hout hS)]
        rw [P.bind_ok (parseDnsBinstr_written out s post _ (by omega) (by omega) hok.1)]
        have : ¬ ((!pb) = true ∧ s.length = 0) := by
          intro ⟨h1, h2⟩
          rcases hok.2 with h | h
          · simp [h] at h1
          · exact h (List.eq_nil_of_length_eq_zero h2)
        simp only [this, ↓reduceIte]
        simp
  · -- binRest
    simp only [writeField] at hw
    cases hg : getBin rr key with
    | none => simp [hg] at hw
    | some b =>
      simp only [hg] at hw
      split at hw
      · cases hw
      · rename_i h0
        cases hw
        refine ⟨?_, hinv.append _, rfl⟩
        simp only [parseField, canonVal, hg]
        rw [P.bind_ok (hrem out.length hout hS), hlastE rfl, if_neg h0, P.bind_ok (fetchBytes_at out pb h0 (by simp) rfl)]
        rfl
  · -- strRest
    simp only [writeField] at hw
    cases hg : getStr rr key with
    | none => simp [hg] at hw
    | some s =>
      simp only [hg] at hw
      split at hw
      · cases hw
      · rename_i h0
        cases hw
        simp only [fieldOk, hg] at hok
        refine ⟨?_, hinv.append _, rfl⟩
        simp only [parseField, canonVal, hg]
        rw [P.bind_ok (hrem out.length hout hS), hlastE rfl, if_neg h0, P.bind_ok (fetchStrDup_written out pb post h0 hok)]
        rfl
  · -- opts
    simp only [writeField] at hw
    cases hw
    simp only [fieldOk, Bool.and_eq_true, List.all_eq_true, decide_eq_true_eq] at hok
    have hval : ∀ q ∈ getOpts rr key, q.1 < 65536 ∧ q.2.length < 65536 :=
      fun q hq => by have := hok.1 q hq; simpa using this
    refine ⟨?_, hinv.append _, writeOpts_notrunc _ hval⟩
    · simp only [parseField, canonVal]
      have hE := hlast rfl
      have := optLoop_written (out ++ (writeOpts (getOpts rr key)).1 ++ post) origLen rdlength _ (getOpts rr key) out []
        hval (fun q hq hq' => hE ▸ hrem q (by rw [hsz]; omega) (Nat.le_trans hS hq)) rfl (List.prefix_append _ _)
      rw [P.bind_ok this, optFold_nodup _ [] (by simpa using hok.2)]
      rfl
  · cases hm

theorem compatibleSeq_nil_right {ps : Script} (h : compatibleSeq ps [] = true) : ps = [] := by
  cases ps with
  | nil => rfl
  | cons a r => simp [compatibleSeq] at h

/-- **generic lemma for scripted RR types**: if the parse script and the write script of a type are
    compatible, parsing the fields that were written gives the canonical values back, the offset-list
    invariant is kept, and no length was masked.  Stated with the end `S + rdlength` of RDATA, which is what the
    induction carries. -/
theorem parseFields_writeFields_end (msg : BStr) (S origLen rdlength : Nat) (horig : origLen = msg.length - S)
    (comp : Bool) (rr : RR) (ps : Script) :
    ∀ (ws : Script), compatibleSeq ps ws = true → ∀ (out : BStr) (names : List NameOff) (p : Piece),
      writeFields out.length names comp rr ws = .ok p → NInv names out → fieldsOk rr ps = true →
      S ≤ out.length → S + rdlength = out.length + p.bytes.length → out ++ p.bytes <+: msg →
      parseFields msg.toArray origLen rdlength ps out.length = .ok (canonFields rr ws) (out.length + p.bytes.length) ∧
        NInv p.names (out ++ p.bytes) ∧ p.trunc = false := by
  induction ps with
  | nil =>
    intro ws hc out names p hw hinv _ _ _ _
    cases ws with
    | nil =>
      cases hw
      simp [parseFields, canonFields, hinv]
    | cons a r => simp [compatibleSeq] at hc
  | cons pe ps ih =>
    obtain ⟨pk, pkey⟩ := pe
    intro ws hc out names p hw hinv hok hS hrd hpre
    cases ws with
    | nil => simp [compatibleSeq] at hc
    | cons we ws =>
      obtain ⟨wk, wkey⟩ := we
      simp only [compatibleSeq, Bool.and_eq_true, beq_iff_eq, Bool.or_eq_true, Bool.not_eq_true',
        List.isEmpty_iff] at hc
      obtain ⟨⟨⟨hkey, hkm⟩, hrest⟩, hcs⟩ := hc
      subst hkey
      simp only [fieldsOk, List.all_cons, Bool.and_eq_true] at hok
      simp only [writeFields] at hw
      cases h1 : writeField out.length names comp rr wk pkey with
      | error e => simp [h1] at hw
      | ok p1 =>
        simp only [h1] at hw
        cases h2 : writeFields (out.length + p1.bytes.length) p1.names comp rr ws with
        | error e => simp [h2] at hw
        | ok q =>
          simp only [h2] at hw
          cases hw
          dsimp only at hrd hpre ⊢
          rw [← List.append_assoc] at hpre
          have hqnil : isRest pk = true → q.bytes = [] := by
            intro hr
            rcases hrest with h | h
            · rw [h] at hr; cases hr
            · subst h
              have hws : ws = [] := by
                cases ws with
                | nil => rfl
                | cons a r => simp [compatibleSeq] at hcs
              subst hws
              cases h2
              rfl
          obtain ⟨f1, f2, f3⟩ := parseField_writeField pk wk pkey hkm out msg S origLen rdlength
            names comp rr p1 h1 hinv hok.1
            ⟨hS, (List.prefix_append _ _).trans hpre, horig,
              by rw [hrd, List.length_append, ← Nat.add_assoc]; exact Nat.le_add_right _ _⟩
            (by intro hr; rw [hrd, hqnil hr]; simp)
          have hlen : (out ++ p1.bytes).length = out.length + p1.bytes.length := List.length_append
          obtain ⟨g1, g2, g3⟩ := ih ws hcs (out ++ p1.bytes) p1.names q
            (by rw [hlen]; exact h2) f2 hok.2 (Nat.le_trans hS (by rw [hlen]; exact Nat.le_add_right _ _))
            (by rw [hlen, hrd, List.length_append, Nat.add_assoc]) hpre
          refine ⟨?_, by rw [← List.append_assoc]; exact g2, by simp [f3, g3]⟩
          simp only [parseFields]
          rw [P.bind_ok f1, ← hlen, P.bind_ok g1]
          simp [canonFields, List.length_append, Nat.add_assoc]

theorem parseFields_writeFields (ps : Script) :
    ∀ (ws : Script), compatibleSeq ps ws = true →
    ∀ (out post : BStr) (S origLen rdlength : Nat) (names : List NameOff) (comp : Bool) (rr : RR) (p : Piece),
      writeFields out.length names comp rr ws = .ok p → NInv names out → fieldsOk rr ps = true →
      S ≤ out.length → origLen = (out ++ p.bytes ++ post).length - S →
      rdlength = out.length - S + p.bytes.length →
      parseFields (out ++ p.bytes ++ post).toArray origLen rdlength ps out.length =
          .ok (canonFields rr ws) (out.length + p.bytes.length) ∧
        NInv p.names (out ++ p.bytes) ∧ p.trunc = false :=
  fun ws hc out post S origLen rdlength names comp rr p hw hinv hok hS horig hrd =>
    parseFields_writeFields_end _ S origLen rdlength horig comp rr ps ws hc out names p hw hinv hok hS (by omega)
      (List.prefix_append _ _)

theorem binstr_chunks (chunks : List BStr) :
    (chunks.map binstr).flatten = ((chunks.flatMap split255).map encChunk).flatten ∧
      (∀ c ∈ chunks.flatMap split255, c.length ≤ 255) ∧ (chunks ≠ [] → chunks.flatMap split255 ≠ []) := by
  induction chunks with
  | nil => simp
  | cons c r ih =>
    obtain ⟨h1, h2, h3⟩ := split255_spec c
    obtain ⟨i1, i2, _⟩ := ih
    refine ⟨by simp [h1, i1], ?_, ?_⟩
    · intro x hx
      simp only [List.flatMap_cons, List.mem_append] at hx
      rcases hx with hx | hx
      · exact h2 x hx
      · exact i2 x hx
    · intro _
      simp only [List.flatMap_cons, ne_eq, List.append_eq_nil_iff, not_and]
      intro hc; exact absurd hc h3

theorem parseFields_writeFields_abin (key : Nat) (wflag : Bool) (out post : BStr) (origLen rdlength : Nat)
    (names : List NameOff) (comp : Bool) (rr : RR) (p : Piece)
    (hw : writeFields out.length names comp rr [(.abin wflag, key)] = .ok p) (hinv : NInv names out)
    (horig : origLen = (out ++ p.bytes ++ post).length - out.length) (hrd : rdlength = p.bytes.length) :
    parseFields (out ++ p.bytes ++ post).toArray origLen rdlength [(.abin false, key)] out.length =
        .ok (canonFields rr [(.abin wflag, key)]) (out.length + p.bytes.length) ∧
      NInv p.names (out ++ p.bytes) ∧ p.trunc = false := by
  have hw1 : writeField out.length names comp rr (.abin wflag) key =
      (if (getAbin rr key).length = 0 then .error .formerr
       else .ok ⟨((getAbin rr key).map binstr).flatten, names, false⟩) := by
    simp only [writeField]
  simp only [writeFields, hw1] at hw
  by_cases hne : (getAbin rr key).length = 0
  · simp [hne] at hw
  · simp only [hne, ↓reduceIte] at hw
    cases hw
    dsimp only at horig hrd ⊢
    simp only [List.append_nil, Bool.or_false] at horig hrd ⊢
    obtain ⟨e1, e2, e3⟩ := binstr_chunks (getAbin rr key)
    have hcs : getAbin rr key ≠ [] := by
      intro hc; rw [hc] at hne; simp at hne
    refine ⟨?_, hinv.append _, trivial⟩
    have hpos : rdlength ≠ 0 := by
      rw [hrd, e1]
      obtain ⟨c, r, hcr⟩ := List.exists_cons_of_ne_nil (e3 hcs)
      rw [hcr]; simp [encChunk]
    obtain ⟨msg, hm⟩ : ∃ m, m = out ++ (List.map binstr (getAbin rr key)).flatten ++ post := ⟨_, rfl⟩
    rw [← hm]
    have hloop := multistringLoop_written msg out.length _ rdlength rfl ((getAbin rr key).flatMap split255) out []
      false e2 (Nat.le_refl _) (by rw [hrd, e1]) (by rw [hm, ← e1]; exact List.prefix_append _ _) (Or.inr (e3 hcs))
    have hms : parseMultistring msg.toArray rdlength false out.length =
        .ok ((getAbin rr key).flatMap split255) (out.length + rdlength) := by
      unfold parseMultistring
      rw [P.bind_ok (bufLen_eq (by simp [hm])), if_neg hpos]
      simpa using hloop
    have hpf : parseField msg.toArray origLen rdlength (.abin false) out.length =
        .ok (.abin ((getAbin rr key).flatMap split255)) (out.length + rdlength) := by
      simp only [parseField]
      rw [P.bind_ok hms]
      rfl
    simp only [parseFields]
    rw [P.bind_ok hpf, hrd]
    simp only [canonFields, canonVal, List.map_cons, List.map_nil]
    rfl

end Cares.Dns.Write
