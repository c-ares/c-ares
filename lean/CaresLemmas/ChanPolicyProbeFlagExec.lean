import CaresLemmas.ChanPolicyProbeFlag
import CaresLemmas.ChanPolicyTimeout
/-!
# C09 — `probe_pending` is set only while a probe query exists: every procedure body, `exec`

`GoP go`: what is assumed of the calls a body makes — the invariant `PXo` for every ghost parameter, with the hole the
call's owner allows at entry (`preHole`) and no hole at exit; the walk of `ares_cancel` exhausts the list on top of the
stack (or raised a model fault); the callback of a probe is `server_probe_cb`; the fuel flag is sticky.
`goP_exec : ∀ fuel, GoP (exec fuel)`.  Six bodies create or release a query, set the flag or walk the `ares_cancel` list
(`Call.probes`) and are proved one by one; the others through `execBody_invariant` (`PXo.prim`, `execBody_keeps_p`).
-/
namespace Cares.Chan

/-- the hole a call may be entered with: a probe's `ares_send_nolock` (flag set, query not yet created) and a probe's
    completion callback (query possibly released already) -/
def preHole : Call → Option Nat
  | .sendNolock _ _ _ _ owner _ => holeOf owner
  | .callback owner _ _ _ _ => holeOf owner
  | _ => none

/-- the list on top of the `listCopy` stack has been walked to its end -/
def HeadEmpty (s : St) : Prop := ∀ l, s.listCopy.head? = some l → l = []

structure GoP (go : Call → St → St × Ret) : Prop where
  inv : ∀ (g : Gh) c s, PXo g (preHole c) s → PXo g none (go c s).1
  top : ∀ (g : Gh) st s, PXo g none s →
    (go (.cancelLoop st false) s).1.outOfFuel = true ∨ HeadEmpty (go (.cancelLoop st false) s).1 ∨
      g.L < (go (.cancelLoop st false) s).1.modelFaults.length
  cb : ∀ pid re st t rec s, (go (.callback (.probe pid) re st t rec) s).1.outOfFuel = true ∨
    go (.callback (.probe pid) re st t rec) s = (releaseProbe pid s, .ok)
  oof : ∀ c s, s.outOfFuel = true → (go c s).1.outOfFuel = true

section
variable {g : Gh}

/-- the new connection is linked to its server without touching the flag -/
theorem sqOpen_p (s : St) (q : Query) (srv : Server) (existing : Option Nat) (h : PXo g none s) :
    PXo g none (sqOpen s q srv existing).2 := by
  apply sqOpen_cases (P := fun r => PXo g none r.2)
  · exact fun _ _ => h
  · exact fun _ _ => PXo.congr (s := s) rfl rfl h
  · intro ev fl sl pw sk sA e
    have hA : PXo g none sA := PXo.congr (s := s) (by rw [e]; rfl) (by rw [e]) h
    refine ⟨hA, ?_⟩
    rw [St.notify_eq]
    px_congr
    refine PXo.modServer (fun _ => ⟨rfl, fun h => h⟩) ?_
    px_congr
    exact hA

/-- the procedures that create or release a query, set the flag, or walk the list of `ares_cancel`: their bodies are
    proved one by one below; no other body touches what the invariant is about -/
def Call.probes : Call → Bool
  | .sendNolock .. | .probe .. | .endQuery .. | .callback .. | .cancel | .cancelLoop .. => true
  | _ => false

theorem PXo.prim {c : Call} (hc : c.probes = false) {s s' : St} (p : Prim c s s') (h : PXo g none s) : PXo g none s' := by
  cases p
  case genQid | addQuery | setFlag | pushWalk | popWalk => exact Bool.noConfusion hc
  case detach hr | freeQuery hr => cases c <;> first | exact Bool.noConfusion hc | exact hr.elim
  case modQuery hf => exact PXo.modQuery (fun q => ⟨hf.key q, hf.owner q⟩) h
  case editQuery hf _ => exact PXo.modQuery (fun q => ⟨hf.key q, hf.owner q⟩) h
  case modServer hf => exact PXo.modServer (fun v => ⟨hf.id v, hf.probePending v⟩) h
  case incFailures => exact PXo.incFailures h
  case setGood => exact PXo.setGood h
  case metricsRecord => exact PXo.metricsRecord h
  case mfault => exact PXo.mfault h
  case removeFromConn => exact PXo.removeFromConn h
  case advanceOut => exact PXo.advanceOut h
  case udpSent fd _ f _ tcp _ _ _ =>
    exact PXo.modConn (PXo.congr (s := s.recordTx fd tcp f) (by simp only [pview, chan_frame])
      (by simp only [chan_frame]) (PXo.recordTx h))
  case openConn => exact sqOpen_p _ _ _ none h
  case sqCommit q key fd dl =>
    obtain ⟨cs, e⟩ := sqCommit_core s q key fd dl
    rw [e]
    exact PXo.congr (s := commitCore s key fd dl) rfl rfl
      (PXo.modQuery (fun _ => ⟨rfl, rfl⟩) (PXo.congr (s := s) rfl rfl h))
  case closeFinal => rw [closeFinal_shape]; exact PXo.congr (s := s) rfl rfl h
  case fault | draw1 | draw2 | pop8 | notify | cacheInsert | userCallback =>
    exact PXo.congr (s := s) (by simp only [pview, chan_frame]) (by simp only [chan_frame]) h
  all_goals exact PXo.congr (s := s) rfl rfl h

/-- a hole may always be added (`PXo.weaken`), so every call keeps the plain invariant -/
theorem GoP.goInv {go : Call → St → St × Ret} (hgo : GoP go) : GoInv (PXo g none) go :=
  fun c s h => hgo.inv g c s (h.weaken _)

theorem execBody_keeps_p {go : Call → St → St × Ret} (hgo : GoP go) {c : Call} (hc : c.probes = false) (s : St)
    (h : PXo g none s) : PXo g none (execBody go c s).1 :=
  execBody_invariant c (PXo.prim hc) hgo.goInv s h

end

section
variable {g : Gh} {go : Call → St → St × Ret}

/-- `server_probe_cb` / the completion callback of a compound request / the application's callback -/
theorem bodyCallback_p (hgo : GoP go) (a1 : Owner) (a2 : List Nat) (a3 : Status) (a4 : Nat) (a5 : Option Reply) (s : St)
    (h : PXo g (holeOf a1) s) : PXo g none (bodyCallback go a1 a2 a3 a4 a5 s).1 := by
  unfold bodyCallback
  cases a1 with
  | probe pid => exact PXo.release pid h
  | client id =>
    have h' : PXo g none s := h
    dsimp only
    split
    · exact PXo.mfault h'
    · refine GoP.inv hgo g _ _ ?_
      show PXo g none _
      exact PXo.modClient h'
  | user tok =>
    have h' : PXo g none s := h
    exact GoP.inv hgo g _ _ h'

/-- `ares_send_nolock`: every early failure goes through the owner's callback; otherwise the query is created -/
theorem bodySendNolock_p (hgo : GoP go) (a1 : Option Nat) (a2 a3 : Bool) (a4 : ReqSpec) (a5 : Owner) (a6 : List Nat)
    (s : St) (h : PXo g (holeOf a5) s) : PXo g none (bodySendNolock go a1 a2 a3 a4 a5 a6 s).1 := by
  rw [bodySendNolock_stages]
  have h0 : PXo g (holeOf a5) (genQid 70000 s).2 :=
    genQid_elim (P := PXo g (holeOf a5)) fun _ _ => PXo.congr (s := s) rfl rfl h
  generalize genQid 70000 s = p at h0
  have h1 : PXo g (holeOf a5) (if a2 = true then p.2 else p.2.cacheExpire) := by
    split
    · exact h0
    · exact PXo.cacheExpire h0
  dsimp only
  generalize (if a2 = true then p.2 else p.2.cacheExpire) = s1 at h1
  have cb : ∀ st rec (s' : St), PXo g (holeOf a5) s' → PXo g none (go (.callback a5 a6 st 0 rec) s').1 :=
    fun st rec s' h' => hgo.inv g (.callback a5 a6 st 0 rec) s' h'
  ite_split
  · exact cb _ _ _ h0
  · split
    · exact cb _ _ _ h1
    · ite_split
      · exact cb _ _ _ h1
      · exact hgo.inv g _ _ (PXo.snCreate p.1 a3 a4 a6 (fun pid hp => holeOf_some hp) h1)

/-- `ares_probe_failed_server`: nothing but a random draw happens before the flag is set, and the probe's
    `ares_send_nolock` is entered at once, with that hole -/
theorem bodyProbe_p (hgo : GoP go) (a1 a2 : Nat) (s : St) (h : PXo g none s) :
    PXo g none (bodyProbe go a1 a2 s).1 := by
  have hd : PXo g none s.draw2.2 := draw2_elim (P := PXo g none) fun _ _ => PXo.congr (s := s) rfl rfl h
  unfold bodyProbe
  split
  · exact h
  · dsimp only
    split
    · exact h
    · ite_split
      · exact h
      · generalize s.draw2 = d at hd
        ite_split
        · exact hd
        · split
          · exact hd
          · ite_split
            · exact hd
            · exact hgo.inv g _ _ (PXo.setFlag _ hd)

theorem query?_modServer (s : St) (id : Nat) (f : Server → Server) (k : Nat) :
    (s.modServer id f).query? k = s.query? k := rfl

theorem query?_metricsRecord (s : St) (q : Query) (srv : Option Nat) (st : Status) (rec : Option Reply) (k : Nat) :
    (s.metricsRecord q srv st rec).query? k = s.query? k := by
  rw [St.metricsRecord_eq]; rfl

/-- the state `end_query` hands to `ares_metrics_record` -/
def eqPre (s : St) (srv : Option Nat) : St :=
  match srv with
  | some id => s.modServer id fun v => { v with probePending := false }
  | none => s

theorem bodyEndQuery_eqp (go : Call → St → St × Ret) (srv : Option Nat) (key : Nat) (st : Status) (rec : Option Reply)
    (s : St) (q : Query) (hq : s.query? key = some q) :
    bodyEndQuery go srv key st rec s =
      ((go (.callback q.owner q.react st q.timeouts rec)
          (((eqPre s srv).metricsRecord q srv st rec).detach key)).1.freeQuery key, .ok) := by
  unfold bodyEndQuery eqPre
  simp only [hq]
  rfl

/-- `end_query`: detach (the query becomes doomed), callback, release -/
theorem bodyEndQuery_p (hgo : GoP go) (a1 : Option Nat) (a2 : Nat) (a3 : Status) (a4 : Option Reply) (s : St)
    (h : PXo g none s) : PXo g none (bodyEndQuery go a1 a2 a3 a4 s).1 := by
  cases hq : s.query? a2 with
  | none =>
    unfold bodyEndQuery
    rw [hq]
    exact PXo.mfault h
  | some q =>
    rw [bodyEndQuery_eqp go a1 a2 a3 a4 s q hq]
    have h1 : PXo g none (eqPre s a1) := by
      unfold eqPre
      cases a1 with
      | none => exact h
      | some id => exact PXo.modServer (fun _ => ⟨rfl, fun hh => nomatch hh⟩) h
    have hq1 : (eqPre s a1).query? a2 = some q := by
      unfold eqPre
      cases a1 with
      | none => exact hq
      | some id => exact hq
    generalize eqPre s a1 = s1 at h1 hq1
    have h2 : PXo g none (s1.metricsRecord q a1 a3 a4) := PXo.metricsRecord h1
    have hq2 : (s1.metricsRecord q a1 a3 a4).query? a2 = some q := by rw [query?_metricsRecord]; exact hq1
    generalize s1.metricsRecord q a1 a3 a4 = s2 at h2 hq2
    have h3 := PXo.detach hq2 h2
    generalize s2.detach a2 = s3 at h3
    have h4 := GoP.inv hgo _ (.callback q.owner q.react a3 q.timeouts a4) s3 (PXo.weaken _ h3)
    show PXo g none ((go (.callback q.owner q.react a3 q.timeouts a4) s3).1.freeQuery a2)
    refine PXo.undoom (o := q.owner) ?_ h4
    -- a probe's callback has reset the flag of its server
    cases ho : q.owner with
    | probe pid =>
      rcases GoP.cb hgo pid q.react a3 q.timeouts a4 s3 with hc | hc
      · exact Or.inl hc
      · right
        intro pid' hpid v hv hid
        cases hpid
        rw [hc] at hv
        exact (releaseProbe_spec pid s3).1 v hv hid
    | user tok => exact Or.inr (fun pid hp => nomatch hp)
    | client id => exact Or.inr (fun pid hp => nomatch hp)

/-- the walk of `ares_cancel` / `ares_destroy`: release, then callback -/
theorem bodyCancelLoop_p (hgo : GoP go) (a1 : Status) (a2 : Bool) (s : St) (h : PXo g none s) :
    PXo g none (bodyCancelLoop go a1 a2 s).1 := by
  unfold bodyCancelLoop
  split
  · exact h
  · rename_i key _
    split
    · exact PXo.mfault h
    · rename_i q hq
      dsimp only
      refine GoP.inv hgo g _ _ ?_
      show PXo g none _
      exact GoP.inv hgo g (.callback q.owner q.react a1 0 none) _ (PXo.freeQuery hq h)

/-- … and when it returns, the list it walked is exhausted (or a model fault was raised, or the fuel ran out) -/
theorem bodyCancelLoop_top (hgo : GoP go) (a1 : Status) (s : St) (h : PXo g none s) :
    (bodyCancelLoop go a1 false s).1.outOfFuel = true ∨ HeadEmpty (bodyCancelLoop go a1 false s).1 ∨
      g.L < (bodyCancelLoop go a1 false s).1.modelFaults.length := by
  unfold bodyCancelLoop
  split
  · rename_i hnone
    right; left
    intro l hl
    simp only [Bool.false_eq_true, ↓reduceIte, hl, Option.bind_some] at hnone
    cases l with
    | nil => rfl
    | cons a r => simp at hnone
  · rename_i key _
    split
    · rcases h with h | h
      · exact Or.inl h
      · right; right
        show g.L < (s.modelFaults ++ [_]).length
        rw [List.length_append]
        have : g.L ≤ s.modelFaults.length := h.mf
        simp only [List.length_cons, List.length_nil]
        omega
    · rename_i q hq
      dsimp only
      refine GoP.top hgo g _ _ ?_
      exact GoP.inv hgo g (.callback q.owner q.react a1 0 none) _ (PXo.freeQuery hq h)

/-- `ares_cancel`: push the list of all queries, walk it, pop it, clean up the connections -/
theorem bodyCancel_p (hgo : GoP go) (s : St) (h : PXo g none s) : PXo g none (bodyCancel go s).1 := by
  unfold bodyCancel
  dsimp only
  refine GoP.inv hgo g _ _ ?_
  show PXo g none _
  split
  · exact h
  · rcases h with h | h
    · refine Or.inl ?_
      show (go (.cancelLoop .cancelled false) _).1.outOfFuel = true
      exact GoP.oof hgo _ _ h
    · have hp : PXo { g with m := g.m + 1 } none ({ s with listCopy := s.all :: s.listCopy, all := [] } : St) :=
        PXo.push (s := s) (l := s.all) rfl rfl rfl rfl rfl rfl (Or.inr h)
      have hr := GoP.inv hgo _ (.cancelLoop .cancelled false) _ hp
      exact PXo.pop h.lt hr

theorem execBody_p (hgo : GoP go) (c : Call) (s : St) (h : PXo g (preHole c) s) :
    PXo g none (execBody go c s).1 := by
  cases c
  case sendNolock a1 a2 a3 a4 a5 a6 => exact bodySendNolock_p hgo a1 a2 a3 a4 a5 a6 s h
  case endQuery a1 a2 a3 a4 => exact bodyEndQuery_p hgo a1 a2 a3 a4 s h
  case callback a1 a2 a3 a4 a5 => exact bodyCallback_p hgo a1 a2 a3 a4 a5 s h
  case cancel => exact bodyCancel_p hgo s h
  case cancelLoop a1 a2 => exact bodyCancelLoop_p hgo a1 a2 s h
  case probe a1 a2 => exact bodyProbe_p hgo a1 a2 s h
  all_goals exact execBody_keeps_p hgo rfl s h

end

theorem goP_exec : ∀ fuel, GoP (exec fuel) := by
  intro fuel
  induction fuel with
  | zero =>
    exact ⟨fun _ _ _ _ => Or.inl rfl, fun _ _ _ _ => Or.inl rfl, fun _ _ _ _ _ _ => Or.inl rfl, fun _ _ _ => rfl⟩
  | succ n ih =>
    refine ⟨fun g c s h => execBody_p ih c s h, fun g st s h => bodyCancelLoop_top ih st s h,
      fun pid re st t rec s => Or.inr rfl, fun c s h => ?_⟩
    exact execBody_outOfFuel (go := exec n) (fun c s h => ih.oof c s h) c s h

end Cares.Chan
