/-! Masks, shifts and ORs of `Nat` as division, remainder and sum: the bit fields of the DNS header, of a length octet
    and of OPT's TTL, for the parser (which masks and shifts) against the RFC reference and the writer (which divide,
    take remainders and add). -/
namespace Cares

theorem and_mul_two_pow (x m k : Nat) : x &&& m * 2 ^ k = 2 ^ k * (x / 2 ^ k &&& m) := by
  have h := Nat.div_add_mod (x &&& m * 2 ^ k) (2 ^ k)
  rw [Nat.and_div_two_pow, Nat.and_mod_two_pow, Nat.mul_div_cancel _ (Nat.two_pow_pos k), Nat.mul_mod_left,
    Nat.and_zero, Nat.add_zero] at h
  exact h.symm

theorem and_two_pow (x k : Nat) : x &&& 2 ^ k = 2 ^ k * (x / 2 ^ k % 2) := by
  have h := and_mul_two_pow x 1 k
  rwa [Nat.one_mul, Nat.and_one_is_mod] at h

theorem and_two_pow_ne_zero (w k : Nat) : w &&& 2 ^ k ≠ 0 ↔ w / 2 ^ k % 2 = 1 := by
  have := Nat.two_pow_pos k
  rw [and_two_pow]
  rcases Nat.mod_two_eq_zero_or_one (w / 2 ^ k) with e | e <;> simp [e] <;> omega

/-- the test of one bit of `w`, when that bit is `t` -/
theorem bit_read (w m k : Nat) (t : Bool) (hm : m = 2 ^ k) (h : w / m % 2 = t.toNat) :
    (w &&& m ≠ 0) = (t = true) := by
  subst hm
  rw [propext (and_two_pow_ne_zero w k), h]
  cases t <;> simp

theorem sel_bit (x m k : Nat) (hm : m = 2 ^ k) : (if (x &&& m != 0) = true then m else 0) = x &&& m := by
  subst hm
  rw [and_two_pow]
  rcases Nat.mod_two_eq_zero_or_one (x / 2 ^ k) with h | h <;> simp [h]

theorem ite_toNat (t : Bool) (c : Nat) : (if t = true then c else 0) = c * t.toNat := by
  cases t <;> simp

/-- taking the lowest digit `lo` (radix `n`) off the quotient `w / m` -/
theorem peel {w m lo n hi : Nat} (hq : w / m = lo + n * hi) (h : lo < n) :
    w / m % n = lo ∧ w / (m * n) = hi := by
  rw [← Nat.div_div_eq_div_mul, hq, Nat.add_mul_mod_self_left, Nat.mod_eq_of_lt h,
    Nat.add_mul_div_left _ _ (by omega), Nat.div_eq_of_lt h, Nat.zero_add]
  exact ⟨rfl, rfl⟩

theorem shl_or (a b k : Nat) (hb : b < 2 ^ k) : a <<< k ||| b = a * 2 ^ k + b := by
  rw [← Nat.shiftLeft_add_eq_or_of_lt hb, Nat.shiftLeft_eq]

theorem mul16_eq_shl (x : Nat) : x * 16 = x <<< 4 := (Nat.shiftLeft_eq x 4).symm

theorem or_mul16 (x y : Nat) : (x ||| y) * 16 = x * 16 ||| y * 16 := by
  rw [mul16_eq_shl, mul16_eq_shl, mul16_eq_shl, Nat.shiftLeft_or_distrib]

theorem rcode_or (rc4 e : Nat) (h : rc4 < 16) : rc4 ||| e * 16 = e * 16 + rc4 := by
  rw [mul16_eq_shl, Nat.or_comm]
  exact (Nat.shiftLeft_add_eq_or_of_lt (i := 4) h e).symm

/-- the mask `0xFF0` keeps bits 4..11 -/
theorem and_ff0 (x : Nat) (h : x < 4096) : x &&& 0xFF0 = x / 16 * 16 :=
  (and_mul_two_pow x 255 4).trans (by
    rw [Nat.and_two_pow_sub_one_of_lt_two_pow (n := 8) (show x / 2 ^ 4 < 2 ^ 8 by omega), Nat.mul_comm])

/-! The three fields of OPT's TTL (RFC 6891: extended RCODE, version, flags), as `ares_dns_parse_rr_opt` cuts them. -/

theorem opt_hi_eq (ttl : Nat) (h : ttl < 4294967296) : (ttl >>> 20) &&& 0x0FF0 = ttl / 16777216 * 16 := by
  rw [Nat.shiftRight_eq_div_pow]
  have hx : ttl / 2 ^ 20 < 4096 := by
    apply Nat.div_lt_of_lt_mul
    omega
  rw [and_ff0 _ hx, Nat.div_div_eq_div_mul]

theorem opt_version_eq (ttl : Nat) : (ttl >>> 16) &&& 0xFF = ttl / 65536 % 256 := by
  rw [Nat.shiftRight_eq_div_pow]
  exact Nat.and_two_pow_sub_one_eq_mod _ 8

theorem opt_flags_eq (ttl : Nat) : ttl &&& 0xFFFF = ttl % 65536 :=
  Nat.and_two_pow_sub_one_eq_mod _ 16

end Cares
