import Lean.Elab.Tactic
import CaresModel.Chan.Types
/-!
# Tactics for walking through the procedure bodies of the channel model

The bodies are long chains of `let`, `if` and `match` over a 40-field state.  Plain `split` re-simplifies the whole
goal at every step, which is slow in a proof that visits every path; `ite_split` only rewrites the one
`if` it cases on, and `chan_paths` keeps `let` values out of the goal (in the context) so that the terms stay small.
-/
namespace Cares.Chan

open Lean Elab Tactic Meta in
/-- for every hypothesis `h : e = (a, b)` with `a` (resp. `b`) a local variable, substitute `a := e.1`
    (resp. `b := e.2`) everywhere -/
elab "pair_subst" : tactic => do
  let rec loop : Nat → TacticM Unit
    | 0 => return
    | n + 1 => do
      let progressed ← withMainContext do
        let lctx ← getLCtx
        for d in lctx do
          if d.isImplementationDetail then continue
          let ty ← instantiateMVars d.type
          let some (_, lhs, rhs) := ty.eq? | continue
          unless rhs.isAppOfArity ``Prod.mk 4 do continue
          let a := rhs.getArg! 2
          let b := rhs.getArg! 3
          let h := d.toExpr
          for (x, isFst) in [(a, true), (b, false)] do
            if x.isFVar && !(lhs.containsFVar x.fvarId!) then
              -- x = lhs.1   (definitionally `(a, b).1 = lhs.1`)
              let proj ← if isFst then mkAppM ``Prod.fst #[lhs] else mkAppM ``Prod.snd #[lhs]
              let eqTy ← mkEq x proj
              let fn ← mkAppOptM (if isFst then ``Prod.fst else ``Prod.snd) #[rhs.getArg! 0, rhs.getArg! 1]
              let prf ← mkAppM ``congrArg #[fn, h]
              let prf ← mkEqSymm prf
              let g ← getMainGoal
              let g ← g.assert `hps eqTy prf
              let (fv, g) ← g.intro1
              let g ← subst g fv
              replaceMainGoal [g]
              return true
        return false
      if progressed then loop n
  loop 64

open Lean Elab Tactic Meta in
/-- case split on the condition of the first (outermost, leftmost) `if … then … else` of the goal that has no bound
    variable in it, and rewrite that `if` with `if_pos` / `if_neg`; the new hypothesis is `hc` -/
elab "ite_split" : tactic => withMainContext do
  let g ← getMainGoal
  let tgt ← instantiateMVars (← g.getType)
  -- an `if` that only chooses the text of an event (`s!"…{if tcp then "tcp" else "udp"}"`) is not a path of the procedure
  let some e := tgt.find? (fun e => e.isAppOfArity ``ite 5 && !e.hasLooseBVars &&
      !(e.getArg! 0).isConstOf ``String)
    | throwError "ite_split: no if-then-else in the goal"
  let c := e.getArg! 1
  let inst := e.getArg! 2
  let (pos, neg) ← g.byCases c `hc
  let rw (s : ByCasesSubgoal) (lem : Name) : TacticM MVarId := s.mvarId.withContext do
    let prf ← mkAppOptM lem #[c, inst, mkFVar s.fvarId, e.getArg! 0, e.getArg! 3, e.getArg! 4]
    let tgt ← instantiateMVars (← s.mvarId.getType)
    let r ← s.mvarId.rewrite tgt prf
    let g' ← s.mvarId.replaceTargetEq r.eNew r.eqProof
    return g'
  let g1 ← rw pos ``if_pos
  let g2 ← rw neg ``if_neg
  replaceMainGoal [g1, g2]

/-- `ite_split` where the goal has an `if` to decide, `split` for the `match`es -/
macro "csplit" : tactic => `(tactic| first | ite_split | split)

/- `chan_freeze_lets`: turn every `let` variable of the context whose type is not `St` into an ordinary variable `x`
   with a hypothesis `x = value` (so that `split` can case on it) -/
open Lean Elab Tactic Meta in
elab "chan_freeze_lets" : tactic => do
  let mut g ← getMainGoal
  let mut progress := false
  let mut skip : Nat := 0
  repeat
    let lctx := (← g.getDecl).lctx
    let cands := lctx.foldl (init := #[]) fun acc d =>
      if d.isLet && !d.type.isConstOf ``St && !d.isImplementationDetail then acc.push d else acc
    if h : skip < cands.size then
      let decl := cands[skip]
      let (eqTy, eqPf) ← g.withContext do
        let fv := decl.toExpr
        pure (← mkEq fv decl.value, ← mkEqRefl fv)
      let g1 ← g.assert (decl.userName.appendAfter "_def") eqTy eqPf
      let (_, g2) ← g1.intro1P
      match ← observing? (g2.clearValue decl.fvarId) with
      | some g3 => g := g3; progress := true
      | none => skip := skip + 1
    else break
  unless progress do throwError "no let variable to freeze"
  replaceMainGoal [g]

/-- split a procedure body into its paths; `let`s are moved into the context as they come to the top, so the terms
    stay small -/
macro "chan_paths" : tactic => `(tactic| repeat' (first | extract_lets | split | (chan_freeze_lets; split)))

/-- `chan_paths` with `ite_split` tried before `split`; the paths come out in another order and with other hypothesis
    names, so a hand-written continuation fits one of the two -/
macro "body_paths" : tactic =>
  `(tactic| repeat' (first | extract_lets | ite_split | split | (chan_freeze_lets; split)))

open Lean Elab Tactic Meta in
/-- the goal is `P x` with `x` a `let` variable of the context: replace `x` by its value (one step) -/
elab "unfold_state_let" : tactic => do
  let g ← getMainGoal
  g.withContext do
    let t ← instantiateMVars (← g.getType)
    match t with
    | .app f (.fvar id) =>
      match (← id.getDecl).value? with
      | some v =>
        let g' ← g.replaceTargetDefEq (mkApp f v)
        replaceMainGoal [g']
      | none => throwError "not a let variable"
    | _ => throwError "the state is not a variable"

/- `peel_raw lem`: the goal is `P (St.mk X.cfg …)` (a structure update of `X`, possibly under `Prod.fst/snd` of a
   pair); apply `lem (s := X)`, whose first hypotheses are equations closed by `rfl`; the last one (`P X`) remains. -/
open Lean Elab Tactic Meta in
elab "peel_raw " lem:ident : tactic => do
  let g ← getMainGoal
  g.withContext do
    let t ← instantiateMVars (← g.getType)
    let mut st := t.appArg!
    -- `(a, b).fst` / `(a, b).snd`
    if st.isAppOfArity ``Prod.fst 3 || st.isAppOfArity ``Prod.snd 3 then
      let pr := st.appArg!
      if pr.isAppOfArity ``Prod.mk 4 then
        st := if st.isAppOfArity ``Prod.fst 3 then pr.getArg! 2 else pr.getArg! 3
    unless st.isAppOf ``St.mk do throwError "peel_raw: not a structure update"
    let a0 := st.getArg! 0
    let x ← match a0 with
      | .app (.const ``St.cfg _) x => pure x
      | .proj _ 0 x => pure x
      | _ => throwError "peel_raw: first field is not a projection"
    let xs ← Term.exprToSyntax x
    let others := (← getGoals).drop 1
    evalTactic (← `(tactic| apply $lem (s := $xs)))
    let all ← getGoals
    let new := all.take (all.length - others.length)
    -- every new goal but the last is an equation that must hold by `rfl`
    for e in new.dropLast do
      setGoals [e]
      evalTactic (← `(tactic| exact rfl))
    setGoals ((new.getLast?.map fun l => [l]).getD [] ++ others)

end Cares.Chan
