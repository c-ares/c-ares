import CaresLemmas.ChanSockInv
import CaresLemmas.ChanSockAnswer
import CaresLemmas.ChanStages
/-!
# `udp_max_queries` is respected (C10)

Only the commit of `ares_send_query` counts a query on a connection, and it does so on the connection that
`ares_fetch_connection` or `ares_open_connection` has just returned, which has `Room`: `bodySendQuery_UInv` is the one
body proved by hand (with `bodyFlush_ukeys`: the flush in between leaves `(fd, tcp, total)` alone), the others go
through `UInv.prim`.
-/
namespace Cares.Chan

def ukey (c : Conn) : Nat × Bool × Nat := (c.fd, c.tcp, c.total)
def St.ukeys (s : St) : List (Nat × Bool × Nat) := s.conns.map ukey

/-- descriptors are distinct and below the next descriptor number; a server's `tcp_conn` is a TCP connection; no
    UDP connection has carried more than `udp_max_queries` queries (when the limit is set) -/
structure UInvF (cs : List Conn) (sv : List Server) (n um : Nat) : Prop where
  nodup : (cs.map (·.fd)).Nodup
  lt : ∀ c ∈ cs, c.fd < n
  tcpLt : ∀ v ∈ sv, ∀ fd, v.tcpConn = some fd → fd < n
  tcpOk : ∀ v ∈ sv, ∀ fd, v.tcpConn = some fd → ∀ c ∈ cs, c.fd = fd → c.tcp = true
  max : um > 0 → ∀ c ∈ cs, c.tcp = false → c.total ≤ um

abbrev UInv (s : St) : Prop := UInvF s.conns s.servers s.nextFd s.cfg.udpMax

/-- the connection `fd` can take one more query -/
def Room (fd : Nat) (cs : List Conn) (um : Nat) : Prop :=
  um > 0 → ∀ c ∈ cs, c.fd = fd → c.tcp = false → c.total < um

theorem map_ukey_congr {cs cs' : List Conn} (h : cs'.map ukey = cs.map ukey) :
    cs'.map (·.fd) = cs.map (·.fd) := by
  have := congrArg (List.map (·.1)) h
  simp only [List.map_map] at this
  exact this

theorem forall_ukey {cs cs' : List Conn} (he : cs'.map ukey = cs.map ukey) {P : Nat × Bool × Nat → Prop}
    (h : ∀ c ∈ cs, P (ukey c)) : ∀ c ∈ cs', P (ukey c) := fun c hc => by
  have : ukey c ∈ cs.map ukey := he ▸ List.mem_map_of_mem hc
  obtain ⟨c0, h0, hk⟩ := List.mem_map.mp this
  exact hk ▸ h c0 h0

/-- the invariant only looks at `(fd, tcp, total)` of the connections -/
theorem UInvF.conns_congr {cs cs' : List Conn} {sv : List Server} {n um : Nat} (h : UInvF cs sv n um)
    (he : cs'.map ukey = cs.map ukey) : UInvF cs' sv n um :=
  ⟨by rw [map_ukey_congr he]; exact h.nodup, forall_ukey he (P := fun k => k.1 < n) h.lt, h.tcpLt,
    fun v hv fd hfd => forall_ukey he (P := fun k => k.1 = fd → k.2.1 = true) (h.tcpOk v hv fd hfd),
    fun hum => forall_ukey he (P := fun k => k.2.1 = false → k.2.2 ≤ um) (h.max hum)⟩

theorem Room.conns_congr {fd : Nat} {cs cs' : List Conn} {um : Nat} (h : Room fd cs um)
    (he : cs'.map ukey = cs.map ukey) : Room fd cs' um :=
  fun hum => forall_ukey he (P := fun k => k.1 = fd → k.2.1 = false → k.2.2 < um) (h hum)

/-- … and at `tcp_conn` of the servers, which may be dropped -/
theorem UInvF.servers_sub {cs : List Conn} {sv sv' : List Server} {n um : Nat} (h : UInvF cs sv n um)
    (hs : ∀ v' ∈ sv', v'.tcpConn = none ∨ ∃ v ∈ sv, v'.tcpConn = v.tcpConn) : UInvF cs sv' n um := by
  refine ⟨h.nodup, h.lt, ?_, ?_, h.max⟩
  · intro v' hv' fd hfd
    rcases hs v' hv' with h0 | ⟨v, hv, he⟩
    · rw [h0] at hfd; cases hfd
    · exact h.tcpLt v hv fd (by rw [← he]; exact hfd)
  · intro v' hv' fd hfd
    rcases hs v' hv' with h0 | ⟨v, hv, he⟩
    · rw [h0] at hfd; cases hfd
    · exact h.tcpOk v hv fd (by rw [← he]; exact hfd)

theorem ukey_blind : ConnBlind ukey := fun _ _ _ _ _ _ => rfl

section
variable {sv : List Server} {cs : List Conn} {n um : Nat}

theorem UInvF_modConn (s : St) (fd : Nat) (f : Conn → Conn) (hf : ∀ c, ukey (f c) = ukey c)
    (h : UInvF s.conns sv n um) : UInvF (s.modConn fd f).conns sv n um := h.conns_congr ((connsMap_modConn ukey) s fd f hf)
theorem UInvF_notify (s : St) (fd : Nat) (r w : Bool) (h : UInvF s.conns sv n um) :
    UInvF (s.notify fd r w).conns sv n um := h.conns_congr ((connsMap_notify ukey ukey_blind) s fd r w)
theorem UInvF_removeFromConn (s : St) (k : Nat) (h : UInvF s.conns sv n um) :
    UInvF (s.removeFromConn k).conns sv n um := h.conns_congr ((connsMap_removeFromConn ukey ukey_blind) s k)
theorem UInvF_detach (s : St) (k : Nat) (h : UInvF s.conns sv n um) :
    UInvF (s.detach k).conns sv n um := h.conns_congr ((connsMap_detach ukey ukey_blind) s k)
theorem UInvF_freeQuery (s : St) (k : Nat) (h : UInvF s.conns sv n um) :
    UInvF (s.freeQuery k).conns sv n um := h.conns_congr ((connsMap_freeQuery ukey ukey_blind) s k)
theorem UInvF_advanceOut (fuel fd : Nat) (s : St) (k : Nat) (h : UInvF s.conns sv n um) :
    UInvF (advanceOut fuel fd s k).conns sv n um := h.conns_congr ((connsMap_advanceOut ukey ukey_blind) fuel fd s k)

theorem UInvF_modServer (s : St) (id : Nat) (f : Server → Server)
    (hf : ∀ v, (f v).tcpConn = v.tcpConn ∨ (f v).tcpConn = none) (h : UInvF cs s.servers n um) :
    UInvF cs (s.modServer id f).servers n um := h.servers_sub (servers_modServer_sub s id f hf)
theorem UInvF_incFailures (s : St) (id : Nat) (tcp : Bool) (h : UInvF cs s.servers n um) :
    UInvF cs (s.incFailures id tcp).servers n um := h.servers_sub (servers_incFailures_sub s id tcp)
theorem UInvF_setGood (s : St) (id : Nat) (tcp : Bool) (h : UInvF cs s.servers n um) :
    UInvF cs (s.setGood id tcp).servers n um := h.servers_sub (servers_setGood_sub s id tcp)
theorem UInvF_metricsRecord (s : St) (q : Query) (srv : Option Nat) (st : Status) (rec : Option Reply)
    (h : UInvF cs s.servers n um) : UInvF cs (s.metricsRecord q srv st rec).servers n um :=
  h.servers_sub (servers_metricsRecord_sub s q srv st rec)

theorem UInvF.filter (h : UInvF cs sv n um) (p : Conn → Bool) : UInvF (cs.filter p) sv n um := by
  refine ⟨h.nodup.sublist (List.filter_sublist.map _), ?_, h.tcpLt, ?_, ?_⟩
  · intro c hc; exact h.lt c ((List.mem_filter.mp hc).1)
  · intro v hv fd hfd c hc; exact h.tcpOk v hv fd hfd c ((List.mem_filter.mp hc).1)
  · intro hum c hc; exact h.max hum c ((List.mem_filter.mp hc).1)

end

/-- what `ares_open_connection` does to connections, servers and the descriptor counter: on failure nothing (a
    descriptor number may be used up); on success the new connection has the next descriptor, the requested transport
    and no queries yet, and is recorded as the server's `tcp_conn` exactly if it is a TCP connection -/
theorem ukeys_openConn (s : St) (tcp : Bool) (srv : Server) :
    ((∀ fd, (openConn s tcp srv).1 ≠ .ok fd) ∧ (openConn s tcp srv).2.conns = s.conns ∧
        (openConn s tcp srv).2.servers = s.servers ∧ s.nextFd ≤ (openConn s tcp srv).2.nextFd ∧
        (openConn s tcp srv).2.cfg = s.cfg) ∨
    ((openConn s tcp srv).1 = .ok s.nextFd ∧
        (openConn s tcp srv).2.conns.map ukey = s.conns.map ukey ++ [(s.nextFd, tcp, 0)] ∧
        (openConn s tcp srv).2.servers =
          (s.modServer srv.id fun v =>
            { v with conns := if tcp then v.conns ++ [s.nextFd] else s.nextFd :: v.conns,
                     tcpConn := if tcp then some s.nextFd else v.tcpConn }).servers ∧
        (openConn s tcp srv).2.nextFd = s.nextFd + 1 ∧ (openConn s tcp srv).2.cfg = s.cfg) := by
  rcases openConn_paths s tcp srv with ⟨e, h⟩ | ⟨t, ht, h | h⟩ <;> rw [h]
  · exact .inl ⟨(fun fd h => nomatch h), rfl, rfl, Nat.le_refl _, rfl⟩
  · obtain ⟨e1, e2, e3, e4, _⟩ := ht.fields
    exact .inl ⟨(fun fd h => nomatch h), e1, e2, by show s.nextFd ≤ t.nextFd; omega, e3⟩
  · obtain ⟨e1, e2, e3, e4, _⟩ := ht.fields
    refine .inr ⟨rfl, ?_, ?_, ?_, ?_⟩
    · simp only [ocFinish, connsMap_notify ukey ukey_blind, chan_frame, e1, List.map_append, List.map_cons,
        List.map_nil, ukey]
    · simp only [ocFinish, chan_frame, St.modServer, e2]
    · simp only [ocFinish, chan_frame, e4]
    · simp only [ocFinish, chan_frame, e3]

theorem UInvF.mono {cs : List Conn} {sv : List Server} {n n' um : Nat} (h : UInvF cs sv n um) (hn : n ≤ n') :
    UInvF cs sv n' um :=
  ⟨h.nodup, fun c hc => Nat.lt_of_lt_of_le (h.lt c hc) hn,
    fun v hv fd hfd => Nat.lt_of_lt_of_le (h.tcpLt v hv fd hfd) hn, h.tcpOk, h.max⟩

/-- `ares_open_connection` keeps the invariant, and a connection it returns has room for a query -/
theorem UInv_openConn {s : St} (h : UInv s) (tcp : Bool) (srv : Server) :
    UInv (openConn s tcp srv).2 ∧
      ∀ fd, (openConn s tcp srv).1 = .ok fd → Room fd (openConn s tcp srv).2.conns s.cfg.udpMax := by
  rcases ukeys_openConn s tcp srv with ⟨hne, hc, hsv, hn, hcfg⟩ | ⟨hok, hc, hsv, hn, hcfg⟩
  · refine ⟨?_, fun fd hfd => absurd hfd (hne fd)⟩
    show UInvF _ _ _ _
    rw [hc, hsv, hcfg]; exact h.mono hn
  · have hfresh : ∀ c ∈ s.conns, c.fd ≠ s.nextFd := fun c hc => Nat.ne_of_lt (h.lt c hc)
    -- membership in the new connection table, through the `(fd, tcp, total)` view
    have hmem : ∀ c ∈ (openConn s tcp srv).2.conns,
        (∃ c0 ∈ s.conns, ukey c0 = ukey c) ∨ ukey c = (s.nextFd, tcp, 0) := by
      intro c hcm
      have : ukey c ∈ s.conns.map ukey ++ [(s.nextFd, tcp, 0)] := by rw [← hc]; exact List.mem_map_of_mem hcm
      simp only [List.mem_append, List.mem_map, List.mem_singleton] at this
      rcases this with ⟨c0, h0, hk⟩ | hk
      · exact .inl ⟨c0, h0, hk⟩
      · exact .inr hk
    constructor
    · show UInvF _ _ _ _
      rw [hn, hcfg]
      constructor
      · have : (openConn s tcp srv).2.conns.map (·.fd) = s.conns.map (·.fd) ++ [s.nextFd] := by
          have := congrArg (List.map (·.1)) hc
          simp only [List.map_map, List.map_append, List.map_cons, List.map_nil] at this
          exact this
        rw [this, List.nodup_append]
        refine ⟨h.nodup, by simp, ?_⟩
        intro a ha b hb
        simp only [List.mem_singleton] at hb; subst hb
        simp only [List.mem_map] at ha
        obtain ⟨c, hcm, rfl⟩ := ha
        exact hfresh c hcm
      · intro c hcm
        rcases hmem c hcm with ⟨c0, h0, hk⟩ | hk
        · have : c0.fd = c.fd := congrArg (·.1) hk
          have := h.lt c0 h0; omega
        · have : c.fd = s.nextFd := congrArg (·.1) hk
          omega
      · intro v hv fd hfd
        rw [hsv] at hv
        simp only [St.modServer, List.mem_map] at hv
        obtain ⟨x, hx, rfl⟩ := hv
        split at hfd
        · simp only at hfd
          split at hfd
          · cases hfd; omega
          · have := h.tcpLt x hx fd hfd; omega
        · have := h.tcpLt x hx fd hfd; omega
      · intro v hv fd hfd c hcm hcfd
        rw [hsv] at hv
        simp only [St.modServer, List.mem_map] at hv
        obtain ⟨x, hx, rfl⟩ := hv
        have hold : x.tcpConn = some fd → c.tcp = true := by
          intro hx'
          rcases hmem c hcm with ⟨c0, h0, hk⟩ | hk
          · have h1 : c0.fd = c.fd := congrArg (·.1) hk
            have h2 : c0.tcp = c.tcp := congrArg (·.2.1) hk
            rw [← h2]; exact h.tcpOk x hx fd hx' c0 h0 (by rw [h1]; exact hcfd)
          · have h1 : c.fd = s.nextFd := congrArg (·.1) hk
            have := h.tcpLt x hx fd hx'; omega
        split at hfd
        · simp only at hfd
          split at hfd
          · rename_i htcp
            cases hfd
            rcases hmem c hcm with ⟨c0, h0, hk⟩ | hk
            · have h1 : c0.fd = c.fd := congrArg (·.1) hk
              exact absurd (h1.trans hcfd) (hfresh c0 h0)
            · have h2 : c.tcp = tcp := congrArg (·.2.1) hk
              rw [h2]; exact htcp
          · exact hold hfd
        · exact hold hfd
      · intro hum c hcm ht
        rcases hmem c hcm with ⟨c0, h0, hk⟩ | hk
        · have h2 : c0.tcp = c.tcp := congrArg (·.2.1) hk
          have h3 : c0.total = c.total := congrArg (·.2.2) hk
          rw [← h3]; exact h.max hum c0 h0 (by rw [h2]; exact ht)
        · have h3 : c.total = 0 := congrArg (·.2.2) hk
          omega
    · intro fd hfd
      rw [hok] at hfd
      cases hfd
      intro hum c hcm hcfd ht
      rcases hmem c hcm with ⟨c0, h0, hk⟩ | hk
      · have h1 : c0.fd = c.fd := congrArg (·.1) hk
        exact absurd (h1.trans hcfd) (hfresh c0 h0)
      · have h3 : c.total = 0 := congrArg (·.2.2) hk
        omega

/-- `ares_fetch_connection` only returns a connection that has room (a UDP connection below the limit, or the server's
    TCP connection) -/
theorem fetchConn_room {s : St} (h : UInv s) (q : Query) (srv : Server) (hsrv : srv ∈ s.servers) (fd : Nat)
    (hf : fetchConn s q srv = some fd) : Room fd s.conns s.cfg.udpMax := by
  unfold fetchConn at hf
  intro hum c hc hcfd ht
  split at hf
  · -- TCP: the server's tcp_conn is a TCP connection
    have := h.tcpOk srv hsrv fd hf c hc hcfd
    rw [ht] at this; cases this
  · split at hf
    · cases hf
    · rename_i fd' _
      split at hf
      · cases hf
      · rename_i c' hc'
        split at hf
        · cases hf
        · split at hf
          · cases hf
          · rename_i hnt hlim
            cases hf
            -- `c'` is the connection found for `fd`; descriptors are distinct, so it is `c`
            have hm' := List.mem_of_find?_eq_some hc'
            have hfd' : c'.fd = fd := find?_key_eq hc'
            have : c' = c := Cares.inj_of_nodup_map h.nodup hm' hc (hfd'.trans hcfd.symm)
            subst this
            simp only [Bool.and_eq_true, decide_eq_true_eq, not_and, Nat.not_le] at hlim
            exact hlim hum

theorem UInv_sqPrep {s : St} (h : UInv s) (key : Nat) (q : Query) (srv : Server) (fd : Nat) :
    UInv (sqPrepare key q srv fd s).1 := by
  show UInvF _ _ _ _
  simp only [chan_frame]
  refine (h.conns_congr ((connsMap_sqPrep ukey ukey_blind) key q srv fd s)).servers_sub ?_
  unfold sqPrepare
  simp only [chan_frame]
  intro v' hv'
  have := servers_modServer_sub _ _ _ (by intro v; exact .inl rfl) v' hv'
  revert this
  repeat' split
  all_goals (try simp only [chan_frame])
  all_goals exact id

section
variable (go : Call → St → St × Ret) (hgo : ∀ c s, UInv s → UInv (go c s).1)
  (hfl : ∀ fd s, (go (.flush fd) s).1.conns.map ukey = s.conns.map ukey ∧ (go (.flush fd) s).1.cfg = s.cfg)
include hgo hfl

theorem sqFlush_UInv (fd : Nat) (s : St) (h : UInv s) :
    UInv (sqFlush go fd s).2 ∧ (sqFlush go fd s).2.conns.map ukey = s.conns.map ukey ∧
      (sqFlush go fd s).2.cfg = s.cfg := by
  unfold sqFlush
  simp only []
  split
  · exact ⟨h, rfl, rfl⟩
  · split
    · exact ⟨by simpa only [UInv, chan_frame] using h, by simp only [chan_frame], by simp only [chan_frame]⟩
    · exact ⟨hgo _ _ h, (hfl fd s).1, (hfl fd s).2⟩

omit hfl in
theorem sqLink_UInv (pd : Bool) (key : Nat) (srv : Server) (fd : Nat) (s : St) (h : UInv s)
    (hroom : Room fd s.conns s.cfg.udpMax) : UInv (sqLink go pd key srv fd s).1 := by
  -- the counting step
  have hcount : ∀ (s' : St), s'.conns.map ukey = s.conns.map ukey → s'.servers = s.servers → s'.nextFd = s.nextFd →
      s'.cfg = s.cfg →
      UInv (s'.modConn fd fun c => { c with queries := c.queries.erase key ++ [key], total := c.total + 1 }) := by
    intro s' hk hsv hn hcfg
    have h' : UInvF s'.conns s.servers s.nextFd s.cfg.udpMax := h.conns_congr hk
    have hroom' : Room fd s'.conns s.cfg.udpMax := hroom.conns_congr hk
    show UInvF _ _ _ _
    simp only [chan_frame, hsv, hn, hcfg]
    have hmem : ∀ c ∈ (s'.modConn fd fun c => { c with queries := c.queries.erase key ++ [key], total := c.total + 1 }).conns,
        ∃ c0 ∈ s'.conns, c.fd = c0.fd ∧ c.tcp = c0.tcp ∧
          ((c0.fd = fd ∧ c.total = c0.total + 1) ∨ (c0.fd ≠ fd ∧ c.total = c0.total)) := by
      intro c hc
      simp only [St.modConn, List.mem_map] at hc
      obtain ⟨c0, h0, rfl⟩ := hc
      refine ⟨c0, h0, ?_⟩
      split
      · rename_i hfd; simp only [beq_iff_eq] at hfd; exact ⟨rfl, rfl, .inl ⟨hfd, rfl⟩⟩
      · rename_i hfd; simp only [beq_iff_eq] at hfd; exact ⟨rfl, rfl, .inr ⟨hfd, rfl⟩⟩
    constructor
    · rw [connsMap_modConn _ _ _ _ (by intro; rfl)]; exact h'.nodup
    · intro c hc
      obtain ⟨c0, h0, h1, _, _⟩ := hmem c hc
      rw [h1]; exact h'.lt c0 h0
    · exact h'.tcpLt
    · intro v hv fd' hfd' c hc hcfd
      obtain ⟨c0, h0, h1, h2, _⟩ := hmem c hc
      rw [h2]; exact h'.tcpOk v hv fd' hfd' c0 h0 (by rw [← h1]; exact hcfd)
    · intro hum c hc ht
      obtain ⟨c0, h0, h1, h2, h3⟩ := hmem c hc
      rcases h3 with ⟨hfd, ht3⟩ | ⟨_, ht3⟩
      · have := hroom' hum c0 h0 hfd (by rw [← h2]; exact ht)
        omega
      · rw [ht3]; exact h'.max hum c0 h0 (by rw [← h2]; exact ht)
  unfold sqLink
  split
  · rename_i q _ hq hc
    simp only []
    have hc' := hcount (sqLinkPre key srv fd q s) ((connsMap_sqLinkPre ukey ukey_blind) key srv fd q s) (by simp only [chan_frame])
      (by simp only [chan_frame]) (by simp only [chan_frame])
    split
    · exact hgo _ _ hc'
    · exact hc'
  · simpa only [UInv, chan_frame] using h
  · simpa only [UInv, chan_frame] using h

theorem sqWriteQ_UInv (reqSrv : Option Nat) (key : Nat) (q : Query) (srv : Server) (fd : Nat) (s : St)
    (h : UInv s) (hroom : Room fd s.conns s.cfg.udpMax) : UInv (sqWriteQ go reqSrv key q srv fd s).1 := by
  have h1 : UInv (sqPrepare key q srv fd s).1 := UInv_sqPrep h key q srv fd
  have hr1 : Room fd (sqPrepare key q srv fd s).1.conns (sqPrepare key q srv fd s).1.cfg.udpMax := by
    simp only [chan_frame]; exact hroom.conns_congr ((connsMap_sqPrep ukey ukey_blind) key q srv fd s)
  obtain ⟨h2, hk2, hc2⟩ := sqFlush_UInv go hgo hfl fd _ h1
  have hr2 : Room fd (sqFlush go fd (sqPrepare key q srv fd s).1).2.conns
      (sqFlush go fd (sqPrepare key q srv fd s).1).2.cfg.udpMax := by
    rw [hc2]; exact hr1.conns_congr hk2
  unfold sqWriteQ
  simp only []
  split
  · exact sqLink_UInv go hgo _ _ _ _ _ h2 hr2
  · exact hgo _ _ h2
  -- the write failed: the connection is closed and / or the query requeued
  all_goals repeat (first
    | with_reducible assumption
    | with_reducible (apply hgo)
    | (simp only [UInv, chan_frame])
    | (with_reducible refine UInvF_incFailures _ _ _ ?_)
    | (csplit <;> pair_subst))

theorem bodySendQuery_UInv (reqSrv : Option Nat) (key : Nat) (s : St) (h : UInv s) :
    UInv (bodySendQuery go reqSrv key s).1 := by
  rw [bodySendQuery_stages]
  split
  · simpa only [UInv, chan_frame] using h
  · rename_i q _
    simp only []
    split
    · exact hgo _ _ (by simpa only [UInv, chan_frame] using h)
    · rename_i srv hsrv
      generalize hs1 : ({ (pickServer reqSrv s).2 with picks := _ } : St) = s1
      have h1 : UInv s1 := by
        rw [← hs1]; simpa only [UInv, chan_frame] using h
      have hmem : srv ∈ s1.servers := by
        rw [← hs1]
        simp only [chan_frame]
        exact sqChoose_fst_mem hsrv
      cases hfc : fetchConn s1 q srv with
      | some fd =>
        simp only []
        exact sqWriteQ_UInv go hgo hfl _ _ _ _ _ _ h1 (fetchConn_room h1 q srv hmem fd hfc)
      | none =>
        simp only []
        obtain ⟨h2, hroom⟩ := UInv_openConn h1 q.usingTcp srv
        cases hr : (openConn s1 q.usingTcp srv).1 with
        | error st =>
          simp only []
          apply hgo
          show UInvF _ _ _ _
          simp only [chan_frame]
          refine UInvF_incFailures _ _ _ ?_
          simpa only [UInv, chan_frame] using h2
        | ok fd =>
          simp only []
          have hcfg : (openConn s1 q.usingTcp srv).2.cfg = s1.cfg := by simp only [chan_frame]
          exact sqWriteQ_UInv go hgo hfl _ _ _ _ _ _ h2 (by rw [hcfg]; exact hroom fd hr)


omit hgo in
theorem bodyFlush_ukeys (fd : Nat) (s : St) :
    (bodyFlush go fd s).1.conns.map ukey = s.conns.map ukey ∧ (bodyFlush go fd s).1.cfg = s.cfg := by
  have hm : ∀ (s' : St) (f : Conn → Conn), (∀ c, ukey (f c) = ukey c) →
      (s'.modConn fd f).conns.map ukey = s'.conns.map ukey := fun s' f hf => (connsMap_modConn ukey) s' fd f hf
  constructor
  · unfold bodyFlush
    repeat (first
      | with_reducible rfl
      | (simp only [chan_frame, (connsMap_notify ukey ukey_blind), (connsMap_advanceOut ukey ukey_blind), (hfl _ _).1])
      | (rw [hm _ _ (by intro c; rfl)])
      | (csplit <;> pair_subst))
  · unfold bodyFlush
    repeat (first
      | with_reducible rfl
      | (simp only [chan_frame, (hfl _ _).2])
      | (csplit <;> pair_subst))

omit hgo hfl in
/-- Only the commit of `ares_send_query` counts a query on a connection (and only it needs room there); a new connection
    starts at zero; every other update leaves descriptor, transport and count alone, drops connections, or clears a
    server's `tcp_conn`. -/
theorem UInv.prim {c : Call} {s s' : St} (p : Prim c s s') (hc : ∀ r k, c ≠ .sendQuery r k) (h : UInv s) : UInv s' := by
  cases p
  case sqCommit => exact absurd rfl (hc _ _)
  case openConn => exact absurd rfl (hc _ _)
  case closeFinal fd _ _ _ =>
    rw [UInv, closeFinal_shape]
    show UInvF (closeFinal s fd).conns _ _ _
    rw [closeFinal_conns]; exact h.filter _
  case modConn hf =>
    simp only [UInv, chan_frame]; exact UInvF_modConn _ _ _ (fun c => by simp only [ukey, hf.fd, hf.tcp, hf.total]) h
  case notify => simp only [UInv, chan_frame]; exact UInvF_notify _ _ _ _ h
  case removeFromConn => simp only [UInv, chan_frame]; exact UInvF_removeFromConn _ _ h
  case detach => simp only [UInv, chan_frame]; exact UInvF_detach _ _ h
  case freeQuery => simp only [UInv, chan_frame]; exact UInvF_freeQuery _ _ h
  case advanceOut => simp only [UInv, chan_frame]; exact UInvF_advanceOut _ _ _ _ h
  case udpSent =>
    simp only [UInv, chan_frame]; exact UInvF_modConn _ _ _ (fun _ => rfl) (UInvF_notify _ _ _ _ h)
  case enqueue => simp only [UInv, chan_frame]; exact UInvF_modConn _ _ _ (fun _ => rfl) h
  case recvUdp | consume => simp only [UInv, chan_frame]; exact UInvF_modConn _ _ _ (fun _ => rfl) h
  case recvTcp => simp only [UInv, chan_frame]; exact UInvF_modConn (s.modSock _ _) _ _ (fun _ => rfl) h
  case resetConn => simp only [UInv, chan_frame]; exact UInvF_modConn _ _ _ (fun _ => rfl) h
  case modServer hf => simp only [UInv, chan_frame]; exact UInvF_modServer _ _ _ hf.tcpConn h
  case setFlag => simp only [UInv, chan_frame]; exact UInvF_modServer _ _ _ (fun _ => .inl rfl) h
  case incFailures => simp only [UInv, chan_frame]; exact UInvF_incFailures _ _ _ h
  case setGood => simp only [UInv, chan_frame]; exact UInvF_setGood _ _ _ h
  case metricsRecord => simp only [UInv, chan_frame]; exact UInvF_metricsRecord _ _ _ _ _ h
  all_goals simpa only [UInv, chan_frame] using h

theorem execBody_UInv (c : Call) (s : St) (h : UInv s) : UInv (execBody go c s).1 := by
  cases c
  case sendQuery r k => exact bodySendQuery_UInv go hgo hfl r k s h
  all_goals exact (execBody_reach _ s).invariant (fun p => UInv.prim p (by nofun)) (fun c' s _ => hgo c' s) h

end

/-- **`udp_max_queries` along every run**: the invariant is preserved by every procedure at every fuel, and
    `ares_conn_flush` never changes a connection's descriptor, transport or query count -/
theorem exec_UInv (fuel : Nat) (c : Call) (s : St) :
    (UInv s → UInv (exec fuel c s).1) ∧
      (∀ fd, c = .flush fd → (exec fuel c s).1.conns.map ukey = s.conns.map ukey ∧ (exec fuel c s).1.cfg = s.cfg) := by
  refine exec_induct (P := fun c s out => (UInv s → UInv out.1) ∧
      (∀ fd, c = .flush fd → out.1.conns.map ukey = s.conns.map ukey ∧ out.1.cfg = s.cfg)) ?_ ?_ fuel c s
  · intro c s
    exact ⟨fun h => h, fun fd _ => ⟨rfl, rfl⟩⟩
  · intro go hgo c s
    have hgo1 : ∀ c s, UInv s → UInv (go c s).1 := fun c s => (hgo c s).1
    have hfl : ∀ fd s, (go (.flush fd) s).1.conns.map ukey = s.conns.map ukey ∧ (go (.flush fd) s).1.cfg = s.cfg :=
      fun fd s => (hgo (.flush fd) s).2 fd rfl
    refine ⟨execBody_UInv go hgo1 hfl c s, ?_⟩
    intro fd hc
    subst hc
    simp only [execBody]
    exact bodyFlush_ukeys go hfl fd s

end Cares.Chan
