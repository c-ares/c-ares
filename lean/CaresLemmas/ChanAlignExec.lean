import CaresLemmas.ChanAlignOps
/-!
# TCP read alignment (C20) — every procedure keeps the invariant

`exec_Al`: for every side property `Q` that holds of freshly opened connections (`QFresh Q N0`) and says nothing about
the connection a read call works on (`okCall Q call`), `Al Q N0` is kept by `exec fuel call`.  With `Q := True` this
is the alignment invariant; with a snapshot of one connection's inbound side it is the frame property "procedures
other than `read_conn_packets` / `read_answers` on that connection do not move its read position".
-/
namespace Cares.Chan

/-- `Q` does not look at what a read call changes of the connection it works on -/
def okCall (Q : Nat → SV → CV → Prop) : Call → Prop
  | .processRead fd => QRead Q fd
  | .readAnswers fd => QRead Q fd
  | .sendNolock .. => True | .sendQuery .. => True | .requeue .. => True | .endQuery .. => True | .callback .. => True
  | .reactions .. => True | .closeConn .. => True | .closeLoop .. => True | .connError .. => True | .flush .. => True
  | .processWrite .. => True | .processAnswer .. => True | .flushRequeue => True
  | .processTimeouts => True | .cleanupConns .. => True | .cancel => True | .cancelLoop .. => True | .destroy => True
  | .probe .. => True | .clientStart .. => True | .runActs .. => True | .userCb .. => True

theorem closeFinal_vks (s : St) (fd : Nat) : (closeFinal s fd).socks.map vk = s.socks.map vk := by
  unfold closeFinal
  simp only [chan_frame]
  refine (vks_modSock_id _ _ _ ?_).trans ?_
  · exact fun _ => rfl
  · rw [St.notify_socks]

/-- the procedures for which `Q` is harmless call only such procedures: a read call is entered from a read call on the
    same connection -/
theorem okCall_calls {Q : Nat → SV → CV → Prop} {c c' : Call} (hc : okCall Q c) (h : Calls c c') : okCall Q c' := by
  cases c' <;> first | trivial | skip
  · subst h; exact hc
  · rcases h with rfl | rfl <;> exact hc

section
variable {Q : Nat → SV → CV → Prop} {N0 : Nat}

/-- The inbound side of a connection moves at four places: a new connection (aligned at zero; this is where `Q` has to
    hold of fresh connections, so `hQ` is asked of `ares_send_query` only), one `recv`, one message taken out of in_buf
    (the three read updates; `Q` does not look at what they change: `hok`), and the unlinking of
    `ares_close_connection`.  Everything else keeps the views `rk`, `vk`. -/
theorem Al.prim {c : Call} {s s' : St} (hQ : (∃ rs k, c = .sendQuery rs k) → QFresh Q N0) (hok : okCall Q c)
    (p : Prim c s s') (h : Al Q N0 s) : Al Q N0 s' := by
  cases p
  case openConn => exact Al_openConn (hQ ⟨_, _, rfl⟩) _ _ _ h
  case recvUdp _ conn r ht hc => exact Al_readUdp hok s conn _ (· + 2 + r.len) hc (by simpa using ht) (fun _ => rfl) h
  case recvTcp _ n chunks v hn hv => exact Al_readTcp hok s n chunks v hv hn h
  case consume _ conn v r hnext hc hv => exact Al_consume hok s conn v r hc hv (fun ht => by simpa [ht] using hnext.symm) h
  case tcpSend fd total _ v conn hc hv =>
    simp only [Al, chan_frame]
    obtain rfl : (tcpAccept ((s.sock? fd).getD default) total).2 = _ := congrArg Prod.snd hv
    exact AlF_setSock_accept s fd total ⟨rflag conn, by rw [pfind_conns, hc]; rfl⟩ h
  case resetConn => simp only [Al, chan_frame]; exact AlF_unlink _ _ _ (fun _ => rfl) h
  case closeFinal fd _ _ _ =>
    rw [Al, closeFinal_shape]
    show AlF Q N0 ((closeFinal s fd).conns.map rk) ((closeFinal s fd).socks.map vk) s.nextFd s.outOfFuel
    rw [closeFinal_conns, closeFinal_vks]; exact AlF_filter _ _ h
  case sqCommit =>
    rw [Al, sqCommit_shape]
    show AlF Q N0 ((sqCommit _ _ _ _ _).conns.map rk) _ _ _
    rw [connsMap_sqCommit rk fun _ _ _ => rfl]; exact h
  case modConn hf =>
    simp only [Al, chan_frame]
    exact AlF_modConn _ _ _ (fun c => by simp only [rk, rflag, hf.fd, hf.tcp, hf.unlinked, hf.inBytes]) h
  case modSock hf =>
    simp only [Al, chan_frame]
    exact AlF_modSock _ _ _ (fun v => by simp only [vk, vflag, hf.fd, hf.stream, hf.slen, hf.spos]) h
  case notify => simp only [Al, chan_frame]; exact AlF_notify _ _ _ _ h
  case removeFromConn => simp only [Al, chan_frame]; exact AlF_removeFromConn _ _ h
  case detach => simp only [Al, chan_frame]; exact AlF_detach _ _ h
  case freeQuery => simp only [Al, chan_frame]; exact AlF_freeQuery _ _ h
  case advanceOut => simp only [Al, chan_frame]; exact AlF_advanceOut _ _ _ _ h
  case udpSent => simp only [Al, chan_frame]; exact AlF_modConn _ _ _ (fun _ => rfl) (AlF_notify _ _ _ _ h)
  case enqueue => simp only [Al, chan_frame]; exact AlF_modConn _ _ _ (fun _ => rfl) h
  all_goals simpa only [Al, chan_frame] using h

variable (go : Call → St → St × Ret)
  (hgo : ∀ c s, okCall Q c → Al Q N0 s → Al Q N0 (go c s).1)
include hgo

theorem bodyRequeue_Al (a b c d e) (s : St) (h : Al Q N0 s) : Al Q N0 (bodyRequeue go a b c d e s).1 :=
  (bodyRequeue_reach a b c d e s).invariant (Al.prim (c := .requeue a b c d e) nofun trivial)
    (fun c' s hcl => hgo c' s (okCall_calls (c := .requeue a b c d e) trivial hcl)) h

theorem bodyCloseConn_Al (fd : Nat) (st : Status) (s : St) (h : Al Q N0 s) : Al Q N0 (bodyCloseConn go fd st s).1 :=
  (bodyCloseConn_reach fd st s).invariant (Al.prim (c := .closeConn fd st) nofun trivial)
    (fun c' s hcl => hgo c' s (okCall_calls (c := .closeConn fd st) trivial hcl)) h

theorem bodyCloseLoop_Al (fd : Nat) (st : Status) (s : St) (h : Al Q N0 s) : Al Q N0 (bodyCloseLoop go fd st s).1 :=
  (bodyCloseLoop_reach fd st s).invariant (Al.prim (c := .closeLoop fd st) nofun trivial)
    (fun c' s hcl => hgo c' s (okCall_calls (c := .closeLoop fd st) trivial hcl)) h

end

/-- **Every procedure keeps the alignment invariant and the side property** (any fuel; the statement is conditional on
    fuel not having run out, see `AlF`) -/
theorem exec_Al {Q : Nat → SV → CV → Prop} {N0 : Nat} (hQ : QFresh Q N0) (fuel : Nat) (c : Call) (s : St)
    (hc : okCall Q c) (h : Al Q N0 s) : Al Q N0 (exec fuel c s).1 :=
  exec_invariant_on (fun hok p h => Al.prim (fun _ => hQ) hok p h) okCall_calls (fun _ _ => AlF_oof _ _ _) fuel c s hc h

end Cares.Chan
