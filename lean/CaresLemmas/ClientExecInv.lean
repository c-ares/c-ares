import CaresLemmas.ClientExecLocal
/-!
# The view of one compound request against the flat fold: the invariant and its preservation

`FoldInv cfg c0 a0 E S Fi l` relates, for one compound request started with `(c0, a0) = clientStart …`,

* what has happened so far — the completions `E` delivered to it, the sub-requests `S` started for it, the
  completion(s) `Fi` handed to its user callback — and its current view `l` (stored record, frames in progress)

to the flat fold `foldC cfg c0 E (applyActs a0 {})` (= `walkFrom` on the same completions).  The point is
`FoldInv.walk`: the fold's walk is the actual walk *plus the actions still pending in the frames* (outermost frame
first).  `FoldInv.step` shows every event of the compound request preserves it, provided a completion is only ever
delivered while one is outstanding (`|E| < |S|`, the causality side condition).
-/
namespace Cares.Chan
open Cares.ClientWalk

/-- the actions still to be executed by the frames in progress, outermost frame first -/
def pendOf : List (Option (List ClientAct)) → List ClientAct
  | [] => []
  | some a :: σ => pendOf σ ++ a
  | none :: σ => pendOf σ

/-- number of frames that still have something visible to do -/
def nvis : List (Option (List ClientAct)) → Nat
  | [] => 0
  | some a :: σ => (if Quiet a then 0 else 1) + nvis σ
  | none :: σ => nvis σ

theorem nvis_eq_zero_iff : ∀ σ, nvis σ = 0 ↔ Quiet (pendOf σ)
  | [] => ⟨fun _ => Quiet.nil, fun _ => rfl⟩
  | some a :: σ => by
    rw [pendOf, quiet_app_iff, ← nvis_eq_zero_iff σ, nvis]
    by_cases hq : Quiet a <;> simp [hq]
  | none :: σ => nvis_eq_zero_iff σ

/-- the stored record agrees with the fold's record except for the two stored query ids -/
def SameQ (c cF : Client) : Prop := setQids cF (some (c.qidA, c.qidAAAA)) = c

theorem SameQ.refl (c : Client) : SameQ c c := rfl

theorem SameQ.setSlot {c cF : Client} (h : SameQ c cF) (slot qid : Nat) : SameQ (setSlot slot qid c) cF := by
  unfold SameQ at *
  unfold Chan.setSlot
  split
  · show setQids cF (some (qid, c.qidAAAA)) = { c with qidA := qid }
    conv => rhs; rw [← h]
    rfl
  · show setQids cF (some (c.qidA, qid)) = { c with qidAAAA := qid }
    conv => rhs; rw [← h]
    rfl

theorem SameQ.outstanding {c cF : Client} (h : SameQ c cF) : c.outstanding = cF.outstanding := by
  rw [← h]; rfl

structure FoldInv (cfg : Cfg) (c0 : Client) (a0 : List ClientAct) (E : List Ev) (S : List (String × Nat))
    (Fi : List (Status × Nat × String)) (l : LSt) : Prop where
  /-- the user callback is made at most once (so `Fi.head?` in `walk` loses nothing) -/
  finsLe : Fi.length ≤ 1
  /-- the fold's walk = the actual walk plus what the frames in progress will still do -/
  walk : (foldC cfg c0 E (applyActs a0 {})).2 = applyActs (pendOf l.stack) ⟨S, Fi.head?⟩
  /-- until the fold finishes, the record is stored and is the fold's: the next `clientOnCb` is applied to the same -/
  recOk : (foldC cfg c0 E (applyActs a0 {})).2.fin = none →
    ∃ c, l.cur = some c ∧ SameQ c (foldC cfg c0 E (applyActs a0 {})).1
  /-- the record's own count of outstanding sub-requests is exact -/
  count : if (foldC cfg c0 E (applyActs a0 {})).2.fin = none
    then (foldC cfg c0 E (applyActs a0 {})).1.outstanding + E.length = (foldC cfg c0 E (applyActs a0 {})).2.sent.length
    else E.length = (foldC cfg c0 E (applyActs a0 {})).2.sent.length
  /-- at most one frame has a send or the finish left: nested frames (a sub-request completing inside `runActs`) then
      run their visible actions in the order of the flat list `pendOf` -/
  oneVis : nvis l.stack ≤ 1
  /-- after the user callback nothing visible is left to do -/
  finQuiet : Fi ≠ [] → Quiet (pendOf l.stack)
  /-- the record is released only after the user callback -/
  recNone : l.cur = none → Fi ≠ []
  /-- a `none` frame stands for the user callback in progress (`afterAct` of a `.finish`); `.rel`, which pops it,
      learns from it that the request has finished -/
  mark : none ∈ l.stack → Fi ≠ []

/-- what an action adds to the sub-requests started / to the completions handed to the user callback -/
def sentOfAct : ClientAct → List (String × Nat)
  | .send sp => [(sp.name, sp.qtype)]
  | .sendSlot sp _ => [(sp.name, sp.qtype)]
  | _ => []

def finOfAct : ClientAct → List (Status × Nat × String)
  | .finish st t dg => [(st, t, dg)]
  | _ => []

section
variable {cfg : Cfg} {c0 : Client} {a0 : List ClientAct} {E : List Ev} {S : List (String × Nat)}
  {Fi : List (Status × Nat × String)} {l : LSt}

theorem FoldInv.sent_len (h : FoldInv cfg c0 a0 E S Fi l) :
    (foldC cfg c0 E (applyActs a0 {})).2.sent.length = S.length + sends (pendOf l.stack) := by
  rw [h.walk, applyActs_sent_len]

theorem FoldInv.of_fin_none (h : FoldInv cfg c0 a0 E S Fi l) (hf : (foldC cfg c0 E (applyActs a0 {})).2.fin = none) :
    hasFinish (pendOf l.stack) = false ∧ Fi = [] := by
  constructor
  · cases hp : hasFinish (pendOf l.stack) with
    | false => rfl
    | true =>
      have := applyActs_fin_some (pendOf l.stack) ⟨S, Fi.head?⟩ hp
      rw [← h.walk, hf] at this; cases this
  · cases Fi with
    | nil => rfl
    | cons x t =>
      have := applyActs_fin_mono (pendOf l.stack) ⟨S, (x :: t).head?⟩ rfl
      rw [← h.walk, hf] at this; cases this

/-- **a completion is delivered** -/
theorem FoldInv.cb (h : FoldInv cfg c0 a0 E S Fi l) (c : Client) (hc : l.cur = some c) (st : Status) (t : Nat)
    (rec : Option Reply) (hcausal : E.length < S.length) :
    FoldInv cfg c0 a0 (E ++ [{ st := st, timeouts := t, reply := rec, qids := some (c.qidA, c.qidAAAA) }]) S Fi
      ⟨some (clientOnCb cfg c st t rec).1, some (clientOnCb cfg c st t rec).2 :: l.stack⟩ := by
  have hlen := h.sent_len
  have hcount := h.count
  have hfin : (foldC cfg c0 E (applyActs a0 {})).2.fin = none := by
    cases hf : (foldC cfg c0 E (applyActs a0 {})).2.fin with
    | none => rfl
    | some x => rw [hf] at hcount; simp only [reduceCtorEq, ↓reduceIte] at hcount; omega
  rw [if_pos hfin] at hcount
  obtain ⟨hpf, hFi⟩ := h.of_fin_none hfin
  obtain ⟨c1, hc1, hsame⟩ := h.recOk hfin
  rw [hc] at hc1; cases hc1
  have hout : c.outstanding = (foldC cfg c0 E (applyActs a0 {})).1.outstanding := hsame.outstanding
  have hok := clientOnCb_ok cfg c st t rec (by omega)
  -- the fold makes the same step
  have hstep : foldC cfg c0 (E ++ [{ st := st, timeouts := t, reply := rec, qids := some (c.qidA, c.qidAAAA) }])
      (applyActs a0 {}) =
      ((clientOnCb cfg c st t rec).1, applyActs (clientOnCb cfg c st t rec).2 (foldC cfg c0 E (applyActs a0 {})).2) := by
    rw [foldC_snoc]
    have : (foldC cfg c0 E (applyActs a0 {})).2.fin.isSome = false := by rw [hfin]; rfl
    simp only [this, Bool.false_eq_true, ↓reduceIte]
    have hs : setQids (foldC cfg c0 E (applyActs a0 {})).1 (some (c.qidA, c.qidAAAA)) = c := hsame
    rw [hs]
  refine ⟨h.finsLe, ?_, ?_, ?_, ?_, ?_, ?_, ?_⟩
  · rw [hstep]
    show applyActs _ _ = applyActs (pendOf l.stack ++ _) _
    rw [applyActs_app _ _ _ hpf, h.walk]
  · intro _
    rw [hstep]
    exact ⟨_, rfl, SameQ.refl _⟩
  · rw [hstep]
    simp only [List.length_append, List.length_singleton, applyActs_sent_len]
    have hc' := hok.count
    cases hf : hasFinish (clientOnCb cfg c st t rec).2 with
    | true =>
      rw [hf] at hc'
      simp only [↓reduceIte] at hc'
      have := applyActs_fin_some (clientOnCb cfg c st t rec).2 (foldC cfg c0 E (applyActs a0 {})).2 hf
      rw [if_neg (by intro e; rw [e] at this; cases this)]
      omega
    | false =>
      rw [hf] at hc'
      simp only [Bool.false_eq_true, ↓reduceIte] at hc'
      rw [if_pos (by rw [applyActs_fin_keep _ _ hf]; exact hfin)]
      omega
  · show (if Quiet (clientOnCb cfg c st t rec).2 then 0 else 1) + nvis l.stack ≤ 1
    by_cases hq : Quiet (clientOnCb cfg c st t rec).2
    · simp only [hq, ↓reduceIte, Nat.zero_add]; exact h.oneVis
    · have h2 : ¬ 2 ≤ c.outstanding := fun h2 => hq (clientOnCb_quiet cfg c st t rec h2)
      have : nvis l.stack = 0 := (nvis_eq_zero_iff _).mpr ⟨by omega, hpf⟩
      simp only [hq, ↓reduceIte, this]; exact Nat.le_refl 1
  · intro hne; exact absurd hFi hne
  · intro hn; cases hn
  · intro hm
    rcases List.mem_cons.mp hm with e | e
    · cases e
    · exact h.mark e

/-- **an action is executed** -/
theorem FoldInv.act (h : FoldInv cfg c0 a0 E S Fi l) (a : ClientAct) (rest : List ClientAct)
    (σ : List (Option (List ClientAct))) (hs : l.stack = some (a :: rest) :: σ) :
    FoldInv cfg c0 a0 E (S ++ sentOfAct a) (Fi ++ finOfAct a) ⟨l.cur, afterActL a rest ++ σ⟩ := by
  have hv := h.oneVis
  rw [hs] at hv
  have hw := h.walk
  rw [hs] at hw
  -- a visible action is executed by the only frame that has anything visible pending, after the completion
  have vis : ¬ Quiet (a :: rest) → Quiet (pendOf σ) ∧ Fi = [] := by
    intro hq
    have h0 : nvis σ = 0 := by simp only [nvis, hq, ↓reduceIte] at hv; omega
    refine ⟨(nvis_eq_zero_iff σ).mp h0, ?_⟩
    cases hFi : Fi with
    | nil => rfl
    | cons x t =>
      have := h.finQuiet (by rw [hFi]; exact List.cons_ne_nil _ _)
      rw [hs] at this
      exact absurd ((quiet_app_iff _ _).mp this).2 hq
  -- a frame that goes on is no mark of a finished request
  have mark : ∀ x, none ∈ some x :: σ → Fi ≠ [] := fun x hm =>
    h.mark (hs ▸ List.mem_cons_of_mem _ ((List.mem_cons.mp hm).resolve_left nofun))
  cases a with
  | noRetry q =>
    simp only [sentOfAct, finOfAct, List.append_nil]
    refine ⟨h.finsLe, ?_, h.recOk, h.count, ?_, ?_, h.recNone, ?_⟩
    · rw [hw]; exact applyActs_mid_noRetry _ _ _ _
    · exact hv
    · intro hne
      have := h.finQuiet hne
      rw [hs] at this
      obtain ⟨h1, h2⟩ := (quiet_app_iff (pendOf σ) (.noRetry q :: rest)).mp this
      exact (quiet_app_iff (pendOf σ) rest).mpr ⟨h1, h2⟩
    · exact mark _
  | send sp | sendSlot sp k =>
    obtain ⟨hq, hFi⟩ := vis (by simp [Quiet, sends])
    subst hFi
    simp only [sentOfAct, finOfAct, List.append_nil]
    refine ⟨h.finsLe, ?_, h.recOk, h.count, ?_, fun hne => absurd rfl hne, h.recNone, ?_⟩
    · rw [hw]
      show applyActs (pendOf σ ++ _ :: rest) _ = applyActs (pendOf σ ++ rest) _
      rw [applyActs_quiet_app _ _ _ hq, applyActs_quiet_app _ _ _ hq]; rfl
    · show (if Quiet rest then 0 else 1) + nvis σ ≤ 1
      rw [(nvis_eq_zero_iff σ).mpr hq]; split <;> omega
    · exact mark _
  | finish st t dg =>
    obtain ⟨hq, hFi⟩ := vis (by simp [Quiet, hasFinish])
    subst hFi
    simp only [sentOfAct, finOfAct, List.append_nil, List.nil_append]
    have hF : (foldC cfg c0 E (applyActs a0 {})).2 = ⟨S, some (st, t, dg)⟩ := by
      rw [hw]
      show applyActs (pendOf σ ++ ClientAct.finish st t dg :: rest) _ = _
      rw [applyActs_quiet_app _ _ _ hq]; rfl
    refine ⟨Nat.le_refl 1, ?_, ?_, h.count, ?_, ?_, fun _ => List.cons_ne_nil _ _, fun _ => List.cons_ne_nil _ _⟩
    · rw [hF]
      show _ = applyActs (pendOf σ ++ []) _
      rw [applyActs_quiet_app _ _ _ hq]; rfl
    · intro hn; rw [hF] at hn; cases hn
    · simp only [List.nil_append, afterActL, List.cons_append, nvis, Quiet.nil, ↓reduceIte,
        Nat.zero_add, (nvis_eq_zero_iff σ).mpr hq]
      omega
    · intro _
      show Quiet (pendOf σ ++ [])
      rwa [List.append_nil]

end

end Cares.Chan
