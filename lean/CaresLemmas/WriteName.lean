import CaresModel.Dns.NameWrite
import CaresLemmas.IteLemmas
/-!
# Name layer of the writer: presentation text ↔ labels

* `splitRun_append`, `splitRun_shift`: the byte-at-a-time splitter composes over `++` and does not look at
  the labels already finished;
* `split_escape`: splitting the text the parser prints for a label list gives the labels back
  (`unescape (escape ls) = ls`);
* `splitRaw_mono`: the host-name check only rejects, it never changes labels;
* `splitRaw_append_dot`: labels of `p ++ "." ++ m` are labels of `p` followed by labels of `m`.
-/
namespace Cares.Dns.NameW
open Cares.Dns

theorem splitRun_append (v : Bool) (s : SplitSt) (a b : BStr) :
    splitRun v s (a ++ b) =
      (match splitRun v s a with | .ok s' => splitRun v s' b | .error e => .error e) := by
  induction a generalizing s with
  | nil => simp [splitRun]
  | cons c rest ih =>
    simp only [List.cons_append, splitRun]
    cases splitStep v s c with
    | error e => rfl
    | ok s' => exact ih s'

def SplitSt.shift (D : List BStr) (s : SplitSt) : SplitSt := { s with done := D ++ s.done }

/-- `splitStep` only ever appends to `done`: pushing `map` through its `if`s gives the same tree -/
theorem splitStep_shift (v : Bool) (D : List BStr) (s : SplitSt) (c : UInt8) :
    splitStep v (s.shift D) c = (splitStep v s c).map (·.shift D) := by
  obtain ⟨d, cu, e⟩ := s
  cases e <;> simp only [splitStep, SplitSt.shift, apply_ite (Except.map _)] <;>
    simp only [Except.map, List.append_assoc]

theorem splitRun_shift (v : Bool) (D : List BStr) (s : SplitSt) (a : BStr) :
    splitRun v (s.shift D) a = (splitRun v s a).map (·.shift D) := by
  induction a generalizing s with
  | nil => simp [splitRun, Except.map]
  | cons c rest ih =>
    simp only [splitRun, splitStep_shift]
    cases splitStep v s c with
    | error e => simp [Except.map]
    | ok s' => simpa [Except.map] using ih s'

theorem digit_facts : ∀ k, k < 10 → isDigit (digit k) = true ∧ (digit k).toNat - 48 = k := by decide

theorem ofNat_toNat_lt (n : Nat) (h : n < 256) : (UInt8.ofNat n).toNat = n := UInt8.toNat_ofNat_of_lt' h

theorem reserved_not_digit (c : UInt8) (h : isReservedCh c = true) : isDigit c = false := by
  simp only [isReservedCh, Bool.or_eq_true, decide_eq_true_eq] at h
  simp only [isDigit, Bool.and_eq_false_iff, decide_eq_false_iff_not]
  omega

theorem not_reserved_ne (c : UInt8) (h : isReservedCh c = false) : c ≠ dot ∧ c ≠ backslash := by
  simp only [isReservedCh, Bool.or_eq_false_iff, decide_eq_false_iff_not] at h
  constructor <;> intro hc <;> subst hc <;> simp [dot, backslash] at h

theorem splitRun_escapeByte (d : List BStr) (cu : BStr) (c : UInt8) :
    splitRun false ⟨d, cu, .none⟩ (escapeByte c) = .ok ⟨d, cu ++ [c], .none⟩ := by
  unfold escapeByte
  split
  · -- \DDD
    have hn : c.toNat < 256 := c.toNat_lt
    obtain ⟨h1, e1⟩ := digit_facts (c.toNat / 100) (by omega)
    obtain ⟨h2, e2⟩ := digit_facts (c.toNat % 100 / 10) (by omega)
    obtain ⟨h3, e3⟩ := digit_facts (c.toNat % 10) (by omega)
    have hb : backslash ≠ dot := by decide
    simp only [splitRun, splitStep, hb, ↓reduceIte, h1, h2, h3, e1, e2, e3, Bool.false_and]
    have hv' : (c.toNat / 100 * 10 + c.toNat % 100 / 10) * 10 + c.toNat % 10 = c.toNat := by
      rw [Nat.add_mul, Nat.mul_assoc, Nat.add_assoc, ← Nat.mod_mod_of_dvd c.toNat (by decide : 10 ∣ 100),
        Nat.div_add_mod' (c.toNat % 100) 10]
      exact Nat.div_add_mod' c.toNat 100
    simp only [hv', Nat.not_lt.2 (Nat.le_of_lt_succ hn), ↓reduceIte, UInt8.ofNat_toNat]
    rfl
  · split
    · -- \X
      rename_i hr
      have hb : backslash ≠ dot := by decide
      have hd := reserved_not_digit c hr
      simp [splitRun, splitStep, hb, hd]
    · rename_i hr
      obtain ⟨h1, h2⟩ := not_reserved_ne c (by simpa using hr)
      simp [splitRun, splitStep, h1, h2]

theorem splitRun_escapeLabel (d : List BStr) (cu l : BStr) :
    splitRun false ⟨d, cu, .none⟩ (escapeLabel l) = .ok ⟨d, cu ++ l, .none⟩ := by
  induction l generalizing cu with
  | nil => simp [escapeLabel, splitRun]
  | cons c rest ih =>
    have : escapeLabel (c :: rest) = escapeByte c ++ escapeLabel rest := by simp [escapeLabel]
    rw [this, splitRun_append, splitRun_escapeByte]
    simp only [ih, List.append_assoc, List.singleton_append]

theorem splitRun_escapeName (l : BStr) (rest : List BStr) (d : List BStr) (cu : BStr) :
    ∃ d' cu', splitRun false ⟨d, cu, .none⟩ (escapeName (l :: rest)) = .ok ⟨d', cu', .none⟩ ∧
      d' ++ [cu'] = d ++ (cu ++ l) :: rest := by
  induction rest generalizing l d cu with
  | nil => exact ⟨d, cu ++ l, by simp [escapeName, splitRun_escapeLabel], rfl⟩
  | cons l2 rest ih =>
    obtain ⟨d', cu', h1, h2⟩ := ih l2 (d ++ [cu ++ l]) []
    refine ⟨d', cu', ?_, by simpa using h2⟩
    simp only [escapeName, splitRun_append, splitRun_escapeLabel, splitRun, splitStep, ↓reduceIte]
    exact h1

/-- `splitRaw` undoes `escapeName` (for a non-empty label list; the root is the empty text) -/
theorem splitRaw_escapeName (ls : List BStr) (h : ls ≠ []) : splitRaw false (escapeName ls) = .ok ls := by
  obtain ⟨l, rest, rfl⟩ := List.exists_cons_of_ne_nil h
  obtain ⟨d', cu', h1, h2⟩ := splitRun_escapeName l rest [] []
  simp only [splitRaw, SplitSt.init, h1, ↓reduceIte]
  simpa using h2

theorem trimLabels_of_nonempty (ls : List BStr) (h : ∀ l ∈ ls, l ≠ []) : trimLabels ls = ls := by
  unfold trimLabels
  have h1 : ls.getLast? ≠ some [] := by
    intro hc
    exact h [] (List.mem_of_getLast? hc) rfl
  simp only [h1, ↓reduceIte]
  split
  · rename_i h2
    exact absurd rfl (h [] (by simp [h2]))
  · rfl

theorem labelsOk_nonempty (ls : List BStr) (h : labelsOk ls = true) : ∀ l ∈ ls, l ≠ [] := by
  intro l hl hc
  simp only [labelsOk, Bool.and_eq_true, List.all_eq_true] at h
  have := h.1 l hl
  simp [hc] at this

/-- **`unescape (escape ls) = ls`**: splitting the text the parser prints for a legal label list returns
    exactly those labels -/
theorem split_escape (ls : List BStr) (h : labelsOk ls = true) :
    splitDnsName false (escapeName ls) = .ok ls := by
  by_cases hn : ls = []
  · subst hn; rfl
  · simp only [splitDnsName, splitRaw_escapeName ls hn, ↓reduceIte,
      trimLabels_of_nonempty ls (labelsOk_nonempty ls h), h]

/-- with validation off, the `validate && …` exits of `splitStep` disappear; every other test is the same -/
theorem splitStep_mono (s s' : SplitSt) (c : UInt8) (h : splitStep true s c = .ok s') :
    splitStep false s c = .ok s' := by
  obtain ⟨d, cu, e⟩ := s
  cases e <;> simp only [splitStep, Bool.true_and, Bool.false_and, Bool.false_eq_true, ↓reduceIte] at h ⊢
  · split
    · rwa [if_pos ‹_›] at h
    · rw [if_neg ‹_›] at h
      split
      · rwa [if_pos ‹_›] at h
      · rw [if_neg ‹_›] at h
        exact ok_of_ite h
  · split
    · rwa [if_pos ‹_›] at h
    · rw [if_neg ‹_›] at h
      exact ok_of_ite h
  · exact h
  · split
    · rw [if_pos ‹_›] at h
      split
      · rwa [if_pos ‹_›] at h
      · rw [if_neg ‹_›] at h
        exact ok_of_ite h
    · rwa [if_neg ‹_›] at h

theorem splitRun_mono (s s' : SplitSt) (a : BStr) (h : splitRun true s a = .ok s') :
    splitRun false s a = .ok s' := by
  induction a generalizing s with
  | nil => simpa [splitRun] using h
  | cons c rest ih =>
    simp only [splitRun] at h ⊢
    cases hs : splitStep true s c with
    | error e => simp [hs] at h
    | ok s1 =>
      rw [hs] at h
      rw [splitStep_mono s s1 c hs]
      exact ih s1 h

theorem splitRaw_mono (v : Bool) (n : BStr) (ls : List BStr) (h : splitRaw v n = .ok ls) :
    splitRaw false n = .ok ls := by
  cases v with
  | false => exact h
  | true =>
    unfold splitRaw at h ⊢
    cases hr : splitRun true .init n with
    | error e => simp [hr] at h
    | ok s => rw [hr] at h; rw [splitRun_mono _ _ _ hr]; exact h

theorem splitDnsName_mono (v ic : Bool) (n : BStr) (ls : List BStr) (h : splitDnsName v n ic = .ok ls) :
    splitDnsName false n ic = .ok ls := by
  unfold splitDnsName at h ⊢
  cases hr : splitRaw v n with
  | error e => simp [hr] at h
  | ok r => rw [hr] at h; rw [splitRaw_mono v n r hr]; exact h

theorem splitRaw_ok_iff (v : Bool) (n : BStr) (ls : List BStr) :
    splitRaw v n = .ok ls ↔ ∃ s, splitRun v .init n = .ok s ∧ s.esc = .none ∧ ls = s.done ++ [s.cur] := by
  unfold splitRaw
  cases hr : splitRun v .init n with
  | error e => simp
  | ok s =>
    by_cases he : s.esc = .none
    · simp only [he, ↓reduceIte, Except.ok.injEq]
      constructor
      · intro h; exact ⟨s, rfl, he, h.symm⟩
      · rintro ⟨s2, h1, _, h3⟩; cases h1; exact h3.symm
    · simp only [he, ↓reduceIte]
      constructor
      · intro h; cases h
      · rintro ⟨s2, h1, h2, _⟩; cases h1; exact absurd h2 he

/-- raw labels of a text with an unescaped separator in the middle: the dot is reached in the normal
    state exactly when the part in front of it is a complete text of its own -/
theorem splitRaw_append_dot (p m : BStr) (rp rm : List BStr)
    (hp : splitRaw false p = .ok rp) (hm : splitRaw false m = .ok rm) :
    splitRaw false (p ++ dot :: m) = .ok (rp ++ rm) := by
  obtain ⟨sp, h1, h2, h3⟩ := (splitRaw_ok_iff _ _ _).1 hp
  obtain ⟨sm, g1, g2, g3⟩ := (splitRaw_ok_iff _ _ _).1 hm
  refine (splitRaw_ok_iff _ _ _).2 ⟨sm.shift rp, ?_, g2, ?_⟩
  · rw [splitRun_append, h1]
    obtain ⟨d, cu, e⟩ := sp
    simp only at h2 h3
    subst h2
    simp only [splitRun, splitStep, ↓reduceIte]
    have : (⟨d ++ [cu], [], Esc.none⟩ : SplitSt) = SplitSt.init.shift rp := by
      simp [SplitSt.shift, SplitSt.init, h3]
    rw [this, splitRun_shift, g1]
    rfl
  · simp [SplitSt.shift, g3, List.append_assoc]

end Cares.Dns.NameW
