import CaresLemmas.ChanPolicyLookup
/-!
# C09 — the completion of a probe query is invisible to every other request (frame form of non-interference)

`end_query` of a query owned by `probe pid` (`server_probe_cb` with the probed server as its argument): the callback
only resets `probe_pending` of server `pid`, so the whole run of `exec fuel (.endQuery …)` is `metricsRecord`,
`detach`, that reset, `freeQuery` — computed here in closed form.
-/
namespace Cares.Chan

theorem filter_map_unlink (l : List Query) (k : Nat) :
    (l.map (fun x => if x.key == k then unlinkQ x else x)).filter (·.key != k) = l.filter (·.key != k) :=
  filter_ne_update (key := Query.key) (f := unlinkQ) (fun _ h => h) l

theorem detach_qs (s : St) (k : Nat) : (s.detach k).qs = (s.removeFromConn k).qs := by
  unfold St.detach
  split
  · rename_i h
    unfold St.removeFromConn
    rw [h]
  · rfl

theorem freeQuery_qs (s : St) (k : Nat) : (s.freeQuery k).qs = s.qs.filter (·.key != k) := by
  show (s.detach k).qs.filter (·.key != k) = _
  rw [detach_qs]
  rcases removeFromConn_qs s k with h | ⟨_, h⟩
  · rw [h, filter_map_unlink]
  · rw [h]

/-- the fields a probe's completion must not touch -/
structure SameOutcome (s r : St) : Prop where
  pendingToks : r.pendingToks = s.pendingToks
  doneToks : r.doneToks = s.doneToks
  cache : r.cache = s.cache
  clients : r.clients = s.clients
  ev : r.ev = s.ev
  nextKey : r.nextKey = s.nextKey
  requeueArr : r.requeueArr = s.requeueArr
  picks : r.picks = s.picks
  writeLog : r.writeLog = s.writeLog
  txs : r.txs = s.txs
  accepted : r.accepted = s.accepted
  obs : r.obs = s.obs
  reactions : r.reactions = s.reactions
  modelFaults : r.modelFaults = s.modelFaults
  obsFaults : r.obsFaults = s.obsFaults
  socks : r.socks = s.socks
  destroyed : r.destroyed = s.destroyed

theorem SameOutcome.refl (s : St) : SameOutcome s s := by constructor <;> rfl

theorem SameOutcome.trans {a b c : St} (h1 : SameOutcome a b) (h2 : SameOutcome b c) : SameOutcome a c := by
  constructor
  · exact h2.pendingToks.trans h1.pendingToks
  · exact h2.doneToks.trans h1.doneToks
  · exact h2.cache.trans h1.cache
  · exact h2.clients.trans h1.clients
  · exact h2.ev.trans h1.ev
  · exact h2.nextKey.trans h1.nextKey
  · exact h2.requeueArr.trans h1.requeueArr
  · exact h2.picks.trans h1.picks
  · exact h2.writeLog.trans h1.writeLog
  · exact h2.txs.trans h1.txs
  · exact h2.accepted.trans h1.accepted
  · exact h2.obs.trans h1.obs
  · exact h2.reactions.trans h1.reactions
  · exact h2.modelFaults.trans h1.modelFaults
  · exact h2.obsFaults.trans h1.obsFaults
  · exact h2.socks.trans h1.socks
  · exact h2.destroyed.trans h1.destroyed

theorem SameOutcome.freeQuery (s : St) (k : Nat) : SameOutcome s (s.freeQuery k) := by
  obtain ⟨a, b, c, d, e1, e2, e3, e⟩ := freeQuery_shape s k
  rw [e]; constructor <;> rfl

theorem SameOutcome.detach (s : St) (k : Nat) : SameOutcome s (s.detach k) := by
  obtain ⟨a, b, c, d, e1, e2, e3, e⟩ := detach_shape s k
  rw [e]; constructor <;> rfl

theorem SameOutcome.metricsRecord (s : St) (q : Query) (srv : Option Nat) (st : Status) (rec : Option Reply) :
    SameOutcome s (s.metricsRecord q srv st rec) := by
  rw [St.metricsRecord_eq]; constructor <;> rfl

/-- `server_probe_cb(arg = server pid)`: the probe episode of that server is over -/
def releaseProbe (pid : Nat) (s : St) : St := s.modServer pid fun v => { v with probePending := false }

theorem SameOutcome.releaseProbe (pid : Nat) (s : St) : SameOutcome s (releaseProbe pid s) := by
  constructor <;> rfl

/-- the state `end_query` leaves when the owner's callback is `server_probe_cb` for server `pid` -/
def endProbeSt (pid : Nat) (srv : Option Nat) (key : Nat) (st : Status) (rec : Option Reply) (q : Query) (s : St) : St :=
  let s1 := match srv with
    | some id => s.modServer id fun v => { v with probePending := false }
    | none => s
  ((releaseProbe pid ((s1.metricsRecord q srv st rec).detach key)).freeQuery key)

theorem endProbeSt_frame (pid : Nat) (srv : Option Nat) (key : Nat) (st : Status) (rec : Option Reply) (q : Query)
    (s : St) :
    (endProbeSt pid srv key st rec q s).qs = s.qs.filter (·.key != key) ∧
      SameOutcome s (endProbeSt pid srv key st rec q s) := by
  unfold endProbeSt
  extract_lets s1
  have h1 : s1.qs = s.qs ∧ SameOutcome s s1 := by
    cases srv with
    | none => exact ⟨rfl, SameOutcome.refl s⟩
    | some id => exact ⟨rfl, by constructor <;> rfl⟩
  refine ⟨?_, ?_⟩
  · rw [freeQuery_qs]
    -- `detach` rewrites only entries with this key, which the final filter drops
    have hd : (releaseProbe pid ((s1.metricsRecord q srv st rec).detach key)).qs.filter (·.key != key) =
        s.qs.filter (·.key != key) := by
      show ((s1.metricsRecord q srv st rec).detach key).qs.filter (·.key != key) = _
      rw [detach_qs]
      rcases removeFromConn_qs (s1.metricsRecord q srv st rec) key with h | ⟨_, h⟩
      · rw [h, filter_map_unlink, St.metricsRecord_qs, h1.1]
      · rw [h, St.metricsRecord_qs, h1.1]
    exact hd
  · exact (((h1.2.trans (SameOutcome.metricsRecord _ _ _ _ _)).trans (SameOutcome.detach _ _)).trans
      (SameOutcome.releaseProbe _ _)).trans (SameOutcome.freeQuery _ _)

/-- `server_probe_cb`: the callback of a probe resets `probe_pending` of the probed server and does nothing else
    (any fuel ≥ 1, any status) -/
theorem exec_callback_probe (fuel : Nat) (pid : Nat) (react : List Nat) (st : Status) (timeouts : Nat)
    (rec : Option Reply) (s : St) :
    exec (fuel + 1) (.callback (.probe pid) react st timeouts rec) s = (releaseProbe pid s, .ok) := rfl

/-- closed form of a probe's `end_query` (fuel ≥ 2) -/
theorem exec_endQuery_probe (fuel : Nat) (srv : Option Nat) (key : Nat) (st : Status) (rec : Option Reply) (s : St)
    (q : Query) (pid : Nat) (hq : s.query? key = some q) (ho : q.owner = .probe pid) :
    exec (fuel + 2) (.endQuery srv key st rec) s = (endProbeSt pid srv key st rec q s, .ok) := by
  show bodyEndQuery (exec (fuel + 1)) srv key st rec s = _
  unfold bodyEndQuery
  rw [hq]
  dsimp only
  rw [ho, exec_callback_probe]
  rfl

theorem exec_endQuery_oof (fuel : Nat) (hf : fuel < 2) (srv : Option Nat) (key : Nat) (st : Status) (rec : Option Reply)
    (s : St) (q : Query) (hq : s.query? key = some q) :
    (exec fuel (.endQuery srv key st rec) s).1.outOfFuel = true := by
  match fuel, hf with
  | 0, _ => rfl
  | 1, _ =>
    show (bodyEndQuery (exec 0) srv key st rec s).1.outOfFuel = true
    unfold bodyEndQuery
    rw [hq]
    dsimp only
    rw [St.freeQuery_outOfFuel]
    rfl

/-- `end_query` without a server pointer (what `ares_requeue_query` passes when it gives up) changes no server itself;
    the probe's callback resets `probe_pending` of the probed server `pid` and nothing else -/
theorem endProbeSt_none_servers (pid : Nat) (key : Nat) (st : Status) (rec : Option Reply) (q : Query) (s : St) :
    (endProbeSt pid none key st rec q s).servers = (releaseProbe pid s).servers := by
  unfold endProbeSt
  dsimp only
  have h1 : (s.metricsRecord q none st rec) = s := by
    unfold St.metricsRecord
    split
    · rename_i h; cases h
    · rfl
  rw [h1]
  obtain ⟨a, b, c, d, e1, e2, e3, e⟩ := detach_shape s key
  obtain ⟨a', b', c', d', e1', e2', e3', e'⟩ := freeQuery_shape (releaseProbe pid (s.detach key)) key
  rw [e', e]
  rfl

/-- a query with `no_retries` (a probe) that reaches `ares_requeue_query` is ended — without a server pointer — from a
    state that differs from the caller's only in the query's links and counters (same servers, same owner) -/
theorem requeue_noRetries_ends_frame (go : Call → St → St × Ret) (key : Nat) (st : Status) (inc : Bool)
    (rec : Option Reply) (deferred : Bool) (s : St) (q : Query) (hq : s.query? key = some q)
    (hnr : q.noRetries = true) :
    ∃ s' es q', s'.query? key = some q' ∧ q'.owner = q.owner ∧ s'.servers = s.servers ∧
      bodyRequeue go key st inc rec deferred s = ((go (.endQuery none key es rec) s').1, .timeout) := by
  unfold bodyRequeue
  rw [hq]
  dsimp only
  have hq2 := query?_requeued hq st inc
  rw [hq2]
  simp only [Option.getD_some]
  have : (unlinkQ q).noRetries = true := hnr
  simp only [this, Bool.not_true, Bool.and_false, Bool.false_eq_true, ↓reduceIte]
  refine ⟨_, _, ?_, ?_, ?_, ?_, rfl⟩
  rotate_left
  · rw [query?_modQuery_self, hq2]
    · rfl
    · intro _; rfl
  · rfl
  · rw [St.removeFromConn_eq]; rfl

/-- whole run of `ares_requeue_query` on a probe (`no_retries`, owner `probe pid`), any fuel, any state: when it
    completes the servers are as before except that `probe_pending` of the probed server `pid` has been reset (by the
    probe's callback) — the run sets no flag and touches no other server -/
theorem exec_requeue_probe_frame (fuel : Nat) (key : Nat) (st : Status) (inc : Bool) (rec : Option Reply)
    (deferred : Bool) (s : St) (q : Query) (pid : Nat) (hq : s.query? key = some q) (ho : q.owner = .probe pid)
    (hnr : q.noRetries = true)
    (hf : (exec fuel (.requeue key st inc rec deferred) s).1.outOfFuel = false) :
    (exec fuel (.requeue key st inc rec deferred) s).1.servers = (releaseProbe pid s).servers := by
  cases fuel with
  | zero => have : true = false := hf; cases this
  | succ m =>
    obtain ⟨s', es, q', hq', ho', hs', e⟩ :=
      requeue_noRetries_ends_frame (exec m) key st inc rec deferred s q hq hnr
    have er : (exec (m + 1) (.requeue key st inc rec deferred) s).1 =
        (exec m (.endQuery none key es rec) s').1 := by
      show (bodyRequeue (exec m) key st inc rec deferred s).1 = _
      rw [e]
    rw [er] at hf ⊢
    by_cases h2 : m < 2
    · have := exec_endQuery_oof m h2 none key es rec s' q' hq'
      rw [this] at hf; cases hf
    · obtain ⟨n, rfl⟩ : ∃ n, m = n + 2 := ⟨m - 2, by omega⟩
      rw [exec_endQuery_probe n none key es rec s' q' pid hq' (ho'.trans ho)]
      show (endProbeSt pid none key es rec q' s').servers = _
      rw [endProbeSt_none_servers]
      show s'.servers.map _ = s.servers.map _
      rw [hs']

/-- after `server_probe_cb` every server with the probed id has `probe_pending = false`; the others are untouched -/
theorem releaseProbe_spec (pid : Nat) (s : St) :
    (∀ v ∈ (releaseProbe pid s).servers, v.id = pid → v.probePending = false) ∧
    (∀ w : Server, w.id ≠ pid → (w ∈ (releaseProbe pid s).servers ↔ w ∈ s.servers)) ∧
    (∀ v ∈ (releaseProbe pid s).servers, v.probePending = true → ∃ w ∈ s.servers, w.id = v.id ∧ w.probePending = true) ∧
    (releaseProbe pid s).servers.map (·.id) = s.servers.map (·.id) := by
  show (∀ v ∈ s.servers.map _, _) ∧ (∀ w : Server, _ → (w ∈ s.servers.map _ ↔ _)) ∧ (∀ v ∈ s.servers.map _, _) ∧
    (s.servers.map _).map _ = _
  refine ⟨?_, ?_, ?_, ?_⟩
  · intro v hv hid
    obtain ⟨x, hx, rfl⟩ := List.mem_map.1 hv
    by_cases h : x.id == pid
    · simp only [h, ↓reduceIte]
    · simp only [h, Bool.false_eq_true, ↓reduceIte] at hid
      exact absurd (by simpa using hid) h
  · intro w hw
    constructor
    · intro h
      obtain ⟨x, hx, rfl⟩ := List.mem_map.1 h
      by_cases h' : x.id == pid
      · simp only [h', ↓reduceIte] at hw
        exact absurd (by simpa using h') hw
      · simp only [h', Bool.false_eq_true, ↓reduceIte]; exact hx
    · intro h
      refine List.mem_map.2 ⟨w, h, ?_⟩
      have : (w.id == pid) = false := by simpa using hw
      simp only [this, Bool.false_eq_true, ↓reduceIte]
  · intro v hv hp
    obtain ⟨x, hx, rfl⟩ := List.mem_map.1 hv
    by_cases h : x.id == pid
    · simp only [h, ↓reduceIte] at hp; cases hp
    · simp only [h, Bool.false_eq_true, ↓reduceIte] at hp ⊢
      exact ⟨x, hx, rfl, hp⟩
  · exact map_if_keep _ fun _ _ _ => rfl

theorem query?_incFailures (s : St) (id : Nat) (tcp : Bool) (k : Nat) :
    (s.incFailures id tcp).query? k = s.query? k := by
  rw [St.incFailures_eq]; rfl

end Cares.Chan
