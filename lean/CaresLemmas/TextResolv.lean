import CaresModel.Text.Junk
import CaresLemmas.TextSplit
import CaresLemmas.IteLemmas
import CaresLemmas.ListLemmas
/-! Helper lemmas for C15: junk lines are no-ops of the line callbacks, the callbacks only return
    success / ENOMEM, and a fold over lines is independent of no-op lines. -/
namespace Cares.Text

theorem foldl_noop {α β} (f : α → β → α) (s : α) (l : List β) (h : ∀ x ∈ l, ∀ a, f a x = a) :
    l.foldl f s = s := by
  induction l generalizing s with
  | nil => rfl
  | cons x xs ih =>
    simp only [List.foldl_cons]
    rw [h x (by simp)]
    exact ih s (fun y hy => h y (by simp [hy]))

theorem processOption_noop (sat : Bool) (s : SysConfig) (o : Bytes) (h : optionNoop o = true) :
    (processOption sat s o).2 = s := by
  revert h
  unfold optionNoop processOption
  cases splitStr [58] SplitFlags.trim 2 o with
  | error e => intro _; rfl
  | ok kv =>
    cases kv with
    | nil => intro _; rfl
    | cons key rest =>
      have zero : ∀ {x : Status × SysConfig}, (optValint rest == 0) = true →
          (if optValint rest = 0 then (Status.eformerr, s) else x).2 = s :=
        fun h => by rw [if_pos (beq_iff_eq.mp h)]
      let R : Bool → Status × SysConfig → Prop := fun j r => j = true → r.2 = s
      exact ite_ite R (fun _ h => absurd h Bool.false_ne_true) fun _ =>
        ite_ite R (fun _ h => zero h) fun _ =>
        ite_ite R (fun _ h => zero h) fun _ =>
        ite_ite R (fun _ h => absurd h Bool.false_ne_true) fun _ =>
        ite_ite R (fun _ h => absurd h Bool.false_ne_true) fun _ _ => rfl

theorem setOptions_noop (sat : Bool) (s : SysConfig) (v : Bytes) (hne : v.isEmpty = false)
    (h : (bufSplit [32, 9] SplitFlags.trim 0 v).all optionNoop = true) :
    setOptions sat s v = (.success, s) := by
  unfold setOptions
  simp only [hne, Bool.false_eq_true, ↓reduceIte]
  rw [foldl_noop]
  intro o ho a
  exact processOption_noop sat a o (List.all_eq_true.mp h o ho)

theorem sconfigAppend_blacklisted (ifs : Ifaces) (l : Option (List SConfig)) (a : Addr) (u t : Nat) (i : Bytes)
    (h : isBlacklisted a = true) : sconfigAppend ifs l a u t i = l := by
  simp [sconfigAppend, h]

theorem appendEntry_noop (ifs : Ifaces) (acc : Status × Option (List SConfig)) (e : Bytes) (h : serverEntryNoop e = true) :
    appendEntry ifs true acc e = acc := by
  unfold serverEntryNoop at h
  unfold appendEntry
  split
  · rfl
  next hs =>
    have hs : acc.1 = .success := by simpa using hs
    split
    · rename_i s hp
      rw [hp] at h
      rw [sconfigAppend_blacklisted ifs acc.2 s.addr s.udp s.tcp s.iface h, ← hs]
    · rfl

theorem appendFromStr_noop (ifs : Ifaces) (l : Option (List SConfig)) (v : Bytes) (hne : v.isEmpty = false)
    (h : (bufSplit [32, 44] SplitFlags.none 0 v).all serverEntryNoop = true) :
    appendFromStr ifs l v true = (.success, l) := by
  unfold appendFromStr
  rw [if_neg (by rw [hne]; exact Bool.false_ne_true)]
  exact foldl_noop _ _ _ fun e he acc => appendEntry_noop ifs acc e (List.all_eq_true.mp h e he)

theorem configLookup_noop (s : SysConfig) (raw : Bytes) (seps : List Nat)
    (h : (match splitStr seps SplitFlags.trim 0 raw with
          | .error _ => true
          | .ok ws => ws.all (fun w => (lookupLetter w).isNone)) = true) :
    configLookup s raw seps = s := by
  unfold configLookup
  split
  · rfl
  · rename_i words hw
    rw [hw] at h
    simp only at h
    have hall := List.all_eq_true.mp h
    have : words.foldl lookupStep [] = [] := by
      apply foldl_noop
      intro w hw a
      have := hall w hw
      unfold lookupStep
      cases hl : lookupLetter w <;> simp_all
    simp [this]

theorem fetchString_len (cap : Nat) (b r : Bytes) (h : fetchString cap b = .ok r) : r = b ∧ r.length + 1 ≤ cap := by
  unfold fetchString at h
  split at h
  · cases h
  · split at h
    · cases h
    · split at h
      · cases h
      · cases h
        constructor
        · rfl
        · omega

/-- what a successful keyword / value split guarantees: both parts fit their buffers, the value is not empty -/
theorem resolvSplit_some (line option value raw : Bytes) (h : resolvSplit line = some (option, value, raw)) :
    option.length + 1 ≤ 32 ∧ raw.length + 1 ≤ 512 ∧ value = trim raw ∧ value.isEmpty = false := by
  unfold resolvSplit at h
  split at h
  · cases h
  · cases h
  · dsimp only at h
    split at h
    · cases h
    · split at h
      · cases h
      · rename_i o ho
        split at h
        · cases h
        · rename_i v hv
          split at h
          · cases h
          · rename_i hne
            cases h
            obtain ⟨rfl, hvl⟩ := fetchString_len 512 _ _ hv
            exact ⟨(fetchString_len 32 _ _ ho).2, hvl, rfl, by simpa using hne⟩

theorem junk_noop (ifs : Ifaces) (s : SysConfig) (line : Bytes)
    (h : isJunk line = true) : resolvLineG true ifs s line = (.success, s) := by
  revert h
  unfold isJunk resolvLineG
  cases hs : resolvSplit line with
  | none => intro _; rfl
  | some x =>
    obtain ⟨option, value, raw⟩ := x
    have hne := (resolvSplit_some line option value raw hs).2.2.2
    have search : ∀ m, value.all (fun c => c == 44 || c == 32) = true → configSearch s value m = (.success, s) :=
      fun m h => if_pos h
    let R : Bool → Status × SysConfig → Prop := fun j r => j = true → r = (.success, s)
    unfold resolvApply
    exact ite_ite R (fun _ h => ite_of (P := (· = (Status.success, s))) (fun _ => search 1 h) fun _ => rfl) fun _ =>
      ite_ite R (fun _ h => by rw [configLookup_noop s raw [32, 9] h]) fun _ =>
      ite_ite R (fun _ h => search 0 h) fun _ =>
      ite_ite R (fun _ h => by rw [appendFromStr_noop ifs s.sconfig value hne h]) fun _ =>
      ite_ite R (fun _ h => by
        obtain ⟨h1, h2⟩ := Bool.and_eq_true_iff.mp h
        refine Prod.ext (if_pos h1) (if_neg fun hc => ?_)
        obtain ⟨c1, c2⟩ := Bool.and_eq_true_iff.mp hc
        rcases Bool.or_eq_true_iff.mp h2 with h2 | h2
        · rw [bne, c1] at h2; cases h2
        · rw [h2] at c2; cases c2) fun _ =>
      ite_ite R (fun _ h => setOptions_noop true s value hne h) fun _ _ => rfl

theorem configSearch_status (s : SysConfig) (v : Bytes) (m : Nat) :
    (configSearch s v m).1 = .success ∨ (configSearch s v m).1 = .enomem := by
  unfold configSearch
  split
  · simp
  · split <;> simp

theorem appendEntry_status (ifs : Ifaces) (acc : Status × Option (List SConfig)) (e : Bytes) (h : acc.1 = .success) :
    (appendEntry ifs true acc e).1 = .success := by
  unfold appendEntry
  simp only [h, bne_self_eq_false, Bool.false_eq_true, ↓reduceIte]
  split <;> simp [h]

theorem appendFromStr_status (ifs : Ifaces) (l : Option (List SConfig)) (v : Bytes) :
    (appendFromStr ifs l v true).1 = .success ∨ (appendFromStr ifs l v true).1 = .enomem := by
  unfold appendFromStr
  split
  · simp
  · left; exact foldl_inv (P := (·.1 = .success)) (appendEntry ifs true) (appendEntry_status ifs) _ (.success, l) rfl

theorem setOptions_status (sat : Bool) (s : SysConfig) (v : Bytes) :
    (setOptions sat s v).1 = .success ∨ (setOptions sat s v).1 = .enomem := by
  unfold setOptions
  split <;> simp

/-- the keyword dispatch of `ares_sysconfig_parse_resolv_line`, case by case -/
theorem resolvApply_cases {P : Status × SysConfig → Prop} (ifs : Ifaces) (s : SysConfig) (option value raw : Bytes)
    (domain : P (configSearch s value 1)) (lookup : P (.success, configLookup s raw [32, 9]))
    (search : P (configSearch s value 0))
    (nameserver : P ((appendFromStr ifs s.sconfig value true).1,
      { s with sconfig := (appendFromStr ifs s.sconfig value true).2 }))
    (sortlist : P ((if (parseSortlist value).1 != .enomem then Status.success else (parseSortlist value).1),
      (if (parseSortlist value).1 == .success && !(parseSortlist value).2.isEmpty then
        { s with sortlist := (parseSortlist value).2 } else s)))
    (options : P (setOptions true s value)) (other : P (.success, s)) :
    P (resolvApply true ifs s option value raw) := by
  unfold resolvApply
  exact ite_of (fun _ => ite_of (fun _ => domain) fun _ => other) fun _ => ite_of (fun _ => lookup) fun _ =>
    ite_of (fun _ => search) fun _ => ite_of (fun _ => nameserver) fun _ => ite_of (fun _ => sortlist) fun _ =>
    ite_of (fun _ => options) fun _ => other

theorem resolvLine_status (ifs : Ifaces) (s : SysConfig) (line : Bytes) :
    (resolvLine ifs s line).1 = .success ∨ (resolvLine ifs s line).1 = .enomem := by
  unfold resolvLine resolvLineG
  cases resolvSplit line with
  | none => exact Or.inl rfl
  | some x =>
    obtain ⟨option, value, raw⟩ := x
    refine resolvApply_cases (P := fun r => r.1 = .success ∨ r.1 = .enomem) ifs s option value raw
      (configSearch_status s value 1) (Or.inl rfl) (configSearch_status s value 0)
      (appendFromStr_status ifs s.sconfig value) ?_ (setOptions_status true s value) (Or.inl rfl)
    show (if _ then Status.success else _) = Status.success ∨ (if _ then Status.success else _) = Status.enomem
    by_cases h : ((parseSortlist value).1 != Status.enomem) = true
    · rw [if_pos h]; exact Or.inl rfl
    · rw [if_neg h]; exact Or.inr (by simpa using h)

theorem dbLine_status (sep : Nat) (vseps : List Nat) (s : SysConfig) (line : Bytes) :
    (dbLine sep vseps s line).1 = .success := by
  unfold dbLine
  split
  · rfl
  · split
    · split
      · rfl
      · split <;> rfl
    · rfl

theorem foldLines_append_noop (step : SysConfig → Bytes → Status × SysConfig) (s : SysConfig)
    (junk post : List Bytes) (hj : ∀ l ∈ junk, ∀ a, step a l = (.success, a)) :
    foldLines step s (junk ++ post) = foldLines step s post := by
  induction junk with
  | nil => rfl
  | cons j js ih =>
    simp only [List.cons_append, foldLines]
    rw [hj j (by simp)]
    simp only [bne_self_eq_false, Bool.false_eq_true, ↓reduceIte]
    exact ih (fun l hl => hj l (by simp [hl]))

theorem foldLines_independence (step : SysConfig → Bytes → Status × SysConfig) (s : SysConfig)
    (pre junk post : List Bytes) (hj : ∀ l ∈ junk, ∀ a, step a l = (.success, a)) :
    foldLines step s (pre ++ junk ++ post) = foldLines step s (pre ++ post) := by
  induction pre generalizing s with
  | nil => simpa using foldLines_append_noop step s junk post hj
  | cons p ps ih =>
    simp only [List.cons_append, foldLines]
    split
    · rfl
    · exact ih _

/-- an invariant `P` of the state that every line step keeps holds of the result of `foldLines`, and the status it ends
    with is `.success` or the status of a step taken from a state with `P` -/
theorem foldLines_inv (step : SysConfig → Bytes → Status × SysConfig) (Q : Status → Prop) (P : SysConfig → Prop)
    (hQ : Q .success) (hq : ∀ a l, P a → Q (step a l).1) (hp : ∀ a l, P a → P (step a l).2) (s : SysConfig)
    (ls : List Bytes) (h : P s) : Q (foldLines step s ls).1 ∧ P (foldLines step s ls).2 := by
  induction ls generalizing s with
  | nil => exact ⟨hQ, h⟩
  | cons l ls ih =>
    simp only [foldLines]
    split
    · exact ⟨hq s l h, hp s l h⟩
    · exact ih _ (hp s l h)

theorem foldLines_status (step : SysConfig → Bytes → Status × SysConfig) (P : Status → Prop) (hP : P .success)
    (hs : ∀ a l, P (step a l).1) (s : SysConfig) (ls : List Bytes) : P (foldLines step s ls).1 :=
  (foldLines_inv step P (fun _ => True) hP (fun a l _ => hs a l) (fun _ _ _ => trivial) s ls trivial).1

theorem dbJunk_noop (sep : Nat) (vseps : List Nat) (s : SysConfig) (line : Bytes) (h : dbJunk sep vseps line = true) :
    dbLine sep vseps s line = (.success, s) := by
  unfold dbJunk at h
  unfold dbLine
  split
  · rfl
  · rename_i hl
    split at h
    · exact absurd rfl (hl _ )
    · split
      · rename_i k v hkv
        rw [hkv] at h
        simp only at h
        split
        · rfl
        · rename_i option ho
          rw [ho] at h
          simp only at h
          split
          · rename_i hh
            simp only [hh, ↓reduceIte] at h
            rw [configLookup_noop s v vseps h]
          · rfl
      · rfl

theorem hostsStep_junk (hf : HostsFile) (l : Bytes) (h : hostsJunk l = true) : hostsStep hf l = hf := by
  unfold hostsJunk at h
  unfold hostsStep
  cases hl : hostsLine l with
  | none => rfl
  | some e => simp [hl] at h

theorem foldl_append_noop {α β} (f : α → β → α) (s : α) (junk post : List β) (h : ∀ x ∈ junk, ∀ a, f a x = a) :
    (junk ++ post).foldl f s = post.foldl f s := by
  rw [List.foldl_append, foldl_noop f s junk h]

theorem parseHosts_independence (pre junk post : Bytes)
    (hj : ∀ l ∈ rawSplit (· == 10) junk, hostsJunk l = true) :
    parseHosts (pre ++ 10 :: (junk ++ 10 :: post)) = parseHosts (pre ++ 10 :: post) := by
  unfold parseHosts
  rw [rawSplit_append (· == 10) pre _ 10 (by simp), rawSplit_append (· == 10) junk post 10 (by simp),
      rawSplit_append (· == 10) pre post 10 (by simp)]
  rw [List.foldl_append, foldl_append_noop hostsStep _ _ _ (fun x hx a => hostsStep_junk a x (hj x hx)),
    List.foldl_append]

theorem aliasJunk_none (name l : Bytes) (h : aliasJunk l = true) : aliasLine name l = none := by
  unfold aliasJunk at h
  unfold aliasLine
  simp only at h ⊢
  split
  · rfl
  · rename_i hh hfe
    rw [hfe] at h
    simp only at h
    split
    · rfl
    · split
      · rfl
      · rename_i f hf
        rw [hf] at h
        simp only [Bool.or_eq_true, Bool.not_eq_eq_eq_not, Bool.not_true] at h
        cases h with
        | inl h => simp [h]
        | inr h => simp [h]

theorem findSome?_junk {α β} (f : α → Option β) (pre junk post : List α) (h : ∀ x ∈ junk, f x = none) :
    (pre ++ junk ++ post).findSome? f = (pre ++ post).findSome? f := by
  simp only [List.findSome?_append]
  have : junk.findSome? f = none := by
    rw [List.findSome?_eq_none_iff]; exact h
  simp [this]

theorem aliases_independence (noAl : Bool) (name pre junk post : Bytes)
    (hj : ∀ l ∈ lines junk, aliasJunk l = true) :
    lookupHostaliases noAl (.file (pre ++ 10 :: (junk ++ 10 :: post))) name =
      lookupHostaliases noAl (.file (pre ++ 10 :: post)) name := by
  unfold lookupHostaliases
  simp only
  rw [lines_append pre, lines_append junk, lines_append pre, ← List.append_assoc,
      findSome?_junk (aliasLine name) _ _ _ (fun x hx => aliasJunk_none name x (hj x hx))]

end Cares.Text
