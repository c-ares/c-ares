import CaresLemmas.ChanWfRemove
/-!
# C01 — `detach` on the skeleton
-/
namespace Cares.Chan

/-! ### shrinking the set of linked keys / live queries keeps the groups that only mention them in
hypotheses -/

theorem WfTokP.shrink {qKO qKO' : List (Nat × Owner)} {idx idx' : List Nat} {cl pend done rs}
    (h : WfTokP qKO idx cl pend done rs) (hq : ∀ p ∈ qKO', p ∈ qKO) (hi : ∀ x ∈ idx', x ∈ idx) :
    WfTokP qKO' idx' cl pend done rs where
  pN := h.pN
  dN := h.dN
  disj := h.disj
  pB := h.pB
  dB := h.dB
  tQ := fun p hp hpi tok ho => by
    obtain ⟨h1, h2, h3⟩ := h.tQ p (hq p hp) (hi _ hpi) tok ho
    exact ⟨h1, fun p' hp' hpi' ho' => h2 p' (hq p' hp') (hi _ hpi') ho', h3⟩
  tC := fun p hp hpi id ho => h.tC p (hq p hp) (hi _ hpi) id ho
  tK := h.tK
  tKU := h.tKU

theorem NoSubP.shrink {qKO qKO' : List (Nat × Owner)} {idx idx' : List Nat} {id : Nat}
    (h : NoSubP qKO idx id) (hq : ∀ p ∈ qKO', p ∈ qKO) (hi : ∀ x ∈ idx', x ∈ idx) : NoSubP qKO' idx' id :=
  fun p hp hpi => h p (hq p hp) (hi _ hpi)

section
variable {a : Sk} {hole : Option Nat} {k : Nat} {e : QSk}

theorem Sk.detach_eq (hq : a.q? k = some e) :
    a.detach k = { a.removeFromConn k with
      byQid := a.byQid.filter (fun (p : Nat × Nat) => !(p.1 == e.qid && p.2 == k)),
      all := a.all.erase k, listCopy := a.listCopy.map (·.erase k) } := by
  unfold Sk.detach; rw [hq]; simp only [rfc_other]

theorem mem_idx_detach (h : WfS a hole) (hq : a.q? k = some e) {x : Nat} :
    x ∈ (a.detach k).idx ↔ x ∈ a.idx ∧ x ≠ k := by
  rw [Sk.detach_eq hq]
  simp only [Sk.idx, List.mem_map, List.mem_filter, Bool.not_eq_true', Bool.and_eq_false_iff, beq_eq_false_iff_ne]
  constructor
  · rintro ⟨p, ⟨hp, hne⟩, rfl⟩
    refine ⟨⟨p, hp, rfl⟩, fun hk => ?_⟩
    rcases hne with hne | hne
    · have h1 := h.i.qidLive p hp
      rw [hk] at h1
      exact hne (Sk.qKQ_unique h.q.nodup h1 (Sk.q?_mem_proj hq).2.2.1)
    · exact hne hk
  · rintro ⟨⟨p, hp, rfl⟩, hne⟩
    exact ⟨p, ⟨hp, Or.inr hne⟩, rfl⟩

theorem flatten_map_erase_sublist (l : List (List Nat)) (k : Nat) :
    (l.map (·.erase k)).flatten.Sublist l.flatten := by
  induction l with
  | nil => exact List.Sublist.refl _
  | cons x r ih =>
    simp only [List.map_cons, List.flatten_cons]
    exact List.Sublist.append List.erase_sublist ih

/-- `a.detach k` for a live query `k` with entry `e`, field by field: everything except the three index lists is as
    after `removeFromConn` -/
structure DetachSame (a : Sk) (k : Nat) (e : QSk) : Prop where
  qs : (a.detach k).qs = (a.removeFromConn k).qs
  conns : (a.detach k).conns = (a.removeFromConn k).conns
  byTimeout : (a.detach k).byTimeout = a.byTimeout.erase k
  pendingOrder : (a.detach k).pendingOrder = a.pendingOrder.erase k
  servers : (a.detach k).servers = a.servers
  clients : (a.detach k).clients = a.clients
  socks : (a.detach k).socks = a.socks
  nextKey : (a.detach k).nextKey = a.nextKey
  nextFd : (a.detach k).nextFd = a.nextFd
  nextClient : (a.detach k).nextClient = a.nextClient
  reactSeq : (a.detach k).reactSeq = a.reactSeq
  pendingToks : (a.detach k).pendingToks = a.pendingToks
  doneToks : (a.detach k).doneToks = a.doneToks
  faults : (a.detach k).faults = a.faults
  all : (a.detach k).all = a.all.erase k
  listCopy : (a.detach k).listCopy = a.listCopy.map (·.erase k)
  byQid : (a.detach k).byQid = a.byQid.filter (fun (p : Nat × Nat) => !(p.1 == e.qid && p.2 == k))

theorem detach_same (hq : a.q? k = some e) : DetachSame a k e := by
  constructor <;> rw [Sk.detach_eq hq] <;> simp only [rfc_other, rfc_bt hq, rfc_po hq]

/-- the projections the groups read, after `detach`: those of the queries and connections are as after `removeFromConn` -/
theorem detach_proj (hq : a.q? k = some e) :
    (a.detach k).qK = a.qK ∧ (a.detach k).qKQ = a.qKQ ∧ (a.detach k).qKO = a.qKO ∧
    (a.detach k).qKC = (a.removeFromConn k).qKC ∧ (a.detach k).cFQ = (a.removeFromConn k).cFQ ∧
    (a.detach k).cF4 = a.cF4 ∧ (a.detach k).cFUQ = (a.removeFromConn k).cFUQ := by
  rw [Sk.detach_eq hq]
  exact ⟨rfc_qK a k, rfc_qKQ a k, rfc_qKO a k, rfl, rfl, rfc_cF4 a k, rfl⟩

theorem wf_detach (h : WfS a hole) (hh : hole = none ∨ hole = some k) (hq : a.q? k = some e) :
    WfS (a.detach k) none := by
  have h1 := wf_rfc h hh hq
  have hs := detach_same hq
  have hidx : ∀ x, x ∈ (a.detach k).idx ↔ x ∈ a.idx ∧ x ≠ k := fun x => mem_idx_detach h hq
  obtain ⟨eqK, eqKQ, eqKO, eqKC, eqFQ, eqF4, _⟩ := detach_proj hq
  constructor
  · rw [eqK, hs.nextKey]; exact h.q
  · rw [eqKQ, hs.all, hs.listCopy, hs.byQid]
    have hi := h.i
    have hidx' : ∀ x, x ∈ (a.byQid.filter (fun (p : Nat × Nat) => !(p.1 == e.qid && p.2 == k))).map (·.2) ↔
        x ∈ a.idx ∧ x ≠ k := by
      intro x; rw [← hs.byQid]; exact hidx x
    constructor
    · intro p hp; exact hi.qidLive p (List.mem_filter.mp hp).1
    · exact hi.allNodup.erase k
    · intro x hx
      have := (List.Nodup.mem_erase_iff hi.allNodup).mp hx
      exact (hidx' x).mpr ⟨hi.allIdx x this.2, this.1⟩
    · intro l' hl'
      obtain ⟨l, hl, rfl⟩ := List.mem_map.mp hl'
      obtain ⟨hn, hm⟩ := hi.lcOk l hl
      refine ⟨hn.erase k, fun x hx => ?_⟩
      have := (List.Nodup.mem_erase_iff hn).mp hx
      exact (hidx' x).mpr ⟨hm x this.2, this.1⟩
    · exact (List.Sublist.append List.erase_sublist (flatten_map_erase_sublist _ _)).nodup hi.disj
    · intro x hx
      obtain ⟨hxi, hne⟩ := (hidx' x).mp hx
      rcases hi.nl x hxi with h' | ⟨l, hl, hxl⟩
      · exact Or.inl ((List.mem_erase_of_ne hne).mpr h')
      · exact Or.inr ⟨l.erase k, List.mem_map.mpr ⟨l, hl, rfl⟩, (List.mem_erase_of_ne hne).mpr hxl⟩
  · rw [eqKC, hs.byTimeout, hs.pendingOrder, rfc_qKC hq]
    exact h.t.erase k (fun p hp hne => mem_map_ifkey.mpr (Or.inl ⟨hp, hne⟩)) fun x hx hne => (hidx x).mpr ⟨hx, hne⟩
  · rw [eqKC, eqFQ, hs.nextFd, hs.socks]
    have hc := h1.c
    simp only [rfc_idx, rfc_other] at hc
    have hnl := rfc_not_listed h hq
    refine ⟨hc.nodup, hc.lt, hc.sock, hc.qNodup, fun c hcm x hx => ?_, hc.qc⟩
    obtain ⟨hi, hm⟩ := hc.cq c hcm x hx
    exact ⟨(hidx x).mpr ⟨hi, fun hxk => hnl c hcm (hxk ▸ hx)⟩, hm⟩
  · rw [eqF4, hs.servers]; exact h.s
  · rw [hs.clients, hs.nextClient]; exact h.k
  · rw [eqKO, hs.clients, hs.pendingToks, hs.doneToks, hs.reactSeq]
    exact h.tok.shrink (fun _ hp => hp) (fun x hx => ((hidx x).mp hx).1)

end

theorem countP_split_key (l : List (Nat × Owner)) (hn : (l.map (·.1)).Nodup) {k : Nat} {o : Owner}
    (hm : (k, o) ∈ l) (P P' : Nat × Owner → Bool) (hP' : ∀ p ∈ l, p.1 ≠ k → P' p = P p)
    (hk : P' (k, o) = false) : l.countP P = l.countP P' + (if P (k, o) then 1 else 0) := by
  induction l with
  | nil => cases hm
  | cons x r ih =>
    simp only [List.map_cons, List.nodup_cons] at hn
    rcases List.mem_cons.mp hm with hx | hr
    · subst hx
      have hr : r.countP P = r.countP P' := by
        apply List.countP_congr
        intro p hp
        have hne : p.1 ≠ k := fun he => hn.1 (he ▸ List.mem_map.mpr ⟨p, hp, rfl⟩)
        rw [hP' p (List.mem_cons_of_mem _ hp) hne]
      rw [List.countP_cons, List.countP_cons, hr, hk]
      simp
    · have hne : x.1 ≠ k := fun he => hn.1 (he ▸ List.mem_map.mpr ⟨(k, o), hr, rfl⟩)
      have := ih hn.2 hr (fun p hp => hP' p (List.mem_cons_of_mem _ hp))
      rw [List.countP_cons, List.countP_cons, this, hP' x List.mem_cons_self hne]
      omega

theorem subsP_eq_zero {qKO : List (Nat × Owner)} {idx : List Nat} {id : Nat} :
    subsP qKO idx id = 0 ↔ NoSubP qKO idx id := by
  unfold subsP NoSubP
  rw [List.countP_eq_zero]
  simp only [Bool.and_eq_true, decide_eq_true_eq, not_and]

/-- unlinking the query `k` owned by `o` lowers the count of `o`'s compound request by one and leaves the
    other counts alone -/
theorem subsP_unlink {qKO : List (Nat × Owner)} {idx idx' : List Nat} {k : Nat} {o : Owner}
    (hn : (qKO.map (·.1)).Nodup) (hm : (k, o) ∈ qKO) (hk : k ∈ idx)
    (hidx : ∀ x, x ∈ idx' ↔ x ∈ idx ∧ x ≠ k) (id : Nat) :
    subsP qKO idx id = subsP qKO idx' id + (if o = .client id then 1 else 0) := by
  unfold subsP
  rw [countP_split_key qKO hn hm _ (fun p => decide (p.1 ∈ idx') && decide (p.2 = Owner.client id))]
  · simp only [hk, decide_true, Bool.true_and, decide_eq_true_eq]
  · intro p _ hne
    have : (p.1 ∈ idx') = (p.1 ∈ idx) := propext ⟨fun h => ((hidx _).mp h).1, fun h => (hidx _).mpr ⟨h, hne⟩⟩
    simp only [this]
  · have : ¬ k ∈ idx' := fun h => ((hidx _).mp h).2 rfl
    simp [this]

section
variable {a : Sk} {hole : Option Nat} {k : Nat} {e : QSk}

theorem detach_qKO (hq : a.q? k = some e) : (a.detach k).qKO = a.qKO := (detach_proj hq).2.2.1

theorem LcSub.map_erase (l : List (List Nat)) (k : Nat) : LcSub (l.map (·.erase k)) l := by
  induction l with
  | nil => exact LcSub.nil
  | cons x r ih => exact LcSub.cons (fun _ h => List.mem_of_mem_erase h) ih

theorem step_detach {xf xi d} (h : WfS a hole) (hq : a.q? k = some e) :
    StepT xf xi (ownerTok e.owner) d a (a.detach k) := by
  have hs := detach_same hq
  have h1 : StepS xf xi d a (a.removeFromConn k) := step_rfc hq
  refine ⟨hs.faults, by rw [hs.nextClient]; exact Nat.le_refl _,
    by rw [hs.nextKey]; exact Nat.le_refl _,
    fun x hx => Or.inl ((mem_idx_detach h hq).mp hx).1, ?_, ?_, ?_, ?_⟩
  · rw [(detach_proj hq).2.2.2.2.2.2]; exact h1.unl
  · intro id _ _ hn
    unfold Sk.NoSub at *
    rw [detach_qKO hq]
    exact hn.shrink (fun _ hp => hp) (fun x hx => ((mem_idx_detach h hq).mp hx).1)
  · intro id ha _
    unfold Sk.Active at *
    rw [hs.clients, hs.pendingToks]; exact ha
  · refine ⟨by rw [hs.doneToks]; exact fun _ h => h, ?_, ?_, ?_, ?_, ?_⟩
    · rw [hs.listCopy]; exact LcSub.map_erase _ _
    · intro x hx; rw [hs.all] at hx; exact Or.inl (List.mem_of_mem_erase hx)
    · intro hl; rw [detach_qKO hq, hs.nextKey]; exact hl
    · intro _ p hp _; rw [detach_qKO hq]; exact hp
    · intro _ p hp hpi hn tok ho
      right
      have hpk : p.1 = k := by
        by_cases he : p.1 = k
        · exact he
        · exact absurd ((mem_idx_detach h hq).mpr ⟨hpi, he⟩) hn
      have hn' : a.qK.Nodup := h.q.nodup
      have : p.2 = e.owner := Sk.qKO_unique hn' (by rw [← hpk]; exact hp) (Sk.q?_mem_proj hq).2.1
      rw [← this, ho]; rfl

theorem subs_detach (h : WfS a hole) (hq : a.q? k = some e) (hk : k ∈ a.idx) (id : Nat) :
    a.subs id = (a.detach k).subs id + (if e.owner = .client id then 1 else 0) := by
  have hidx : ∀ x, x ∈ (a.detach k).idx ↔ x ∈ a.idx ∧ x ≠ k := fun x => mem_idx_detach h hq
  have hko := (Sk.q?_mem_proj hq).2.1
  have hn : (a.qKO.map (·.1)).Nodup := by
    have : a.qKO.map (·.1) = a.qK := by unfold Sk.qKO Sk.qK; rw [List.map_map]; rfl
    rw [this]; exact h.q.nodup
  unfold Sk.subs; rw [detach_qKO hq]; exact subsP_unlink hn hko hk hidx id

/-- after unlinking a linked query its owner's callback is free to be handed over, and the query counts as
    one outstanding completion of its compound request -/
theorem owner_detach {d} (h : WfS a hole) (hq : a.q? k = some e) (hk : k ∈ a.idx) (hd : DebtOk none d a) :
    (a.detach k).OwnerFree e.owner ∧ (a.detach k).DebtFor d e.owner := by
  have hs := detach_same hq
  have hidx : ∀ x, x ∈ (a.detach k).idx ↔ x ∈ a.idx ∧ x ≠ k := fun x => mem_idx_detach h hq
  have hko := (Sk.q?_mem_proj hq).2.1
  have hsub := subs_detach h hq hk
  have hdebt : ∀ x d', (∀ c ∈ a.clients, c.tok ∈ a.pendingToks → some c.id ≠ x →
      a.subs c.id + d c.id = (a.detach k).subs c.id + d' c.id) → (∀ id, a.nextClient ≤ id → d' id = 0) →
      DebtOk x d' (a.detach k) := by
    intro x d' hc hf
    refine ⟨by rw [hs.nextClient]; exact hf, ?_⟩
    rw [hs.clients, hs.pendingToks]
    intro c hcm hp hx
    rw [← hc c hcm hp hx]
    exact hd.cnt c hcm hp (fun hh => by cases hh)
  cases ho : e.owner with
  | probe =>
    refine ⟨trivial, hdebt none d (fun c _ _ _ => ?_) hd.fresh⟩
    rw [hsub c.id, ho]; simp
  | user tok =>
    obtain ⟨t1, t2, t3⟩ := h.tok.tQ (k, e.owner) hko hk tok ho
    refine ⟨⟨by rw [hs.pendingToks]; exact t1, ?_, by rw [hs.clients]; exact t3⟩,
      hdebt none d (fun c _ _ _ => ?_) hd.fresh⟩
    · rw [detach_qKO hq]
      intro p hp hpi hpo
      have := (hidx _).mp hpi
      exact this.2 (t2 p hp this.1 hpo)
    · rw [hsub c.id, ho]; simp
  | client id =>
    obtain ⟨c, hcm, hcid, hcp⟩ := h.tok.tC (k, e.owner) hko hk id ho
    refine ⟨⟨c, by rw [hs.clients]; exact hcm, hcid, by rw [hs.pendingToks]; exact hcp⟩,
      hdebt none (bump d id 1) (fun c' _ _ _ => ?_) (fun i hi => ?_)⟩
    · rw [hsub c'.id, ho]
      by_cases hcc : c'.id = id
      · rw [hcc, bump_self]; simp; omega
      · rw [bump_ne _ _ hcc]; simp [Ne.symm hcc]
    · have hlt := h.k.lt c hcm
      rw [bump_ne _ _ (by omega), hd.fresh i hi]

theorem not_idx_detach (h : WfS a hole) (hq : a.q? k = some e) : k ∉ (a.detach k).idx :=
  fun hk => ((mem_idx_detach h hq).mp hk).2 rfl

end

end Cares.Chan
