import CaresModel.Dsa.Arr
/-! Helper lemmas for the `ares_array` model: `memmove` and `abs` as cuts of the memory. -/
namespace Cares.Dsa.Arr

theorem memmove_length (m : List Nat) (d s n : Nat) (hs : s + n ≤ m.length) (hd : d + n ≤ m.length) :
    (memmove m d s n).length = m.length := by
  unfold memmove
  rw [List.length_append, List.length_append, List.length_drop,
    List.length_take_of_le (Nat.le_trans (Nat.le_add_right d n) hd),
    List.length_take_of_le (by rw [List.length_drop]; exact Nat.le_sub_of_add_le' hs)]
  exact Nat.add_sub_of_le hd

theorem memmove_zero (m : List Nat) (d s : Nat) : memmove m d s 0 = m := by
  unfold memmove
  rw [List.take_zero, List.append_nil, Nat.add_zero, List.take_append_drop]

theorem memmove_take (m : List Nat) (d s n i : Nat) (hi : i ≤ d) (hd : d ≤ m.length) :
    (memmove m d s n).take i = m.take i := by
  unfold memmove
  rw [List.append_assoc, List.take_append_of_le_length (by rw [List.length_take_of_le hd]; exact hi),
    List.take_take, Nat.min_eq_left hi]

theorem memmove_drop (m : List Nat) (d s n : Nat) (hd : d ≤ m.length) :
    (memmove m d s n).drop d = (m.drop s).take n ++ m.drop (d + n) := by
  unfold memmove
  rw [List.append_assoc, List.drop_left' (List.length_take_of_le hd)]

theorem memmove_block (m : List Nat) (d s n : Nat) (hs : s + n ≤ m.length) (hd : d ≤ m.length) :
    ((memmove m d s n).drop d).take n = (m.drop s).take n := by
  rw [memmove_drop m d s n hd]
  exact List.take_left' (List.length_take_of_le (by rw [List.length_drop]; exact Nat.le_sub_of_add_le' hs))

theorem abs_getElem? (a : Arr) (i : Nat) :
    a.abs[i]? = if i < a.cnt then a.mem[a.off + i]? else none := by
  unfold abs
  rw [List.getElem?_take, List.getElem?_drop]

theorem abs_length (a : Arr) (h : a.Inv) : a.abs.length = a.cnt := by
  unfold abs
  exact List.length_take_of_le (by rw [List.length_drop]; exact Nat.le_sub_of_add_le' h.1)

theorem abs_take (a : Arr) (i : Nat) (hi : i ≤ a.cnt) : (a.mem.take (a.off + i)).drop a.off = a.abs.take i := by
  unfold abs
  rw [List.drop_take, Nat.add_sub_cancel_left, List.take_take, Nat.min_eq_left hi]

theorem abs_drop (a : Arr) (i : Nat) : (a.mem.drop (a.off + i)).take (a.cnt - i) = a.abs.drop i := by
  unfold abs
  rw [List.drop_take, List.drop_drop]

theorem insertIdx_eq_take_drop (l : List Nat) (i a : Nat) (h : i ≤ l.length) :
    l.insertIdx i a = l.take i ++ a :: l.drop i := by
  induction l generalizing i with
  | nil => rw [Nat.le_zero.1 h]; rfl
  | cons x l ih =>
    cases i with
    | zero => rfl
    | succ i => rw [List.insertIdx_succ_cons, ih i (Nat.le_of_succ_le_succ h)]; rfl

theorem le_pow2ceilAux (fuel p n : Nat) (hp : 0 < p) (hf : n ≤ p + fuel) : n ≤ pow2ceilAux fuel p n := by
  induction fuel generalizing p with
  | zero => exact hf
  | succ k ih =>
    unfold pow2ceilAux
    split
    · assumption
    · exact ih (2 * p) (Nat.mul_pos Nat.two_pos hp) (by omega)

theorem le_pow2ceil (n : Nat) : n ≤ pow2ceil n := le_pow2ceilAux n 1 n Nat.one_pos (Nat.le_add_left n 1)

end Cares.Dsa.Arr
