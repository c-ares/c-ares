import CaresLemmas.ChanReach
import CaresLemmas.ChanStages
import CaresLemmas.ChanPolicySort
/-!
# C09 — the ghost pick log is append-only and every fresh pick follows the failover policy

`St.picks` gets one entry `(query key, chosen server id, requested?, [(server id, failures)] in priority order)` per
`ares_send_query` that found a server.  `PickOk` is the policy predicate of one entry; `Pol` (frame + "all entries
beyond a base log satisfy `PickOk`") is an invariant of `exec`.
-/
namespace Cares.Chan

abbrev Pick := Nat × Nat × Bool × List (Nat × Nat)

/-- `(id, failures)` pairs in priority order -/
def prioLe (a b : Nat × Nat) : Prop := a.2 < b.2 ∨ (a.2 = b.2 ∧ a.1 ≤ b.1)

/-- The failover policy for one pick `(key, chosen, requested, prio)`: unless the server was requested explicitly
    (probe / EDNS downgrade to the same server), `prio` lists exactly the configured servers in `(failures, id)` order,
    `chosen` occurs in it with a failure count `f` that is minimal over all servers, and without rotation it is the
    first such in configuration order (with rotation it is merely one of the best). -/
def PickOk (rotate : Bool) (ids : List Nat) (e : Pick) : Prop :=
  e.2.2.1 = false →
    (e.2.2.2.map (·.1)).Perm ids ∧ e.2.2.2.Pairwise prioLe ∧
    ∃ f, (e.2.1, f) ∈ e.2.2.2 ∧ (∀ p ∈ e.2.2.2, f ≤ p.2) ∧
      (rotate = false → ∀ p ∈ e.2.2.2, p.2 = f → e.2.1 ≤ p.1)

def PicksFrom (rot : Bool) (ids : List Nat) (p0 : List Pick) (s : St) : Prop :=
  ∃ l, s.picks = p0 ++ l ∧ ∀ e ∈ l, PickOk rot ids e

def Pol (c0 : Cfg) (n0 : Nat) (ids0 : List Nat) (p0 : List Pick) (s : St) : Prop :=
  Frame c0 n0 ids0 s ∧ PicksFrom c0.rotate ids0 p0 s

section
variable {c0 : Cfg} {n0 : Nat} {ids0 : List Nat} {p0 : List Pick}

theorem Pol.of_frame {s s' : St} (hf : Frame c0 n0 ids0 s') (h3 : s'.picks = s.picks) (h : Pol c0 n0 ids0 p0 s) :
    Pol c0 n0 ids0 p0 s' := by
  refine ⟨hf, ?_⟩
  unfold PicksFrom; rw [h3]; exact h.2

theorem Pol.setServer {s : St} (v : Server) (h : Pol c0 n0 ids0 p0 s) : Pol c0 n0 ids0 p0 (s.setServer v) :=
  Pol.of_frame (s := s) (Frame.setServer v h.1) rfl h

theorem Pol.pick {s : St} (e : Pick) (he : PickOk c0.rotate ids0 e) (h : Pol c0 n0 ids0 p0 s) :
    Pol c0 n0 ids0 p0 { s with picks := s.picks ++ [e] } := by
  refine ⟨h.1, ?_⟩
  obtain ⟨l, hl, hok⟩ := h.2
  refine ⟨l ++ [e], ?_, ?_⟩
  · show s.picks ++ [e] = p0 ++ (l ++ [e])
    rw [hl, List.append_assoc]
  · intro x hx
    rcases List.mem_append.1 hx with hx | hx
    · exact hok x hx
    · simp only [List.mem_singleton] at hx; subst hx; exact he

end

theorem map_prio_fst (l : List Server) : (l.map fun v => (v.id, v.failures)).map (·.1) = l.map (·.id) := by
  simp [List.map_map, Function.comp_def]

theorem pairwise_prio (l : List Server) (h : l.Pairwise srvLe) :
    (l.map fun v => (v.id, v.failures)).Pairwise prioLe := by
  rw [List.pairwise_map]
  exact h.imp (fun hab => by unfold srvLe at hab; unfold prioLe; exact hab)

/-- what `sqChoose` returns when no server was requested: a server of the priority list with the minimal failure
    count; the head of the list unless rotation is on -/
theorem sqChoose_spec (s : St) (srv : Server) (s1 : St) (h : sqChoose none s = (some srv, s1)) :
    srv ∈ s.sortedServers ∧ (∀ w ∈ s.sortedServers, srv.failures ≤ w.failures) ∧
    (s.cfg.rotate = false → s.sortedServers.head? = some srv) := by
  unfold sqChoose at h
  dsimp only at h
  split at h
  · rename_i hrot
    split at h
    · simp at h
    · rename_i hn
      simp only [Prod.mk.injEq] at h
      obtain ⟨hsrv, _⟩ := h
      cases hl : s.sortedServers with
      | nil => rw [hl] at hsrv; simp at hsrv
      | cons x r =>
        rw [hl] at hsrv hn
        have hpos : 0 < countBest (x :: r) := countBest_pos _ (by simp)
        have hi : s.draw1.1 % countBest (x :: r) < countBest (x :: r) := Nat.mod_lt _ hpos
        have hf := countBest_prefix_failures x r _ hi srv hsrv
        have hs := sortedServers_sorted s
        rw [hl] at hs
        refine ⟨List.mem_of_getElem? hsrv, ?_, ?_⟩
        · intro w hw; rw [hf]; exact head_min_failures x r hs w hw
        · intro hr; rw [hrot] at hr; exact absurd hr (by simp)
  · rename_i hrot
    simp only [Prod.mk.injEq] at h
    obtain ⟨hsrv, _⟩ := h
    cases hl : s.sortedServers with
    | nil => rw [hl] at hsrv; simp at hsrv
    | cons x r =>
      rw [hl] at hsrv
      simp only [List.head?_cons, Option.some.injEq] at hsrv
      subst hsrv
      have hs := sortedServers_sorted s
      rw [hl] at hs
      exact ⟨List.mem_cons_self, fun w hw => head_min_failures x r hs w hw, fun _ => rfl⟩

/-- the entry `ares_send_query` logs satisfies the policy -/
theorem pick_entry_ok (s : St) (reqSrv : Option Nat) (key : Nat) (srv : Server) (s1 : St)
    (h : sqChoose reqSrv s = (some srv, s1)) :
    PickOk s.cfg.rotate (s.servers.map (·.id))
      (key, srv.id, reqSrv.isSome, s.sortedServers.map fun v => (v.id, v.failures)) := by
  intro hreq
  cases reqSrv with
  | some id => simp at hreq
  | none =>
    obtain ⟨hmem, hmin, hhead⟩ := sqChoose_spec s srv s1 h
    refine ⟨?_, pairwise_prio _ (sortedServers_sorted s), srv.failures, ?_, ?_, ?_⟩
    · show ((s.sortedServers.map fun v => (v.id, v.failures)).map (·.1)).Perm _
      rw [map_prio_fst]; exact (sortedServers_perm s).map _
    · exact List.mem_map.2 ⟨srv, hmem, rfl⟩
    · intro p hp
      obtain ⟨w, hw, rfl⟩ := List.mem_map.1 hp
      exact hmin w hw
    · intro hrot p hp hpf
      obtain ⟨w, hw, rfl⟩ := List.mem_map.1 hp
      have hh := hhead hrot
      cases hl : s.sortedServers with
      | nil => rw [hl] at hmem; simp at hmem
      | cons x r =>
        rw [hl] at hh hw
        simp only [List.head?_cons, Option.some.injEq] at hh
        subst hh
        have hs := sortedServers_sorted s
        rw [hl, List.pairwise_cons] at hs
        show x.id ≤ w.id
        rcases List.mem_cons.1 hw with rfl | hw
        · exact Nat.le_refl _
        · have := hs.1 w hw
          unfold srvLe at this
          have hpf' : w.failures = x.failures := hpf
          omega

variable {c0 : Cfg} {n0 : Nat} {ids0 : List Nat} {p0 : List Pick}

/-- Only `Prim.pick` writes the log, and its entry records a choice `sqChoose` has just made from the ranking of a state
    with the same configuration and servers: `pick_entry_ok`. -/
theorem Pol.prim {c : Call} {s s' : St} (p : Prim c s s') (h : Pol c0 n0 ids0 p0 s) : Pol c0 n0 ids0 p0 s' := by
  have hf := Frame.prim p h.1
  cases p
  case pick sPre reqSrv key srv hch =>
    have hs : (sqChoose reqSrv sPre).2.servers = sPre.servers ∧ (sqChoose reqSrv sPre).2.cfg = sPre.cfg :=
      ⟨pickServer_servers sPre reqSrv, pickServer_cfg sPre reqSrv⟩
    rw [hch] at hs
    have hok := pick_entry_ok sPre reqSrv key srv s hch
    rw [← hs.2, ← hs.1, h.1.1, h.1.2.2] at hok
    exact Pol.pick _ hok h
  case sqCommit =>
    refine Pol.of_frame hf ?_ h
    rw [sqCommit_shape]
  case closeFinal =>
    refine Pol.of_frame hf ?_ h
    rw [closeFinal_shape]
  case openConn =>
    refine Pol.of_frame hf ?_ h
    rw [sqOpen_shape]
  all_goals exact Pol.of_frame hf (by simp only [chan_frame]) h

theorem exec_pol (fuel : Nat) (c : Call) (s : St) (h : Pol c0 n0 ids0 p0 s) : Pol c0 n0 ids0 p0 (exec fuel c s).1 :=
  exec_invariant Pol.prim (fun _ h => h) fuel c s h

end Cares.Chan
