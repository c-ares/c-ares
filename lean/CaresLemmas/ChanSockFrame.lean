import CaresLemmas.ChanShape
/-!
# Framing lemmas for the channel model (C20)

Inbound: `nextTcpFrame` (the model of `read_answers`' "tag, fetch length, consume, roll back when incomplete")
iterated over any split of the peer's byte stream into reads.
Outbound: `advanceOut` (the model of `ares_conn_flush`'s "consume what the socket accepted") iterated over any
acceptance pattern of partial writes.
Then the procedures of the model are tied to these (`bodyReadAnswers_tcp`, `bodyFlush_tcp_accept`, …).
-/
namespace Cares.Chan

/-- a TCP stream as the virtual server builds it: the end offset of each message is the end offset of its
    predecessor (`base` for the first) plus the 2-byte length prefix plus the message length -/
def WfStream : Nat → List (Nat × Reply) → Prop
  | _, [] => True
  | base, (e, r) :: rest => e = base + 2 + r.len ∧ WfStream e rest

theorem WfStream.lt_of_mem : ∀ {base : Nat} {st : List (Nat × Reply)}, WfStream base st →
    ∀ x ∈ st, base < x.1
  | _, [], _, x, hx => by cases hx
  | base, (e, r) :: rest, h, x, hx => by
    cases hx with
    | head => have := h.1; simp only; omega
    | tail _ hx' => have := WfStream.lt_of_mem h.2 x hx'; have := h.1; omega

theorem WfStream.append_one {base : Nat} : ∀ {st : List (Nat × Reply)} {last : Nat} (r : Reply),
    WfStream base st → last = (st.getLast?.map (·.1)).getD base →
    WfStream base (st ++ [(last + 2 + r.len, r)])
  | [], last, r, _, hl => by
    simp only [List.getLast?_nil, Option.map_none, Option.getD_none] at hl
    subst hl; exact ⟨rfl, trivial⟩
  | [(e, r0)], last, r, h, hl => by
    simp only [List.getLast?_singleton, Option.map_some, Option.getD_some] at hl
    subst hl; exact ⟨h.1, rfl, trivial⟩
  | (e, r0) :: y :: rest, last, r, h, hl => by
    refine ⟨h.1, ?_⟩
    have : ((e, r0) :: y :: rest).getLast? = (y :: rest).getLast? := by simp [List.getLast?_cons_cons]
    rw [this] at hl
    have h2 := h.2
    refine WfStream.append_one (base := e) (st := y :: rest) r h2 ?_
    rw [hl]
    cases hgl : (y :: rest).getLast? with
    | none => simp at hgl
    | some z => simp

/-- messages already taken out of in_buf lie at or below the consumed offset `spos - buffered`; the others
    follow it without gap -/
structure Split (stream : List (Nat × Reply)) (consumed : Nat) (done todo : List (Nat × Reply)) : Prop where
  eq : stream = done ++ todo
  done_le : ∀ x ∈ done, x.1 ≤ consumed
  wf : WfStream consumed todo

theorem Split.take {stream done rest : List (Nat × Reply)} {c e : Nat} {r : Reply}
    (h : Split stream c done ((e, r) :: rest)) : Split stream e (done ++ [(e, r)]) rest :=
  ⟨by rw [h.eq]; simp, fun x hx => (List.mem_append.mp hx).elim
      (fun hx => Nat.le_trans (h.done_le x hx) (by have := h.wf.1; omega))
      fun hx => by rw [List.mem_singleton.mp hx]; exact Nat.le_refl _, h.wf.2⟩

theorem find_split {stream done todo : List (Nat × Reply)} {consumed : Nat}
    (h : Split stream consumed done todo) :
    stream.find? (fun (x : Nat × Reply) => x.1 > consumed) = todo.head? := by
  rw [h.eq, List.find?_append]
  have hd : done.find? (fun (x : Nat × Reply) => x.1 > consumed) = none := by
    rw [List.find?_eq_none]
    intro x hx
    have := h.done_le x hx
    simp only [gt_iff_lt, decide_eq_true_eq]; omega
  rw [hd]
  cases todo with
  | nil => rfl
  | cons x rest =>
    have : consumed < x.1 := WfStream.lt_of_mem h.wf x (List.mem_cons_self ..)
    simp [this]

/-- `nextTcpFrame` returns the first message not yet taken, provided its last byte has been read -/
theorem nextTcpFrame_spec {stream done todo : List (Nat × Reply)} {spos buffered : Nat}
    (h : Split stream (spos - buffered) done todo) :
    nextTcpFrame stream spos buffered =
      match todo with
      | [] => none
      | (e, r) :: _ => if e ≤ spos then some r else none := by
  unfold nextTcpFrame
  have := find_split h
  have e1 : (fun (x : Nat × Reply) => match x with | (e, _) => decide (e > spos - buffered)) =
      (fun (x : Nat × Reply) => decide (x.1 > spos - buffered)) := by
    funext x; rfl
  rw [e1, this]
  cases todo with
  | nil => rfl
  | cons x rest => rfl

/-- `read_answers`' loop: take complete frames until the next one is incomplete; returns the messages handed to
    `process_answer` in order and the bytes left in in_buf -/
def drain (stream : List (Nat × Reply)) (spos : Nat) : Nat → Nat → List Reply × Nat
  | 0, b => ([], b)
  | f + 1, b =>
    match nextTcpFrame stream spos b with
    | none => ([], b)
    | some r =>
      let res := drain stream spos f (b - (2 + r.len))
      (r :: res.1, res.2)

/-- the complete messages among `todo` when `spos` bytes have been read, and the offset consumed once they
    have been taken -/
def complete (spos : Nat) : Nat → List (Nat × Reply) → List Reply × Nat
  | c, [] => ([], c)
  | c, (e, r) :: rest => if e ≤ spos then ((complete spos e rest).1 |> (r :: ·), (complete spos e rest).2) else ([], c)

theorem drain_spec {stream : List (Nat × Reply)} {spos : Nat} :
    ∀ (todo done : List (Nat × Reply)) (fuel buffered : Nat),
      Split stream (spos - buffered) done todo → buffered ≤ spos → todo.length < fuel →
      drain stream spos fuel buffered =
        ((complete spos (spos - buffered) todo).1, spos - (complete spos (spos - buffered) todo).2)
  | [], done, fuel, b, h, hb, hf => by
    cases fuel with
    | zero => simp at hf
    | succ f =>
      simp only [drain, nextTcpFrame_spec h, complete]
      congr 1; omega
  | (e, r) :: rest, done, fuel, b, h, hb, hf => by
    cases fuel with
    | zero => simp at hf
    | succ f =>
      simp only [drain, nextTcpFrame_spec h, complete]
      by_cases hle : e ≤ spos
      · simp only [hle, ↓reduceIte]
        have he : e = spos - b + 2 + r.len := h.wf.1
        have hb' : b - (2 + r.len) ≤ spos := by omega
        have hc : spos - (b - (2 + r.len)) = e := by omega
        have h' : Split stream (spos - (b - (2 + r.len))) (done ++ [(e, r)]) rest := hc ▸ h.take
        have ih := drain_spec rest (done ++ [(e, r)]) f (b - (2 + r.len)) h' hb'
          (by simp only [List.length_cons] at hf; omega)
        rw [ih, hc]
      · simp only [hle, ↓reduceIte]
        congr 1; omega

/-- one wake-up per read chunk: the chunk is appended to in_buf, then `read_answers` runs -/
def feed (stream : List (Nat × Reply)) : List Nat → Nat → Nat → List Reply
  | [], _, _ => []
  | n :: ns, spos, b =>
    let res := drain stream (spos + n) (stream.length + 1) (b + n)
    res.1 ++ feed stream ns (spos + n) res.2

theorem complete_mono {spos spos' : Nat} (hss : spos ≤ spos') :
    ∀ (todo : List (Nat × Reply)) (c : Nat), WfStream c todo →
      (complete spos' c todo).1 =
        (complete spos c todo).1 ++
          (complete spos' (complete spos c todo).2 (todo.drop (complete spos c todo).1.length)).1
  | [], c, _ => by simp [complete]
  | (e, r) :: rest, c, h => by
    simp only [complete]
    by_cases hle : e ≤ spos
    · have hle' : e ≤ spos' := by omega
      simp only [hle, hle', ↓reduceIte, List.length_cons, List.drop_succ_cons, List.cons_append]
      rw [complete_mono hss rest e h.2]
    · simp only [hle, ↓reduceIte, List.length_nil, List.drop_zero, List.nil_append, complete]

/-- nothing complete is left in in_buf (the state `read_answers` leaves behind) -/
def Drained (spos : Nat) (todo : List (Nat × Reply)) : Prop := ∀ x ∈ todo.head?, spos < x.1

/-- one `read_answers` run on the split: the consumed offset moves to a later message boundary not beyond the bytes read,
    the messages taken move from `todo` to `done`, and nothing complete is left -/
theorem complete_step {spos : Nat} {stream : List (Nat × Reply)} :
    ∀ (todo done : List (Nat × Reply)) (c : Nat), Split stream c done todo → c ≤ spos →
      c ≤ (complete spos c todo).2 ∧ (complete spos c todo).2 ≤ spos ∧
      Split stream (complete spos c todo).2 (done ++ todo.take (complete spos c todo).1.length)
        (todo.drop (complete spos c todo).1.length) ∧
      Drained spos (todo.drop (complete spos c todo).1.length)
  | [], done, c, h, hc => ⟨Nat.le_refl _, hc, by simpa [complete] using h, fun x hx => by cases hx⟩
  | (e, r) :: rest, done, c, h, hc => by
    simp only [complete]
    by_cases hle : e ≤ spos
    · have he : e = c + 2 + r.len := h.wf.1
      obtain ⟨h1, h2, h3, h4⟩ := complete_step rest (done ++ [(e, r)]) e h.take hle
      simp only [hle, ↓reduceIte, List.length_cons, List.take_succ_cons, List.drop_succ_cons]
      exact ⟨by omega, h2, by simpa [List.append_assoc] using h3, h4⟩
    · simp only [hle, ↓reduceIte, List.length_nil, List.take_zero, List.drop_zero, List.append_nil]
      exact ⟨Nat.le_refl _, hc, h, fun x hx => by cases Option.mem_def.mp hx; simp only; omega⟩

theorem complete_of_drained {spos : Nat} {todo : List (Nat × Reply)} {c : Nat} (h : Drained spos todo) :
    complete spos c todo = ([], c) := by
  cases todo with
  | nil => rfl
  | cons x rest =>
    obtain ⟨e, r⟩ := x
    have : spos < e := h (e, r) (by simp)
    simp only [complete, show ¬ e ≤ spos by omega, ↓reduceIte]

/-- **Read-side segmentation invariance, general form.**  Whatever the read sizes, the messages handed to
    `process_answer` are the complete ones among those not yet taken. -/
theorem feed_spec {stream : List (Nat × Reply)} :
    ∀ (chunks : List Nat) (todo done : List (Nat × Reply)) (spos buffered : Nat),
      Split stream (spos - buffered) done todo → buffered ≤ spos → Drained spos todo →
      todo.length ≤ stream.length →
      feed stream chunks spos buffered = (complete (spos + chunks.sum) (spos - buffered) todo).1
  | [], todo, done, spos, b, h, hb, hd, _ => by
    simp only [feed, List.sum_nil, Nat.add_zero, complete_of_drained hd]
  | n :: ns, todo, done, spos, b, h, hb, hd, hl => by
    simp only [feed, List.sum_cons]
    have hc : spos + n - (b + n) = spos - b := by omega
    rw [drain_spec todo done (stream.length + 1) (b + n) (hc ▸ h) (by omega) (by omega), hc]
    obtain ⟨hge, hle, hsp, hdr⟩ := complete_step (spos := spos + n) todo done (spos - b) h (by omega)
    have hc2 : spos + n - (spos + n - (complete (spos + n) (spos - b) todo).2) =
        (complete (spos + n) (spos - b) todo).2 := by omega
    rw [feed_spec ns _ _ (spos + n) (spos + n - (complete (spos + n) (spos - b) todo).2) (hc2 ▸ hsp) (by omega) hdr
      (by simp only [List.length_drop]; omega), hc2, ← Nat.add_assoc]
    exact (complete_mono (by omega) todo (spos - b) h.wf).symm

theorem complete_eq_filter {spos : Nat} :
    ∀ (todo : List (Nat × Reply)) (c : Nat), WfStream c todo →
      (complete spos c todo).1 = (todo.filter (fun x => x.1 ≤ spos)).map (·.2)
  | [], c, _ => by simp [complete]
  | (e, r) :: rest, c, h => by
    simp only [complete]
    by_cases hle : e ≤ spos
    · simp only [hle, ↓reduceIte, List.filter_cons, decide_true, List.map_cons]
      rw [complete_eq_filter rest e h.2]
    · simp only [hle, ↓reduceIte, List.filter_cons, decide_false]
      have : rest.filter (fun x => decide (x.1 ≤ spos)) = [] := by
        rw [List.filter_eq_nil_iff]
        intro x hx
        have := WfStream.lt_of_mem h.2 x hx
        simp only [decide_eq_true_eq]; omega
      simp [this]

/-- messages of `stream` whose last byte lies within the first `pos` bytes -/
def arrived (stream : List (Nat × Reply)) (pos : Nat) : List Reply :=
  (stream.filter (fun x => x.1 ≤ pos)).map (·.2)

/-- **Read-side segmentation invariance.**  After the peer has written `stream`, reading it in chunks of any
    sizes `chunks` (one `read_answers` run per chunk) hands to `process_answer` exactly the messages whose last
    byte lies within the bytes read, in stream order. -/
theorem feed_arrived {stream : List (Nat × Reply)} (h : WfStream 0 stream) (chunks : List Nat) :
    feed stream chunks 0 0 = arrived stream chunks.sum := by
  have hs : Split stream (0 - 0) [] stream := ⟨rfl, by simp, h⟩
  have hd : Drained 0 stream := by
    intro x hx
    have hm : x ∈ stream := by
      cases stream with
      | nil => simp at hx
      | cons y r => simp only [List.head?_cons, Option.mem_def, Option.some.injEq] at hx; subst hx; simp
    exact WfStream.lt_of_mem h x hm
  rw [feed_spec chunks stream [] 0 0 hs (Nat.le_refl _) hd (Nat.le_refl _)]
  simp only [Nat.zero_add, Nat.sub_self]
  exact complete_eq_filter stream 0 h

/-- two segmentations of the same number of bytes deliver the same messages in the same order -/
theorem feed_segmentation_independent {stream : List (Nat × Reply)} (h : WfStream 0 stream)
    (chunks chunks' : List Nat) (hsum : chunks.sum = chunks'.sum) :
    feed stream chunks 0 0 = feed stream chunks' 0 0 := by
  rw [feed_arrived h, feed_arrived h, hsum]

/-- the bytes left in in_buf after draining are exactly the incomplete tail -/
theorem drain_rest {stream : List (Nat × Reply)} (h : WfStream 0 stream) (spos : Nat) :
    drain stream spos (stream.length + 1) spos =
      (arrived stream spos, spos - (complete spos 0 stream).2) := by
  have hs : Split stream (spos - spos) [] stream := ⟨rfl, by simp, by rw [Nat.sub_self]; exact h⟩
  rw [drain_spec stream [] (stream.length + 1) spos hs (Nat.le_refl _) (by omega)]
  simp only [Nat.sub_self]
  rw [complete_eq_filter stream 0 h]; rfl

/-- abstract effect of the socket accepting `n` bytes on `(out_buf frames, offset into the first frame)`:
    `(frames completed, frames left, new offset)` — the list-level content of `advanceOut` -/
def advQ : List OutFrame → Nat → Nat → List OutFrame × List OutFrame × Nat
  | [], off, _ => ([], [], off)
  | f :: rest, off, n =>
    if n ≥ f.len - off then
      if n - (f.len - off) = 0 then ([f], rest, 0)
      else
        let res := advQ rest 0 (n - (f.len - off))
        (f :: res.1, res.2.1, res.2.2)
    else ([], f :: rest, off + n)

def framesLen (l : List OutFrame) : Nat := (l.map (·.len)).sum

/-- frames are non-empty and the write offset lies inside the first frame -/
def OutOk (out : List OutFrame) (off : Nat) : Prop :=
  (∀ f ∈ out, 0 < f.len) ∧ (∀ f ∈ out.head?, off < f.len) ∧ (out = [] → off = 0)

theorem OutOk.tail {f : OutFrame} {rest : List OutFrame} {off : Nat} (h : OutOk (f :: rest) off) : OutOk rest 0 :=
  ⟨fun g hg => h.1 g (List.mem_cons_of_mem _ hg),
    fun g hg => h.1 g (List.mem_cons_of_mem _ (List.mem_of_mem_head? hg)), fun _ => rfl⟩

theorem advQ_zero (out : List OutFrame) (off : Nat) (h : OutOk out off) : advQ out off 0 = ([], out, off) := by
  cases out with
  | nil => rfl
  | cons f rest =>
    have : off < f.len := h.2.1 f (by simp)
    simp only [advQ, ge_iff_le, Nat.le_zero_eq, show ¬ f.len - off = 0 by omega, ↓reduceIte, Nat.add_zero]

/-- the first frame is either still being written or complete, and then the rest of the bytes go to the rest of the
    queue (the model's special case "exactly the first frame" is `advQ rest 0 0`) -/
theorem advQ_cons (f : OutFrame) (rest : List OutFrame) (off n : Nat) (h : OutOk (f :: rest) off) :
    advQ (f :: rest) off n =
      if n < f.len - off then ([], f :: rest, off + n)
      else (f :: (advQ rest 0 (n - (f.len - off))).1, (advQ rest 0 (n - (f.len - off))).2) := by
  simp only [advQ]
  by_cases hlt : n < f.len - off
  · rw [if_neg (by omega), if_pos hlt]
  · rw [if_pos (by omega), if_neg hlt]
    split
    next hz => rw [hz, advQ_zero rest 0 h.tail]
    · rfl

/-- completed frames followed by the frames left are the queue: every frame is reported at most once, in queue
    order, and none is lost -/
theorem advQ_append : ∀ (out : List OutFrame) (off n : Nat),
    (advQ out off n).1 ++ (advQ out off n).2.1 = out
  | [], off, n => rfl
  | f :: rest, off, n => by
    simp only [advQ]
    split
    · split
      · rfl
      · simp only [List.cons_append, advQ_append rest 0 _]
    · rfl

/-- byte accounting: completed bytes + bytes of the partially written first frame = offset + accepted bytes
    (as long as no more is accepted than is queued) -/
theorem advQ_bytes : ∀ (out : List OutFrame) (off n : Nat), OutOk out off → off + n ≤ framesLen out →
    framesLen (advQ out off n).1 + (advQ out off n).2.2 = off + n ∧
      OutOk (advQ out off n).2.1 (advQ out off n).2.2
  | [], off, n, h, hn => by
    have := h.2.2 rfl
    simp only [framesLen, List.map_nil, List.sum_nil] at hn
    simp only [advQ, framesLen, List.map_nil, List.sum_nil]
    exact ⟨by omega, by simp, by simp, fun _ => by omega⟩
  | f :: rest, off, n, h, hn => by
    have hoff : off < f.len := h.2.1 f (by simp)
    simp only [framesLen, List.map_cons, List.sum_cons] at hn
    rw [advQ_cons f rest off n h]
    split
    · simp only [framesLen, List.map_nil, List.sum_nil]
      exact ⟨by omega, h.1, fun g hg => by cases Option.mem_def.mp hg; omega, fun c => by cases c⟩
    · have ih := advQ_bytes rest 0 (n - (f.len - off)) h.tail (by simp only [framesLen]; omega)
      simp only [framesLen, List.map_cons, List.sum_cons] at ih ⊢
      exact ⟨by omega, ih.2⟩

/-- the frames completed are exactly those whose last byte lies within the accepted bytes: the longest prefix of
    the queue whose total length is `≤ off + n` -/
theorem advQ_done_iff : ∀ (out : List OutFrame) (off n : Nat), OutOk out off → off + n ≤ framesLen out →
    framesLen (advQ out off n).1 ≤ off + n ∧
      ∀ g ∈ (advQ out off n).2.1.head?, off + n < framesLen (advQ out off n).1 + g.len := by
  intro out off n h hn
  have hb := advQ_bytes out off n h hn
  refine ⟨by omega, ?_⟩
  intro g hg
  have := hb.2.2.1 g hg
  omega

/-- **Write-side segmentation invariance (list level).**  Accepting `a` bytes and then `b` bytes completes the
    same frames, in the same order, and leaves the same queue and offset as accepting `a + b` bytes at once. -/
theorem advQ_add : ∀ (out : List OutFrame) (off a b : Nat), OutOk out off → off + a + b ≤ framesLen out →
    advQ out off (a + b) =
      ((advQ out off a).1 ++ (advQ (advQ out off a).2.1 (advQ out off a).2.2 b).1,
       (advQ (advQ out off a).2.1 (advQ out off a).2.2 b).2)
  | [], off, a, b, h, hn => by simp [advQ]
  | f :: rest, off, a, b, h, hn => by
    have hoff : off < f.len := h.2.1 f (by simp)
    simp only [framesLen, List.map_cons, List.sum_cons] at hn
    rw [advQ_cons f rest off (a + b) h, advQ_cons f rest off a h]
    by_cases ha : a < f.len - off
    · -- both sides look at the first frame with `off + a` already written
      have h' : OutOk (f :: rest) (off + a) :=
        ⟨h.1, fun g hg => by cases Option.mem_def.mp hg; omega, fun c => by cases c⟩
      rw [if_pos ha]
      simp only [List.nil_append]
      rw [advQ_cons f rest (off + a) b h']
      by_cases hb : b < f.len - (off + a)
      · rw [if_pos hb, if_pos (by omega), Nat.add_assoc]
      · rw [if_neg hb, if_neg (by omega), show a + b - (f.len - off) = b - (f.len - (off + a)) by omega]
    · -- the first frame completes within the first `a` bytes
      rw [if_neg ha, if_neg (by omega), show a + b - (f.len - off) = a - (f.len - off) + b by omega,
        advQ_add rest 0 (a - (f.len - off)) b h.tail (by simp only [framesLen]; omega)]
      rfl

/-- a whole acceptance pattern -/
def advSeq : List OutFrame → Nat → List Nat → List OutFrame × List OutFrame × Nat
  | out, off, [] => ([], out, off)
  | out, off, n :: ns =>
    let r1 := advQ out off n
    let r2 := advSeq r1.2.1 r1.2.2 ns
    (r1.1 ++ r2.1, r2.2)

/-- **Write-side segmentation invariance.**  Whatever the acceptance pattern `ns`, the frames completed (= reported
    to the server as whole messages), their order, and the queue left behind depend only on the total number of
    bytes accepted. -/
theorem advSeq_eq_advQ : ∀ (ns : List Nat) (out : List OutFrame) (off : Nat), OutOk out off →
    off + ns.sum ≤ framesLen out → advSeq out off ns = advQ out off ns.sum
  | [], out, off, h, _ => by simp only [advSeq, List.sum_nil, advQ_zero out off h]
  | n :: ns, out, off, h, hn => by
    simp only [List.sum_cons] at hn
    have hb := advQ_bytes out off n h (by omega)
    have happ := advQ_append out off n
    have hlen : framesLen out = framesLen (advQ out off n).1 + framesLen (advQ out off n).2.1 := by
      conv => lhs; rw [← happ]
      simp only [framesLen, List.map_append, List.sum_append]
    have ih := advSeq_eq_advQ ns (advQ out off n).2.1 (advQ out off n).2.2 hb.2 (by omega)
    simp only [advSeq, List.sum_cons, ih]
    rw [advQ_add out off n ns.sum h (by omega)]

/-- once everything queued has been accepted every frame has been reported and the queue is empty -/
theorem advQ_all (out : List OutFrame) (off : Nat) (h : OutOk out off) :
    advQ out off (framesLen out - off) = (out, [], 0) := by
  have hle : off ≤ framesLen out := by
    cases out with
    | nil => have := h.2.2 rfl; omega
    | cons f rest =>
      have : off < f.len := h.2.1 f (by simp)
      simp only [framesLen, List.map_cons, List.sum_cons]; omega
  have hb := advQ_bytes out off (framesLen out - off) h (by omega)
  have happ := advQ_append out off (framesLen out - off)
  have hlen : framesLen out = framesLen (advQ out off (framesLen out - off)).1 +
      framesLen (advQ out off (framesLen out - off)).2.1 := by
    conv => lhs; rw [← happ]
    simp only [framesLen, List.map_append, List.sum_append]
  -- the frames left have total length ≤ their offset, hence there are none
  have hnil : (advQ out off (framesLen out - off)).2.1 = [] := by
    cases hq : (advQ out off (framesLen out - off)).2.1 with
    | nil => rfl
    | cons g r =>
      exfalso
      rw [hq] at hlen hb
      have := hb.2.2.1 g (by simp)
      have hgr : framesLen (g :: r) = g.len + framesLen r := rfl
      rw [hgr] at hlen
      omega
  have hz : (advQ out off (framesLen out - off)).2.2 = 0 := hb.2.2.2 hnil
  rw [hnil, List.append_nil] at happ
  exact Prod.ext happ (Prod.ext hnil hz)

theorem conn?_recordTx (s : St) (fd' fd : Nat) (tcp : Bool) (f : OutFrame) :
    (s.recordTx fd' tcp f).conn? fd = s.conn? fd := rfl

/-- what the virtual server records of a transmission: `(fd, tcp, query key, id, length without prefix)` -/
def Tx.view (t : Tx) : Nat × Bool × Nat × Nat × Nat := (t.fd, t.tcp, t.key, t.id, t.len)
def OutFrame.view (fd : Nat) (f : OutFrame) : Nat × Bool × Nat × Nat × Nat := (fd, true, f.key, f.qid, f.len - 2)

theorem txs_recordTx (s : St) (fd : Nat) (tcp : Bool) (f : OutFrame) :
    (s.recordTx fd tcp f).txs.map Tx.view = s.txs.map Tx.view ++ [(fd, tcp, f.key, f.qid, f.len - 2)] := by
  simp [St.recordTx, St.slog, St.modQuery, St.emit, Tx.view]

/-- **`advanceOut` is `advQ`**: on the connection's out queue and offset, and on the transmissions the virtual
    server records (one per completed frame, in queue order) -/
theorem advanceOut_spec : ∀ (fuel fd : Nat) (s : St) (n : Nat) (c : Conn),
    s.conn? fd = some c → c.out.length < fuel →
    (advanceOut fuel fd s n).conn? fd =
        some { c with out := (advQ c.out c.outOff n).2.1, outOff := (advQ c.out c.outOff n).2.2 } ∧
      (advanceOut fuel fd s n).txs.map Tx.view =
        s.txs.map Tx.view ++ (advQ c.out c.outOff n).1.map (OutFrame.view fd)
  | 0, _, _, _, _, _, hf => by simp at hf
  | fuel + 1, fd, s, n, c, hc, hf => by
    unfold advanceOut
    simp only [hc]
    cases hout : c.out with
    | nil =>
      simp only [advQ, List.map_nil, List.append_nil, hc, and_true]
      congr 1
      cases c; simp_all
    | cons f rest =>
      simp only [advQ]
      by_cases hge : n ≥ f.len - c.outOff
      · simp only [hge, ↓reduceIte]
        have hc1 : ((s.modConn fd fun c => { c with out := rest, outOff := 0 }).recordTx fd true f).conn? fd =
            some { c with out := rest, outOff := 0 } := by
          rw [conn?_recordTx]; exact (conn?_modConn_self _ _ _ (by intro; rfl)).trans (congrArg (Option.map _) hc)
        by_cases hz : n - (f.len - c.outOff) = 0
        · simp only [hz, beq_self_eq_true, ↓reduceIte, hc1, List.map_cons, List.map_nil, true_and]
          rw [txs_recordTx]; rfl
        · have hz' : (n - (f.len - c.outOff) == 0) = false := by simpa using hz
          simp only [hz', Bool.false_eq_true, hz, ↓reduceIte]
          have hlen : rest.length < fuel := by rw [hout] at hf; simp only [List.length_cons] at hf; omega
          have ih := advanceOut_spec fuel fd _ (n - (f.len - c.outOff)) _ hc1 hlen
          simp only at ih
          refine ⟨ih.1, ?_⟩
          rw [ih.2, txs_recordTx]
          simp [OutFrame.view, St.modConn]
      · simp only [hge, ↓reduceIte, List.map_nil, List.append_nil]
        refine ⟨?_, rfl⟩
        rw [conn?_modConn_self _ _ _ (by intro; rfl), hc, Option.map_some, hout]

/-- a whole acceptance pattern applied to connection `fd` (fuel as in `ares_conn_flush`'s model: queue length + 1) -/
def advanceSeq (fd : Nat) : St → List Nat → St
  | s, [] => s
  | s, n :: ns => advanceSeq fd (advanceOut (((s.conn? fd).map (·.out.length)).getD 0 + 1) fd s n) ns

theorem advanceSeq_spec (fd : Nat) : ∀ (ns : List Nat) (s : St) (c : Conn), s.conn? fd = some c →
    (advanceSeq fd s ns).conn? fd =
        some { c with out := (advSeq c.out c.outOff ns).2.1, outOff := (advSeq c.out c.outOff ns).2.2 } ∧
      (advanceSeq fd s ns).txs.map Tx.view =
        s.txs.map Tx.view ++ (advSeq c.out c.outOff ns).1.map (OutFrame.view fd)
  | [], s, c, hc => by simp [advanceSeq, advSeq, hc]
  | n :: ns, s, c, hc => by
    have h1 := advanceOut_spec (c.out.length + 1) fd s n c hc (by omega)
    have ih := advanceSeq_spec fd ns _ _ h1.1
    simp only [advanceSeq, hc, Option.map_some, Option.getD_some, advSeq]
    simp only at ih
    refine ⟨ih.1, ?_⟩
    rw [ih.2, h1.2]
    simp

/-- **Write-side segmentation invariance (model level).**  Whatever pattern `ns` of partial acceptances the socket
    shows (as long as it does not accept more than is queued), the whole messages the virtual server has received
    afterwards are exactly the queued frames whose last byte lies within the `ns.sum` accepted bytes — in queue order,
    each once — and the connection's queue is what accepting `ns.sum` bytes at once leaves. -/
theorem advanceSeq_invariant (fd : Nat) (ns : List Nat) (s : St) (c : Conn) (hc : s.conn? fd = some c)
    (hok : OutOk c.out c.outOff) (hle : c.outOff + ns.sum ≤ framesLen c.out) :
    (advanceSeq fd s ns).conn? fd =
        some { c with out := (advQ c.out c.outOff ns.sum).2.1, outOff := (advQ c.out c.outOff ns.sum).2.2 } ∧
      (advanceSeq fd s ns).txs.map Tx.view =
        s.txs.map Tx.view ++ (advQ c.out c.outOff ns.sum).1.map (OutFrame.view fd) := by
  have h := advanceSeq_spec fd ns s c hc
  rw [advSeq_eq_advQ ns c.out c.outOff hok hle] at h
  exact h

/-- `read_answers` on a TCP connection: the next message handed to `process_answer` is `nextTcpFrame` of the peer's
    stream, the bytes read and the bytes still buffered; it is taken out of in_buf (`2 + len` bytes) before the call,
    and the loop continues — i.e. `read_answers` computes `drain` -/
theorem bodyReadAnswers_tcp (go : Call → St → St × Ret) (fd : Nat) (s : St) (c : Conn) (v : VSock)
    (hc : s.conn? fd = some c) (hv : s.sock? fd = some v) (ht : c.tcp = true) :
    bodyReadAnswers go fd s =
      match nextTcpFrame v.stream v.spos c.inBytes with
      | none => go .flushRequeue s
      | some r =>
        let s := s.modConn fd fun c =>
          { c with inMsgs := c.inMsgs.drop 1, inBytes := c.inBytes - (2 + r.len) }
        let (s, st) := go (.processAnswer fd r) s
        match s.conn? fd with
        | none => go .flushRequeue s
        | some c' =>
          if c'.unlinked then go .flushRequeue s else
          if st != .ok then
            let (s, _) := go (.connError fd true st) s
            go .flushRequeue s
          else go (.readAnswers fd) s := by
  unfold bodyReadAnswers
  simp only [hc, hv, ht, Bool.not_true, Bool.false_eq_true, ↓reduceIte]
  rfl

/-- `read_answers` on a UDP connection: datagrams are handed over whole, in arrival order -/
theorem bodyReadAnswers_udp (go : Call → St → St × Ret) (fd : Nat) (s : St) (c : Conn) (v : VSock)
    (hc : s.conn? fd = some c) (hv : s.sock? fd = some v) (ht : c.tcp = false) :
    bodyReadAnswers go fd s =
      match c.inMsgs.head?.map (·.2) with
      | none => go .flushRequeue s
      | some r =>
        let s := s.modConn fd fun c =>
          { c with inMsgs := c.inMsgs.drop 1, inBytes := c.inBytes - (2 + r.len) }
        let (s, st) := go (.processAnswer fd r) s
        match s.conn? fd with
        | none => go .flushRequeue s
        | some c' =>
          if c'.unlinked then go .flushRequeue s else
          if st != .ok then
            let (s, _) := go (.connError fd true st) s
            go .flushRequeue s
          else go (.readAnswers fd) s := by
  unfold bodyReadAnswers
  simp only [hc, hv, ht, Bool.not_false, ↓reduceIte]
  rfl

/-- `read_conn_packets` on a TCP connection with data available: one `recv` of `n` bytes (`n` = the scripted chunk size,
    capped by what is available) moves the read position and in_buf by `n`, then `read_answers` runs -/
theorem bodyProcessRead_tcp_chunk (go : Call → St → St × Ret) (fd : Nat) (s : St) (c : Conn) (v : VSock)
    (hc : s.conn? fd = some c) (hv : s.sock? fd = some v) (hul : c.unlinked = false) (ht : c.tcp = true)
    (hf : (s.fault "recvfrom").1 = none) (hav : v.slen - v.spos ≠ 0)
    (n : Nat) (chunks : List Nat)
    (hn : (n, chunks) = match v.chunks with
      | [] => (v.slen - v.spos, [])
      | k :: r => (min k (v.slen - v.spos), r))
    (hnz : ∀ k r, v.chunks = k :: r → k ≠ 0) :
    bodyProcessRead go fd s = go (.readAnswers fd)
      ((((s.fault "recvfrom").2.slog fd "recv").modSock fd fun v => { v with chunks := chunks, spos := v.spos + n }).modConn fd
        fun c => { c with inBytes := c.inBytes + n, connected := true }) := by
  unfold bodyProcessRead
  simp only [hc, hv, hul, ht, Bool.false_eq_true, ↓reduceIte, Bool.not_true]
  split <;> pair_subst
  · rename_i e hfe; rw [hf] at hfe; cases hfe
  · have hav' : (v.slen - v.spos == 0) = false := by simpa using hav
    simp only [hav', Bool.false_eq_true, ↓reduceIte]
    cases hch : v.chunks with
    | nil =>
      rw [hch] at hn
      simp only [Prod.mk.injEq] at hn
      obtain ⟨rfl, rfl⟩ := hn
      rfl
    | cons k r =>
      have hk : (k == 0) = false := by simpa using hnz k r hch
      rw [hch] at hn
      simp only [Prod.mk.injEq] at hn
      obtain ⟨h1, h2⟩ := hn
      simp only [hk, Bool.false_eq_true, ↓reduceIte, h1, h2]

theorem conn?_notify (s : St) (fd : Nat) (r w : Bool) :
    (s.notify fd r w).conn? fd = (s.conn? fd).map fun c => { c with notR := r, notW := w } := by
  unfold St.notify
  cases hc : s.conn? fd with
  | none => simp [hc]
  | some c =>
    simp only [Option.map_some]
    split <;> exact (conn?_modConn_self _ _ _ (by intro; rfl)).trans (congrArg (Option.map _) (by simpa [St.conn?, St.emit] using hc))

theorem txs_notify (s : St) (fd : Nat) (r w : Bool) : (s.notify fd r w).txs = s.txs := St.notify_txs s fd r w

/-- **`ares_conn_flush` on a connected TCP connection whose socket accepts `n` bytes** reports to the server exactly
    the frames `advQ` completes and leaves `advQ`'s queue: partial writes never duplicate, drop or reorder frames -/
theorem bodyFlush_tcp_accept (go : Call → St → St × Ret) (fd : Nat) (s : St) (c : Conn) (n : Nat)
    (hc : s.conn? fd = some c) (hout : c.out ≠ []) (ht : c.tcp = true) (hcon : c.connected = true)
    (hf : (s.fault "sendto").1 = none)
    (hacc : (tcpAccept (((s.fault "sendto").2.sock? fd).getD default) (outBytes c)).1 = some n) :
    (bodyFlush go fd s).1.txs.map Tx.view = s.txs.map Tx.view ++ (advQ c.out c.outOff n).1.map (OutFrame.view fd) ∧
      ((bodyFlush go fd s).1.conn? fd).map (fun c => (c.out, c.outOff)) = some (advQ c.out c.outOff n).2 := by
  unfold bodyFlush
  simp only [hc]
  cases ho : c.out with
  | nil => exact absurd ho hout
  | cons f rest =>
    simp only [ht, hcon, Bool.not_true, Bool.false_eq_true, ↓reduceIte]
    split <;> pair_subst
    · rename_i e hfe; rw [hf] at hfe; cases hfe
    · split
      · rename_i hnone; rw [hacc] at hnone; cases hnone
      · rename_i n' hsome
        rw [hacc] at hsome; cases hsome
        -- the state handed to `advanceOut`
        generalize hs2 : (if (n != outBytes c) = true then _ else _ : St) = s2
        have hc2 : s2.conn? fd = some c := by
          subst hs2; split <;> simpa [St.conn?, St.emit, St.slog, St.setSock, St.fault] using hc
        have ht2 : s2.txs = s.txs := by
          subst hs2; split <;> simp only [chan_frame]
        have hsp := advanceOut_spec (c.out.length + 1) fd s2 n c hc2 (by omega)
        rw [ho] at hsp
        simp only [List.length_cons] at hsp ⊢
        constructor
        · simp only [chan_frame]
          split <;> simp only [chan_frame, hsp.2, ht2]
        · simp only [conn?_notify]
          split <;> simp only [conn?_notify, hsp.1, Option.map_some, Option.map_map] <;> rfl

/-- `read_answers`' deferred re-sends: every queued id that still belongs to a query is re-sent through
    `ares_send_query` (to the recorded server, if any) -/
theorem bodyFlushRequeue_resends (go : Call → St → St × Ret) (s : St) (qid : Nat) (srv : Option Nat)
    (rest : List (Nat × Option Nat)) (id key : Nat) (hr : s.requeueArr = (qid, srv) :: rest)
    (hf : s.byQid.find? (·.1 == qid) = some (id, key)) :
    bodyFlushRequeue go s =
      go .flushRequeue (go (.sendQuery srv key) { s with requeueArr := rest }).1 := by
  unfold bodyFlushRequeue
  simp only [hr]
  have : ({ s with requeueArr := rest } : St).byQid = s.byQid := rfl
  simp only [this, hf]

/-- a query switched to TCP is sent on the server's TCP connection (opened as TCP when there is none) -/
theorem fetchConn_tcp (s : St) (q : Query) (srv : Server) (h : q.usingTcp = true) :
    fetchConn s q srv = srv.tcpConn := by
  unfold fetchConn; simp only [h, ↓reduceIte]

end Cares.Chan
