import CaresLemmas.ChanWfConn
/-!
# C01 — a query is put on a connection (`ares_send_query`, after the write succeeded)
-/
namespace Cares.Chan

/-- the query leaves the by-timeout index and whatever connection list it was still in -/
def Sk.attach1 (a : Sk) (key : Nat) (oldc : Option Nat) : Sk :=
  match oldc with
  | some old => ({ a with byTimeout := a.byTimeout.erase key } : Sk).modC old fun c =>
      { c with queries := c.queries.erase key }
  | none => { a with byTimeout := a.byTimeout.erase key }

def Sk.attach2 (a : Sk) (key fd : Nat) (oldc : Option Nat) : Sk :=
  { (a.attach1 key oldc).modQ key fun e => { e with conn := some fd } with
    pendingOrder := a.pendingOrder.erase key ++ [key] }

/-- the skeleton of the state update at the end of `ares_send_query`; `oldc` is the connection the query
    still named (it may have been sent before and not yet been taken off) -/
def Sk.attach (a : Sk) (key fd : Nat) (oldc : Option Nat) : Sk :=
  (a.attach2 key fd oldc).modC fd fun c => { c with queries := c.queries.erase key ++ [key] }

abbrev cfqPut (l : List (Nat × List Nat)) (fd key : Nat) := mapAt l (some fd) fun q => q.erase key ++ [key]
abbrev cfuqPut (l : List (Nat × Bool × List Nat)) (fd key : Nat) :=
  mapAt l (some fd) fun p => (p.1, p.2.erase key ++ [key])

section
variable {a : Sk} {key fd : Nat} {oldc : Option Nat}

theorem attach1_qs : (a.attach1 key oldc).qs = a.qs := by cases oldc <;> rfl
theorem attach1_cFQ : (a.attach1 key oldc).cFQ = cfqErase a.cFQ oldc key := by
  cases oldc with
  | none => rfl
  | some old => exact cFQ_modC_queries _ old (·.erase key)
theorem attach1_cFUQ : (a.attach1 key oldc).cFUQ = cfuqErase a.cFUQ oldc key := by
  cases oldc with
  | none => rfl
  | some old => exact cFUQ_modC_queries _ old (·.erase key)
theorem attach1_conns_proj {β} (π : CSk → β) (hπ : ∀ (c : CSk) q, π { c with queries := q } = π c) :
    (a.attach1 key oldc).conns.map π = a.conns.map π := by
  cases oldc with
  | none => rfl
  | some old => exact proj_modC _ _ _ π (fun c => hπ c _)

theorem attach1_other :
    (a.attach1 key oldc).byQid = a.byQid ∧ (a.attach1 key oldc).all = a.all ∧
    (a.attach1 key oldc).listCopy = a.listCopy ∧ (a.attach1 key oldc).servers = a.servers ∧
    (a.attach1 key oldc).clients = a.clients ∧ (a.attach1 key oldc).socks = a.socks ∧
    (a.attach1 key oldc).nextKey = a.nextKey ∧ (a.attach1 key oldc).nextFd = a.nextFd ∧
    (a.attach1 key oldc).nextClient = a.nextClient ∧ (a.attach1 key oldc).reactSeq = a.reactSeq ∧
    (a.attach1 key oldc).pendingToks = a.pendingToks ∧ (a.attach1 key oldc).doneToks = a.doneToks ∧
    (a.attach1 key oldc).faults = a.faults ∧ (a.attach1 key oldc).byTimeout = a.byTimeout.erase key := by
  cases oldc <;> exact ⟨rfl, rfl, rfl, rfl, rfl, rfl, rfl, rfl, rfl, rfl, rfl, rfl, rfl, rfl⟩

theorem attach_qs_proj {β} (π : QSk → β) (hπ : ∀ (e : QSk) v, π { e with conn := v } = π e) :
    (a.attach key fd oldc).qs.map π = a.qs.map π := by
  show (Sk.modQ (a.attach1 key oldc) key _).qs.map π = _
  rw [proj_modQ _ _ _ π (fun e => hπ e _), attach1_qs]

theorem attach_conns_proj {β} (π : CSk → β) (hπ : ∀ (c : CSk) q, π { c with queries := q } = π c) :
    (a.attach key fd oldc).conns.map π = a.conns.map π := by
  unfold Sk.attach
  rw [proj_modC _ _ _ π (fun c => hπ c _)]
  exact attach1_conns_proj π hπ

theorem attach_qK : (a.attach key fd oldc).qK = a.qK := attach_qs_proj _ (fun _ _ => rfl)
theorem attach_qKQ : (a.attach key fd oldc).qKQ = a.qKQ := attach_qs_proj _ (fun _ _ => rfl)
theorem attach_qKO : (a.attach key fd oldc).qKO = a.qKO := attach_qs_proj _ (fun _ _ => rfl)
theorem attach_cF4 : (a.attach key fd oldc).cF4 = a.cF4 := attach_conns_proj _ (fun _ _ => rfl)

theorem attach_other :
    (a.attach key fd oldc).byQid = a.byQid ∧ (a.attach key fd oldc).all = a.all ∧
    (a.attach key fd oldc).listCopy = a.listCopy ∧ (a.attach key fd oldc).servers = a.servers ∧
    (a.attach key fd oldc).clients = a.clients ∧ (a.attach key fd oldc).socks = a.socks ∧
    (a.attach key fd oldc).nextKey = a.nextKey ∧ (a.attach key fd oldc).nextFd = a.nextFd ∧
    (a.attach key fd oldc).nextClient = a.nextClient ∧ (a.attach key fd oldc).reactSeq = a.reactSeq ∧
    (a.attach key fd oldc).pendingToks = a.pendingToks ∧ (a.attach key fd oldc).doneToks = a.doneToks ∧
    (a.attach key fd oldc).faults = a.faults ∧ (a.attach key fd oldc).byTimeout = a.byTimeout.erase key ∧
    (a.attach key fd oldc).pendingOrder = a.pendingOrder.erase key ++ [key] := by
  obtain ⟨h1, h2, h3, h4, h5, h6, h7, h8, h9, h10, h11, h12, h13, h14⟩ := attach1_other (a := a) (key := key) (oldc := oldc)
  exact ⟨h1, h2, h3, h4, h5, h6, h7, h8, h9, h10, h11, h12, h13, h14, rfl⟩

theorem attach_idx : (a.attach key fd oldc).idx = a.idx := by unfold Sk.idx; rw [attach_other.1]

theorem attach_qKC :
    (a.attach key fd oldc).qKC = a.qKC.map fun p => if p.1 == key then (p.1, some fd) else p := by
  show (Sk.modQ (a.attach1 key oldc) key fun e => { e with conn := some fd }).qKC = _
  rw [qKC_modQ_conn]
  unfold Sk.qKC; rw [attach1_qs]

theorem attach_cFQ : (a.attach key fd oldc).cFQ = cfqPut (cfqErase a.cFQ oldc key) fd key := by
  unfold Sk.attach
  rw [cFQ_modC_queries _ fd (fun l => l.erase key ++ [key])]
  show cfqPut (a.attach1 key oldc).cFQ fd key = _
  rw [attach1_cFQ]

theorem attach_cFUQ : (a.attach key fd oldc).cFUQ = cfuqPut (cfuqErase a.cFUQ oldc key) fd key := by
  unfold Sk.attach
  rw [cFUQ_modC_queries _ fd (fun l => l.erase key ++ [key])]
  show cfuqPut (a.attach1 key oldc).cFUQ fd key = _
  rw [attach1_cFUQ]

end

/-- the query `k`, which no connection lists, is put at the end of the list of connection `fd` and made to name it -/
theorem WfCP.put {qKC : List (Nat × Option Nat)} {idx : List Nat} {cFQ : List (Nat × List Nat)} {nextFd socks}
    {k fd : Nat} (hc : WfCP qKC idx cFQ nextFd socks (some k)) (hk : k ∈ idx) (hnl : ∀ c ∈ cFQ, k ∉ c.2)
    (hfd : ∃ l, (fd, l) ∈ cFQ) (hkq : ∃ w, (k, w) ∈ qKC) :
    WfCP (qKC.map fun p => if p.1 == k then (p.1, some fd) else p) idx (cfqPut cFQ fd k) nextFd socks none := by
  have key' : ∀ c' ∈ cfqPut cFQ fd k, ∃ c ∈ cFQ, c'.1 = c.1 ∧ (c'.2 = c.2 ∨ (c'.1 = fd ∧ c'.2 = c.2 ++ [k])) := by
    intro c' hc'
    rcases mem_mapAt.mp hc' with ⟨h1, _⟩ | ⟨h1, q, hq', h2⟩
    · exact ⟨c', h1, rfl, Or.inl rfl⟩
    · exact ⟨(c'.1, q), hq', rfl, Or.inr ⟨Option.some.inj h1, by rw [h2, List.erase_of_not_mem (hnl _ hq')]⟩⟩
  refine ⟨by rw [mapAt_fst]; exact hc.nodup, fun c' hc' => ?_, fun c' hc' => ?_, fun c' hc' => ?_,
    fun c' hc' x hx => ?_, fun p hp fd' hfd' => ?_⟩
  · obtain ⟨c, hcm, h1, _⟩ := key' c' hc'; rw [h1]; exact hc.lt c hcm
  · obtain ⟨c, hcm, h1, _⟩ := key' c' hc'; rw [h1]; exact hc.sock c hcm
  · obtain ⟨c, hcm, _, h2 | ⟨_, h2⟩⟩ := key' c' hc'
    · rw [h2]; exact hc.qNodup c hcm
    · rw [h2, List.nodup_append]
      exact ⟨hc.qNodup c hcm, by simp, fun x hx y hy => by rw [List.mem_singleton.mp hy]; exact fun e => hnl c hcm (e ▸ hx)⟩
  · obtain ⟨c, hcm, h1, h2⟩ := key' c' hc'
    have old : x ∈ c.2 → x ∈ idx ∧ (x, some c'.1) ∈ qKC.map fun p => if p.1 == k then (p.1, some fd) else p := by
      intro hxc
      obtain ⟨hi, hm⟩ := hc.cq c hcm x hxc
      exact ⟨hi, mem_map_ifkey.mpr (Or.inl ⟨by rw [h1]; exact hm, fun e => hnl c hcm (e ▸ hxc)⟩)⟩
    rcases h2 with h2 | ⟨h2f, h2⟩
    · rw [h2] at hx; exact old hx
    · rw [h2] at hx
      rcases List.mem_append.mp hx with hx | hx
      · exact old hx
      · rw [List.mem_singleton.mp hx]
        obtain ⟨w, hw⟩ := hkq
        exact ⟨hk, mem_map_ifkey.mpr (Or.inr ⟨by rw [h2f], rfl, w, hw⟩)⟩
  · rcases mem_map_ifkey.mp hp with ⟨h1, h2⟩ | ⟨h1, h2, _⟩
    · obtain ⟨c, hcm, hcfd, hor⟩ := hc.qc p h1 fd' hfd'
      have hin : p.1 ∈ c.2 := hor.resolve_right fun hh => h2 (Option.some.inj hh).symm
      by_cases hcf : c.1 = fd
      · exact ⟨(fd, c.2.erase k ++ [k]), mem_mapAt.mpr (Or.inr ⟨rfl, c.2, by rw [← hcf]; exact hcm, rfl⟩),
          by rw [← hcfd, hcf], Or.inl (List.mem_append.mpr (Or.inl ((List.mem_erase_of_ne h2).mpr hin)))⟩
      · exact ⟨c, mem_mapAt.mpr (Or.inl ⟨hcm, fun h => hcf (Option.some.inj h)⟩), hcfd, Or.inl hin⟩
    · obtain ⟨l, hl⟩ := hfd
      rw [h1] at hfd'
      refine ⟨(fd, l.erase k ++ [k]), mem_mapAt.mpr (Or.inr ⟨rfl, l, hl, rfl⟩), Option.some.inj hfd', Or.inl ?_⟩
      rw [h2]; exact List.mem_append.mpr (Or.inr (List.mem_singleton.mpr rfl))

/-- a linked query that has a connection and is in neither list enters the list of those waiting -/
theorem WfTP.push {qKC : List (Nat × Option Nat)} {idx bt po : List Nat} {k : Nat} (ht : WfTP qKC idx bt po)
    (hk : k ∈ idx) (hc : ∃ fd, (k, some fd) ∈ qKC) (hb : k ∉ bt) (hp : k ∉ po) : WfTP qKC idx bt (po ++ [k]) := by
  refine ⟨ht.btNodup, ht.btOk, ?_, fun x hx => ?_⟩
  · rw [List.nodup_append]
    exact ⟨ht.poNodup, by simp, fun x hx y hy => by rw [List.mem_singleton.mp hy]; exact fun e => hp (e ▸ hx)⟩
  · rcases List.mem_append.mp hx with hx | hx
    · exact ht.poOk x hx
    · rw [List.mem_singleton.mp hx]; exact ⟨hk, hc, hb⟩

section
variable {a : Sk} {key fd : Nat} {e : QSk}

theorem wf_attach (h : WfS a none) (hq : a.q? key = some e) (hk : key ∈ a.idx) (hfd : ∃ l, (fd, l) ∈ a.cFQ) :
    WfS (a.attach key fd e.conn) none := by
  have hnl := rfc_not_listed h hq
  rw [rfc_cFQ hq] at hnl
  have hkc := (Sk.q?_mem_proj hq).1
  obtain ⟨hbyQ, hall, hlc, hsrv, hcl, hsock, hnk, hnfd, hncl, hrs, hpt, hdt, hflt, hbt, hpo⟩ :=
    attach_other (a := a) (key := key) (fd := fd) (oldc := e.conn)
  refine ⟨by rw [attach_qK, hnk]; exact h.q, by rw [attach_qKQ, hbyQ, hall, hlc]; exact h.i, ?_, ?_,
    by rw [attach_cF4, hsrv]; exact h.s, by rw [hcl, hncl]; exact h.k,
    by rw [attach_qKO, attach_idx, hcl, hpt, hdt, hrs]; exact h.tok⟩
  · rw [attach_idx, hbt, hpo, attach_qKC]
    refine (h.t.erase key (fun p hp hne => mem_map_ifkey.mpr (Or.inl ⟨hp, hne⟩)) fun _ hx _ => hx).push hk
      ⟨fd, mem_map_ifkey.mpr (Or.inr ⟨rfl, rfl, _, hkc⟩)⟩
      (fun hm => ((List.Nodup.mem_erase_iff h.t.btNodup).mp hm).1 rfl)
      (fun hm => ((List.Nodup.mem_erase_iff h.t.poNodup).mp hm).1 rfl)
  · rw [attach_idx, attach_cFQ, hnfd, hsock, attach_qKC]
    obtain ⟨l0, hl0⟩ := hfd
    refine (h.c.eraseAt e.conn key (Or.inl rfl)).put hk hnl ?_ ⟨_, hkc⟩
    by_cases hcf : some fd = e.conn
    · exact ⟨l0.erase key, mem_mapAt.mpr (Or.inr ⟨hcf, l0, hl0, rfl⟩)⟩
    · exact ⟨l0, mem_mapAt.mpr (Or.inl ⟨hl0, hcf⟩)⟩

theorem step_attach {xf xi d} (hl : ∀ q, (fd, true, q) ∉ a.cFUQ) :
    StepS xf xi d a (a.attach key fd e.conn) := by
  obtain ⟨hbyQ, hall, hlc, hsrv, hcl, hsock, hnk, hnfd, hncl, hrs, hpt, hdt, hflt, hbt, hpo⟩ :=
    attach_other (a := a) (key := key) (fd := fd) (oldc := e.conn)
  refine StepS.of_same hflt hncl hnk attach_qKO attach_idx hcl hpt ?_ hdt hlc hall
  intro fd' q hm _
  rw [attach_cFUQ]
  have hne : fd' ≠ fd := fun he => hl q (he ▸ hm)
  have : ∃ q1, (fd', true, q1) ∈ cfuqErase a.cFUQ e.conn key ∧ ∀ x ∈ q1, x ∈ q := by
    by_cases hcf : some fd' = e.conn
    · exact ⟨q.erase key, mem_mapAt.mpr (Or.inr ⟨hcf, (true, q), hm, rfl⟩), fun x hx => List.mem_of_mem_erase hx⟩
    · exact ⟨q, mem_mapAt.mpr (Or.inl ⟨hm, hcf⟩), fun _ hx => hx⟩
  obtain ⟨q1, hq1, hsub⟩ := this
  refine ⟨q1, ?_, hsub⟩
  exact mem_mapAt.mpr (Or.inl ⟨hq1, fun h => hne (Option.some.inj h)⟩)

theorem debt_attach {x d} (hd : DebtOk x d a) : DebtOk x d (a.attach key fd e.conn) := by
  obtain ⟨hbyQ, hall, hlc, hsrv, hcl, hsock, hnk, hnfd, hncl, hrs, hpt, hdt, hflt, hbt, hpo⟩ :=
    attach_other (a := a) (key := key) (fd := fd) (oldc := e.conn)
  exact hd.congr hncl attach_qKO attach_idx hcl hpt

end

end Cares.Chan
