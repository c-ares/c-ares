import CaresLemmas.ChanWfMid
import CaresLemmas.ChanWfLookup
/-!
# C01 and C12c — body lemmas: `connError`, `closeConn`, `closeLoop`, `processWrite`, `cleanupConns`
-/
namespace Cares.Chan

theorem sk_removeConn_st (s : St) (fd : Nat) :
    ({ s with conns := s.conns.filter (·.fd != fd) } : St).sk = s.sk.removeConn fd := by
  unfold St.sk Sk.removeConn
  simp only [Sk.mk.injEq, true_and, and_true, List.filter_map]
  rfl

variable {cid : Nat}

theorem good_connError {goC : GoC} (h : GoGood cid goC) {d fd critical st s L} (hpre : Pre d s (.connError fd critical st))
    (hL : LG cid L (xtra cid (.connError fd critical st)) s) :
    GoodL cid d (.connError fd critical st) s L (bodyConnErrorC goC fd critical st s) := by
  obtain ⟨hw, hh, hd⟩ := hpre
  obtain ⟨c, hc⟩ := conn?_of_live (live_of_hasConn hh)
  unfold bodyConnErrorC
  simp only [hc]
  have hsk1 : (if critical = true then s.incFailures c.srv c.tcp else s).sk = s.sk := by
    split
    · exact sk_incFailures s _ _ (server_ids_nodup hw)
    · rfl
  generalize (if critical = true then s.incFailures c.srv c.tcp else s) = s1 at hsk1
  have hm1 := (MidL.refl hw hd hL).sk_eq hsk1
  exact (h.callL (d := d) (c := .closeConn fd st) ⟨hm1.mid.wf, by rw [hsk1]; exact hh, hm1.mid.debt⟩ hm1.lg).tail'
    hm1.mid.step (Or.inl rfl) (Or.inl rfl) (fun _ => trivial)

theorem good_closeConn {goC : GoC} (h : GoGood cid goC) {d fd st s L} (hpre : Pre d s (.closeConn fd st))
    (hL : LG cid L (xtra cid (.closeConn fd st)) s) :
    GoodL cid d (.closeConn fd st) s L (bodyCloseConnC goC fd st s) := by
  obtain ⟨hw, hh, hd⟩ := hpre
  have hL0 : LG cid L 0 s := hL
  obtain ⟨c, hc⟩ := conn?_of_live (live_of_hasConn hh)
  obtain ⟨hcfd, hcm⟩ := conn?_sk hc
  unfold bodyCloseConnC
  simp only [hc]
  have hsk2 : ((s.modServer c.srv fun v =>
        { v with conns := v.conns.erase fd, tcpConn := if c.tcp then none else v.tcpConn }).modConn fd fun c =>
        { c with unlinked := true, out := [], outOff := 0, inBytes := 0, inMsgs := [] }).sk =
      s.sk.markUnlinked c.sk.fd c.sk.srv c.sk.tcp := by
    rw [sk_modConn _ _ _ (fun c => { c with unlinked := true }) (fun _ => rfl),
      sk_modServer _ _ _ (fun v => { v with conns := v.conns.erase fd, tcpConn := if c.tcp then none else v.tcpConn })
        (fun _ => rfl)]
    show _ = Sk.markUnlinked _ c.fd _ _
    rw [hcfd]; rfl
  generalize ((s.modServer c.srv fun v =>
        { v with conns := v.conns.erase fd, tcpConn := if c.tcp then none else v.tcpConn }).modConn fd fun c =>
        { c with unlinked := true, out := [], outOff := 0, inBytes := 0, inMsgs := [] }) = s2 at hsk2
  have hfd : c.sk.fd = fd := hcfd
  rcases h.callL (d := d) (c := .closeLoop fd st) (s := s2) ⟨by unfold Wf; rw [hsk2]; exact wf_mark hw hcm,
    by rw [hsk2, ← hfd]; exact hasConn_mark hcm, by rw [hsk2]; exact debt_mark hd⟩
    (hL0.congr (by rw [hsk2]; rfl) (by rw [hsk2]; rfl)) with hoof | ⟨hg, hL2⟩
  · exact Or.inl hoof
  refine Or.inr ⟨⟨hg.wf, hg.debt, ?_, ?_⟩, hL2⟩
  · exact StepS.drop_xf (a2 := s2.sk) (by rw [hsk2]; exact step_mark) hg.step (not_unlinked_of_hasConn hw hh)
  · intro hidx
    have h2 := hg.post (by rw [hsk2]; exact hidx)
    rw [hsk2, ← hfd, mark_cFUQ_filter] at h2
    rw [← hfd]; exact h2

theorem good_closeLoop {goC : GoC} (h : GoGood cid goC) {d fd st s L} (hpre : Pre d s (.closeLoop fd st))
    (hL : LG cid L (xtra cid (.closeLoop fd st)) s) :
    GoodL cid d (.closeLoop fd st) s L (bodyCloseLoopC goC fd st s) := by
  obtain ⟨hw, hh, hd⟩ := hpre
  have hL0 : LG cid L 0 s := hL
  obtain ⟨c, hc⟩ := conn?_of_live (live_of_hasConn hh)
  obtain ⟨hcfd, hcm⟩ := conn?_sk hc
  have hcu : c.unlinked = true := unlinked_of_hasConn hw hh hc
  unfold bodyCloseLoopC
  simp only [hc]
  split
  · -- requeue the first query of the list
    rename_i k rest hcq
    have hkq : k ∈ c.sk.queries := by show k ∈ c.queries; rw [hcq]; exact List.mem_cons_self
    have hki : k ∈ s.sk.idx := (hw.c.cq (c.sk.fd, c.sk.queries) (mem_cFQ.mpr ⟨c.sk, hcm, rfl⟩) k hkq).1
    have hg1 := h.callL (d := d) (c := .requeue k st true none false) (s := s) ⟨WfS.weaken_hole hw, hki, hd⟩ hL0
    generalize goC (.requeue k st true none false) s = r1 at hg1
    obtain ⟨⟨s1, ret1⟩, l1⟩ := r1
    rcases hg1 with hoof | ⟨hg1, hL1⟩
    · exact Or.inl (h.oof (by simpa using hoof))
    simp only at hL1 ⊢
    -- the connection is still there, still unlinked, and no longer lists `k`
    have hmu : (fd, true, c.queries) ∈ s.sk.cFUQ :=
      mem_cFUQ.mpr ⟨c.sk, hcm, by rw [← hcfd, ← hcu]; rfl⟩
    obtain ⟨q1, hq1, _⟩ := hg1.step.unl fd c.queries hmu (fun hx => by cases hx)
    have hnot := hg1.post fd c.queries hmu
    have hsk2 : (s1.modConn fd fun c => { c with queries := c.queries.erase k }).sk = s1.sk := by
      rw [sk_modConn _ _ _ (fun c => { c with queries := c.queries.erase k }) (fun _ => rfl)]
      apply Sk.modC_id
      intro e he hefd
      have : k ∉ e.queries := hnot e.queries (mem_cFQ.mpr ⟨e, he, by rw [hefd]⟩)
      rw [List.erase_of_not_mem this]
    generalize (s1.modConn fd fun c => { c with queries := c.queries.erase k }) = s2 at hsk2
    exact ((h.callL (d := d) (c := .closeLoop fd st) (s := s2)
      ⟨Wf.of_sk_eq hsk2 hg1.wf, by rw [hsk2]; exact ⟨q1, hq1⟩, by rw [hsk2]; exact hg1.debt⟩ (hL1.sk_eq hsk2)).tail'
      (c := .closeLoop fd st) (s := s) (by rw [hsk2]; exact hg1.step.weaken') (Or.inr rfl) (Or.inl rfl)
      (fun _ hidx => by rw [hidx] at hki; cases hki)).seq
  · -- the list is empty: close the socket, release the connection
    rename_i hcq
    have hskX : ((((s.notify fd false false).modSock fd fun v => { v with isOpen := false }).emit
        s!"close({fd})").slog fd "close").sk = s.sk := by
      simp only [sk_slog, sk_emit]
      rw [sk_modSock]
      · exact sk_notify _ _ _ _
      · intro; rfl
    generalize ((((s.notify fd false false).modSock fd fun v => { v with isOpen := false }).emit
        s!"close({fd})").slog fd "close") = sX at hskX
    -- the lemmas about `Sk.removeConn` speak of the descriptor `c.sk.fd` of a skeleton connection; `fd = c.fd = c.sk.fd`
    subst hcfd
    have hsk := sk_removeConn_st sX c.fd
    rw [hskX] at hsk
    refine Or.inr ⟨⟨?_, ?_, ?_, ?_⟩, by rw [List.append_nil]; exact hL0.congr (by rw [hsk]; rfl) (by rw [hsk]; rfl)⟩
    rotate_left 3
    · intro hidx
      show Sk.cFUQ (St.sk _) = _ ∧ Sk.idx (St.sk _) = _
      rw [hsk]
      exact ⟨removeConn_cFUQ (c0 := c.sk), hidx⟩
    · show Wf _
      unfold Wf; rw [hsk]; exact wf_removeConn hw hcm hcu hcq
    · show DebtOk none d _
      rw [hsk]; exact debt_removeConn (c0 := c.sk) hd
    · show StepS (some c.fd) none d s.sk _
      rw [hsk]; exact step_removeConn (c0 := c.sk)

theorem good_processWrite {goC : GoC} (h : GoGood cid goC) {d fd s L} (hpre : Pre d s (.processWrite fd))
    (hL : LG cid L (xtra cid (.processWrite fd)) s) :
    GoodL cid d (.processWrite fd) s L (bodyProcessWriteC goC fd s) := by
  obtain ⟨hw, hd⟩ := hpre
  have hm0 : MidL cid d s L s := MidL.refl hw hd hL
  unfold bodyProcessWriteC
  split
  · exact hm0.ret trivial
  · rename_i c hc
    split
    · exact hm0.ret trivial
    · rename_i hcu
      have hcu' : c.unlinked = false := by simpa using hcu
      have hsk1 : (s.modConn fd fun c => { c with connected := true }).sk = s.sk := by
        rw [sk_modConn_same]; intro; rfl
      generalize (s.modConn fd fun c => { c with connected := true }) = s1 at hsk1
      have hm1 := hm0.sk_eq hsk1
      rcases h.callL (d := d) (c := .flush fd) (s := s1)
        ⟨hm1.mid.wf, by unfold Sk.liveConn; rw [hsk1]; exact live_of_conn? hc, hm1.mid.debt⟩ hm1.lg
        with hoof | ⟨hg1, hL1⟩
      · simp only
        split
        · exact Or.inl (h.oof hoof)
        · exact Or.inl hoof
      -- the flush leaves the skeleton alone
      have hsk2 : (goC (.flush fd) s1).1.1.sk = s.sk := hg1.post.trans hsk1
      have hm2 : MidL cid d s (L ++ (goC (.flush fd) s1).2) (goC (.flush fd) s1).1.1 :=
        ⟨Mid.of_sk_eq hw hd hsk2, hL1⟩
      simp only
      split
      · refine (GoodL.tail' (c := .processWrite fd) (s := s)
          (h.callL (d := d) (c := .connError fd true (goC (.flush fd) s1).1.2) ?_ hm2.lg) hm2.mid.step (Or.inl rfl)
          (Or.inl rfl) (fun _ => trivial)).seq
        refine ⟨hm2.mid.wf, ?_, hm2.mid.debt⟩
        rw [hsk2]; have := hasConn_of_conn? hc; rwa [hcu'] at this
      · exact Or.inr ⟨⟨hm2.mid.wf, hm2.mid.debt, hm2.mid.step, trivial⟩, hL1⟩

theorem good_cleanupConns {goC : GoC} (h : GoGood cid goC) {d todo s L} (hpre : Pre d s (.cleanupConns todo))
    (hL : LG cid L (xtra cid (.cleanupConns todo)) s) :
    GoodL cid d (.cleanupConns todo) s L (bodyCleanupConnsC goC todo s) := by
  obtain ⟨hw, hd⟩ := hpre
  have hm0 : MidL cid d s L s := MidL.refl hw hd hL
  have next : ∀ {rest L' s1}, MidLO cid d s L' s1 →
      GoodL cid d (.cleanupConns todo) s L' (goC (.cleanupConns rest) s1) := fun hm =>
    hm.tailL h (fun hm => ⟨hm.mid.wf, hm.mid.debt⟩) rfl (Or.inl rfl) (Or.inl rfl) (fun _ => trivial)
  unfold bodyCleanupConnsC
  split
  · exact hm0.ret trivial
  · rename_i fd rest
    split
    · exact next (Or.inr hm0)
    · rename_i c hc
      simp only
      split
      · rename_i hdo
        have hcu : c.unlinked = false := by
          simp only [Bool.and_eq_true, Bool.not_eq_true'] at hdo
          exact hdo.1.2
        exact (next (hm0.call h (.closeConn fd .ok)
          ⟨hw, by have := hasConn_of_conn? hc; rwa [hcu] at this, hd⟩ rfl rfl rfl)).seq
      · refine GoodL.seq (l1 := []) ?_
        rw [List.append_nil]
        exact next (Or.inr hm0)

end Cares.Chan
