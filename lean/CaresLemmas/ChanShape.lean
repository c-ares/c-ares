import CaresLemmas.ChanExec
import CaresLemmas.ChanPolicySort
import CaresLemmas.ChanLookup
import CaresLemmas.ChanFrame
import CaresLemmas.ChanTactics
/-!
# Which fields the state helpers of the channel model touch

The equations `helper s = { s with the fields it writes }` of the helpers of `Chan.Core` are `St.*_eq` in `ChanFrame`.
Here is what is said in another form: existential footprints (`*_shape`: the result is some update of the named
fields, with what a proof needs to know of the new values; `detach`, `freeQuery`, the 0x20 draws, `snCreate`,
`recordTx`), values (`notify_conns`, `userCallback_toks`), elimination forms (`*_elim`, for the helpers that the bodies
walked by `c_step` / `k_step` meet: see `ChanLeaf`), `sqOpen_cases` / `sqOpen_shape` for the opening of a connection,
`advanceOut_induct`; the facts that server ids are never rewritten (`*_ids`) and that the helpers keep or clear a
server's `tcpConn` (`servers_*_sub`); and, at the end, what every invariant over `conns` needs: the image of `conns`
under a function that does not look at what an update writes (`ConnBlind`, `connsMap_*`), `closeFinal_conns`.
`ChanPolicySort` (facts about `St.sortedServers`; it imports only `Core`) is imported for `mem_sortedServers`, which
`sqChoose_fst_mem` uses.
-/
namespace Cares.Chan

theorem notify_conns (s : St) (fd : Nat) (r w : Bool) :
    (s.notify fd r w).conns = s.conns.map (fun c => if c.fd == fd then { c with notR := r, notW := w } else c) ∨
    (s.notify fd r w).conns = s.conns := by
  unfold St.notify
  split
  · exact Or.inr rfl
  · split <;> exact Or.inl rfl

theorem setServer_ids (s : St) (v : Server) : (s.setServer v).servers.map (·.id) = s.servers.map (·.id) :=
  map_if_keep s.servers fun _ _ h => (beq_iff_eq.1 h).symm

theorem modServer_ids (s : St) (id : Nat) (f : Server → Server) (hf : ∀ v, (f v).id = v.id) :
    (s.modServer id f).servers.map (·.id) = s.servers.map (·.id) :=
  map_if_keep s.servers fun v _ _ => hf v

theorem incFailures_ids (s : St) (id : Nat) (tcp : Bool) :
    (s.incFailures id tcp).servers.map (·.id) = s.servers.map (·.id) := by
  unfold St.incFailures
  split
  · rfl
  · exact setServer_ids s _

theorem setGood_ids (s : St) (id : Nat) (tcp : Bool) :
    (s.setGood id tcp).servers.map (·.id) = s.servers.map (·.id) := by
  unfold St.setGood
  split
  · rfl
  · exact setServer_ids s _

theorem metricsRecord_ids (s : St) (q : Query) (srv : Option Nat) (st : Status) (rec : Option Reply) :
    (s.metricsRecord q srv st rec).servers.map (·.id) = s.servers.map (·.id) := by
  unfold St.metricsRecord
  split
  · split
    · rfl
    · exact modServer_ids _ _ _ (fun _ => rfl)
  · rfl

/-! a server's TCP connection is never replaced by another one: after these helpers every `tcpConn` is one the servers
had before, or `none` -/

theorem servers_setServer_sub (s : St) (v : Server) (v0 : Server) (h0 : v0 ∈ s.servers) (ht : v.tcpConn = v0.tcpConn) :
    ∀ v' ∈ (s.setServer v).servers, v'.tcpConn = none ∨ ∃ x ∈ s.servers, v'.tcpConn = x.tcpConn := by
  intro v' hv'
  simp only [St.setServer, List.mem_map] at hv'
  obtain ⟨x, hx, rfl⟩ := hv'
  split
  · exact .inr ⟨v0, h0, ht⟩
  · exact .inr ⟨x, hx, rfl⟩

theorem servers_modServer_sub (s : St) (id : Nat) (f : Server → Server)
    (hf : ∀ v, (f v).tcpConn = v.tcpConn ∨ (f v).tcpConn = none) :
    ∀ v' ∈ (s.modServer id f).servers, v'.tcpConn = none ∨ ∃ x ∈ s.servers, v'.tcpConn = x.tcpConn := by
  intro v' hv'
  simp only [St.modServer, List.mem_map] at hv'
  obtain ⟨x, hx, rfl⟩ := hv'
  split
  · rcases hf x with h | h
    · exact .inr ⟨x, hx, h⟩
    · exact .inl h
  · exact .inr ⟨x, hx, rfl⟩

theorem servers_incFailures_sub (s : St) (id : Nat) (tcp : Bool) :
    ∀ v' ∈ (s.incFailures id tcp).servers, v'.tcpConn = none ∨ ∃ x ∈ s.servers, v'.tcpConn = x.tcpConn := by
  unfold St.incFailures
  split
  · intro v' hv'; exact .inr ⟨v', hv', rfl⟩
  · rename_i v hv
    simp only [St.emit_servers]
    exact servers_setServer_sub s _ v (List.mem_of_find?_eq_some hv) rfl

theorem servers_setGood_sub (s : St) (id : Nat) (tcp : Bool) :
    ∀ v' ∈ (s.setGood id tcp).servers, v'.tcpConn = none ∨ ∃ x ∈ s.servers, v'.tcpConn = x.tcpConn := by
  unfold St.setGood
  split
  · intro v' hv'; exact .inr ⟨v', hv', rfl⟩
  · rename_i v hv
    simp only [St.emit_servers]
    exact servers_setServer_sub s _ v (List.mem_of_find?_eq_some hv) rfl

theorem servers_metricsRecord_sub (s : St) (q : Query) (srv : Option Nat) (st : Status) (rec : Option Reply) :
    ∀ v' ∈ (s.metricsRecord q srv st rec).servers, v'.tcpConn = none ∨ ∃ x ∈ s.servers, v'.tcpConn = x.tcpConn := by
  unfold St.metricsRecord
  split
  · split
    · intro v' hv'; exact .inr ⟨v', hv', rfl⟩
    · exact servers_modServer_sub s _ _ (fun _ => .inl rfl)
  · intro v' hv'; exact .inr ⟨v', hv', rfl⟩

/-- what `userCallback` records: the token leaves the pending list and joins the completed ones (`St.userCallback_eq`
    says only which fields are written) -/
theorem userCallback_toks (s : St) (tok : Nat) (st : Status) (n : Nat) (dg : String) :
    (s.userCallback tok st n dg).doneToks = s.doneToks ++ [tok] ∧
      (s.userCallback tok st n dg).pendingToks = s.pendingToks.erase tok := by
  simp only [St.userCallback, St.emit]
  repeat (first | exact ⟨rfl, rfl⟩ | split)

theorem detach_shape (s : St) (k : Nat) :
    ∃ bt po cs qs bq al lc, s.detach k =
      { s with byTimeout := bt, pendingOrder := po, conns := cs, qs := qs, byQid := bq, all := al, listCopy := lc } := by
  unfold St.detach
  split
  · exact ⟨_, _, _, _, _, _, _, rfl⟩
  · rw [St.removeFromConn_eq]
    exact ⟨_, _, _, _, _, _, _, rfl⟩

theorem freeQuery_shape (s : St) (k : Nat) :
    ∃ bt po cs qs bq al lc, s.freeQuery k =
      { s with byTimeout := bt, pendingOrder := po, conns := cs, qs := qs, byQid := bq, all := al, listCopy := lc } := by
  unfold St.freeQuery
  obtain ⟨bt, po, cs, qs, bq, al, lc, h⟩ := detach_shape s k
  simp only [h]
  exact ⟨_, _, _, _, _, _, _, rfl⟩

/-- the random draws of `ares_apply_dns0x20` -/
theorem draws_shape (s : St) (c : Bool) (n : Nat) :
    ∃ o f, (if c = true then (if (n == 1) = true then s.draw1.2 else if (n == 2) = true then s.draw2.2 else s)
      else s) = { s with obs := o, obsFaults := f } := by
  split
  · split
    · exact ⟨_, _, s.draw1snd_eq⟩
    · split
      · exact ⟨_, _, s.draw2snd_eq⟩
      · exact ⟨_, _, rfl⟩
  · exact ⟨_, _, rfl⟩

/-- `ares_send_nolock` once the request goes on the wire: besides the random draws, the new query — under the next key,
    owned by the caller, on no connection — enters the store and the indexes -/
theorem snCreate_shape (s : St) (qid : Nat) (noretry : Bool) (spec : ReqSpec) (owner : Owner) (react : List Nat) :
    ∃ o f q, q.key = s.nextKey ∧ q.qid = qid ∧ q.owner = owner ∧ q.conn = none ∧
      snCreate s qid noretry spec owner react =
        { s with obs := o, obsFaults := f, lastQid := qid, nextKey := s.nextKey + 1, qs := s.qs ++ [q],
                 all := s.all ++ [s.nextKey], byQid := s.byQid ++ [(qid, s.nextKey)] } := by
  unfold snCreate
  extract_lets sentName nbytes s1 q
  obtain ⟨o, f, e⟩ := draws_shape s (s.cfg.dns0x20 && !s.cfg.usevc && decide (nameTextLen sentName > 0)) nbytes
  have e1 : s1 = { s with obs := o, obsFaults := f } := e
  exact ⟨o, f, q, rfl, rfl, rfl, rfl, by rw [e1]⟩

/-- a query rewrite that touches at most the name (what `recordTx` does with the observed 0x20 spelling) -/
def NameOnly (g : Query → Query) : Prop := ∀ q, ∃ nm, g q = { q with name := nm }

theorem NameOnly.id_like (q : Query) : ∃ nm, q = { q with name := nm } := ⟨q.name, rfl⟩

theorem recordTx_shape (s : St) (fd : Nat) (tcp : Bool) (f : OutFrame) :
    ∃ t g ev sl, NameOnly g ∧ t.key = f.key ∧
      s.recordTx fd tcp f = { s with txs := s.txs ++ [t], sockLog := sl, qs := s.qs.map g, ev := ev } := by
  unfold St.recordTx St.modQuery St.slog St.emit
  refine ⟨_, _, _, _, ?_, ?_, rfl⟩
  · intro q
    dsimp only
    split
    · split
      · exact ⟨_, rfl⟩
      · exact ⟨q.name, rfl⟩
    · exact ⟨q.name, rfl⟩
  · rfl

theorem NameOnly.comp {g h : Query → Query} (hg : NameOnly g) (hh : NameOnly h) : NameOnly (g ∘ h) := by
  intro q
  obtain ⟨n1, e1⟩ := hh q
  obtain ⟨n2, e2⟩ := hg (h q)
  refine ⟨n2, ?_⟩
  show g (h q) = _
  rw [e2, e1]

theorem NameOnly.id : NameOnly (fun q => q) := fun q => ⟨q.name, rfl⟩

/-- `advanceOut` is a series of "the head frame of `fd` has gone out whole" (it leaves the queue and is recorded as a
    transmission), possibly ended by "a part of the head frame has gone out" -/
theorem advanceOut_induct {I : St → Prop} {fd : Nat}
    (hsend : ∀ s c f rest, s.conn? fd = some c → c.out = f :: rest → I s →
      I ((s.modConn fd fun c => { c with out := rest, outOff := 0 }).recordTx fd true f))
    (hpart : ∀ s n, I s → I (s.modConn fd fun c => { c with outOff := c.outOff + n }))
    (fuel : Nat) (s : St) (n : Nat) (h : I s) : I (advanceOut fuel fd s n) := by
  induction fuel generalizing s n with
  | zero => exact h
  | succ k ih =>
    unfold advanceOut
    split
    · exact h
    · split
      · exact h
      · dsimp only
        split
        · split
          · exact hsend _ _ _ _ ‹_› ‹_› h
          · exact ih _ _ (hsend _ _ _ _ ‹_› ‹_› h)
        · exact hpart _ _ h

/-- the choice draws at most one random byte -/
theorem sqChoose_snd (reqSrv : Option Nat) (s : St) : (sqChoose reqSrv s).2 = s ∨ (sqChoose reqSrv s).2 = s.draw1.2 := by
  unfold sqChoose
  split
  · exact .inl rfl
  · dsimp only
    split
    · split
      · exact .inl rfl
      · exact .inr rfl
    · exact .inl rfl

theorem sqChoose_fst_mem {s : St} {reqSrv : Option Nat} {srv : Server} (h : (sqChoose reqSrv s).1 = some srv) :
    srv ∈ s.servers := by
  unfold sqChoose at h
  split at h
  · exact List.mem_of_find?_eq_some h
  · split at h
    · simp only [] at h
      split at h
      · cases h
      · exact mem_sortedServers.1 (List.mem_of_getElem? h)
    · exact mem_sortedServers.1 (List.mem_of_mem_head? h)

theorem OcOpened.fields {s t : St} {tcp : Bool} {srv : Server} (h : OcOpened s tcp srv t) :
    t.conns = s.conns ∧ t.servers = s.servers ∧ t.cfg = s.cfg ∧ t.nextFd = s.nextFd + 1 ∧
      t.outOfFuel = s.outOfFuel ∧ t.socks = (ocSock s tcp srv).socks ∧ t.selfVariant = s.selfVariant := by
  obtain ⟨_, _, rfl⟩ := h
  simp only [ocSock, chan_frame, and_self]

/-- The outcomes of `sqOpen`: a connection is reused; `socket()` fails; or descriptor `s.nextFd` is taken, after
    which either a later call fails or the connection is entered, linked to its server and registered.  Besides
    that only the event, fault and socket bookkeeping changes: `openConn_paths` with the socket side forgotten.

    `cases s` comes first: comparing `s.cfg` with the same projection of a nested update of `s` makes the unifier try
    `s =?= update` field by field at every level. -/
theorem sqOpen_cases {P : Except Status Nat × St → Prop} (s : St) (q : Query) (srv : Server) (existing : Option Nat)
    (hre : ∀ fd, existing = some fd → P (.ok fd, s))
    (hno : ∀ ev fl, P (.error .connrefused, { s with ev := ev, faults := fl }))
    (hfd : ∀ ev fl sl pw sk sA,
      sA = { s with ev := ev, faults := fl, sockLog := sl, nextFd := s.nextFd + 1, pendingWl := pw, socks := sk } →
      P (.error .connrefused, sA) ∧
      P (.ok s.nextFd,
          (St.modServer
            { sA with conns := sA.conns ++ [{ fd := s.nextFd, srv := srv.id, tcp := q.usingTcp, selfIp := s.selfVariant }] }
            srv.id (fun v => { v with conns := if q.usingTcp then v.conns ++ [s.nextFd] else s.nextFd :: v.conns,
                                      tcpConn := if q.usingTcp then some s.nextFd else v.tcpConn })).notify
            s.nextFd true q.usingTcp)) :
    P (sqOpen s q srv existing) := by
  cases existing with
  | some fd => exact hre fd rfl
  | none =>
    cases s
    show P (openConn _ q.usingTcp srv)
    rcases openConn_paths _ q.usingTcp srv with ⟨e, h⟩ | ⟨t, ⟨fa, ev, rfl⟩, h | h⟩ <;> rw [h]
    · exact hno _ _
    · exact (hfd _ _ _ _ _ _ rfl).1
    · exact (hfd _ _ _ _ _ _ rfl).2

theorem sqOpen_shape (s : St) (q : Query) (srv : Server) (existing : Option Nat) :
    (sqOpen s q srv existing).2 =
      { s with ev := (sqOpen s q srv existing).2.ev, faults := (sqOpen s q srv existing).2.faults,
               sockLog := (sqOpen s q srv existing).2.sockLog, nextFd := (sqOpen s q srv existing).2.nextFd,
               pendingWl := (sqOpen s q srv existing).2.pendingWl, socks := (sqOpen s q srv existing).2.socks,
               conns := (sqOpen s q srv existing).2.conns, servers := (sqOpen s q srv existing).2.servers,
               notifyLog := (sqOpen s q srv existing).2.notifyLog } := by
  apply sqOpen_cases (P := fun r => r.2 =
    { s with ev := r.2.ev, faults := r.2.faults, sockLog := r.2.sockLog, nextFd := r.2.nextFd,
             pendingWl := r.2.pendingWl, socks := r.2.socks, conns := r.2.conns, servers := r.2.servers,
             notifyLog := r.2.notifyLog })
  · exact fun _ _ => rfl
  · exact fun _ _ => rfl
  · intro ev fl sl pw sk sA e
    subst e
    exact ⟨rfl, by rw [St.notify_eq]; rfl⟩

theorem sqOpen_ids (s : St) (q : Query) (srv : Server) (existing : Option Nat) :
    (sqOpen s q srv existing).2.servers.map (·.id) = s.servers.map (·.id) := by
  apply sqOpen_cases (P := fun r => r.2.servers.map (·.id) = s.servers.map (·.id))
  · exact fun _ _ => rfl
  · exact fun _ _ => rfl
  · intro ev fl sl pw sk sA e
    subst e
    exact ⟨rfl, by rw [St.notify_servers]; exact modServer_ids _ _ _ fun _ => rfl⟩

theorem NameOnly.key {g : Query → Query} (hg : NameOnly g) (q : Query) : (g q).key = q.key := by
  obtain ⟨nm, e⟩ := hg q; rw [e]

/-! ### elimination forms: a predicate holds of the helper's result if it holds of every structure update of the
fields the helper may touch -/

section Elim
variable {P : St → Prop}

theorem incFailures_elim {s : St} {id : Nat} {tcp : Bool}
    (h : ∀ ev sv, P { s with ev := ev, servers := sv }) : P (s.incFailures id tcp) := by
  rw [St.incFailures_eq]; exact h _ _

theorem removeFromConn_elim {s : St} {k : Nat}
    (h : ∀ bt po cs qs, P { s with byTimeout := bt, pendingOrder := po, conns := cs, qs := qs }) :
    P (s.removeFromConn k) := by
  rw [St.removeFromConn_eq]; exact h _ _ _ _

theorem draw1_elim {s : St} (h : ∀ o f, P { s with obs := o, obsFaults := f }) : P s.draw1.2 := by
  rw [St.draw1snd_eq]; exact h _ _

theorem draw2_elim {s : St} (h : ∀ o f, P { s with obs := o, obsFaults := f }) : P s.draw2.2 := by
  rw [St.draw2snd_eq]; exact h _ _

theorem genQid_elim {s : St} {n : Nat} (h : ∀ o f, P { s with obs := o, obsFaults := f }) : P (genQid n s).2 := by
  obtain ⟨a, b, e⟩ := genQid_writes n s; rw [e]; exact h a b

theorem cacheInsert_elim {s : St} {q : Query} {r : Reply} (h : ∀ c, P { s with cache := c }) :
    P (s.cacheInsert q r) := by
  rw [St.cacheInsert_eq]; exact h _

end Elim

/-! ### the image of `conns` under a view

A function of a connection that does not look at the interest flags, the query list or the out queue has the same image
of `conns` before and after the updates that change only those.  Where `f` is not fixed by the expected type, pass the
`hf` of `connsMap_modConn` as `(by intro; rfl)`: a literal `fun _ => rfl` is elaborated first and picks `f := id`. -/
abbrev ConnBlind {β : Type} (g : Conn → β) : Prop :=
  ∀ (c : Conn) nr nw qs o oo, g { c with notR := nr, notW := nw, queries := qs, out := o, outOff := oo } = g c

section
variable {β : Type} (g : Conn → β)

theorem connsMap_modConn (s : St) (fd : Nat) (f : Conn → Conn) (hf : ∀ c, g (f c) = g c) :
    (s.modConn fd f).conns.map g = s.conns.map g :=
  map_if_keep s.conns fun c _ _ => hf c

variable (hg : ConnBlind g)
include hg

theorem connsMap_notify (s : St) (fd : Nat) (r w : Bool) : (s.notify fd r w).conns.map g = s.conns.map g := by
  unfold St.notify
  split
  · rfl
  · split <;> exact connsMap_modConn g _ _ _ (fun c => hg c _ _ _ _ _)

theorem connsMap_removeFromConn (s : St) (k : Nat) : (s.removeFromConn k).conns.map g = s.conns.map g := by
  unfold St.removeFromConn
  split
  · rfl
  · simp only [St.modQuery_conns]
    split
    · exact connsMap_modConn g _ _ _ (fun c => hg c _ _ _ _ _)
    · rfl

theorem connsMap_detach (s : St) (k : Nat) : (s.detach k).conns.map g = s.conns.map g := by
  unfold St.detach
  split
  · rfl
  · exact connsMap_removeFromConn g hg s k

theorem connsMap_freeQuery (s : St) (k : Nat) : (s.freeQuery k).conns.map g = s.conns.map g :=
  connsMap_detach g hg s k

theorem connsMap_advanceOut : ∀ (fuel fd : Nat) (s : St) (n : Nat),
    (advanceOut fuel fd s n).conns.map g = s.conns.map g
  | 0, _, _, _ => rfl
  | fuel + 1, fd, s, n => by
    unfold advanceOut
    split
    · rfl
    · split
      · rfl
      · dsimp only
        split
        · split
          · simp only [St.recordTx_conns]; exact connsMap_modConn g _ _ _ (fun c => hg c _ _ _ _ _)
          · rw [connsMap_advanceOut fuel]; simp only [St.recordTx_conns]
            exact connsMap_modConn g _ _ _ (fun c => hg c _ _ _ _ _)
        · exact connsMap_modConn g _ _ _ (fun c => hg c _ _ _ _ _)

theorem connsMap_sqPrep (key : Nat) (q : Query) (srv : Server) (fd : Nat) (s : St) :
    (sqPrepare key q srv fd s).1.conns.map g = s.conns.map g := by
  unfold sqPrepare
  simp only []
  show (St.modConn _ fd _).conns.map g = _
  rw [connsMap_modConn g _ _ _ (fun c => hg c _ _ _ _ _)]
  simp only [chan_frame]
  repeat' split
  all_goals simp only [chan_frame]

theorem connsMap_sqLinkPre (key : Nat) (srv : Server) (fd : Nat) (q : Query) (s : St) :
    (sqLinkPre key srv fd q s).conns.map g = s.conns.map g := by
  unfold sqLinkPre
  cases q.conn with
  | none =>
    simp only [chan_frame]
    split <;> simp only [chan_frame]
  | some old =>
    simp only [chan_frame]
    rw [connsMap_modConn g _ _ _ (fun c => hg c _ _ _ _ _)]
    split <;> simp only [chan_frame]

end

/-- the commit of `ares_send_query` rewrites only the query lists and the count of the connections -/
theorem connsMap_sqCommit {β : Type} (g : Conn → β) (hg : ∀ (c : Conn) qs n, g { c with queries := qs, total := n } = g c)
    (s : St) (q : Query) (key fd : Nat) (dl : Deadline) : (sqCommit s q key fd dl).conns.map g = s.conns.map g := by
  unfold sqCommit
  show (St.modConn _ fd _).conns.map g = _
  refine (connsMap_modConn g _ _ _ ?_).trans ?_
  · exact fun c => hg c _ _
  cases q.conn with
  | none => rfl
  | some old =>
    exact connsMap_modConn g { s with byTimeout := s.byTimeout.erase key } old _ fun c => hg c _ c.total

theorem conns_modConn_ne (s : St) (fd : Nat) (f : Conn → Conn) (hf : ∀ c, (f c).fd = c.fd) :
    (s.modConn fd f).conns.filter (·.fd != fd) = s.conns.filter (·.fd != fd) :=
  filter_ne_update (key := Conn.fd) (fun c h => (hf c).trans h) s.conns

theorem closeFinal_conns (s : St) (fd : Nat) : (closeFinal s fd).conns = s.conns.filter (·.fd != fd) := by
  unfold closeFinal
  simp only [chan_frame]
  unfold St.notify
  split
  · rfl
  · split <;> exact conns_modConn_ne _ _ _ (fun _ => rfl)

theorem closeFinal_outOfFuel (s : St) (fd : Nat) : (closeFinal s fd).outOfFuel = s.outOfFuel := by
  unfold closeFinal
  simp only [chan_frame]

end Cares.Chan
