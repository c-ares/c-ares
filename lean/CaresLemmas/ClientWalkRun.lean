import CaresLemmas.ClientWalkGaiSim
/-! Whole client runs (`clientStart`, then the completions) against `searchWalk` / `gaiWalk` of model (A). -/
namespace Cares.ClientWalk
open Cares.Chan Cares.Text Cares.Proto

/-- `ares_search` through the channel model's client = `searchWalk` of model (A) -/
theorem search_run (cfg : Cfg) (c : Config) (hm : CfgMatches cfg c) (name : Name) (hs : Ser name)
    (hal : lookupHostaliases c.noAliases c.aliases name = .error .enotfound)
    (honion : isOnion (hex name) = false)
    (id tok : Nat) (react : List Nat) (spec : ReqSpec) (hspec : spec.name = hex name) (fam : Nat) (evs : List Ev) :
    (clientRun cfg id "search" tok react spec fam evs).sent =
        tagNames spec.qtype (searchWalk c name (evs.map searchOutcome)).1 ∧
    (clientRun cfg id "search" tok react spec fam evs).fin.map (fun f => stMap f.1) =
        if (searchWalk c name (evs.map searchOutcome)).1.length ≤ evs.length
        then some (searchWalk c name (evs.map searchOutcome)).2 else none := by
  obtain ⟨names, hnl, hsn, hser⟩ := searchNames_hex cfg c hm name hs hal
  obtain ⟨cand, rest, rfl⟩ := List.exists_cons_of_ne_nil (nameList_ne_nil c name names hnl)
  unfold clientRun clientStart searchWalk
  simp only [kind_search_ne, Bool.false_eq_true, ↓reduceIte, hspec, honion, hsn, hnl, List.map_cons, searchNextAct,
    applyActs]
  have h := (searchWalker cfg spec.qtype).sim (evs.map fun e => [e]) [] (by simp [searchWalker]) Nat.zero_lt_one cand
    rest
    { id := id, kind := "search", tok := tok, react := react, qtype := spec.qtype, qclass := spec.qclass,
      rd := spec.rd, edns := spec.edns, names := rest.map hex, lastName := hex cand } false []
    (hser cand List.mem_cons_self) (fun n hn => hser n (List.mem_cons_of_mem _ hn)) ⟨rfl, rfl, rfl, rfl, rfl⟩
  simp only [List.append_nil, ← List.flatMap_def, List.flatMap_singleton', List.map_map, List.length_map] at h
  exact ⟨h.1.trans List.map_eq_flatMap.symm, h.2.1⟩

/-- the lookup order starts (after hosts-file entries) with DNS.  `k ≤ 7`: the model's `next_lookup` runs with fuel 8
    (`gaiNextLookup cfg 8`), one unit per letter of the lookup string, and the `b` must still be reached. -/
def DnsFirst (cfg : Cfg) : Prop := ∃ k lr, k ≤ 7 ∧ cfg.lookups.toList = List.replicate k 'f' ++ 'b' :: lr

/-- the DNS part of `ares_getaddrinfo` through the channel model's client = `gaiWalk` of model (A);
    `grps` are the completions grouped by candidate (`famCount fam` each), `tail` an incomplete group -/
theorem gai_run (cfg : Cfg) (c : Config) (hm : CfgMatches cfg c) (name : Name) (hs : Ser name)
    (hal : lookupHostaliases c.noAliases c.aliases name = .error .enotfound)
    (fam : Nat) (hfam : fam = 0 ∨ fam = 2 ∨ fam = 10)
    (honion : isOnion (hex name) = false) (hlit : isV4Literal (hex name) = false)
    (hloc : isLocalhost (hex name) = false) (hdns : DnsFirst cfg)
    (id tok : Nat) (react : List Nat) (spec : ReqSpec) (hspec : spec.name = hex name)
    (grps : List (List Ev)) (tail : List Ev)
    (hlen : ∀ g ∈ grps, g.length = famCount fam) (htail : tail.length < famCount fam) :
    (clientRun cfg id "gai" tok react spec fam (grps.flatten ++ tail)).sent =
        tagFam fam (gaiWalk c name (grps.map grpOutcome)).1 ∧
    (clientRun cfg id "gai" tok react spec fam (grps.flatten ++ tail)).fin.map (fun f => stMap f.1) =
        (if (gaiWalk c name (grps.map grpOutcome)).1.length ≤ grps.length
         then some (gaiWalk c name (grps.map grpOutcome)).2 else none) ∧
    (∀ f, (clientRun cfg id "gai" tok react spec fam (grps.flatten ++ tail)).fin = some f →
        ∃ win, grps[(gaiWalk c name (grps.map grpOutcome)).1.length - 1]? = some win ∧ FinOk f win) := by
  obtain ⟨names, hnl, hsn, hser⟩ := searchNames_hex cfg c hm name hs hal
  have hne := nameList_ne_nil c name names hnl
  obtain ⟨cand, rest, rfl⟩ := List.exists_cons_of_ne_nil hne
  obtain ⟨k, lr, hk, hlook⟩ := hdns
  have hf : (fam != 0 && fam != 2 && fam != 10) = false := by
    rcases hfam with rfl | rfl | rfl <;> rfl
  unfold clientRun clientStart gaiStart gaiWalk
  simp only [beq_self_eq_true, ↓reduceIte, hf, Bool.false_eq_true, hspec, honion, hlit, hsn, hnl, gaiLoop_eq _ hne]
  rw [show (8 : Nat) = (7 - k + 1) + k by omega,
    gaiNextLookup_skip_f cfg k (7 - k + 1) _ .connrefused ('b' :: lr) hlook]
  -- the first candidate is started from the fresh record: no candidate in progress (`[]` stands for it, the record's
  -- `lastName` being `""` = `hex []`) and nothing outstanding
  obtain ⟨c', acts, hnlk, hacts, hg⟩ := gaiNextLookup_dns cfg (7 - k) .connrefused (cand := []) (k := 0)
    (c := { id := id, kind := "gai", tok := tok, react := react, name := hex name, family := fam,
            lookups := 'b' :: lr, names := (cand :: rest).map hex })
    ⟨rfl, rfl, rfl, rfl, rfl, rfl, rfl, rfl, rfl, rfl⟩ hloc
  rw [hnlk]
  simp only [hacts]
  obtain ⟨g1, g2, g3⟩ := (gaiWalker cfg (hex name) fam lr hloc).sim grps tail hlen htail cand rest c' false []
    (hser cand List.mem_cons_self) (fun n hn => hser n (List.mem_cons_of_mem _ hn)) (by rwa [Nat.zero_add] at hg)
  refine ⟨g1, g2, fun f hf => ?_⟩
  obtain ⟨win, cand', hw, hd, hst⟩ := g3 f hf
  exact ⟨win, hw, hd, hst.imp_right fun ⟨h, hs⟩ => ⟨h, hd.trans (grpDigest_soft _ win hs)⟩⟩

/-- rendering of an address list by the `gai` client's user callback (`gaiDigest`); no address: `"ai="` -/
def addrDigest (nodes : List String) (ai : String) : String :=
  if nodes.isEmpty then "ai="
  else "ai=" ++ String.join (nodes.map (· ++ ";")) ++ (if ai == "" then "" else "name=" ++ hexToText ai)

theorem candOut_cancel (nodes : List String) (ai : String) (e : Ev)
    (h : effSt e.st e.reply = .cancelled ∨ effSt e.st e.reply = .destruction) :
    candOut nodes e = effSt e.st e.reply ∧ candDigest nodes ai e = "ai=" := by
  unfold candOut candDigest
  rcases h with h | h <;> simp [h]

theorem candDigest_of_ok (nodes : List String) (ai : String) (e : Ev) (h : candOut nodes e = .ok) :
    candDigest nodes ai e = addrDigest nodes ai := by
  unfold candOut at h
  unfold candDigest addrDigest
  split at h
  · rename_i hc
    simp only [Bool.or_eq_true, beq_iff_eq] at hc
    rcases hc with hc | hc <;> rw [hc] at h <;> simp at h
  · rename_i hc
    simp only [hc, Bool.false_eq_true, ↓reduceIte]
    cases nodes <;> simp

theorem candDigest_of_ne_ok (nodes : List String) (ai : String) (e : Ev) (h : candOut nodes e ≠ .ok) :
    candDigest nodes ai e = "ai=" := by
  unfold candOut at h
  unfold candDigest
  split
  · rfl
  · rename_i hc
    simp only [hc, Bool.false_eq_true, ↓reduceIte] at h
    cases nodes with
    | nil => rfl
    | cons a l => simp at h

theorem grpDigest_of_ok (win : List Ev) (h : grpStatus win = .ok) :
    grpDigest win = addrDigest (grpNodes win) (grpAiName win) := by
  unfold grpStatus at h
  unfold grpDigest
  cases he : win.getLast? with
  | none => rw [he] at h; simp at h
  | some e => rw [he] at h; exact candDigest_of_ok _ _ e h

theorem grpDigest_of_ne_ok (win : List Ev) (h : grpStatus win ≠ .ok) : grpDigest win = "ai=" := by
  unfold grpStatus at h
  unfold grpDigest
  cases he : win.getLast? with
  | none => rfl
  | some e => rw [he] at h; exact candDigest_of_ne_ok _ _ e h

/-- for evaluating concrete `gai` runs: the kernel cannot evaluate the `String.splitOn` inside `isV4Literal`, so the
    tests of `gaiStart` are taken as hypotheses (`host_not_literal`, `localhost_not_literal` below) -/
theorem gai_run_eval (cfg : Cfg) (id tok : Nat) (react : List Nat) (spec : ReqSpec) (fam : Nat) (evs : List Ev)
    (hf : (fam != 0 && fam != 2 && fam != 10) = false) (ho : isOnion spec.name = false)
    (hl : isV4Literal spec.name = false) :
    clientRun cfg id "gai" tok react spec fam evs =
      (let r := gaiNextLookup cfg 8
        { id := id, kind := "gai", tok := tok, react := react, name := spec.name, family := fam,
          lookups := cfg.lookups.toList, names := searchNames cfg spec.name } .connrefused
       walkFrom cfg r.1 evs (applyActs r.2 {})) := by
  unfold clientRun clientStart gaiStart
  simp [hf, ho, hl]

theorem split_host : "host".splitOn "." = ["host"] := by
  simp only [String.splitOn, show ("." == "") = false by decide, Bool.false_eq_true, ↓reduceIte]
  repeat (rw [String.splitOnAux]; simp (decide := true))

/-- `host` is not an IPv4 literal -/
theorem host_not_literal : isV4Literal "686f7374" = false := by
  unfold isV4Literal
  rw [show hexToText "686f7374" = "host" by decide +kernel]
  simp only [split_host]
  decide

theorem split_localhost : "localhost".splitOn "." = ["localhost"] := by
  simp only [String.splitOn, show ("." == "") = false by decide, Bool.false_eq_true, ↓reduceIte]
  repeat (rw [String.splitOnAux]; simp (decide := true))

theorem localhost_not_literal : isV4Literal "6c6f63616c686f7374" = false := by
  unfold isV4Literal
  rw [show hexToText "6c6f63616c686f7374" = "localhost" by decide +kernel]
  simp only [split_localhost]
  decide

end Cares.ClientWalk
