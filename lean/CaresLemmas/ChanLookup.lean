import CaresModel.Chan.Core
import CaresLemmas.ListLemmas
/-!
# The stores of the channel state: look-up after an in-place update

`qs`, `conns`, `servers`, `socks` are lists searched by key (`query?`, `conn?`, `server?`, `sock?` are
`find? (key · == k)`) and updated in place (`modQuery`, `modConn`, `modServer`, `modSock` are
`map fun x => if key x == k then f x else x`).  For a function that keeps the key, looking `k'` up after the update at `k`
gives what was there, rewritten if its key is `k` (`find?_update` of `ListLemmas`; stated for each store); `_self` and `_ne`
are the two cases, stated where a proof uses them (`find?_update_self` / `_ne` give the others).
Where `f` is left to be inferred (under `rw`, or with `_` for it and no expected type), pass `hf` as `(by intro; rfl)`: a
literal `fun _ => rfl` is elaborated first and fixes `f := id`; with `f` given, or fixed by the goal, either form works.
What a look-up returns has the key it was asked for: `find?_key_eq` of `ListLemmas`, for every store, also the `set*`
ones (`find?_update` with a constant `f`); named instances are `query?_key` here, `conn?_fd` / `sock?_fd` (`ChanAlignRun`),
`server?_mem` (`ChanPolicyRank`), `conn?_sk` (`ChanWfLookup`).
`clients` (`client?`, `modClient`) has the same shape and no instances here: no proof looks a compound request up in a
state after an update, and the replay machine of `ClientExec*` keeps its own list, on which the `ListLemmas` lemmas are
used at `key := Client.id`.
At the end, the membership facts of `insertByDeadline`, which need nothing but `Core`.
-/
namespace Cares.Chan
variable (s : St) (k : Nat)

theorem query?_key {s : St} {k : Nat} {q : Query} (h : s.query? k = some q) : q.key = k := find?_key_eq h

theorem query?_mem {s : St} {k : Nat} {q : Query} (h : s.query? k = some q) : q ∈ s.qs :=
  List.mem_of_find?_eq_some h

theorem query?_map {s : St} {g : Query → Query} (hg : ∀ q, (g q).key = q.key) (k : Nat) :
    ({ s with qs := s.qs.map g } : St).query? k = (s.query? k).map g :=
  find?_map_keep hg s.qs k

theorem query?_modQuery (f : Query → Query) (hf : ∀ q, (f q).key = q.key) (k' : Nat) :
    (s.modQuery k f).query? k' = (s.query? k').map (fun q => if q.key == k then f q else q) :=
  find?_update (fun a h => (hf a).trans h) s.qs k'

theorem query?_modQuery_self (f : Query → Query) (hf : ∀ q, (f q).key = q.key) :
    (s.modQuery k f).query? k = (s.query? k).map f :=
  find?_update_self (fun a h => (hf a).trans h) s.qs

theorem query?_modQuery_ne (f : Query → Query) (hf : ∀ q, (f q).key = q.key) {k' : Nat} (hne : k' ≠ k) :
    (s.modQuery k f).query? k' = s.query? k' :=
  find?_update_ne (fun a h => (hf a).trans h) s.qs hne

theorem query?_freeQuery (k' : Nat) :
    (s.freeQuery k).query? k' = if k' = k then none else (s.detach k).query? k' :=
  find?_remove (s.detach k).qs k k'

theorem query?_freeQuery_self : (s.freeQuery k).query? k = none := by rw [query?_freeQuery, if_pos rfl]

theorem conn?_modConn (f : Conn → Conn) (hf : ∀ c, (f c).fd = c.fd) (k' : Nat) :
    (s.modConn k f).conn? k' = (s.conn? k').map (fun c => if c.fd == k then f c else c) :=
  find?_update (fun a h => (hf a).trans h) s.conns k'

theorem conn?_modConn_self (f : Conn → Conn) (hf : ∀ c, (f c).fd = c.fd) :
    (s.modConn k f).conn? k = (s.conn? k).map f :=
  find?_update_self (fun a h => (hf a).trans h) s.conns

theorem server?_modServer (f : Server → Server) (hf : ∀ v, (f v).id = v.id) (k' : Nat) :
    (s.modServer k f).server? k' = (s.server? k').map (fun v => if v.id == k then f v else v) :=
  find?_update (fun a h => (hf a).trans h) s.servers k'

theorem sock?_modSock (f : VSock → VSock) (hf : ∀ v, (f v).fd = v.fd) (k' : Nat) :
    (s.modSock k f).sock? k' = (s.sock? k').map (fun v => if v.fd == k then f v else v) :=
  find?_update (fun a h => (hf a).trans h) s.socks k'

theorem sock?_modSock_self (f : VSock → VSock) (hf : ∀ v, (f v).fd = v.fd) :
    (s.modSock k f).sock? k = (s.sock? k).map f :=
  find?_update_self (fun a h => (hf a).trans h) s.socks

theorem sock?_modSock_ne (f : VSock → VSock) (hf : ∀ v, (f v).fd = v.fd) {k' : Nat} (hne : k' ≠ k) :
    (s.modSock k f).sock? k' = s.sock? k' :=
  find?_update_ne (fun a h => (hf a).trans h) s.socks hne

theorem insertByDeadline_perm (qs : List Query) (k ms : Nat) (l : List Nat) :
    (insertByDeadline qs k ms l).Perm (k :: l) :=
  insert_perm (ins := insertByDeadline qs k ms)
    (fun x _ => ms ≤ ((qs.find? (·.key == x)).bind fun q => deadlineMs q.deadline).getD 0) rfl (fun _ _ => rfl) l

theorem mem_insertByDeadline {qs : List Query} {k ms : Nat} {l : List Nat} {x : Nat} :
    x ∈ insertByDeadline qs k ms l ↔ x = k ∨ x ∈ l := by
  rw [(insertByDeadline_perm qs k ms l).mem_iff]; simp

theorem insertByDeadline_nodup {qs : List Query} {k ms : Nat} {l : List Nat} (hn : l.Nodup) (hk : k ∉ l) :
    (insertByDeadline qs k ms l).Nodup :=
  (insertByDeadline_perm qs k ms l).nodup_iff.2 (List.nodup_cons.2 ⟨hk, hn⟩)

end Cares.Chan
