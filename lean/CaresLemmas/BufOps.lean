import CaresModel.BufSpec
import CaresLemmas.Buf
/-! Helper lemmas for the `ares_buf` model: one operation against the byte-queue reference. -/
namespace Cares
open Cares.Dsa Cares.Buf

namespace BufRel

theorem dataLen_eq {b : Buf} {q : QRef} {base : Nat} (r : BufRel b q base) : b.dataLen + base = q.stream.length := by
  rw [← live_length b r.inv, r.live, List.length_drop]
  exact Nat.sub_add_cancel r.baseLe

theorem pos_le {b : Buf} {q : QRef} {base : Nat} (r : BufRel b q base) : q.pos ≤ q.stream.length := by
  rw [← r.off, ← r.dataLen_eq]; exact Nat.add_le_add_right r.inv.offLe base

theorem len_eq {b : Buf} {q : QRef} {base : Nat} (r : BufRel b q base) : b.len = q.stream.length - q.pos := by
  unfold Buf.len; rw [← r.dataLen_eq, ← r.off, Nat.add_sub_add_right]

theorem remaining_eq {b : Buf} {q : QRef} {base : Nat} (r : BufRel b q base) : b.remaining = q.stream.drop q.pos := by
  rw [Buf.remaining_eq, r.live, List.drop_drop, ← r.off, Nat.add_comm]

theorem hasData_eq {b : Buf} {q : QRef} {base : Nat} (r : BufRel b q base) : b.hasData = q.allocated := by
  unfold Buf.hasData; rw [r.alloc, r.dyn]; rfl

end BufRel

theorem fetch_eq (b : Buf) (q : QRef) (base : Nat) (r : BufRel b q base) :
    b.fetch = if q.stream.length - q.pos = 0 then none else some (q.stream.drop q.pos) := by
  rw [fetch_of_inv b r.inv, r.len_eq, r.remaining_eq]

theorem reclaim_isEmpty (b : Buf) (h : b.Inv) : b.reclaim.mem.isEmpty = b.mem.isEmpty := by
  obtain ⟨p, _, _, ml, _, _⟩ := reclaim_spec b h
  rw [Bool.eq_iff_iff, List.isEmpty_iff_length_eq_zero, List.isEmpty_iff_length_eq_zero, ml]

namespace BufRel
variable {b : Buf} {q : QRef} {base : Nat}

/-- moving the cursor and the tag (consume, tag, rollback, clear) touches neither memory nor stream: any new
    position up to the end of the stream, with any tag between `base` and it, is represented -/
theorem seek (r : BufRel b q base) {off' pos' : Nat} {btag' tag' : Option Nat}
    (ho : off' + base = pos') (hle : pos' ≤ q.stream.length) (htag : btag' = tag'.map (· - base))
    (ht : ∀ t, tag' = some t → base ≤ t ∧ t ≤ pos') :
    BufRel { b with off := off', tag := btag' } { q with pos := pos', tag := tag' } base := by
  have hd := r.dataLen_eq
  refine ⟨⟨r.inv.dlen, ?_, ?_, r.inv.room⟩, r.dyn, r.baseLe, ho ▸ Nat.le_add_left base off', ht, r.live, ho, htag,
    r.alloc⟩
  · show off' ≤ b.dataLen
    exact Nat.le_of_add_le_add_right (by rw [ho, hd]; exact hle)
  · intro t hbt
    show t ≤ b.dataLen
    subst htag
    cases tag' with
    | none => cases hbt
    | some t0 =>
      cases hbt
      exact Nat.sub_le_of_le_add (by rw [hd]; exact Nat.le_trans (ht t0 rfl).2 hle)

theorem advance (r : BufRel b q base) {n : Nat} (hn : ¬ q.stream.length - q.pos < n) :
    BufRel { b with off := b.off + n } { q with pos := q.pos + n } base :=
  have := r.pos_le
  r.seek (by rw [← r.off, Nat.add_right_comm]) (by omega) r.tag
    (fun t ht => ⟨(r.tagOk t ht).1, Nat.le_trans (r.tagOk t ht).2 (Nat.le_add_right _ n)⟩)

theorem consume_eq (r : BufRel b q base) (n : Nat) :
    b.consume n = if q.stream.length - q.pos < n then (.formerr, b) else (.ok, { b with off := b.off + n }) := by
  unfold Buf.consume; rw [r.len_eq]

/-- a compaction by `p` bytes moves the base: `b'` stands for any queue with the same cursor and tag whose stream
    from `base + p` on is what `b'` holds -/
theorem rebase (r : BufRel b q base) {b' : Buf} {q' : QRef} {p : Nat} (i' : b'.Inv) (hc : b'.isConst = false)
    (hp : p ≤ b.off) (hoff : b'.off + p = b.off) (htag : b'.tag = b.tag.map (· - p))
    (hple : ∀ t, b.tag = some t → p ≤ t) (hpos : q'.pos = q.pos) (hqt : q'.tag = q.tag)
    (hlen : q.stream.length ≤ q'.stream.length) (hlive : b'.live = q'.stream.drop (base + p))
    (halloc : q'.allocated = !b'.mem.isEmpty) : BufRel b' q' (base + p) := by
  have hbp : base + p ≤ q.pos := by rw [← r.off, Nat.add_comm]; exact Nat.add_le_add_right hp base
  refine ⟨i', hc, Nat.le_trans hbp (Nat.le_trans r.pos_le hlen), hpos ▸ hbp, ?_, hlive, ?_, ?_, halloc⟩
  · intro t ht
    rw [hqt] at ht; rw [hpos]
    have hbt : b.tag = some (t - base) := by rw [r.tag, ht]; rfl
    exact ⟨Nat.add_le_of_le_sub' (r.tagOk t ht).1 (hple _ hbt), (r.tagOk t ht).2⟩
  · rw [hpos, Nat.add_left_comm, hoff, Nat.add_comm, r.off]
  · rw [htag, r.tag, hqt]
    cases q.tag with
    | none => rfl
    | some t => exact congrArg some (Nat.sub_sub t base p)

/-- a successful append: the new bytes go to the end of the stream, the base moves by the compaction -/
theorem append (hk : Buf.ConstsOk) (r : BufRel b q base) {d : List Nat} (hde : d ≠ []) :
    (b.append d Oracle.ok).1 = .ok ∧
      ∃ p, BufRel (b.append d Oracle.ok).2.1 { q with stream := q.stream ++ d, allocated := true } (base + p) := by
  obtain ⟨p, i', hpo, hoff', htag', hple, hc', hres, hok⟩ := append_spec hk b d Oracle.ok r.inv r.dyn hde
  obtain ⟨hst, _⟩ := hok (fun _ => rfl)
  refine ⟨hst, p, ?_⟩
  rcases hres with ⟨_, hlive⟩ | ⟨hbad, _⟩
  · refine r.rebase i' hc' hpo hoff' htag' hple rfl rfl ?_ ?_ ?_
    · show _ ≤ (q.stream ++ d).length
      rw [List.length_append]; exact Nat.le_add_right _ _
    · show _ = (q.stream ++ d).drop (base + p)
      have hbp : base + p ≤ q.stream.length := by
        rw [← r.dataLen_eq, Nat.add_comm]; exact Nat.add_le_add_right (Nat.le_trans hpo r.inv.offLe) base
      rw [hlive, r.live, List.drop_drop, List.drop_append_of_le_length hbp]
    · show true = !_
      have hd : 0 < (b.append d Oracle.ok).2.1.dataLen := by
        rw [← live_length _ i', hlive, List.length_append]
        exact Nat.lt_of_lt_of_le (List.length_pos_iff.2 hde) (Nat.le_add_left _ _)
      rw [mem_isEmpty i' hd]; rfl
  · rw [hst] at hbad; cases hbad

theorem tagFetchBytes_eq (r : BufRel b q base) (cap : Nat) :
    b.tagFetchBytes cap =
      match q.tag with
      | none => none
      | some t => if !q.allocated then none else if cap < q.pos - t then none
                  else some ((q.stream.drop t).take (q.pos - t)) := by
  unfold Buf.tagFetchBytes
  cases hq : q.tag with
  | none => rw [r.tag, hq]; rfl
  | some t =>
    obtain ⟨t1, t2⟩ := r.tagOk t hq
    have htag : b.tag = some (t - base) := by rw [r.tag, hq]; rfl
    -- the tag is `k` in the buffer and `k + base` in the queue
    obtain ⟨k, rfl⟩ : ∃ k, t = k + base := ⟨t - base, (Nat.sub_add_cancel t1).symm⟩
    rw [Nat.add_sub_cancel] at htag
    have hko : k ≤ b.off := Nat.le_of_add_le_add_right (by rw [r.off]; exact t2)
    have hlen : q.pos - (k + base) = b.off - k := by rw [← r.off, Nat.add_sub_add_right]
    have htl : b.tagLength = b.off - k := by unfold Buf.tagLength; rw [htag]; exact if_pos hko
    rw [htag]
    show (if (!b.hasData) = true then _ else _) = (if (!q.allocated) = true then _ else _)
    rw [r.hasData_eq, htl, hlen]
    congr 3
    rw [slice_eq b k b.off r.inv.offLe, r.live, List.drop_drop, Nat.add_comm base k]

end BufRel

theorem bufStep_rel (hk : Buf.ConstsOk) (b : Buf) (q : QRef) (base : Nat) (op : BufOp) (r : BufRel b q base) :
    (bufStep b op).1 = (qrefStep q op).1 ∧ ∃ base', base ≤ base' ∧ BufRel (bufStep b op).2 (qrefStep q op).2 base' := by
  cases op with
  | app d =>
    simp only [bufStep, qrefStep]
    cases d with
    | nil => exact ⟨rfl, base, Nat.le_refl _, r⟩
    | cons x d =>
      obtain ⟨hst, p, r'⟩ := r.append hk (List.cons_ne_nil x d)
      exact ⟨by rw [hst], base + p, Nat.le_add_right _ _, r'⟩
  | consume n =>
    simp only [bufStep, qrefStep]
    rw [r.consume_eq n]
    by_cases hn : q.stream.length - q.pos < n
    · rw [if_pos hn, if_pos hn]; exact ⟨rfl, base, Nat.le_refl _, r⟩
    · rw [if_neg hn, if_neg hn]; exact ⟨rfl, base, Nat.le_refl _, r.advance hn⟩
  | fetch n =>
    simp only [bufStep, qrefStep, Buf.fetchBytes]
    rw [fetch_eq b q base r]
    by_cases h0 : q.stream.length - q.pos = 0
    · rw [if_pos h0, if_pos (by rw [h0]; exact Nat.eq_zero_or_pos n)]; exact ⟨rfl, base, Nat.le_refl _, r⟩
    · rw [if_neg h0]
      simp only [List.length_drop]
      by_cases hn : n = 0 ∨ q.stream.length - q.pos < n
      · rw [if_pos hn, if_pos hn]; exact ⟨rfl, base, Nat.le_refl _, r⟩
      · have hn' : ¬ q.stream.length - q.pos < n := fun h => hn (Or.inr h)
        rw [if_neg hn, if_neg hn, r.consume_eq n, if_neg hn']
        exact ⟨rfl, base, Nat.le_refl _, r.advance hn'⟩
  | tag =>
    exact ⟨rfl, base, Nat.le_refl _,
      r.seek r.off r.pos_le (congrArg some (Nat.eq_sub_of_add_eq r.off))
        (fun t ht => by cases ht; exact ⟨r.basePos, Nat.le_refl _⟩)⟩
  | rollback =>
    simp only [bufStep, qrefStep, Buf.tagRollback]
    cases hq : q.tag with
    | none => rw [r.tag, hq]; exact ⟨rfl, base, Nat.le_refl _, r⟩
    | some t =>
      rw [show b.tag = some (t - base) by rw [r.tag, hq]; rfl]
      obtain ⟨t1, t2⟩ := r.tagOk t hq
      exact ⟨rfl, base, Nat.le_refl _,
        r.seek (Nat.sub_add_cancel t1) (Nat.le_trans t2 r.pos_le) rfl (fun _ h => by cases h)⟩
  | clear =>
    simp only [bufStep, qrefStep, Buf.tagClear]
    cases hq : q.tag with
    | none => rw [r.tag, hq]; exact ⟨rfl, base, Nat.le_refl _, r⟩
    | some t =>
      rw [show b.tag = some (t - base) by rw [r.tag, hq]; rfl]
      exact ⟨rfl, base, Nat.le_refl _, r.seek r.off r.pos_le rfl (fun _ h => by cases h)⟩
  | reclaim =>
    obtain ⟨p, sh, i', _, hpo, _⟩ := reclaim_spec b r.inv
    have r' : BufRel b.reclaim q (base + p) :=
      r.rebase i' (by rw [sh.const]; exact r.dyn) hpo sh.off sh.tag sh.ple rfl rfl (Nat.le_refl _)
        (by rw [sh.live, r.live, List.drop_drop]) (by rw [r.alloc, reclaim_isEmpty b r.inv])
    exact ⟨rfl, base + p, Nat.le_add_right _ _, r'⟩
  | len => exact ⟨congrArg BufOut.num r.len_eq, base, Nat.le_refl _, r⟩
  | tagfetch cap => exact ⟨congrArg BufOut.bytes (r.tagFetchBytes_eq cap), base, Nat.le_refl _, r⟩
  | peek => exact ⟨congrArg BufOut.bytes (fetch_eq b q base r), base, Nat.le_refl _, r⟩

end Cares
