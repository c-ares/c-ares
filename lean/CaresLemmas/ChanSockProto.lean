import CaresLemmas.ListLemmas
import Lean.Meta.Tactic.Simp.RegisterCommand
/-!
# The socket protocol of the channel model (C10): pure part

A *view* of the channel state — connections as `(fd, announced read interest, announced write interest)`, the log of
virtual socket calls, the log of socket-state notifications, the next descriptor number — and the invariant `SockInv`
over it, preserved by the view-level effect of each thing the model does to sockets.
-/
/-! simp set of `(helper s).sview = s.sview` (`ChanSockInv`; an attribute is registered in a file before the one that uses it) -/
register_simp_attr sview_frame

namespace Cares.Chan

inductive FdSt where
  | unused | opened | closed | bad
  deriving DecidableEq, Repr

def isIo (c : String) : Bool := c == "connect" || c == "send" || c == "recv"

/-- `open · (connect | send | recv)* · close?` as an automaton -/
def fdStep (st : FdSt) (call : String) : FdSt :=
  match st with
  | .unused => if call == "open" then .opened else .bad
  | .opened => if isIo call then .opened else if call == "close" then .closed else .bad
  | .closed => .bad
  | .bad => .bad

/-- state of descriptor `fd` after the calls of `log` -/
def fdState (log : List (Nat × String)) (fd : Nat) : FdSt :=
  log.foldl (fun st e => if e.1 == fd then fdStep st e.2 else st) .unused

theorem fdState_append (log : List (Nat × String)) (fd' : Nat) (c : String) (fd : Nat) :
    fdState (log ++ [(fd', c)]) fd = if fd' == fd then fdStep (fdState log fd) c else fdState log fd := by
  simp [fdState, List.foldl_append]

theorem fdState_append_ne (log : List (Nat × String)) (fd' : Nat) (c : String) (fd : Nat) (h : fd' ≠ fd) :
    fdState (log ++ [(fd', c)]) fd = fdState log fd := by
  rw [fdState_append]; simp [h]

theorem fdState_append_self (log : List (Nat × String)) (c : String) (fd : Nat) :
    fdState (log ++ [(fd, c)]) fd = fdStep (fdState log fd) c := by
  rw [fdState_append]; simp

/-- the calls made on `fd`, in order -/
def callsOn (log : List (Nat × String)) (fd : Nat) : List String := (log.filter (·.1 == fd)).map (·.2)

theorem fdState_eq_run (log : List (Nat × String)) (fd : Nat) :
    fdState log fd = (callsOn log fd).foldl fdStep .unused := by
  rw [callsOn, List.foldl_map, List.foldl_filter]; rfl

theorem fdState_calls (n : Nat) (fd : Nat) : ∀ (cs : List String) (log : List (Nat × String)),
    fdState (cs.foldl (fun l c => l ++ [(n, c)]) log) fd =
      if fd = n then cs.foldl fdStep (fdState log n) else fdState log fd
  | [], log => by split <;> simp_all
  | c :: r, log => by
    rw [List.foldl_cons, fdState_calls n fd r, List.foldl_cons, fdState_append_self]
    split
    · rfl
    · next h => exact fdState_append_ne _ _ _ _ (Ne.symm h)

theorem run_bad : ∀ l : List String, l.foldl fdStep .bad = .bad
  | [] => rfl
  | _ :: r => by simp only [List.foldl_cons, fdStep]; exact run_bad r

theorem run_closed : ∀ l : List String, l.foldl fdStep .closed ≠ .bad → l = []
  | [], _ => rfl
  | _ :: r, h => by simp only [List.foldl_cons, fdStep, run_bad] at h; exact absurd rfl h

theorem run_opened : ∀ l : List String, l.foldl fdStep .opened ≠ .bad →
    (l.foldl fdStep .opened = .opened ∧ ∀ x ∈ l, isIo x = true) ∨
    (l.foldl fdStep .opened = .closed ∧ ∃ mid, l = mid ++ ["close"] ∧ ∀ x ∈ mid, isIo x = true)
  | [], _ => .inl ⟨rfl, by simp⟩
  | x :: r, h => by
    simp only [List.foldl_cons] at h ⊢
    by_cases hio : isIo x = true
    · have hs : fdStep .opened x = .opened := by simp [fdStep, hio]
      rw [hs] at h ⊢
      rcases run_opened r h with ⟨h1, h2⟩ | ⟨h1, mid, h2, h3⟩
      · exact .inl ⟨h1, by intro y hy; cases hy with | head => exact hio | tail _ hy => exact h2 y hy⟩
      · refine .inr ⟨h1, x :: mid, by rw [h2]; rfl, ?_⟩
        intro y hy; cases hy with | head => exact hio | tail _ hy => exact h3 y hy
    · by_cases hcl : (x == "close") = true
      · have hs : fdStep .opened x = .closed := by simp [fdStep, hio, hcl]
        rw [hs] at h ⊢
        have := run_closed r h
        subst this
        refine .inr ⟨rfl, [], ?_, by simp⟩
        simp only [beq_iff_eq] at hcl; simp [hcl]
      · have hs : fdStep .opened x = .bad := by simp [fdStep, hio, hcl]
        rw [hs, run_bad] at h; exact absurd rfl h

/-- **shape of a well-behaved descriptor's call sequence**: `open · (connect | send | recv)* · close?` -/
theorem callsOn_shape (log : List (Nat × String)) (fd : Nat) (h : fdState log fd ≠ .bad) :
    (fdState log fd = .unused ∧ callsOn log fd = []) ∨
    (fdState log fd = .opened ∧ ∃ mid, callsOn log fd = "open" :: mid ∧ ∀ x ∈ mid, isIo x = true) ∨
    (fdState log fd = .closed ∧ ∃ mid, callsOn log fd = "open" :: mid ++ ["close"] ∧ ∀ x ∈ mid, isIo x = true) := by
  rw [fdState_eq_run] at h ⊢
  cases hl : callsOn log fd with
  | nil => exact .inl ⟨rfl, rfl⟩
  | cons x r =>
    rw [hl] at h
    simp only [List.foldl_cons] at h ⊢
    by_cases ho : (x == "open") = true
    · have hs : fdStep .unused x = .opened := by simp [fdStep, ho]
      simp only [beq_iff_eq] at ho; subst ho
      rw [hs] at h ⊢
      rcases run_opened r h with ⟨h1, h2⟩ | ⟨h1, mid, h2, h3⟩
      · exact .inr (.inl ⟨h1, r, rfl, h2⟩)
      · exact .inr (.inr ⟨h1, mid, by rw [h2]; rfl, h3⟩)
    · have hs : fdStep .unused x = .bad := by simp [fdStep, ho]
      rw [hs, run_bad] at h; exact absurd rfl h

/-- notifications `(read, write)` made for `fd`, in order -/
def nproj (nl : List (Nat × Bool × Bool)) (fd : Nat) : List (Bool × Bool) := (nl.filter (·.1 == fd)).map (·.2)

theorem nproj_append (nl : List (Nat × Bool × Bool)) (fd' : Nat) (x : Bool × Bool) (fd : Nat) :
    nproj (nl ++ [(fd', x)]) fd = if fd' == fd then nproj nl fd ++ [x] else nproj nl fd := by
  simp only [nproj, List.filter_append, List.filter_cons, List.filter_nil]
  by_cases h : (fd' == fd) = true <;> simp [h]

/-- a well-formed notification stream: it does not start with `(false, false)`, no notification repeats its
    predecessor, and nothing follows a `(false, false)` — so `(false, false)` occurs at most once, last, after a
    non-zero interest -/
inductive NotifyOK : List (Bool × Bool) → Prop
  | nil : NotifyOK []
  | first (x : Bool × Bool) : x ≠ (false, false) → NotifyOK [x]
  | snoc (l : List (Bool × Bool)) (x y : Bool × Bool) :
      NotifyOK (l ++ [x]) → x ≠ (false, false) → y ≠ x → NotifyOK (l ++ [x] ++ [y])

theorem NotifyOK.extend {l : List (Bool × Bool)} (h : NotifyOK l) (y : Bool × Bool)
    (hne : y ≠ l.getLast?.getD (false, false)) (hff : (false, false) ∉ l) : NotifyOK (l ++ [y]) := by
  rcases List.eq_nil_or_concat l with rfl | ⟨l', x, rfl⟩
  · simp only [List.getLast?_nil, Option.getD_none] at hne
    exact .first y hne
  · simp only [List.concat_eq_append] at *
    simp only [List.getLast?_append, List.getLast?_singleton, Option.some_or, Option.getD_some] at hne
    refine .snoc l' x y h ?_ hne
    intro hx; apply hff; rw [hx]; simp

structure SView where
  /-- connections: `(fd, announced read interest, announced write interest)` -/
  conns : List (Nat × Bool × Bool)
  log : List (Nat × String)
  nlog : List (Nat × Bool × Bool)
  nextFd : Nat

/-- `w = some (fd, l)`: additionally, `fd` is closed and its notification stream is `l` (used to show that nothing is
    announced for a descriptor after its `close`) -/
structure SockInv (w : Option (Nat × List (Bool × Bool))) (v : SView) : Prop where
  notBad : ∀ fd, fdState v.log fd ≠ .bad
  connOpen : ∀ k ∈ v.conns, fdState v.log k.1 = .opened
  fresh : ∀ fd, v.nextFd ≤ fd → fdState v.log fd = .unused ∧ nproj v.nlog fd = []
  nodup : (v.conns.map (·.1)).Nodup
  openHasConn : ∀ fd, fdState v.log fd = .opened → ∃ k ∈ v.conns, k.1 = fd
  nOK : ∀ fd, NotifyOK (nproj v.nlog fd)
  nLast : ∀ k ∈ v.conns, (nproj v.nlog k.1).getLast?.getD (false, false) = k.2
  nFinal : ∀ fd, (false, false) ∈ nproj v.nlog fd → ∀ k ∈ v.conns, k.1 ≠ fd
  frozen : ∀ p, w = some p → fdState v.log p.1 = .closed ∧ nproj v.nlog p.1 = p.2

theorem SockInv.conn_lt {w} {v : SView} (h : SockInv w v) : ∀ k ∈ v.conns, k.1 < v.nextFd := by
  intro k hk
  by_cases hlt : k.1 < v.nextFd
  · exact hlt
  · have := (h.fresh k.1 (by omega)).1
    rw [h.connOpen k hk] at this; cases this

theorem SockInv.io {w} {v : SView} (h : SockInv w v) (fd : Nat) (c : String) (hc : ∃ k ∈ v.conns, k.1 = fd)
    (hio : isIo c = true) : SockInv w { v with log := v.log ++ [(fd, c)] } := by
  obtain ⟨k, hk, rfl⟩ := hc
  have hst : ∀ fd, fdState (v.log ++ [(k.1, c)]) fd = fdState v.log fd := fun fd =>
    (fdState_calls k.1 fd [c] v.log).trans (by split <;> simp_all [h.connOpen k hk, fdStep])
  constructor
  · intro fd; simp only [hst]; exact h.notBad fd
  · intro k' hk'; simp only [hst]; exact h.connOpen k' hk'
  · intro fd hfd; simp only [hst]; exact h.fresh fd hfd
  · exact h.nodup
  · intro fd; simp only [hst]; exact h.openHasConn fd
  · exact h.nOK
  · exact h.nLast
  · exact h.nFinal
  · intro p hp; simp only [hst]; exact h.frozen p hp

def setFlags (fd : Nat) (r w : Bool) (k : Nat × Bool × Bool) : Nat × Bool × Bool :=
  if k.1 == fd then (k.1, r, w) else k

/-- view-level effect of `St.notify` (`ares_conn_sock_state_cb_update`) -/
def vnotify (v : SView) (fd : Nat) (r w : Bool) : SView :=
  match v.conns.find? (·.1 == fd) with
  | none => v
  | some k =>
    { v with conns := v.conns.map (setFlags fd r w),
             nlog := if k.2 ≠ (r, w) then v.nlog ++ [(fd, r, w)] else v.nlog }

theorem setFlags_fst (fd : Nat) (r w : Bool) (k : Nat × Bool × Bool) : (setFlags fd r w k).1 = k.1 := by
  simp only [setFlags]; split <;> rfl

theorem map_setFlags_fst (fd : Nat) (r w : Bool) (l : List (Nat × Bool × Bool)) :
    (l.map (setFlags fd r w)).map (·.1) = l.map (·.1) :=
  map_map_keep l fun k _ => setFlags_fst fd r w k

theorem nproj_note_self (nl : List (Nat × Bool × Bool)) (fd : Nat) (old x : Bool × Bool) :
    nproj (if old ≠ x then nl ++ [(fd, x)] else nl) fd = if old ≠ x then nproj nl fd ++ [x] else nproj nl fd := by
  split
  · rw [nproj_append]; simp
  · rfl

theorem nproj_note_ne {nl : List (Nat × Bool × Bool)} {fd fd' : Nat} {old x : Bool × Bool} (h : fd' ≠ fd) :
    nproj (if old ≠ x then nl ++ [(fd, x)] else nl) fd' = nproj nl fd' := by
  split
  · rw [nproj_append]; simp [Ne.symm h]
  · rfl

theorem mem_map_setFlags_ne {l : List (Nat × Bool × Bool)} {fd : Nat} {r w : Bool} {k : Nat × Bool × Bool}
    (hne : k.1 ≠ fd) : k ∈ l.map (setFlags fd r w) ↔ k ∈ l := by
  simp only [List.mem_map]
  constructor
  · rintro ⟨k0, hk0, rfl⟩
    by_cases e : k0.1 = fd
    · exact absurd (by simp [setFlags, e]) hne
    · rwa [show setFlags fd r w k0 = k0 by simp [setFlags, e]]
  · exact fun hk => ⟨k, hk, by simp [setFlags, hne]⟩

theorem SockInv.notify {w} {v : SView} (h : SockInv w v) (fd : Nat) (r wr : Bool) (hnz : (r, wr) ≠ (false, false)) :
    SockInv w (vnotify v fd r wr) := by
  unfold vnotify
  cases hf : v.conns.find? (·.1 == fd) with
  | none => exact h
  | some k =>
    have hk := List.mem_of_find?_eq_some hf
    have hkfd : k.1 = fd := find?_key_eq (key := Prod.fst) hf
    subst hkfd
    simp only
    have hffk : (false, false) ∉ nproj v.nlog k.1 := fun hm => h.nFinal k.1 hm k hk rfl
    constructor
    · exact h.notBad
    · intro k' hk'
      simp only [List.mem_map] at hk'
      obtain ⟨k0, hk0, rfl⟩ := hk'
      rw [setFlags_fst]; exact h.connOpen k0 hk0
    · intro fd' hfd'
      have hlt := h.conn_lt k hk
      have hfd'' : v.nextFd ≤ fd' := hfd'
      refine ⟨(h.fresh fd' hfd'').1, ?_⟩
      rw [nproj_note_ne (by omega)]; exact (h.fresh fd' hfd'').2
    · simp only [map_setFlags_fst]; exact h.nodup
    · intro fd' ho
      obtain ⟨k0, hk0, hk0fd⟩ := h.openHasConn fd' ho
      exact ⟨setFlags k.1 r wr k0, List.mem_map_of_mem hk0, (setFlags_fst ..).trans hk0fd⟩
    · intro fd'
      by_cases hfd : fd' = k.1
      · subst hfd
        rw [nproj_note_self]
        split
        · rename_i hne
          refine (h.nOK k.1).extend (r, wr) ?_ hffk
          rw [h.nLast k hk]; exact fun he => hne he.symm
        · exact h.nOK k.1
      · rw [nproj_note_ne hfd]; exact h.nOK fd'
    · intro k' hk'
      simp only [List.mem_map] at hk'
      obtain ⟨k0, hk0, rfl⟩ := hk'
      by_cases hfd : k0.1 = k.1
      · have hk0k : k0 = k := inj_of_nodup_map h.nodup hk0 hk hfd
        subst hk0k
        have : setFlags k0.1 r wr k0 = (k0.1, r, wr) := by simp [setFlags]
        rw [this]
        simp only
        rw [nproj_note_self]
        split
        · simp
        · rename_i he
          rw [h.nLast k0 hk0]
          simpa using he
      · have : setFlags k.1 r wr k0 = k0 := by simp [setFlags, hfd]
        rw [this, nproj_note_ne hfd]
        exact h.nLast k0 hk0
    · intro fd' hm k' hk'
      simp only [List.mem_map] at hk'
      obtain ⟨k0, hk0, rfl⟩ := hk'
      rw [setFlags_fst]
      by_cases hfd : fd' = k.1
      · subst hfd
        rw [nproj_note_self] at hm
        split at hm
        · simp only [List.mem_append, List.mem_singleton] at hm
          rcases hm with hm | hm
          · exact absurd hm hffk
          · exact absurd hm.symm hnz
        · exact absurd hm hffk
      · rw [nproj_note_ne hfd] at hm
        exact h.nFinal fd' hm k0 hk0
    · intro p hp
      obtain ⟨h1, h2⟩ := h.frozen p hp
      refine ⟨h1, ?_⟩
      have : p.1 ≠ k.1 := by
        intro he; rw [he, h.connOpen k hk] at h1; cases h1
      rw [nproj_note_ne this]; exact h2

/-- `ares_open_connection` succeeds: socket created and connected, connection object added (interest not yet announced) -/
def vopen (v : SView) : SView :=
  { conns := v.conns ++ [(v.nextFd, false, false)],
    log := v.log ++ [(v.nextFd, "open")] ++ [(v.nextFd, "connect")],
    nlog := v.nlog, nextFd := v.nextFd + 1 }

/-- `ares_open_connection` fails: socket created, `connect` attempted, then closed again (no connection object) -/
def vopenFail (v : SView) : SView :=
  { v with log := v.log ++ [(v.nextFd, "open")] ++ [(v.nextFd, "connect")] ++ [(v.nextFd, "close")],
           nextFd := v.nextFd + 1 }

theorem SockInv.open {w} {v : SView} (h : SockInv w v) : SockInv w (vopen v) := by
  have hun := (h.fresh v.nextFd (Nat.le_refl _)).1
  have hnp := (h.fresh v.nextFd (Nat.le_refl _)).2
  have hst : ∀ fd, fdState (v.log ++ [(v.nextFd, "open")] ++ [(v.nextFd, "connect")]) fd =
      if fd = v.nextFd then .opened else fdState v.log fd := fun fd =>
    (fdState_calls v.nextFd fd ["open", "connect"] v.log).trans (by rw [hun]; rfl)
  unfold vopen
  constructor
  · intro fd; simp only [hst]; split
    · simp
    · exact h.notBad fd
  · intro k hk
    simp only [List.mem_append, List.mem_singleton] at hk
    simp only [hst]
    rcases hk with hk | rfl
    · have := h.conn_lt k hk
      simp only [show ¬ k.1 = v.nextFd by omega, ↓reduceIte]
      exact h.connOpen k hk
    · simp
  · intro fd hfd
    simp only at hfd
    simp only [hst, show ¬ fd = v.nextFd by omega, ↓reduceIte]
    exact h.fresh fd (by omega)
  · simp only [List.map_append, List.map_cons, List.map_nil]
    rw [List.nodup_append]
    refine ⟨h.nodup, by simp, ?_⟩
    intro a ha b hb
    simp only [List.mem_singleton] at hb
    subst hb
    simp only [List.mem_map] at ha
    obtain ⟨k, hk, rfl⟩ := ha
    have := h.conn_lt k hk
    omega
  · intro fd ho
    simp only [hst] at ho
    split at ho
    · rename_i hfd
      exact ⟨(v.nextFd, false, false), by simp, hfd.symm⟩
    · obtain ⟨k, hk, hkfd⟩ := h.openHasConn fd ho
      exact ⟨k, by simp [hk], hkfd⟩
  · exact h.nOK
  · intro k hk
    simp only [List.mem_append, List.mem_singleton] at hk
    rcases hk with hk | rfl
    · exact h.nLast k hk
    · simp only [hnp]; rfl
  · intro fd hm k hk
    simp only [List.mem_append, List.mem_singleton] at hk
    rcases hk with hk | rfl
    · exact h.nFinal fd hm k hk
    · simp only
      intro he; rw [← he, hnp] at hm; cases hm
  · intro p hp
    obtain ⟨h1, h2⟩ := h.frozen p hp
    refine ⟨?_, h2⟩
    simp only [hst]
    have : ¬ p.1 = v.nextFd := by intro he; rw [he, hun] at h1; cases h1
    simp only [this, ↓reduceIte]; exact h1

theorem SockInv.openFail {w} {v : SView} (h : SockInv w v) : SockInv w (vopenFail v) := by
  have hun := (h.fresh v.nextFd (Nat.le_refl _)).1
  have hst : ∀ fd, fdState (v.log ++ [(v.nextFd, "open")] ++ [(v.nextFd, "connect")] ++ [(v.nextFd, "close")]) fd =
      if fd = v.nextFd then .closed else fdState v.log fd := fun fd =>
    (fdState_calls v.nextFd fd ["open", "connect", "close"] v.log).trans (by rw [hun]; rfl)
  unfold vopenFail
  constructor
  · intro fd; simp only [hst]; split
    · simp
    · exact h.notBad fd
  · intro k hk
    have := h.conn_lt k hk
    simp only [hst, show ¬ k.1 = v.nextFd by omega, ↓reduceIte]
    exact h.connOpen k hk
  · intro fd hfd
    simp only at hfd
    simp only [hst, show ¬ fd = v.nextFd by omega, ↓reduceIte]
    exact h.fresh fd (by omega)
  · exact h.nodup
  · intro fd ho
    simp only [hst] at ho
    split at ho
    · cases ho
    · exact h.openHasConn fd ho
  · exact h.nOK
  · exact h.nLast
  · exact h.nFinal
  · intro p hp
    obtain ⟨h1, h2⟩ := h.frozen p hp
    refine ⟨?_, h2⟩
    simp only [hst]
    have : ¬ p.1 = v.nextFd := by intro he; rw [he, hun] at h1; cases h1
    simp only [this, ↓reduceIte]; exact h1

/-- the last step of `ares_close_connection`: final notification `(0, 0)` (if an interest had been announced), `close`,
    connection object released -/
def vclose (v : SView) (fd : Nat) : SView :=
  let v1 := vnotify v fd false false
  { v1 with log := v1.log ++ [(fd, "close")], conns := v1.conns.filter (·.1 != fd) }

theorem SockInv.close {w} {v : SView} (h : SockInv w v) (fd : Nat) (hc : ∃ k ∈ v.conns, k.1 = fd) :
    SockInv w (vclose v fd) := by
  obtain ⟨k, hk, rfl⟩ := hc
  have hfind : v.conns.find? (·.1 == k.1) = some k := find?_of_nodup_map h.nodup hk
  have hop := h.connOpen k hk
  have hst : ∀ fd, fdState (v.log ++ [(k.1, "close")]) fd = if fd = k.1 then .closed else fdState v.log fd := fun fd =>
    (fdState_calls k.1 fd ["close"] v.log).trans (by rw [hop]; rfl)
  have hffk : (false, false) ∉ nproj v.nlog k.1 := fun hm => h.nFinal k.1 hm k hk rfl
  have hmemf : ∀ k', k' ∈ (v.conns.map (setFlags k.1 false false)).filter (·.1 != k.1) ↔ (k' ∈ v.conns ∧ k'.1 ≠ k.1) :=
    fun k' => by
      rw [List.mem_filter, bne_iff_ne]
      exact ⟨fun c => ⟨(mem_map_setFlags_ne c.2).mp c.1, c.2⟩, fun c => ⟨(mem_map_setFlags_ne c.2).mpr c.1, c.2⟩⟩
  unfold vclose vnotify
  simp only [hfind]
  constructor
  · intro fd; simp only [hst]; split
    · simp
    · exact h.notBad fd
  · intro k' hk'
    rw [hmemf] at hk'
    simp only [hst, hk'.2, ↓reduceIte]
    exact h.connOpen k' hk'.1
  · intro fd hfd
    simp only at hfd
    have hlt := h.conn_lt k hk
    have hfd' : v.nextFd ≤ fd := hfd
    simp only [hst, show ¬ fd = k.1 by omega, ↓reduceIte]
    refine ⟨(h.fresh fd hfd').1, ?_⟩
    rw [nproj_note_ne (by omega)]; exact (h.fresh fd hfd').2
  · have hsub : (((v.conns.map (setFlags k.1 false false)).filter (·.1 != k.1)).map (·.1)).Sublist
        ((v.conns.map (setFlags k.1 false false)).map (·.1)) := List.filter_sublist.map _
    rw [map_setFlags_fst] at hsub
    exact h.nodup.sublist hsub
  · intro fd ho
    simp only [hst] at ho
    split at ho
    · cases ho
    · rename_i hne
      obtain ⟨k0, hk0, hk0fd⟩ := h.openHasConn fd ho
      exact ⟨k0, (hmemf k0).2 ⟨hk0, by rw [hk0fd]; exact hne⟩, hk0fd⟩
  · intro fd'
    by_cases hfd : fd' = k.1
    · subst hfd
      simp only
      rw [nproj_note_self]
      split
      · rename_i hne
        refine (h.nOK k.1).extend (false, false) ?_ hffk
        rw [h.nLast k hk]; exact fun he => hne he.symm
      · exact h.nOK k.1
    · simp only
      rw [nproj_note_ne hfd]; exact h.nOK fd'
  · intro k' hk'
    rw [hmemf] at hk'
    simp only
    rw [nproj_note_ne hk'.2]
    exact h.nLast k' hk'.1
  · intro fd' hm k' hk'
    rw [hmemf] at hk'
    simp only at hm
    by_cases hfd : fd' = k.1
    · subst hfd; exact hk'.2
    · rw [nproj_note_ne hfd] at hm
      exact h.nFinal fd' hm k' hk'.1
  · intro p hp
    obtain ⟨h1, h2⟩ := h.frozen p hp
    have hne : p.1 ≠ k.1 := by intro he; rw [he, hop] at h1; cases h1
    simp only [hst, hne, ↓reduceIte]
    refine ⟨h1, ?_⟩
    rw [nproj_note_ne hne]; exact h2

/-- what `NotifyOK` says index-wise: consecutive notifications differ, and `(false, false)` can only be the last
    element and never the first -/
theorem NotifyOK.spec {l : List (Bool × Bool)} (h : NotifyOK l) :
    (∀ i x y, l[i]? = some x → l[i + 1]? = some y → x ≠ y) ∧
    (∀ i, l[i]? = some (false, false) → 0 < i ∧ i + 1 = l.length) := by
  induction h with
  | nil => simp
  | first x hx =>
    constructor
    · intro i a b _ h2; simp at h2
    · intro i hi
      cases i with
      | zero => simp at hi; exact absurd hi hx
      | succ n => simp at hi
  | snoc l x y hl hx hyx ih =>
    constructor
    · intro i a b h1 h2
      by_cases hlt : i + 1 < (l ++ [x]).length
      · rw [List.getElem?_append_left (by omega)] at h1
        rw [List.getElem?_append_left hlt] at h2
        exact ih.1 i a b h1 h2
      · simp only [List.length_append, List.length_cons, List.length_nil] at hlt
        have hi : i = l.length := by
          have := (List.getElem?_eq_some_iff.mp h2).1
          simp only [List.length_append, List.length_cons, List.length_nil] at this
          omega
        subst hi
        simp only [List.append_assoc, List.cons_append, List.nil_append] at h1 h2
        rw [List.getElem?_append_right (Nat.le_refl _)] at h1
        rw [List.getElem?_append_right (by omega)] at h2
        simp only [Nat.sub_self, List.getElem?_cons_zero, Option.some.injEq] at h1
        simp only [show l.length + 1 - l.length = 1 by omega, List.getElem?_cons_succ, List.getElem?_cons_zero,
          Option.some.injEq] at h2
        subst h1 h2; exact fun h => hyx h.symm
    · intro i hi
      by_cases hlt : i < (l ++ [x]).length
      · rw [List.getElem?_append_left hlt] at hi
        have := ih.2 i hi
        -- `(false, false)` would be the last element `x` of `l ++ [x]`
        exfalso
        have hlast : i = l.length := by simp only [List.length_append, List.length_cons, List.length_nil] at this; omega
        subst hlast
        rw [List.getElem?_append_right (Nat.le_refl _)] at hi
        simp only [Nat.sub_self, List.getElem?_cons_zero, Option.some.injEq] at hi
        exact hx hi
      · have hlen := (List.getElem?_eq_some_iff.mp hi).1
        simp only [List.length_append, List.length_cons, List.length_nil] at hlt hlen ⊢
        omega

end Cares.Chan
