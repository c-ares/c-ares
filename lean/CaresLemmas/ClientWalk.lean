import CaresModel.Chan.Client
import CaresModel.Proto.Search
/-!
The compound-request clients of the channel model (`clientStart` / `clientOnCb`, CaresModel/Chan/Client.lean)
run as a *pure fold* over the completions of their sub-requests.

`Chan.Core` executes a client through `bodyClientStart` / `bodyCallback` / `bodyRunActs`: the action list a
client step returns is run left to right (`.send` / `.sendSlot` start a sub-request, `.noRetry` touches a
query, `.finish` makes the user callback and releases the client, the rest of the list is dropped), and
between two callbacks the only change the executor makes to the client record is storing the query ids
`qidA` / `qidAAAA` after a `.sendSlot`.  `walkFrom` is exactly that, with the channel abstracted to the
list of completions (`Ev`) the client receives, in order.

In these files *model (A)* is `Cares.Proto` (C12: the candidate list `nameList` and the walks `searchWalk` / `gaiWalk`
over per-candidate outcomes, names as byte lists) and *model (B)* the clients of the channel model (`Cares.Chan`, names
as hex text).
-/
namespace Cares.ClientWalk
open Cares.Chan

/-- one completion callback delivered to the client: status, timeout count and answer of the sub-request,
    and the `(qidA, qidAAAA)` values the executor has stored in the client since the previous callback
    (`none`: unchanged) -/
structure Ev where
  st : Status
  timeouts : Nat := 0
  reply : Option Reply := none
  qids : Option (Nat × Nat) := none
  deriving Repr, Inhabited

/-- what the outside sees of a client run: (name, qtype) of every sub-request started, in order, and the
    `.finish` action (status, timeouts, digest) if the client has completed -/
structure Walk where
  sent : List (String × Nat) := []
  fin : Option (Status × Nat × String) := none
  deriving Repr, Inhabited, DecidableEq

/-- `bodyRunActs` on the abstract walk -/
def applyActs : List ClientAct → Walk → Walk
  | [], w => w
  | .send sp :: rest, w => applyActs rest { w with sent := w.sent ++ [(sp.name, sp.qtype)] }
  | .sendSlot sp _ :: rest, w => applyActs rest { w with sent := w.sent ++ [(sp.name, sp.qtype)] }
  | .noRetry _ :: rest, w => applyActs rest w
  | .finish st t dg :: _, w => { w with fin := some (st, t, dg) }

def setQids (c : Client) : Option (Nat × Nat) → Client
  | none => c
  | some (a, b) => { c with qidA := a, qidAAAA := b }

/-- the client `c` receives the completions `evs`; a completed client receives nothing more -/
def walkFrom (cfg : Cfg) : Client → List Ev → Walk → Walk
  | _, [], w => w
  | c, e :: es, w =>
    if w.fin.isSome then w else
    let r := clientOnCb cfg (setQids c e.qids) e.st e.timeouts e.reply
    walkFrom cfg r.1 es (applyActs r.2 w)

def clientRun (cfg : Cfg) (id : Nat) (kind : String) (tok : Nat) (react : List Nat) (spec : ReqSpec)
    (family : Nat) (evs : List Ev) : Walk :=
  let r := clientStart cfg id kind tok react spec family
  walkFrom cfg r.1 evs (applyActs r.2 {})

/-- the status codes of the channel model as `ares_status_t` of model (A) (injective; `other` of the
    channel model, which no client rule inspects, is sent to a code model (A) never inspects either) -/
def stMap : Status → Cares.Text.Status
  | .ok => .success | .nodata => .enodata | .formerr => .eformerr | .servfail => .eservfail
  | .notfound => .enotfound | .notimp => .enotimp | .refused => .erefused | .badquery => .ebadquery
  | .badname => .ebadname | .badfamily => .ebadfamily | .badresp => .ebadresp
  | .connrefused => .econnrefused | .timeout => .etimeout | .eof => .eof | .efile => .efile
  | .nomem => .enomem | .destruction => .edestruction | .badstr => .ebadstr
  | .cancelled => .ecancelled | .noserver => .enoserver | .other => .eservice

def stBack : Cares.Text.Status → Status
  | .success => .ok | .enodata => .nodata | .eformerr => .formerr | .eservfail => .servfail
  | .enotfound => .notfound | .enotimp => .notimp | .erefused => .refused | .ebadquery => .badquery
  | .ebadname => .badname | .ebadfamily => .badfamily | .ebadresp => .badresp
  | .econnrefused => .connrefused | .etimeout => .timeout | .eof => .eof | .efile => .efile
  | .enomem => .nomem | .edestruction => .destruction | .ebadstr => .badstr
  | .ecancelled => .cancelled | .enoserver => .noserver | _ => .other

theorem stBack_stMap (a : Status) : stBack (stMap a) = a := by
  cases a <;> rfl

theorem stMap_injective : ∀ a b, stMap a = stMap b → a = b := by
  intro a b h
  rw [← stBack_stMap a, h, stBack_stMap]

/-- status a sub-request of `ares_search` ends with, as `search_callback` reads it -/
def searchStatus (e : Ev) : Status :=
  match e.reply with
  | some r => replyToStatus r.rcode r.an
  | none => e.st

/-- status of a sub-request as `host_callback` sees it (behind `ares_query_nolock`'s conversion) -/
def effSt (st0 : Chan.Status) (rec : Option Reply) : Chan.Status :=
  if st0 != .ok then st0 else
    match rec with
    | some r => replyToStatus r.rcode r.an
    | none => st0

def searchOutcome (e : Ev) : Cares.Proto.Outcome := stMap (searchStatus e)

/-- `soft` of model (A) on the channel model's representation -/
def softB (last : String) (my : Status) : Bool :=
  my == .nodata || my == .notfound || ((my == .servfail || my == .refused) && labelCnt last == 1)

theorem walkFrom_fin (cfg : Cfg) (c : Client) (evs : List Ev) (w : Walk) (h : w.fin.isSome = true) :
    walkFrom cfg c evs w = w := by
  cases evs with
  | nil => rfl
  | cons e es => simp [walkFrom, h]

end Cares.ClientWalk
