import CaresLemmas.TextOptions
import CaresLemmas.TextSplit
import CaresLemmas.ListLemmas
/-! Helper lemmas for C16 `csv_fixpoint` / `dup_equiv`: rendering a server list as CSV, splitting and
    parsing it again, and feeding it back through `ares_servers_update`. -/
namespace Cares.Text

/-- the `ares_sconfig_t` a server of the channel corresponds to -/
def sconfigOf (s : Server) : SConfig := { addr := s.addr, udp := s.udp, tcp := s.tcp, iface := s.iface, scope := s.scope }

def cleanEntry (t : Bytes) : Bool := !t.isEmpty && t.all (fun c => !isDelim [32, 44] c)

/-- rendering a server and parsing the text back gives the server again -/
def entryOk (ifs : Ifaces) (s : Server) : Bool :=
  match serverAddrStr s with
  | none => false
  | some t => cleanEntry t && (match parseServerEntry t with
      | .ok sc => sconfigAppend ifs none sc.addr sc.udp sc.tcp sc.iface == some [sconfigOf s]
      | .error _ => false)

/-- one more entry on a comma separated text, as `csvStep` appends it -/
def csvCat (b x : Bytes) : Bytes := if b.isEmpty then x else b ++ [44] ++ x

def joinCsv (ts : List Bytes) : Bytes := ts.foldl csvCat []

theorem rawSplit_clean (isD : Nat → Bool) (t : Bytes) (h : t.all (fun c => !isD c) = true) : rawSplit isD t = [t] := by
  obtain ⟨h1, h2⟩ := takeWhile_all (List.all_eq_true.mp h)
  rw [rawSplit_unfold, h1, h2]

/-- splitting at the separators gives back the entries joined on to a non-empty text -/
theorem rawSplit_foldl (isD : Nat → Bool) (hd : isD 44 = true) (ts : List Bytes)
    (h : ∀ t ∈ ts, t.all (fun c => !isD c) = true) (acc : Bytes) (hacc : acc ≠ []) :
    ts.foldl csvCat acc ≠ [] ∧ rawSplit isD (ts.foldl csvCat acc) = rawSplit isD acc ++ ts := by
  induction ts generalizing acc with
  | nil => exact ⟨hacc, (List.append_nil _).symm⟩
  | cons t r ih =>
    have hc : csvCat acc t = acc ++ 44 :: t := by
      rw [csvCat, if_neg (by simpa using hacc), List.append_assoc]; rfl
    obtain ⟨h1, h2⟩ := ih (fun x hx => h x (List.mem_cons_of_mem _ hx)) (acc ++ 44 :: t) (by simp)
    rw [List.foldl_cons, hc]
    refine ⟨h1, ?_⟩
    rw [h2, rawSplit_append isD acc t 44 hd, rawSplit_clean isD t (h t List.mem_cons_self), List.append_assoc]
    rfl

theorem bufSplit_join (ts : List Bytes) (hne : ts ≠ []) (h : ∀ t ∈ ts, cleanEntry t = true) :
    joinCsv ts ≠ [] ∧ bufSplit [32, 44] SplitFlags.none 0 (joinCsv ts) = ts := by
  have hc : ∀ t ∈ ts, t ≠ [] ∧ t.all (fun c => !isDelim [32, 44] c) = true := fun t ht => by
    simpa [cleanEntry] using h t ht
  cases ts with
  | nil => exact absurd rfl hne
  | cons t r =>
    obtain ⟨h1, h2⟩ := rawSplit_foldl (isDelim [32, 44]) (by decide) r
      (fun x hx => (hc x (List.mem_cons_of_mem _ hx)).2) t (hc t List.mem_cons_self).1
    rw [show joinCsv (t :: r) = r.foldl csvCat t from rfl]
    refine ⟨h1, ?_⟩
    rw [bufSplit_spec [32, 44] SplitFlags.none rfl, if_neg h1, h2, rawSplit_clean _ t (hc t List.mem_cons_self).2]
    have htrim : (([t] ++ r).map (trimSec SplitFlags.none)) = t :: r :=
      (List.map_congr_left fun x _ => by simp [trimSec, SplitFlags.none]).trans (List.map_id _)
    rw [htrim, List.filter_eq_self]
    intro x hx
    simpa [keepPlain] using Or.inl (hc x hx).1

/-- the rendered entries of a server list, when every server renders -/
def renderAll : List Server → Option (List Bytes)
  | [] => some []
  | s :: r => match serverAddrStr s, renderAll r with
    | some t, some ts => some (t :: ts)
    | _, _ => none

theorem serversCsv_fold (l : List Server) (ts : List Bytes) (h : renderAll l = some ts) (acc : Bytes) :
    l.foldl csvStep (some acc) = some (ts.foldl csvCat acc) := by
  induction l generalizing ts acc with
  | nil => cases h; rfl
  | cons s r ih =>
    simp only [renderAll] at h
    cases hs : serverAddrStr s with
    | none => simp [hs] at h
    | some t =>
      cases hr : renderAll r with
      | none => simp [hs, hr] at h
      | some tr =>
        simp only [hs, hr, Option.some.injEq] at h
        subst h
        rw [List.foldl_cons, List.foldl_cons, ← ih tr hr]
        simp only [csvStep, hs, csvCat]

theorem sconfigAppend_acc (ifs : Ifaces) (acc : Option (List SConfig)) (a : Addr) (u t : Nat) (i : Bytes) (x : SConfig)
    (h : sconfigAppend ifs none a u t i = some [x]) : sconfigAppend ifs acc a u t i = some (acc.getD [] ++ [x]) := by
  unfold sconfigAppend at h ⊢
  split
  · rename_i hb; simp [hb] at h
  · rename_i hb
    simp only [hb, Bool.false_eq_true, ↓reduceIte, Option.getD_none, List.nil_append] at h
    simp only
    split
    · rename_i hl
      simp only [hl, ↓reduceIte] at h
      split
      · rename_i he; simp [he] at h
      · rename_i he
        simp only [he, Bool.false_eq_true, ↓reduceIte] at h
        split
        · rename_i nm sc hr
          rw [hr] at h
          simp only [Option.some.injEq, List.cons.injEq, and_true] at h
          rw [h]
        · rename_i hr
          rw [hr] at h; simp at h
    · rename_i hl
      simp only [hl, Bool.false_eq_true, ↓reduceIte, Option.some.injEq, List.cons.injEq, and_true] at h
      rw [h]

theorem entryOk_spec (ifs : Ifaces) (s : Server) (h : entryOk ifs s = true) :
    ∃ t sc, serverAddrStr s = some t ∧ cleanEntry t = true ∧ parseServerEntry t = .ok sc ∧
      sconfigAppend ifs none sc.addr sc.udp sc.tcp sc.iface = some [sconfigOf s] := by
  unfold entryOk at h
  split at h
  · simp at h
  · rename_i t ht
    simp only [Bool.and_eq_true] at h
    obtain ⟨h1, h2⟩ := h
    split at h2
    · rename_i sc hsc
      exact ⟨t, sc, ht, h1, hsc, by simpa using h2⟩
    · simp at h2

theorem renderAll_of_ok (ifs : Ifaces) (l : List Server) (h : ∀ s ∈ l, entryOk ifs s = true) :
    ∃ ts, renderAll l = some ts ∧ (∀ t ∈ ts, cleanEntry t = true) ∧
      ∀ (acc : Option (List SConfig)), ts.foldl (appendEntry ifs false) (.success, acc) =
        (.success, if l.isEmpty then acc else some (acc.getD [] ++ l.map sconfigOf)) := by
  induction l with
  | nil => exact ⟨[], rfl, by simp, by intro acc; rfl⟩
  | cons s r ih =>
    obtain ⟨ts, hts, hclean, hfold⟩ := ih (fun x hx => h x (List.mem_cons_of_mem _ hx))
    obtain ⟨t, sc, ht, hc, hp, ha⟩ := entryOk_spec ifs s (h s (by simp))
    refine ⟨t :: ts, by simp [renderAll, ht, hts], ?_, ?_⟩
    · intro x hx
      rcases List.mem_cons.mp hx with hx | hx
      · subst hx; exact hc
      · exact hclean x hx
    · intro acc
      simp only [List.foldl_cons]
      have : appendEntry ifs false (.success, acc) t = (.success, some (acc.getD [] ++ [sconfigOf s])) := by
        unfold appendEntry
        simp only [bne_self_eq_false, Bool.false_eq_true, ↓reduceIte, hp]
        rw [sconfigAppend_acc ifs acc _ _ _ _ _ ha]
      rw [this, hfold]
      cases r with
      | nil => simp
      | cons _ _ => simp

/-- parsing the rendered list gives the servers back, as `ares_sconfig_t`s -/
theorem csv_parse (ifs : Ifaces) (l : List Server) (hne : l ≠ []) (h : ∀ s ∈ l, entryOk ifs s = true) :
    ∃ csv, serversCsv l = some csv ∧ csv.isEmpty = false ∧
      appendFromStr ifs none csv false = (.success, some (l.map sconfigOf)) := by
  obtain ⟨ts, hts, hclean, hfold⟩ := renderAll_of_ok ifs l h
  have htsne : ts ≠ [] := by
    cases l with
    | nil => exact absurd rfl hne
    | cons s r =>
      simp only [renderAll] at hts
      cases h1 : serverAddrStr s <;> cases h2 : renderAll r <;> simp [h1, h2] at hts
      rw [← hts]; simp
  obtain ⟨hj, hsplit⟩ := bufSplit_join ts htsne hclean
  have hj : (joinCsv ts).isEmpty = false := by simpa using hj
  refine ⟨joinCsv ts, serversCsv_fold l ts hts [], hj, ?_⟩
  unfold appendFromStr
  simp only [hj, Bool.false_eq_true, ↓reduceIte]
  rw [hsplit, hfold none]
  cases l with
  | nil => exact absurd rfl hne
  | cons _ _ => simp

/-- what `ares_servers_update` guarantees about a channel's server list: effective (non-zero) ports,
    no two servers with the same address and ports, at most one server with `ARES_FLAG_PRIMARY` -/
structure ServersInv (p : Bool) (l : List Server) : Prop where
  ports : ∀ s ∈ l, s.udp ≠ 0 ∧ s.tcp ≠ 0
  distinct : l.Pairwise (fun a b => ¬ (b.addr = a.addr ∧ b.tcp = a.tcp ∧ b.udp = a.udp))
  primary : p = true → l.length ≤ 1

theorem effPort_self (d p : Nat) (h : p ≠ 0) : effPort d p = p := by
  unfold effPort; simp [h]

theorem effPort_ne_zero (d p : Nat) : effPort d p ≠ 0 := by
  unfold effPort
  by_cases h : p = 0 <;> by_cases h2 : d = 0 <;> simp_all

theorem find_self (l : List Server) (hd : l.Pairwise (fun a b => ¬ (b.addr = a.addr ∧ b.tcp = a.tcp ∧ b.udp = a.udp)))
    (s : Server) (hs : s ∈ l) :
    l.find? (fun o => o.addr == s.addr && o.tcp == s.tcp && o.udp == s.udp) = some s := by
  have hn : (l.map fun o => (o.addr, o.tcp, o.udp)).Nodup :=
    List.pairwise_map.mpr (hd.imp fun h e => h (by simp only [Prod.mk.injEq] at e; exact ⟨e.1.symm, e.2.1.symm, e.2.2.symm⟩))
  rw [← find?_of_nodup_map hn hs]
  exact find?_congr fun o _ => by rw [Bool.and_assoc]; rfl

theorem distinct_sconfig (u t : Nat) (l : List Server) (hp : ∀ s ∈ l, s.udp ≠ 0 ∧ s.tcp ≠ 0)
    (hd : l.Pairwise (fun a b => ¬ (b.addr = a.addr ∧ b.tcp = a.tcp ∧ b.udp = a.udp))) :
    DistinctKeys u t (l.map sconfigOf) := by
  unfold DistinctKeys
  rw [List.pairwise_map]
  refine List.Pairwise.imp_of_mem ?_ hd
  intro a b ha hb hab
  unfold sameServer sconfigOf
  simp only
  rw [effPort_self t b.tcp (hp b hb).2, effPort_self t a.tcp (hp a ha).2, effPort_self u b.udp (hp b hb).1,
      effPort_self u a.udp (hp a ha).1]
  cases hx : (b.addr == a.addr && b.tcp == a.tcp && b.udp == a.udp) with
  | false => rfl
  | true =>
    simp only [Bool.and_eq_true, beq_iff_eq] at hx
    exact absurd ⟨hx.1.1, hx.1.2, hx.2⟩ hab

/-- feeding a channel's own server list back through `ares_servers_update` changes nothing -/
theorem serversUpdate_self (u t : Nat) (p : Bool) (l : List Server) (h : ServersInv p l) :
    serversUpdate u t p l (l.map sconfigOf) = l := by
  unfold serversUpdate
  rw [dedup_id u t _ [] (distinct_sconfig u t l h.ports h.distinct) (by simp)]
  have hmap : (l.map sconfigOf).map (updateOne u t l) = l := by
    rw [List.map_map]
    conv => rhs; rw [← List.map_id l]
    apply List.map_congr_left
    intro s hs
    simp only [Function.comp, sconfigOf, id, updateOne]
    rw [effPort_self t s.tcp (h.ports s hs).2, effPort_self u s.udp (h.ports s hs).1, find_self l h.distinct s hs]
    simp only
    by_cases hi : s.iface.isEmpty = true <;> simp [hi]
  simp only
  rw [hmap]
  cases hp : p with
  | false => simp
  | true =>
    simp only [↓reduceIte]
    have := h.primary hp
    exact List.take_of_length_le this

theorem updateOne_key (u t : Nat) (old : List Server) (s : SConfig) :
    (updateOne u t old s).addr = s.addr ∧ (updateOne u t old s).tcp = effPort t s.tcp ∧
    (updateOne u t old s).udp = effPort u s.udp := by
  unfold updateOne
  simp only
  split
  · rename_i o ho
    have := List.find?_some ho
    simp only [Bool.and_eq_true, beq_iff_eq] at this
    split <;> simp [this.1.1, this.1.2, this.2]
  · simp

theorem serversUpdate_inv (u t : Nat) (p : Bool) (old : List Server) (l : List SConfig) :
    ServersInv p (serversUpdate u t p old l) := by
  have hbase : ServersInv false ((dedupSConfig u t l []).map (updateOne u t old)) := by
    refine ⟨?_, ?_, by simp⟩
    · intro s hs
      simp only [List.mem_map] at hs
      obtain ⟨k, _, rfl⟩ := hs
      obtain ⟨_, h2, h3⟩ := updateOne_key u t old k
      rw [h2, h3]
      exact ⟨effPort_ne_zero _ _, effPort_ne_zero _ _⟩
    · rw [List.pairwise_map]
      refine List.Pairwise.imp ?_ (dedup_spec u t l []).1
      intro a b hab
      obtain ⟨a1, a2, a3⟩ := updateOne_key u t old a
      obtain ⟨b1, b2, b3⟩ := updateOne_key u t old b
      rw [a1, a2, a3, b1, b2, b3]
      intro hk
      unfold sameServer at hab
      simp [hk.1, hk.2.1, hk.2.2] at hab
  unfold serversUpdate
  simp only
  cases p with
  | false => simpa using hbase
  | true =>
    simp only [↓reduceIte]
    refine ⟨?_, ?_, ?_⟩
    · intro s hs; exact hbase.ports s (List.mem_of_mem_take hs)
    · exact List.Pairwise.sublist (List.take_sublist _ _) hbase.distinct
    · intro _; simp [List.length_take]; omega

/-- `ares_get_servers_csv` rendered and fed back to `ares_set_servers_ports_csv` reproduces the server
    list (and therefore the same text), provided every entry survives the text round trip -/
theorem csv_roundtrip (c : Chan) (ifs : Ifaces)
    (hinv : ServersInv (hasFlag c.flags flagPrimary) c.servers)
    (hok : ∀ s ∈ c.servers, entryOk ifs s = true) :
    ∃ csv, getServersCsv c = some csv ∧
      setServersCsv c ifs csv = (.success, { c with optmask := { c.optmask with servers := true } }) := by
  cases hs : c.servers with
  | nil =>
    refine ⟨[], by simp [getServersCsv, serversCsv, hs], ?_⟩
    simp only [setServersCsv, List.isEmpty_nil, ↓reduceIte, Chan.updateServers, hs]
    congr 1
    apply Chan.ext <;> simp [serversUpdate, dedupSConfig, hs]
  | cons x r =>
    obtain ⟨csv, h1, h2, h3⟩ := csv_parse ifs c.servers (by rw [hs]; simp) hok
    refine ⟨csv, h1, ?_⟩
    unfold setServersCsv
    simp only [h2, Bool.false_eq_true, ↓reduceIte, h3, bne_self_eq_false, Option.getD_some, Chan.updateServers]
    rw [serversUpdate_self _ _ _ _ hinv]
    congr 1
    apply Chan.ext <;> simp [hs]

theorem hasFlag_orFlag_primary (f : Nat) : hasFlag (orFlag f flagUsevc) flagPrimary = hasFlag f flagPrimary ∧
    hasFlag (orFlag f flagEdns) flagPrimary = hasFlag f flagPrimary := by
  unfold orFlag
  constructor
  · split
    · rfl
    · rename_i h
      -- bit 0 is clear, so adding 1 does not carry
      have h0 : f % 2 = 0 := by
        unfold hasFlag flagUsevc at h
        rw [Nat.div_one, beq_iff_eq] at h
        omega
      show ((f + 1) / 2 % 2 == 1) = (f / 2 % 2 == 1)
      rw [show (f + 1) / 2 = f / 2 by omega]
  · split
    · rfl
    · show ((f + 128 * 2) / 2 % 2 == 1) = (f / 2 % 2 == 1)
      rw [Nat.add_mul_div_right _ _ (by decide), show 128 = 64 * 2 from rfl, Nat.add_mul_mod_self_right]
theorem flags_aux (f : Nat) (b1 b2 : Bool) :
    hasFlag (if b1 = true then orFlag (if b2 = true then orFlag f flagUsevc else f) flagEdns
             else if b2 = true then orFlag f flagUsevc else f) flagPrimary = hasFlag f flagPrimary := by
  cases b1 <;> cases b2 <;>
    simp only [Bool.false_eq_true, ↓reduceIte, (hasFlag_orFlag_primary _).1, (hasFlag_orFlag_primary _).2]

/-- `ARES_FLAG_PRIMARY` of a channel is decided by `ares_init_by_options` alone -/
theorem finish_primary (a : Chan) (e : SysEnv) :
    hasFlag (finish a e).flags flagPrimary = hasFlag a.flags flagPrimary := by
  unfold finish
  rcases initBySysconfig_cases a e with h | ⟨s, h⟩ <;> rw [h]
  · simp only [applyDefaults, defaultFlags]
    split
    · exact (hasFlag_orFlag_primary _).2
    · rfl
  · simp only [applyDefaults, defaultFlags, sysconfigApply, sysconfigApplyG]
    exact flags_aux _ _ _

/-- a freshly initialised channel whose servers the application supplied: `ares_dup` gives the same
    channel, through the CSV step -/
theorem dup_init (e : SysEnv) (o : Options) (m : Mask) (ch : Chan) (hwf : o.WF)
    (h : initOptions e (some o) m = .ok ch)
    (hok : ch.optmask.servers = true → ∀ s ∈ ch.servers, entryOk e.ifs s = true) :
    dup ch e = .ok ch := by
  obtain ⟨o', m', hs, hi⟩ := save_init_fixpoint' e o m ch hwf h
  have hm' : m' = ch.optmask := by
    unfold saveOptions at hs
    split at hs
    · simp at hs
    · simp only [Except.ok.injEq, Prod.mk.injEq] at hs; exact hs.2.symm
  unfold dup
  rw [hs]
  simp only [hi]
  cases hb : m'.servers with
  | false => simp
  | true =>
    simp only [↓reduceIte]
    have hbs : ch.optmask.servers = true := by rw [← hm']; exact hb
    -- the server list is what ares_servers_update built from the options
    rw [initOptions_some] at h
    split at h
    · simp at h
    · simp only [Except.ok.injEq] at h
      have hinv : ServersInv (hasFlag ch.flags flagPrimary) ch.servers := by
        have g := init_facts e o m hwf
        have hnm : (normMask o m).servers = true := by rw [← g.optmask, h]; exact hbs
        have e1 := g.servers hnm
        rw [← h, e1, finish_primary]
        rw [(applyOptions_fields {} o m).servers]
        simp only [hnm, ↓reduceIte]
        exact serversUpdate_inv _ _ _ _ _
      obtain ⟨csv, hc1, hc2⟩ := csv_roundtrip ch e.ifs hinv (hok hbs)
      rw [hc1]
      simp only [hc2, bne_self_eq_false, Bool.false_eq_true, ↓reduceIte]
      congr 1
      apply Chan.ext <;> simp
      apply Mask.ext <;> simp [hbs]

end Cares.Text
