import CaresModel.Text.Split
/-! Helper lemmas for C15: `ares_buf_split` (the loop model) refines plain splitting at delimiters, and
    splitting into lines distributes over concatenation at a line feed. -/
namespace Cares.Text

theorem rawSplit_ne_nil (isD : Nat → Bool) (bs : Bytes) : rawSplit isD bs ≠ [] := by
  induction bs with
  | nil => simp [rawSplit]
  | cons c cs ih =>
    unfold rawSplit
    split
    · simp
    · split <;> simp

theorem rawSplit_cons_notD (isD : Nat → Bool) (c : Nat) (cs : Bytes) (h : isD c = false) :
    rawSplit isD (c :: cs) = (c :: (rawSplit isD cs).headD []) :: (rawSplit isD cs).tail := by
  conv => lhs; unfold rawSplit
  simp only [h]
  cases rawSplit isD cs <;> simp

theorem headD_append_of_ne {α} (l m : List α) (d : α) (h : l ≠ []) : (l ++ m).headD d = l.headD d := by
  cases l <;> simp_all

theorem rawSplit_append (isD : Nat → Bool) (a b : Bytes) (d : Nat) (hd : isD d = true) :
    rawSplit isD (a ++ d :: b) = rawSplit isD a ++ rawSplit isD b := by
  induction a with
  | nil => simp [rawSplit, hd]
  | cons c cs ih =>
    by_cases hc : isD c = true
    · simp [rawSplit, hc, ih]
    · have hc' : isD c = false := by simpa using hc
      rw [List.cons_append, rawSplit_cons_notD isD c _ hc', rawSplit_cons_notD isD c cs hc', ih]
      have hne := rawSplit_ne_nil isD cs
      rw [headD_append_of_ne _ _ _ hne, List.tail_append_of_ne_nil hne]
      simp

theorem rawSplit_unfold (isD : Nat → Bool) (bs : Bytes) :
    rawSplit isD bs = bs.takeWhile (fun c => !isD c) ::
      (match bs.dropWhile (fun c => !isD c) with
       | [] => []
       | _ :: r => rawSplit isD r) := by
  induction bs with
  | nil => simp [rawSplit]
  | cons c cs ih =>
    by_cases hc : isD c = true
    · simp [rawSplit, hc]
    · have hc' : isD c = false := by simpa using hc
      rw [rawSplit_cons_notD isD c cs hc', ih]
      simp [hc']

/-- the sections the loop still has to visit -/
def pendingSecs (delims : List Nat) (first : Bool) (rest : Bytes) : List Bytes :=
  if rest = [] then [] else rawSplit (isDelim delims) (if first then rest else rest.drop 1)

def keepPlain (f : SplitFlags) (v : Bytes) : Bool := !v.isEmpty || f.allowBlank

theorem keepSec_noDup (f : SplitFlags) (h : f.noDup = false) (acc : List Bytes) (v : Bytes) :
    keepSec f acc v = keepPlain f v := by
  simp [keepSec, keepPlain, h]

theorem length_dropWhile_le' {α} (p : α → Bool) (l : List α) : (l.dropWhile p).length ≤ l.length :=
  (List.dropWhile_sublist p).length_le

theorem splitLoop_spec (delims : List Nat) (f : SplitFlags) (hnd : f.noDup = false) :
    ∀ (fuel : Nat) (first : Bool) (rest : Bytes) (acc : List Bytes),
      rest.length + (if first then 1 else 0) ≤ fuel →
      splitLoop delims f 0 fuel first rest acc =
        acc ++ ((pendingSecs delims first rest).map (trimSec f)).filter (keepPlain f) := by
  intro fuel
  induction fuel with
  | zero =>
    intro first rest acc h
    have : rest = [] := by
      cases rest with
      | nil => rfl
      | cons a r => simp at h
    subst this
    simp [splitLoop, pendingSecs]
  | succ n ih =>
    intro first rest acc h
    unfold splitLoop
    by_cases hr : rest = []
    · subst hr; simp [pendingSecs]
    · have hr' : rest.isEmpty = false := by simpa using hr
      simp only [hr', Bool.false_eq_true, ↓reduceIte, bne_self_eq_false, Bool.false_and, keepSec_noDup f hnd]
      generalize hrest1 : (if first = true then rest else rest.drop 1) = rest1
      have hlen : (rest1.dropWhile (fun c => !isDelim delims c)).length + (if false = true then 1 else 0) ≤ n := by
        have h1 := length_dropWhile_le' (fun c => !isDelim delims c) rest1
        have h2 : rest1.length + 1 ≤ n + 1 := by
          subst hrest1
          cases first with
          | true => simpa using h
          | false =>
            have : rest.length ≥ 1 := by cases rest <;> simp_all
            simp at h ⊢; omega
        simp; omega
      rw [ih false _ _ hlen]
      simp only [pendingSecs, hr, ↓reduceIte, hrest1]
      rw [rawSplit_unfold (isDelim delims) rest1]
      simp only [List.map_cons, List.filter_cons, Bool.false_eq_true, ↓reduceIte]
      have e : (match rest1.dropWhile (fun c => !isDelim delims c) with
                | [] => []
                | _ :: r => rawSplit (isDelim delims) r) =
               (if rest1.dropWhile (fun c => !isDelim delims c) = [] then []
                else rawSplit (isDelim delims) ((rest1.dropWhile (fun c => !isDelim delims c)).drop 1)) := by
        cases rest1.dropWhile (fun c => !isDelim delims c) <;> simp
      rw [e]
      by_cases hk : keepPlain f (trimSec f (rest1.takeWhile (fun c => !isDelim delims c))) = true
      · simp [hk]
      · simp [hk]

theorem bufSplit_spec (delims : List Nat) (f : SplitFlags) (hnd : f.noDup = false) (bs : Bytes) :
    bufSplit delims f 0 bs =
      ((if bs = [] then [] else rawSplit (isDelim delims) bs).map (trimSec f)).filter (keepPlain f) := by
  unfold bufSplit
  rw [splitLoop_spec delims f hnd _ true bs [] (by simp)]
  simp [pendingSecs]

theorem isDelim_lf (c : Nat) : isDelim [10] c = (c == 10) := by
  simp [isDelim, List.contains, List.elem]
  cases (c == 10) <;> rfl

theorem lines_eq_spec (bs : Bytes) : lines bs = linesSpec bs := by
  unfold lines linesSpec
  rw [bufSplit_spec [10] SplitFlags.trim rfl]
  have hD : isDelim [10] = (fun c => c == 10) := by funext c; exact isDelim_lf c
  have hk : keepPlain SplitFlags.trim = (fun l => !l.isEmpty) := by
    funext l; simp [keepPlain, SplitFlags.trim]
  rw [hD, hk]
  by_cases h : bs = []
  · subst h; simp [rawSplit, trimSec, SplitFlags.trim]
  · simp [h]

theorem linesSpec_append (a b : Bytes) : linesSpec (a ++ 10 :: b) = linesSpec a ++ linesSpec b := by
  unfold linesSpec
  rw [rawSplit_append (· == 10) a b 10 (by simp)]
  simp

theorem lines_append (a b : Bytes) : lines (a ++ 10 :: b) = lines a ++ lines b := by
  rw [lines_eq_spec, lines_eq_spec, lines_eq_spec, linesSpec_append]

end Cares.Text
