import CaresLemmas.ChanShape
import CaresLemmas.ChanLookup
/-!
# `ares_query_remove_from_conn`: what it does to the state, and look-ups after it
-/
namespace Cares.Chan

/-- the rewrite `removeFromConn` applies to the query -/
def unlinkQ (q : Query) : Query := { q with conn := none, inConnList := false, deadline := .none }

/-- `ares_query_remove_from_conn` does nothing to a query that does not exist; otherwise it takes the key out of the
    two lists and rewrites exactly that query -/
theorem removeFromConn_cases (s : St) (k : Nat) :
    (s.query? k = none ∧ s.removeFromConn k = s) ∨
    ((s.query? k).isSome ∧ (s.removeFromConn k).byTimeout = s.byTimeout.erase k ∧
      (s.removeFromConn k).pendingOrder = s.pendingOrder.erase k ∧
      (s.removeFromConn k).qs = s.qs.map fun x => if x.key == k then unlinkQ x else x) := by
  unfold St.removeFromConn
  split
  · exact .inl ⟨‹_›, rfl⟩
  · rename_i q hq
    refine .inr ⟨by rw [hq]; rfl, ?_⟩
    dsimp only
    split <;> exact ⟨rfl, rfl, rfl⟩

theorem removeFromConn_qs (s : St) (k : Nat) :
    (s.removeFromConn k).qs = s.qs.map (fun x => if x.key == k then unlinkQ x else x) ∨
    (s.query? k = none ∧ (s.removeFromConn k).qs = s.qs) := by
  rcases removeFromConn_cases s k with ⟨hn, e⟩ | ⟨_, _, _, e⟩
  · exact .inr ⟨hn, by rw [e]⟩
  · exact .inl e

theorem query?_removeFromConn_self (s : St) (k : Nat) :
    (s.removeFromConn k).query? k = (s.query? k).map unlinkQ := by
  rcases removeFromConn_cases s k with ⟨hn, e⟩ | ⟨_, _, _, e⟩
  · rw [e, hn]; rfl
  · unfold St.query?; rw [e]; exact find?_update_self (key := Query.key) (f := unlinkQ) (fun _ h => h) s.qs

theorem query?_removeFromConn_ne (s : St) {k k' : Nat} (hne : k' ≠ k) :
    (s.removeFromConn k).query? k' = s.query? k' := by
  rcases removeFromConn_cases s k with ⟨_, e⟩ | ⟨_, _, _, e⟩
  · rw [e]
  · unfold St.query?; rw [e]; exact find?_update_ne (key := Query.key) (f := unlinkQ) (fun _ h => h) s.qs hne

theorem query?_after_remove {s : St} {key : Nat} {q0 : Query} (hq : s.query? key = some q0) :
    (s.removeFromConn key).query? key = some (unlinkQ q0) := by
  rw [query?_removeFromConn_self, hq]; rfl

/-- the stored query after the first two steps of `ares_requeue_query`: detached, the error status recorded, the try
    counted -/
theorem query?_requeued {s : St} {key : Nat} {q : Query} (hq : s.query? key = some q) (st : Status) (inc : Bool) :
    ((s.removeFromConn key).modQuery key fun q =>
      { q with errorStatus := if st != .ok then st else q.errorStatus,
               tryCount := if inc then q.tryCount + 1 else q.tryCount }).query? key =
      some { unlinkQ q with errorStatus := if st != .ok then st else q.errorStatus,
                            tryCount := if inc then q.tryCount + 1 else q.tryCount } := by
  rw [query?_modQuery_self, query?_after_remove hq]
  · rfl
  · exact fun _ => rfl

end Cares.Chan
