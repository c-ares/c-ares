import CaresLemmas.LListOps
/-! Helper lemmas for the pointer-level `ares_llist` model: the heap-wide invariant under allocation,
    release, attach and detach. -/
namespace Cares.Dsa.LHeap

theorem GInv.not_member {h : LHeap} {abs : Nat → Option (List Nat)} (g : GInv h abs) (n : Nat)
    (hn : ∀ nd, h.nodes n = some nd → nd.parent = none) : ∀ L2 l2, abs L2 = some l2 → n ∉ l2 := by
  intro L2 l2 h2 hm
  obtain ⟨nd, e, p⟩ := (g.repr L2 l2 h2).node_of_mem n hm
  have := hn nd e
  rw [p] at this; cases this

theorem ginv_setNode (h : LHeap) (abs : Nat → Option (List Nat)) (n : Nat) (v : Option LNode) (g : GInv h abs)
    (hnm : ∀ L2 l2, abs L2 = some l2 → n ∉ l2) (hv : ∀ nd, v = some nd → nd.parent = none) :
    GInv (h.setNode n v) abs := by
  refine ⟨g.lists, ?_, ?_⟩
  · intro L l hl
    exact (g.repr L l hl).frame rfl fun x hx => by
      rw [setNode_nodes, if_neg fun (e : x = n) => hnm L l hl (e ▸ hx)]
  · intro x nd L hx hp
    rw [setNode_nodes] at hx
    by_cases hxn : x = n
    · rw [if_pos hxn] at hx; rw [hv nd hx] at hp; cases hp
    · rw [if_neg hxn] at hx; exact g.owner x nd L hx hp

/-- allocation of a node (`ares_malloc_zero`: all pointers NULL) -/
theorem ginv_alloc (h : LHeap) (abs : Nat → Option (List Nat)) (n : Nat) (g : GInv h abs) (hn : h.nodes n = none) :
    GInv (h.setNode n (some { prev := none, next := none, parent := none })) abs :=
  ginv_setNode h abs n _ g (g.not_member n (fun nd e => by rw [hn] at e; cases e)) (fun nd e => by cases e; rfl)

theorem ginv_free (h : LHeap) (abs : Nat → Option (List Nat)) (n : Nat) (g : GInv h abs)
    (hn : ∀ nd, h.nodes n = some nd → nd.parent = none) : GInv (h.setNode n none) abs :=
  ginv_setNode h abs n none g (g.not_member n hn) (fun nd e => by cases e)

theorem ginv_detach (h : LHeap) (abs : Nat → Option (List Nat)) (L : Nat) (l : List Nat) (j : Nat) (g : GInv h abs)
    (hl : abs L = some l) (hj : j < l.length) :
    GInv (detach h l[j]) (absSet abs L (l.eraseIdx j)) ∧
      ∃ nd, (detach h l[j]).nodes l[j] = some nd ∧ nd.parent = none := by
  obtain ⟨r', hlists, hframe, hself⟩ := detach_spec h L l j (g.repr L l hl) hj
  refine ⟨?_, _, hself, rfl⟩
  refine ginv_update h _ abs L l (l.eraseIdx j) (fun y => y ∈ l) g hl hlists (fun y hy => hframe y hy)
    (fun y hy => Or.inl hy) r' ?_ (fun y hy hny => absurd hy hny)
  intro y hy
  by_cases hyj : y = l[j]
  · right; intro nd e; rw [hyj, hself] at e; cases e; rfl
  · left
    obtain ⟨i, hi, e⟩ := List.getElem_of_mem hy
    exact List.mem_eraseIdx_iff_getElem.2 ⟨i, hi, fun hh => hyj (by subst hh; exact e.symm), e⟩

theorem ginv_linkAt {h : LHeap} {abs : Nat → Option (List Nat)} {L : Nat} {l : List Nat} {n : Nat} {nd0 : LNode}
    (j : Nat) (g : GInv h abs) (hl : abs L = some l) (hn : h.nodes n = some nd0) (hp : nd0.parent = none)
    (hj : j ≤ l.length) : GInv (linkAt h L l j n) (absSet abs L (l.insertIdx j n)) := by
  have hnm := g.not_member n (fun nd e => by rw [hn] at e; cases e; exact hp)
  obtain ⟨r', hlists, hframe⟩ := linkAt_spec h L l j n (g.repr L l hl) hj (hnm L l hl)
  have hmem : ∀ y, y = n ∨ y ∈ l → y ∈ l.insertIdx j n := fun _ hy => (List.mem_insertIdx hj).2 hy
  refine ginv_update h _ abs L l _ (fun y => y = n ∨ y ∈ l) g hl hlists ?_ ?_ r' (fun y hy => Or.inl (hmem y hy))
    (fun y hy _ => hmem y (Or.inr hy))
  · intro y hy; exact hframe y (fun e => hy (Or.inl e)) (fun e => hy (Or.inr e))
  · intro y hy
    rcases hy with rfl | hy
    · exact Or.inr hnm
    · exact Or.inl hy

theorem ginv_attach_head (lp : Bool) (h : LHeap) (abs : Nat → Option (List Nat)) (L : Nat) (l : List Nat)
    (a : Option Nat) (n : Nat) (nd0 : LNode) (g : GInv h abs) (hl : abs L = some l) (hn : h.nodes n = some nd0)
    (hp : nd0.parent = none) : GInv (attachAt lp h L .head a n) (absSet abs L (n :: l)) :=
  attachAt_head_eq lp h L l a n nd0 (g.repr L l hl) hn ▸ ginv_linkAt 0 g hl hn hp (Nat.zero_le _)

theorem ginv_attach_tail (lp : Bool) (h : LHeap) (abs : Nat → Option (List Nat)) (L : Nat) (l : List Nat)
    (a : Option Nat) (n : Nat) (nd0 : LNode) (g : GInv h abs) (hl : abs L = some l) (hn : h.nodes n = some nd0)
    (hp : nd0.parent = none) : GInv (attachAt lp h L .tail a n) (absSet abs L (l ++ [n])) :=
  attachAt_tail_eq lp h L l a n nd0 (g.repr L l hl) hn ▸ List.insertIdx_length_self ▸
    ginv_linkAt l.length g hl hn hp (Nat.le_refl _)

theorem ginv_attach_before (h : LHeap) (abs : Nat → Option (List Nat)) (L : Nat) (l : List Nat) (j n : Nat)
    (nd0 : LNode) (g : GInv h abs) (hl : abs L = some l) (hj : j < l.length) (hj0 : 0 < j)
    (hn : h.nodes n = some nd0) (hp : nd0.parent = none) :
    GInv (attachAt true h L .before (some l[j]) n) (absSet abs L (l.insertIdx j n)) :=
  attachAt_before_eq h L l j n nd0 (g.repr L l hl) hj hj0 hn ▸ ginv_linkAt j g hl hn hp (Nat.le_of_lt hj)

end Cares.Dsa.LHeap
