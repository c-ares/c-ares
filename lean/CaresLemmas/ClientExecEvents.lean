import CaresLemmas.ClientExecInv
/-!
# The log seen by one compound request, and its events against the invariant (pure)

Projections of a log for one compound request `cid`: the completions delivered to it (`evsOf`), the sub-requests
started for it (`sentOf`), the completions handed to its user callback (`finsOf`), its creation (`startsOf`).
`Causal cid L`: every completion delivered to `cid` comes while more sub-requests have been started for `cid` than
completions delivered to it (a completion is that of a sub-request started before and not yet completed).

`FoldInv.init`, `FoldInv.step`: the creation of `cid` establishes `FoldInv` of its view and every other event of `cid` keeps it;
`fold_of_replay` (ClientExecFoldOfReplay) follows a replaying, causal log with them.
-/
namespace Cares.Chan
open Cares.ClientWalk

deriving instance DecidableEq for Ev

def ev1 (cid : Nat) : CItem → List Ev
  | .cb id st t rec qa qb => if id = cid then [{ st := st, timeouts := t, reply := rec, qids := some (qa, qb) }] else []
  | _ => []

def sent1 (cid : Nat) : CItem → List (String × Nat)
  | .act id a => if id = cid then sentOfAct a else []
  | _ => []

def fin1 (cid : Nat) : CItem → List (Status × Nat × String)
  | .act id a => if id = cid then finOfAct a else []
  | _ => []

def start1 (cid : Nat) : CItem → List (String × Nat × List Nat × ReqSpec × Nat)
  | .start id k tok re sp f => if id = cid then [(k, tok, re, sp, f)] else []
  | _ => []

/-- completions delivered to `cid` (each with the query ids stored in its record at that moment), in order -/
def evsOf (cid : Nat) (L : CLog) : List Ev := L.flatMap (ev1 cid)
/-- `(name, qtype)` of the sub-requests started for `cid`, in order -/
def sentOf (cid : Nat) (L : CLog) : List (String × Nat) := L.flatMap (sent1 cid)
/-- `(status, timeouts, digest)` handed to `cid`'s user callback -/
def finsOf (cid : Nat) (L : CLog) : List (Status × Nat × String) := L.flatMap (fin1 cid)
def startsOf (cid : Nat) (L : CLog) : List (String × Nat × List Nat × ReqSpec × Nat) := L.flatMap (start1 cid)

/-- causality, as a check over the log with the two counters -/
def causalFrom (cid : Nat) : Nat → Nat → CLog → Bool
  | _, _, [] => true
  | nc, ns, i :: l =>
    ((ev1 cid i).isEmpty || decide (nc < ns)) &&
      causalFrom cid (nc + (ev1 cid i).length) (ns + (sent1 cid i).length) l

/-- every completion delivered to `cid` is preceded by more sub-request starts than completions -/
def Causal (cid : Nat) (L : CLog) : Prop := causalFrom cid 0 0 L = true

instance (cid : Nat) (L : CLog) : Decidable (Causal cid L) := by unfold Causal; infer_instance

theorem proj_other {cid : Nat} {i : CItem} (h : i.who ≠ cid) :
    ev1 cid i = [] ∧ sent1 cid i = [] ∧ fin1 cid i = [] ∧ start1 cid i = [] := by
  cases i <;> simp only [CItem.who] at h <;> simp [ev1, sent1, fin1, start1, h]

section
variable {cfg : Cfg} {c0 : Client} {a0 : List ClientAct} {E : List Ev} {S : List (String × Nat)}
  {Fi : List (Status × Nat × String)} {l : LSt}

/-- **every event of the compound request (other than its creation) preserves the invariant** of its view -/
theorem FoldInv.step {cid : Nat} {r r1 : RSt} (h : FoldInv cfg c0 a0 E S Fi (lproj cid r)) (i : CItem)
    (hr : rstep cfg r i = some r1) (hw : i.who = cid) (hs : i.isStart = false)
    (hc : (ev1 cid i).isEmpty = true ∨ E.length < S.length) :
    FoldInv cfg c0 a0 (E ++ ev1 cid i) (S ++ sent1 cid i) (Fi ++ fin1 cid i) (lproj cid r1) := by
  cases RStep.of hr with
  | start => cases hs
  | @cb _ id c st t rec hcl =>
    obtain rfl : id = cid := hw
    have hcid : c.id = id := by simpa using List.find?_some hcl
    simp only [ev1, sent1, fin1, ↓reduceIte, List.append_nil, List.isEmpty_cons, Bool.false_eq_true, false_or] at hc ⊢
    simp only [lproj, List.filter_cons, beq_self_eq_true, ↓reduceIte, List.map_cons]
    rw [find?_modC _ _ _ (fun x _ => by rw [clientOnCb_id, hcid]), if_pos rfl, hcl]
    exact h.cb c hcl st t rec hc
  | @act cl nx id a rest σ =>
    obtain rfl : id = cid := hw
    simp only [ev1, sent1, fin1, ↓reduceIte, List.append_nil, lproj, List.filter_append, List.map_append, afterAct_mine]
    exact h.act a rest _ (lproj_stack_cons rfl)
  | slot id slot qid =>
    obtain rfl : id = cid := hw
    simp only [ev1, sent1, fin1, List.append_nil, lproj]
    rw [find?_modC _ _ _ (fun c hc => by rw [setSlot_id, hc]), if_pos rfl]
    refine ⟨h.finsLe, h.walk, ?_, h.count, h.oneVis, h.finQuiet, ?_, h.mark⟩
    · intro hf
      obtain ⟨c, hc1, hc2⟩ := h.recOk hf
      exact ⟨_, congrArg (Option.map _) hc1, hc2.setSlot slot qid⟩
    · intro hn
      exact h.recNone (Option.map_eq_none_iff.mp hn)
  | @lost cl nx id st t dg rest σ hn =>
    obtain rfl : id = cid := hw
    have hq := h.finQuiet (h.recNone hn)
    rw [lproj_stack_cons rfl] at hq
    have := ((quiet_app_iff _ _).mp hq).2
    simp [Quiet, hasFinish] at this
  | @rel cl nx id σ =>
    obtain rfl : id = cid := hw
    have hst := lproj_stack_cons (cid := id) (r := ⟨cl, nx, (id, none) :: σ⟩) rfl
    simp only [ev1, sent1, fin1, List.append_nil, lproj, find?_remove (key := Client.id), ↓reduceIte]
    have hne : Fi ≠ [] := h.mark (hst ▸ List.mem_cons_self ..)
    refine ⟨h.finsLe, ?_, ?_, h.count, ?_, ?_, fun _ => hne, fun _ => hne⟩
    · rw [h.walk, hst]; rfl
    · intro hf; exact absurd (h.of_fin_none hf).2 hne
    · have := h.oneVis; rw [hst] at this; exact this
    · intro _
      have := h.finQuiet hne
      rw [hst] at this
      exact this
  | @ret cl nx id σ =>
    obtain rfl : id = cid := hw
    have hst := lproj_stack_cons (cid := id) (r := ⟨cl, nx, (id, some []) :: σ⟩) rfl
    simp only [ev1, sent1, fin1, List.append_nil, lproj]
    refine ⟨h.finsLe, ?_, h.recOk, h.count, ?_, ?_, h.recNone, ?_⟩
    · rw [h.walk, hst]
      show applyActs (pendOf _ ++ []) _ = _
      rw [List.append_nil]
    · have := h.oneVis
      rw [hst] at this
      simpa only [nvis, Quiet.nil, ↓reduceIte, Nat.zero_add] using this
    · intro hne
      have := h.finQuiet hne
      rw [hst, pendOf, List.append_nil] at this
      exact this
    · intro hm
      apply h.mark; rw [hst]; exact List.mem_cons_of_mem _ hm

end

/-- the invariant right after `clientStart` -/
theorem FoldInv.init (cfg : Cfg) (cid : Nat) (k : String) (tok : Nat) (re : List Nat) (sp : ReqSpec) (f : Nat) :
    FoldInv cfg (clientStart cfg cid k tok re sp f).1 (clientStart cfg cid k tok re sp f).2 [] [] []
      ⟨some (clientStart cfg cid k tok re sp f).1, [some (clientStart cfg cid k tok re sp f).2]⟩ := by
  have hok := clientStart_ok cfg cid k tok re sp f
  refine ⟨Nat.zero_le _, ?_, fun _ => ⟨_, rfl, SameQ.refl _⟩, ?_, ?_, fun h => absurd rfl h, fun h => (by cases h), ?_⟩
  · show applyActs _ _ = applyActs ([] ++ _) _
    rfl
  · simp only [foldC, List.length_nil, Nat.add_zero, applyActs_sent_len, Nat.zero_add]
    have hc := hok.count
    cases hf : hasFinish (clientStart cfg cid k tok re sp f).2 with
    | true =>
      rw [hf] at hc; simp only [↓reduceIte] at hc
      have := applyActs_fin_some (clientStart cfg cid k tok re sp f).2 {} hf
      rw [if_neg (by intro e; rw [e] at this; cases this)]
      omega
    | false =>
      rw [hf] at hc; simp only [Bool.false_eq_true, ↓reduceIte] at hc
      rw [if_pos (by rw [applyActs_fin_keep _ _ hf])]
      exact hc
  · show (if Quiet _ then 0 else 1) + 0 ≤ 1
    split <;> omega
  · intro hm
    rcases List.mem_cons.mp hm with e | e
    · cases e
    · cases e

end Cares.Chan
