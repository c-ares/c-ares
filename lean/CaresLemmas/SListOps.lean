import CaresLemmas.SListPush
/-! Helper lemmas for the skip-list model: push / pop / insert / remove / reinsert against the invariant. -/
namespace Cares.Dsa.SList

/-- the invariant without the counter (push and pop alone do not touch `cnt`): `Inv` is `Core` and `cntOk`.  The model's
    `InvExcept s n` is `Inv` with `sorted` asked of the nodes other than `n` only; `pop_core` takes the fields one by one
    because it serves both (`remove` from `Inv`, `reinsert` from `InvExcept`). -/
structure Core (s : SList) : Prop where
  nonempty : s.lv ≠ []
  sorted : Sorted s.key s.level0
  nodup : s.level0.Nodup
  sub : SubChain s.lv
  lvOk : LevelsOk s.nlv s.lv
  tailOk : s.tail = s.level0.getLast?

theorem Inv.core {s : SList} (h : Inv s) : Core s := ⟨h.nonempty, h.sorted, h.nodup, h.sub, h.lvOk, h.tailOk⟩

theorem Core.inv {s : SList} (c : Core s) (m : Nat) (hm : m = s.level0.length) : Inv { s with cnt := m } :=
  ⟨c.nonempty, c.sorted, c.nodup, c.sub, c.lvOk, c.tailOk, hm⟩

theorem not_mem_levels (s : SList) (h : SubChain s.lv) (n : Nat) (hn : n ∉ s.level0) : ∀ l ∈ s.lv, n ∉ l := by
  intro l hl hm
  exact hn ((sublist_level0 s.lv h l hl).subset hm)

theorem push_core (s : SList) (n : Nat) (h : Core s) (hn : n ∉ s.level0) (hnl : 1 ≤ s.nlv n) :
    Core (s.push n) ∧ (s.push n).level0 = specInsert s.key (s.key n) n s.level0 ∧
      (s.push n).key = s.key ∧ (s.push n).nlv = s.nlv ∧ (s.push n).cnt = s.cnt := by
  have hg := allGood_of_level0 s.key s.lv h.sub h.sorted h.nodup
  have hfresh := not_mem_levels s h.sub n hn
  have e := pushLevels_eq s.key (s.key n) n (s.nlv n) s.lv none hg h.sub (fun x hx => by cases hx)
  have hl0 : (pushSpec s.key (s.key n) n (s.nlv n) s.lv).getLast?.getD [] = specInsert s.key (s.key n) n s.level0 := by
    rw [pushSpec_getLast _ _ _ _ _ hnl, if_neg h.nonempty]; rfl
  have hlevel0 : (s.push n).level0 = specInsert s.key (s.key n) n s.level0 := by
    unfold push level0; simp only; rw [e]; exact hl0
  refine ⟨⟨?_, ?_, ?_, ?_, ?_, ?_⟩, hlevel0, rfl, rfl, rfl⟩
  · unfold push; simp only; rw [e]
    intro hnil
    have := congrArg List.length hnil
    rw [pushSpec_length] at this
    exact h.nonempty (List.eq_nil_of_length_eq_zero this)
  · rw [hlevel0]; exact sorted_specInsert s.key (s.key n) n s.level0 h.sorted rfl
  · rw [hlevel0]; exact nodup_specInsert s.key (s.key n) n s.level0 h.nodup hn
  · unfold push; simp only; rw [e]; exact pushSpec_subChain s.key (s.key n) n (s.nlv n) s.lv hg h.sub
  · unfold push; simp only; rw [e]; exact pushSpec_levelsOk s.key (s.key n) n (s.nlv n) s.nlv s.lv h.lvOk rfl hfresh
  · rw [hlevel0]
    unfold push; simp only; rw [e, hl0]
    exact getLast_specInsert s.key (s.key n) n s.level0 s.tail h.tailOk

theorem popLevels_eq (n : Nat) (nlv : Nat → Nat) (lv : List (List Nat)) (h : LevelsOk nlv lv) :
    popLevels n (nlv n) lv = lv.map (·.erase n) := by
  induction lv with
  | nil => rfl
  | cons l below ih =>
    unfold popLevels
    rw [ih h.2, List.map_cons]
    congr 1
    by_cases hb : below.length < nlv n
    · rw [if_pos hb]
    · rw [if_neg hb]
      have : n ∉ l := fun hm => hb (h.1 n hm)
      exact (List.erase_of_not_mem this).symm

theorem map_erase_subChain (n : Nat) (lv : List (List Nat)) (h : SubChain lv) : SubChain (lv.map (·.erase n)) := by
  induction lv with
  | nil => trivial
  | cons hi rest ih =>
    cases rest with
    | nil => trivial
    | cons lo r => exact ⟨h.1.erase n, ih h.2⟩

theorem map_erase_levelsOk (n : Nat) (nlv : Nat → Nat) (lv : List (List Nat)) (h : LevelsOk nlv lv) :
    LevelsOk nlv (lv.map (·.erase n)) := by
  induction lv with
  | nil => trivial
  | cons l below ih =>
    refine ⟨?_, ih h.2⟩
    intro x hx
    rw [List.length_map]
    exact h.1 x (List.mem_of_mem_erase hx)

theorem map_erase_getLast (n : Nat) (lv : List (List Nat)) :
    (lv.map (·.erase n)).getLast?.getD [] = (lv.getLast?.getD []).erase n := by
  rw [List.getLast?_map]
  cases lv.getLast? <;> rfl

theorem level0_levelsOk (nlv : Nat → Nat) (lv : List (List Nat)) (h : LevelsOk nlv lv) :
    ∀ x ∈ lv.getLast?.getD [], 1 ≤ nlv x := by
  induction lv with
  | nil => intro x hx; simp at hx
  | cons l below ih =>
    cases below with
    | nil =>
      intro x hx
      simp only [List.getLast?_singleton, Option.getD_some] at hx
      have := h.1 x hx
      simp at this; omega
    | cons lo r =>
      rw [List.getLast?_cons_cons]; exact ih h.2

/-- the tail after unlinking: "if node->next[0] == NULL: tail = node->prev[0]" gives the new last node -/
theorem pop_tail (n : Nat) (l0 : List Nat) (old : Option Nat) (hold : old = l0.getLast?) (hn : n ∈ l0) :
    (if (after n l0).isEmpty then prevOf n l0 else old) = (l0.erase n).getLast? := by
  obtain ⟨pre, post, e, hpre⟩ := List.eq_append_cons_of_mem hn
  have her : l0.erase n = pre ++ post := by
    rw [e, List.erase_append_right _ hpre, List.erase_cons_head]
  rw [her, hold, e, after_split n pre post hpre, prevOf_split n pre post hpre]
  cases post with
  | nil => simp
  | cons p r =>
    simp only [List.isEmpty_cons, Bool.false_eq_true, ↓reduceIte]
    rw [List.getLast?_append, List.getLast?_append, List.getLast?_cons_cons]

/-- ares_slist_node_pop of a node of the list; only the order of the *other* nodes is needed -/
theorem pop_core (s : SList) (n : Nat) (hne : s.lv ≠ []) (hs : Sorted s.key (s.level0.erase n)) (hnd : s.level0.Nodup)
    (hsub : SubChain s.lv) (hlv : LevelsOk s.nlv s.lv) (htail : s.tail = s.level0.getLast?) (hn : n ∈ s.level0) :
    Core (s.pop n) ∧ (s.pop n).level0 = s.level0.erase n ∧ (s.pop n).key = s.key ∧ (s.pop n).nlv = s.nlv ∧
      (s.pop n).cnt = s.cnt ∧ n ∉ (s.pop n).level0 ∧ 1 ≤ s.nlv n := by
  have e := popLevels_eq n s.nlv s.lv hlv
  have hlevel0 : (s.pop n).level0 = s.level0.erase n := by
    unfold pop level0; simp only; rw [e]; exact map_erase_getLast n s.lv
  refine ⟨⟨?_, ?_, ?_, ?_, ?_, ?_⟩, hlevel0, rfl, rfl, rfl, ?_, level0_levelsOk s.nlv s.lv hlv n hn⟩
  · unfold pop; simp only; rw [e]
    intro hnil; exact hne (List.map_eq_nil_iff.1 hnil)
  · rw [hlevel0]; exact hs
  · rw [hlevel0]; exact hnd.sublist (List.erase_sublist)
  · unfold pop; simp only; rw [e]; exact map_erase_subChain n s.lv hsub
  · unfold pop; simp only; rw [e]; exact map_erase_levelsOk n s.nlv s.lv hlv
  · rw [hlevel0]
    unfold pop; simp only
    exact pop_tail n s.level0 s.tail htail hn
  · rw [hlevel0]; exact hnd.not_mem_erase

theorem calcLevel_ge (coins : List Bool) (level m : Nat) : level ≤ calcLevel coins level m := by
  induction coins generalizing level with
  | nil => exact Nat.le_refl _
  | cons c r ih =>
    cases c with
    | false => exact Nat.le_refl _
    | true =>
      unfold calcLevel
      split
      · exact Nat.le_trans (Nat.le_succ _) (ih (level + 1))
      · exact Nat.le_refl _

theorem subChain_replicate_nil (m : Nat) (lv : List (List Nat)) (h : SubChain lv) :
    SubChain (List.replicate m [] ++ lv) := by
  induction m with
  | zero => simpa using h
  | succ m ih =>
    rw [List.replicate_succ, List.cons_append]
    cases hr : List.replicate m ([] : List Nat) ++ lv with
    | nil => trivial
    | cons lo r => rw [hr] at ih; exact ⟨List.nil_sublist _, ih⟩

theorem levelsOk_replicate_nil (nlv : Nat → Nat) (m : Nat) (lv : List (List Nat)) (h : LevelsOk nlv lv) :
    LevelsOk nlv (List.replicate m [] ++ lv) := by
  induction m with
  | zero => simpa using h
  | succ m ih =>
    rw [List.replicate_succ, List.cons_append]
    exact ⟨fun x hx => by simp at hx, ih⟩

theorem getLast_replicate_append (m : Nat) (lv : List (List Nat)) (hne : lv ≠ []) :
    (List.replicate m ([] : List Nat) ++ lv).getLast? = lv.getLast? := by
  rw [List.getLast?_append]
  cases h : lv.getLast? with
  | none => exact absurd (List.getLast?_eq_none_iff.1 h) hne
  | some x => rfl

theorem insert_spec (s : SList) (n k : Nat) (coins : List Bool) (h : Inv s) (hn : n ∉ s.level0) :
    Inv (s.insert n k coins) ∧ (s.insert n k coins).level0 = specInsert s.key k n s.level0 ∧
      (s.insert n k coins).key n = k ∧ (∀ x, x ≠ n → (s.insert n k coins).key x = s.key x) := by
  -- the state after the node is set up and the head array has grown, before the push
  generalize hnl : calcLevel coins 1 s.maxLevel = nl
  have hnl1 : 1 ≤ nl := by rw [← hnl]; exact calcLevel_ge coins 1 _
  let s1 : SList := { s with key := fun i => if i = n then k else s.key i,
                             nlv := fun i => if i = n then nl else s.nlv i,
                             lv := List.replicate (nl - s.lv.length) [] ++ s.lv }
  have hkey : ∀ x ∈ s.level0, s1.key x = s.key x := by
    intro x hx
    have : x ≠ n := fun e => hn (e ▸ hx)
    simp [s1, this]
  have hl0 : s1.level0 = s.level0 := by
    unfold level0; simp only [s1]; rw [getLast_replicate_append _ _ h.nonempty]
  have hfreshold := not_mem_levels s h.sub n hn
  have c1 : Core s1 := by
    refine ⟨?_, ?_, ?_, ?_, ?_, ?_⟩
    · simp only [s1]; intro hnil
      exact h.nonempty (List.append_eq_nil_iff.1 hnil).2
    · rw [hl0]; exact sorted_congr s.key s1.key s.level0 h.sorted hkey
    · rw [hl0]; exact h.nodup
    · exact subChain_replicate_nil _ _ h.sub
    · refine levelsOk_replicate_nil _ _ _ (levelsOk_congr s.nlv _ s.lv h.lvOk ?_)
      intro l hl x hx
      have : x ≠ n := fun e => hfreshold l hl (e ▸ hx)
      show (if x = n then nl else s.nlv x) = s.nlv x
      rw [if_neg this]
    · rw [hl0]; exact h.tailOk
  have hn1 : n ∉ s1.level0 := by rw [hl0]; exact hn
  have hnlv1 : 1 ≤ s1.nlv n := by simp [s1]; exact hnl1
  obtain ⟨c2, l2, k2, n2, cnt2⟩ := push_core s1 n c1 hn1 hnlv1
  have hins : s.insert n k coins = { s1.push n with cnt := (s1.push n).cnt + 1 } := by
    unfold insert; simp only [hnl]; rfl
  have hk1 : s1.key n = k := by simp [s1]
  have hl0' : (s.insert n k coins).level0 = specInsert s.key k n s.level0 := by
    rw [hins]
    show (s1.push n).level0 = _
    rw [l2, hl0, hk1]
    exact specInsert_congr s.key s1.key k n s.level0 hkey
  refine ⟨?_, hl0', ?_, ?_⟩
  · rw [hins]
    refine c2.inv _ ?_
    rw [cnt2, l2, length_specInsert, hl0]
    show s.cnt + 1 = _; rw [h.cntOk]
  · rw [hins]; show (s1.push n).key n = k; rw [k2]; exact hk1
  · intro x hx; rw [hins]; show (s1.push n).key x = _; rw [k2]; simp [s1, hx]

theorem remove_spec (s : SList) (n : Nat) (h : Inv s) (hn : n ∈ s.level0) :
    Inv (s.remove n) ∧ (s.remove n).level0 = s.level0.erase n ∧ (s.remove n).key = s.key := by
  obtain ⟨c, l, k, _, cnt, _, _⟩ := pop_core s n h.nonempty (h.sorted.sublist List.erase_sublist) h.nodup h.sub h.lvOk
    h.tailOk hn
  have hr : s.remove n = { s.pop n with cnt := (s.pop n).cnt - 1 } := rfl
  refine ⟨?_, ?_, ?_⟩
  · rw [hr]
    refine c.inv _ ?_
    rw [cnt, l, h.cntOk, List.length_erase_of_mem hn]
  · rw [hr]; exact l
  · rw [hr]; exact k

theorem reinsert_spec (s : SList) (n : Nat) (h : InvExcept s n) (hn : n ∈ s.level0) :
    Inv (s.reinsert n) ∧ (s.reinsert n).level0 = specInsert s.key (s.key n) n (s.level0.erase n) ∧
      (s.reinsert n).key = s.key := by
  obtain ⟨c, l, k, nl, cnt, hnot, hnl1⟩ := pop_core s n h.nonempty h.sorted h.nodup h.sub h.lvOk h.tailOk hn
  obtain ⟨c2, l2, k2, _, cnt2⟩ := push_core (s.pop n) n c hnot (by rw [nl]; exact hnl1)
  have hr : s.reinsert n = (s.pop n).push n := rfl
  have hl : (s.reinsert n).level0 = specInsert s.key (s.key n) n (s.level0.erase n) := by
    rw [hr, l2, l, k]
  refine ⟨⟨c2.nonempty, c2.sorted, c2.nodup, c2.sub, c2.lvOk, c2.tailOk, ?_⟩, hl, by rw [hr, k2, k]⟩
  rw [hl, length_specInsert, hr, cnt2, cnt, h.cntOk, List.length_erase_of_mem hn]
  exact (Nat.sub_add_cancel (List.length_pos_of_mem hn)).symm

end Cares.Dsa.SList
