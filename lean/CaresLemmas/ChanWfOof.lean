import CaresModel.Chan.Core
/-!
# C01 — the out-of-fuel flag is only ever set (by `St.oof`)

`OofMono go`: the flag is sticky over `go`, part of what the C01 contract asks of the recursive calls (`GoOk`).  That
a body keeps it sticky is `execBody_outOfFuel` (`ChanReach`).  The `oof_*` equations say it of fifteen state helpers
one by one.
-/
namespace Cares.Chan

@[simp] theorem oof_emit (s : St) (e : String) : (s.emit e).outOfFuel = s.outOfFuel := rfl
@[simp] theorem oof_slog (s : St) (fd : Nat) (c : String) : (s.slog fd c).outOfFuel = s.outOfFuel := rfl
@[simp] theorem oof_ofault (s : St) (e : String) : (s.ofault e).outOfFuel = s.outOfFuel := rfl
@[simp] theorem oof_mfault (s : St) (e : String) : (s.mfault e).outOfFuel = s.outOfFuel := rfl
@[simp] theorem oof_oof (s : St) : s.oof.1.outOfFuel = true := rfl
@[simp] theorem oof_modQuery (s : St) (k : Nat) (f) : (s.modQuery k f).outOfFuel = s.outOfFuel := rfl
@[simp] theorem oof_modConn (s : St) (k : Nat) (f) : (s.modConn k f).outOfFuel = s.outOfFuel := rfl
@[simp] theorem oof_modServer (s : St) (k : Nat) (f) : (s.modServer k f).outOfFuel = s.outOfFuel := rfl
@[simp] theorem oof_modSock (s : St) (k : Nat) (f) : (s.modSock k f).outOfFuel = s.outOfFuel := rfl
@[simp] theorem oof_modClient (s : St) (k : Nat) (f) : (s.modClient k f).outOfFuel = s.outOfFuel := rfl
@[simp] theorem oof_setSock (s : St) (v) : (s.setSock v).outOfFuel = s.outOfFuel := rfl
@[simp] theorem oof_setServer (s : St) (v) : (s.setServer v).outOfFuel = s.outOfFuel := rfl
@[simp] theorem oof_fault (s : St) (c : String) : (s.fault c).2.outOfFuel = s.outOfFuel := rfl
@[simp] theorem oof_cacheExpire (s : St) : s.cacheExpire.outOfFuel = s.outOfFuel := rfl
@[simp] theorem oof_recordTx (s : St) (fd : Nat) (tcp : Bool) (f : OutFrame) :
    (s.recordTx fd tcp f).outOfFuel = s.outOfFuel := rfl
/-- for a goal "the flag is still set after this unfolded body": split every branch, strip the recursive calls
    (`hm`), and let `simp` see that no helper touches the flag.  No proof uses it: stickiness comes from
    `execBody_outOfFuel`. -/
macro "oof_all" hm:ident h:ident : tactic =>
  `(tactic| (repeat' split) <;> ((repeat' apply $hm) <;> (first | exact $h | (simp [$h:ident, $hm:ident]; done))))

def OofMono (go : Call → St → St × Ret) : Prop := ∀ c s, s.outOfFuel = true → (go c s).1.outOfFuel = true

end Cares.Chan
