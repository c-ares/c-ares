import CaresLemmas.ChanPolicyProbeGuard
import CaresLemmas.ChanPolicyPicks
import CaresLemmas.ChanPolicyWritesSend
import CaresLemmas.ChanPolicyRank
import CaresLemmas.ChanStages
/-!
# C09 — the assertions of `execG` never fail: `execG fuel c s = exec fuel c s`

The one semantic fact behind it: between the server choice and the probe lottery of `ares_send_query` the pick log is
left alone (`ares_conn_flush` for every fuel, and the blocks `sqOpen`, `sqEnqueue`, `sqFlush`, `sqDeadline`,
`sqCommit`), so when the lottery runs the most recent entry is still the one of the request that triggers it.
-/
namespace Cares.Chan

theorem bodyFlush_picks {go : Call → St → St × Ret} (hgo : ∀ fd s, (go (.flush fd) s).1.picks = s.picks)
    (fd : Nat) (s : St) : (bodyFlush go fd s).1.picks = s.picks := by
  unfold bodyFlush
  body_paths
  all_goals pair_subst
  all_goals simp +zetaDelta only [hgo, chan_frame, apply_ite St.picks, ite_self]

theorem exec_flush_pk (fuel : Nat) (fd : Nat) (s : St) : (exec fuel (.flush fd) s).1.picks = s.picks := by
  induction fuel generalizing fd s with
  | zero => rfl
  | succ n ih => exact bodyFlush_picks ih fd s

theorem sqOpen_picks (s : St) (q : Query) (srv : Server) (existing : Option Nat) :
    (sqOpen s q srv existing).2.picks = s.picks := by
  rw [sqOpen_shape]

theorem sqFlush_picks {go : Call → St → St × Ret} (hgo : ∀ fd s, (go (.flush fd) s).1.picks = s.picks)
    (s : St) (fd : Nat) : (sqFlush go fd s).2.picks = s.picks := by
  unfold sqFlush
  body_paths
  · rfl
  · rfl
  · pair_subst; exact hgo fd s

theorem sqDeadline_picks (s : St) (srv : Server) (tryCount : Nat) : (sqDeadline s srv tryCount).2.picks = s.picks := by
  unfold sqDeadline
  body_paths
  · pair_subst; simp only [chan_frame]
  · rfl

theorem sqCommit_picks (s : St) (q : Query) (key fd : Nat) (dl : Deadline) : (sqCommit s q key fd dl).picks = s.picks := by
  rw [sqCommit_shape]

theorem draw2_picks (s : St) : s.draw2.2.picks = s.picks := by
  rw [St.draw2snd_eq]

theorem trigOk_congr {s s' : St} (h : s'.picks = s.picks) (srvId key : Nat) :
    trigOk srvId key s' = trigOk srvId key s := by
  unfold trigOk; rw [h]

/-- `ares_probe_failed_server`: when the lottery is entered right after an ordinary attempt at the failure-free server
    `srvId` (`trigOk`), the probe it creates satisfies `probeSendOk` -/
theorem bodyProbe_guard (go : Call → St → St × Ret) (srvId key : Nat) (s : St) (h : trigOk srvId key s = true) :
    bodyProbe (guardGo go) srvId key s = bodyProbe go srvId key s := by
  unfold bodyProbe
  split
  · rfl
  · rename_i q hq
    dsimp only
    split
    · rfl
    · rename_i last _
      split
      · rfl
      · rename_i hcond
        obtain ⟨hnow, hcfg, hsrv⟩ := draw2_frame s
        split
        · rfl
        · split
          · rfl
          · rename_i pv hfind
            split
            · rfl
            · rename_i hne
              have hp := List.find?_some hfind
              have hm : pv ∈ s.servers := mem_sortedServers.1 (List.mem_of_find?_eq_some hfind)
              simp only [Bool.and_eq_true, decide_eq_true_eq, Bool.not_eq_eq_eq_not, Bool.not_true, hnow] at hp
              simp only [Bool.or_eq_true, beq_iff_eq, not_or] at hcond
              rw [guardGo_of_guard]
              show (pv.id == pv.id && probeSendOk pv.id _) = true
              rw [beq_self_eq_true, Bool.true_and]
              unfold probeSendOk
              simp only [Bool.and_eq_true]
              refine ⟨⟨?_, ?_⟩, ?_⟩
              · show (s.draw2.2.cfg.retryChance != 0) = true
                rw [hcfg]; simpa using hcond.2
              · rw [List.any_eq_true]
                refine ⟨{ pv with probePending := true }, ?_, ?_⟩
                · show _ ∈ (s.draw2.2.servers.map _)
                  rw [hsrv]
                  exact List.mem_map.2 ⟨pv, hm, by simp⟩
                · show (pv.id == pv.id && decide (0 < pv.failures) && decide (pv.nextRetry ≤ s.draw2.2.now) && true) = true
                  rw [hnow]
                  simp [hp.1.1, hp.2]
              · show (match (s.draw2.2.picks).getLast? with
                  | some (_, chosen, requested, prio) => chosen != pv.id && !requested && prio.contains (chosen, 0)
                  | none => false) = true
                rw [draw2_picks]
                unfold trigOk at h
                split at h
                · rename_i k chosen requested prio hl
                  rw [hl]
                  simp only [Bool.and_eq_true, beq_iff_eq, Bool.not_eq_eq_eq_not, Bool.not_true] at h
                  obtain ⟨⟨⟨_, hc⟩, hr⟩, hpr⟩ := h
                  subst hc
                  simp only [hr, Bool.not_false, Bool.and_true, Bool.and_eq_true, bne_iff_ne, ne_eq]
                  exact ⟨fun e => hne (by simp [e]), hpr⟩
                · cases h

/-- after the write: the only guarded call is the probe lottery, entered with the pick log as it is after the write -/
theorem sqAfter_guard (go : Call → St → St × Ret) (q : Query) (srv : Server) (key fd : Nat) (pd : Bool)
    (wst : Status) (s : St) (h : pd = true → trigOk srv.id key s = true) :
    sqAfter (guardGo go) q srv key fd pd wst s = sqAfter go q srv key fd pd wst s := by
  cases pd
  · rfl
  · have h := h rfl
    unfold sqAfter
    split
    · split
      · rename_i q' _ hq' _
        simp only [↓reduceIte]
        rw [guardGo_of_guard]
        show trigOk srv.id key _ = true
        rw [trigOk_congr ((sqCommit_picks ..).trans (sqDeadline_picks ..)), h]
      · rfl
      · rfl
    all_goals rfl

/-- `ares_send_query` with the assertions: when it enters the probe lottery, the entry it has just appended to the pick
    log is still the most recent one, it is an ordinary attempt, and the chosen server had no failures -/
theorem sendQueryBlocks_guard (go : Call → St → St × Ret) (hfl : ∀ fd s, (go (.flush fd) s).1.picks = s.picks)
    (reqSrv : Option Nat) (key : Nat) (s : St) :
    sendQueryBlocks (guardGo go) reqSrv key s = sendQueryBlocks go reqSrv key s := by
  unfold sendQueryBlocks
  split
  · rfl
  · rename_i q hq
    extract_lets sorted
    split
    rename_i srv? s1 hch
    split
    · rfl
    · rename_i srv
      extract_lets s2 pd existing
      split
      rename_i connRes s3 hopen
      split
      · rfl
      · rename_i fd
        extract_lets cookie newCk s4 q2
        have hw : sqFlush (guardGo go) fd s4 = sqFlush go fd s4 := rfl
        rw [hw]
        split
        rename_i wst s5 hwr
        apply sqAfter_guard
        intro hpd
        -- the pick log after the write is the one right after the choice
        have h5 : s5.picks = s2.picks := by
          have h3 := sqOpen_picks s2 q srv existing
          have h5 := sqFlush_picks hfl s4 fd
          rw [hopen] at h3
          rw [hwr] at h5
          rw [h5, ← h3]
          exact sqPrepare_picks s3 key q srv fd
        rw [trigOk_congr h5]
        simp only [pd, Bool.and_eq_true, beq_iff_eq, Option.isNone_iff_eq_none] at hpd
        obtain ⟨⟨hreq, hfail⟩, _⟩ := hpd
        subst hreq
        have hmem : srv ∈ s.sortedServers := (sqChoose_spec s srv s1 hch).1
        unfold trigOk
        show (match (s1.picks ++ [(key, srv.id, false, sorted.map fun v => (v.id, v.failures))]).getLast? with
          | some (k, chosen, requested, prio) => k == key && chosen == srv.id && !requested && prio.contains (srv.id, 0)
          | none => false) = true
        rw [List.getLast?_concat]
        simp only [beq_self_eq_true, Bool.not_false, Bool.and_self, Bool.true_and, List.contains_eq_mem,
          decide_eq_true_eq]
        exact List.mem_map.2 ⟨srv, hmem, by rw [hfail]⟩

/-- every body, with the assertions in front of the calls it makes, is the same function — provided its own entry
    assertion holds and a flush keeps the pick log -/
theorem execBody_guard (go : Call → St → St × Ret) (hfl : ∀ fd s, (go (.flush fd) s).1.picks = s.picks)
    (c : Call) (s : St) (h : ProbeGuard c s = true) : execBody (guardGo go) c s = execBody go c s := by
  by_cases h1 : ∃ a b, c = .probe a b
  · obtain ⟨a, b, rfl⟩ := h1
    exact bodyProbe_guard go a b s h
  · by_cases h2 : ∃ a b, c = .sendQuery a b
    · obtain ⟨a, b, rfl⟩ := h2
      show bodySendQuery (guardGo go) a b s = bodySendQuery go a b s
      rw [bodySendQuery_eq, bodySendQuery_eq]
      exact sendQueryBlocks_guard go hfl a b s
    · exact execBody_guard_other go c s (fun a b e => h1 ⟨a, b, e⟩) (fun a b e => h2 ⟨a, b, e⟩)

/-- **the assertions never fail**: for every fuel, every call whose own entry assertion holds (every call other than
    `probe` / a probe's `sendNolock` — in particular every API-level call) and every state, the run with the
    assertions is the run without them -/
theorem execG_eq_exec (fuel : Nat) (c : Call) (s : St) (h : ProbeGuard c s = true) : execG fuel c s = exec fuel c s := by
  induction fuel generalizing c s with
  | zero => rfl
  | succ n ih =>
    show execBody (guardGo (execG n)) c s = execBody (exec n) c s
    have e : guardGo (execG n) = guardGo (exec n) := by
      funext c' s'
      by_cases hg : ProbeGuard c' s' = true
      · rw [guardGo_of_guard _ _ _ hg, guardGo_of_guard _ _ _ hg, ih c' s' hg]
      · have hg' : ProbeGuard c' s' = false := by simpa using hg
        rw [guardGo_of_not_guard _ _ _ hg', guardGo_of_not_guard _ _ _ hg']
    rw [e]
    exact execBody_guard (exec n) (fun fd s => exec_flush_pk n fd s) c s h

/-- a failed assertion aborts like running out of fuel … -/
theorem guardGo_fail (go : Call → St → St × Ret) (c : Call) (s : St) (h : ProbeGuard c s = false) :
    (guardGo go c s).1.outOfFuel = true := by
  rw [guardGo_of_not_guard go c s h]; rfl

theorem guardGo_oof {go : Call → St → St × Ret} (hgo : GoInv IsOof go) : GoInv IsOof (guardGo go) := by
  intro c s h
  by_cases hg : ProbeGuard c s = true
  · rw [guardGo_of_guard _ _ _ hg]; exact hgo c s h
  · rw [guardGo_of_not_guard _ _ _ (by simpa using hg)]; rfl

/-- … and the flag it sets is never cleared by the rest of the guarded run -/
theorem execG_oof (fuel : Nat) (c : Call) (s : St) (h : s.outOfFuel = true) : (execG fuel c s).1.outOfFuel = true := by
  induction fuel generalizing c s with
  | zero => rfl
  | succ n ih => exact execBody_outOfFuel (guardGo_oof (fun c s h => ih c s h)) c s h

theorem probeSendOk_spec (id : Nat) (s : St) (h : probeSendOk id s = true) :
    s.cfg.retryChance ≠ 0 ∧
    (∃ v ∈ s.servers, v.id = id ∧ 0 < v.failures ∧ v.nextRetry ≤ s.now ∧ v.probePending = true) ∧
    ∃ key chosen prio, s.picks.getLast? = some (key, chosen, false, prio) ∧ chosen ≠ id ∧ (chosen, 0) ∈ prio := by
  unfold probeSendOk at h
  simp only [Bool.and_eq_true, bne_iff_ne, ne_eq, List.any_eq_true, beq_iff_eq, decide_eq_true_eq] at h
  obtain ⟨⟨h1, v, hv, ⟨⟨hid, hf⟩, hr⟩, hp⟩, h3⟩ := h
  refine ⟨h1, ⟨v, hv, hid, hf, hr, hp⟩, ?_⟩
  split at h3
  · rename_i k chosen requested prio hl
    simp only [Bool.and_eq_true, bne_iff_ne, ne_eq, Bool.not_eq_eq_eq_not, Bool.not_true, List.contains_eq_mem,
      decide_eq_true_eq] at h3
    obtain ⟨⟨hc, hr⟩, hm⟩ := h3
    subst hr
    exact ⟨k, chosen, prio, hl, hc, hm⟩
  · cases h3

theorem probeGuard_spec (srv : Option Nat) (nocache noretry : Bool) (spec : ReqSpec) (pid : Nat) (react : List Nat)
    (s : St) (h : ProbeGuard (.sendNolock srv nocache noretry spec (.probe pid) react) s = true) :
    ∃ id, srv = some id ∧ pid = id ∧ nocache = true ∧ noretry = true ∧ react = [] ∧ s.cfg.retryChance ≠ 0 ∧
      (∃ v ∈ s.servers, v.id = id ∧ 0 < v.failures ∧ v.nextRetry ≤ s.now ∧ v.probePending = true) ∧
      ∃ key chosen prio, s.picks.getLast? = some (key, chosen, false, prio) ∧ chosen ≠ id ∧ (chosen, 0) ∈ prio := by
  cases srv with
  | none => cases h
  | some id =>
    have h' : (nocache && noretry && react.isEmpty && pid == id && probeSendOk id s) = true := h
    simp only [Bool.and_eq_true, List.isEmpty_iff, beq_iff_eq] at h'
    obtain ⟨⟨⟨⟨h1, h2⟩, h3⟩, hp⟩, h4⟩ := h'
    obtain ⟨a, b, c⟩ := probeSendOk_spec id s h4
    exact ⟨id, rfl, hp, h1, h2, h3, a, b, c⟩

/-- with distinct server ids the eligible server is the one `server? id` finds -/
theorem probeSendOk_server (id : Nat) (s : St) (hn : s.IdsNodup) (h : probeSendOk id s = true) :
    ∃ v, s.server? id = some v ∧ 0 < v.failures ∧ v.nextRetry ≤ s.now ∧ v.probePending = true := by
  obtain ⟨_, ⟨v, hv, hid, hf, hr, hp⟩, _⟩ := probeSendOk_spec id s h
  cases hs : s.server? id with
  | none =>
    have := List.find?_eq_none.1 hs v hv
    simp [hid] at this
  | some w =>
    obtain ⟨hw, hwid⟩ := server?_mem hs
    have e : w = v := mem_servers_id_inj hn hw hv (by rw [hwid, hid])
    subst e
    exact ⟨_, rfl, hf, hr, hp⟩

end Cares.Chan
