import CaresLemmas.Arr
/-! Stage lemmas for the refinement `ares_array` → `List`: what each stage does to the observable sequence. -/
namespace Cares.Dsa.Arr

theorem abs_grow (a : Arr) (h : a.Inv) (pad : List Nat) : ({ a with mem := a.mem ++ pad } : Arr).abs = a.abs := by
  have h := h.1
  show ((a.mem ++ pad).drop a.off).take a.cnt = _
  rw [List.drop_append_of_le_length (by omega), List.take_append_of_le_length (by rw [List.length_drop]; omega)]
  rfl

theorem setSize_ok (a : Arr) (size : Nat) (h : a.Inv) (h0 : 0 < size) (hc : a.cnt ≤ size) :
    ∃ a1, a.setSize size true = (.ok, a1) ∧ a1.cnt = a.cnt ∧ a1.off = a.off ∧ a1.Inv ∧ size ≤ a1.mem.length ∧
      a1.abs = a.abs := by
  unfold setSize
  have hp : size ≤ roundSize size := by
    have := le_pow2ceil size
    unfold roundSize
    show size ≤ if pow2ceil size < arrayMin then arrayMin else pow2ceil size
    split
    · exact Nat.le_of_lt (Nat.lt_of_le_of_lt this ‹_›)
    · exact this
  rw [if_neg (fun hh => hh.elim (Nat.ne_of_gt h0) (Nat.not_lt.2 hc))]
  show ∃ a1, (if roundSize size ≤ a.mem.length then _ else _) = _ ∧ _
  by_cases hle : roundSize size ≤ a.mem.length
  · rw [if_pos hle]
    exact ⟨a, rfl, rfl, rfl, h, Nat.le_trans hp hle, rfl⟩
  · rw [if_neg hle]
    refine ⟨_, rfl, rfl, rfl, ⟨?_, h.2⟩, ?_, abs_grow a h _⟩ <;>
      simp only [alloc, List.length_append, List.length_replicate] <;> have := h.1 <;> omega

/-- ares_array_move once its range checks pass (a move of nothing, or onto itself, changes nothing); `n` is the number
    of cells moved, in the form the caller wants it -/
theorem move_eq (a : Arr) (dest src n : Nat) (hd : dest < a.mem.length) (hs : src < a.mem.length)
    (hfit : dest ≤ src ∨ a.cnt + (dest - src) ≤ a.mem.length) (hn : n = a.cnt - (src - a.off)) :
    a.move dest src = some { a with mem := memmove a.mem dest src n } := by
  subst hn
  unfold move alloc
  rw [if_neg (by omega)]
  by_cases he : dest = src
  · rw [if_pos he, he]
    unfold memmove
    rw [List.append_assoc, ← List.drop_drop, List.take_append_drop, List.take_append_drop]
  · rw [if_neg he, if_neg (by omega)]

theorem abs_front (a : Arr) (h : a.Inv) :
    ({ a with mem := memmove a.mem 0 a.off a.cnt, off := 0 } : Arr).abs = a.abs :=
  memmove_block a.mem 0 a.off a.cnt h.1 (Nat.zero_le _)

theorem abs_gap (a : Arr) (idx v : Nat) (h : a.Inv) (hroom : a.off + a.cnt + 1 ≤ a.mem.length) (hi : idx ≤ a.cnt) :
    ({ a with mem := (memmove a.mem (idx + a.off + 1) (idx + a.off) (a.cnt - idx)).set (idx + a.off) v,
              cnt := a.cnt + 1 } : Arr).abs = a.abs.insertIdx idx v := by
  have hl := abs_length a h
  have hd : idx + a.off + 1 ≤ a.mem.length := by omega
  show (((memmove a.mem (idx + a.off + 1) (idx + a.off) (a.cnt - idx)).set (idx + a.off) v).drop a.off).take (a.cnt + 1) = _
  rw [List.set_eq_take_append_cons_drop, if_pos (by rw [memmove_length _ _ _ _ (by omega) (by omega)]; omega),
    memmove_take _ _ _ _ _ (Nat.le_succ _) hd, memmove_drop _ _ _ _ hd, Nat.add_comm idx a.off,
    List.drop_append_of_le_length (by rw [List.length_take_of_le (by omega)]; omega), abs_take a idx hi, abs_drop,
    insertIdx_eq_take_drop _ _ _ (by omega), ← List.cons_append, ← List.append_assoc]
  exact List.take_left' (by simp; omega)

theorem abs_close (a : Arr) (idx : Nat) (h : a.Inv) (hi : idx < a.cnt) :
    ({ a with mem := memmove a.mem (idx + a.off) (idx + a.off + 1) (a.cnt - (idx + 1)), cnt := a.cnt - 1 } : Arr).abs =
      a.abs.eraseIdx idx := by
  have hl := abs_length a h
  have hb := h.1
  have hd : idx + a.off ≤ a.mem.length := by omega
  show ((memmove a.mem (idx + a.off) (idx + a.off + 1) (a.cnt - (idx + 1))).drop a.off).take (a.cnt - 1) = _
  rw [← List.take_append_drop (idx + a.off) (memmove _ _ _ _), memmove_take _ _ _ _ _ (Nat.le_refl _) hd,
    memmove_drop _ _ _ _ hd, Nat.add_comm idx a.off, Nat.add_assoc,
    List.drop_append_of_le_length (by rw [List.length_take_of_le (by omega)]; omega), abs_take a idx (by omega), abs_drop,
    List.eraseIdx_eq_take_drop_succ, ← List.append_assoc]
  exact List.take_left' (by simp; omega)

/-- ares_array_insert_at with memory available: grow, shift to the front if there is no room at the end, open the
    gap, store -/
theorem insertAt_spec (a : Arr) (idx v : Nat) (h : a.Inv) (hi : idx ≤ a.cnt) :
    ∃ a', a.insertAt idx v true = (.ok, a') ∧ a'.Inv ∧ a'.abs = a.abs.insertIdx idx v := by
  obtain ⟨a1, e1, c1, o1, i1, s1, r1⟩ := setSize_ok a (a.cnt + 1) h (Nat.succ_pos _) (Nat.le_succ _)
  unfold insertAt
  simp only [show ¬ idx > a.cnt by omega, ↓reduceIte, e1]
  have hb1 := i1.1
  -- shift to the front if there is no room at the end
  have st2 : ∃ a2, (if a1.cnt + 1 + a1.off > a1.alloc then
        (a1.move 0 a1.off).map (fun b => { b with off := 0 }) else some a1) = some a2 ∧
      a2.cnt = a.cnt ∧ a2.Inv ∧ a2.off + a2.cnt + 1 ≤ a2.mem.length ∧ a2.abs = a.abs := by
    unfold alloc
    by_cases hroom : a1.cnt + 1 + a1.off > a1.mem.length
    · rw [if_pos hroom, move_eq a1 0 a1.off a1.cnt (by omega) (by have := i1.2; omega) (.inl (Nat.zero_le _)) (by omega),
        Option.map_some]
      have hl := memmove_length a1.mem 0 a1.off a1.cnt (by omega) (by omega)
      exact ⟨{ mem := memmove a1.mem 0 a1.off a1.cnt, cnt := a1.cnt, off := 0 }, rfl, c1,
        ⟨by show 0 + a1.cnt ≤ (memmove _ _ _ _).length; omega, fun _ => rfl⟩,
        by show 0 + a1.cnt + 1 ≤ (memmove _ _ _ _).length; omega, (abs_front a1 i1).trans r1⟩
    · rw [if_neg hroom]; exact ⟨a1, rfl, c1, i1, by omega, r1⟩
  obtain ⟨a2, e2, c2, i2, r2, m2⟩ := st2
  -- open the gap (nothing to move when the member goes behind the last one)
  have e3 : (if idx ≠ a2.cnt then a2.move (idx + a2.off + 1) (idx + a2.off) else some a2) =
      some { a2 with mem := memmove a2.mem (idx + a2.off + 1) (idx + a2.off) (a2.cnt - idx) } := by
    by_cases hne : idx ≠ a2.cnt
    · rw [if_pos hne]; exact move_eq a2 _ _ _ (by omega) (by omega) (.inr (by omega)) (by omega)
    · rw [if_neg hne, Decidable.not_not.1 hne, Nat.sub_self, memmove_zero]
  simp only [e2, e3]
  have hl := memmove_length a2.mem (idx + a2.off + 1) (idx + a2.off) (a2.cnt - idx) (by omega) (by omega)
  refine ⟨_, rfl, ⟨?_, fun h0 => absurd h0 (Nat.succ_ne_zero _)⟩, ?_⟩
  · show a2.off + (a2.cnt + 1) ≤ (List.set _ _ _).length
    rw [List.length_set, hl]; exact r2
  · rw [← m2]; exact abs_gap a2 idx v i2 r2 (by omega)

/-- ares_array_claim_at / ares_array_remove_at: the first member goes by moving the offset, the last one by the count,
    any other by closing the gap; an emptied array restarts at offset 0 -/
theorem claimAt_spec (a : Arr) (idx : Nat) (h : a.Inv) (hi : idx < a.cnt) :
    ∃ a', a.claimAt idx = (.ok, a') ∧ a'.Inv ∧ a'.abs = a.abs.eraseIdx idx := by
  have hb := h.1
  unfold claimAt
  simp only [show ¬ idx ≥ a.cnt by omega, ↓reduceIte]
  -- the array before the count is decremented
  have st : ∃ b, (if idx = 0 then some { a with off := a.off + 1 }
        else if idx ≠ a.cnt - 1 then a.move (idx + a.off) (idx + a.off + 1) else some a) = some b ∧
      b.cnt = a.cnt ∧ b.off + (b.cnt - 1) ≤ b.mem.length ∧ ({ b with cnt := b.cnt - 1 } : Arr).abs = a.abs.eraseIdx idx := by
    by_cases h0 : idx = 0
    · rw [if_pos h0, h0, List.eraseIdx_eq_take_drop_succ, List.take_zero, List.nil_append, ← abs_drop]
      exact ⟨_, rfl, rfl, by show a.off + 1 + (a.cnt - 1) ≤ a.mem.length; omega, rfl⟩
    · have e : (if idx ≠ a.cnt - 1 then a.move (idx + a.off) (idx + a.off + 1) else some a) =
          some { a with mem := memmove a.mem (idx + a.off) (idx + a.off + 1) (a.cnt - (idx + 1)) } := by
        by_cases hl : idx ≠ a.cnt - 1
        · rw [if_pos hl]; exact move_eq a _ _ _ (by omega) (by omega) (.inl (Nat.le_add_right _ 1)) (by omega)
        · rw [if_neg hl, show a.cnt - (idx + 1) = 0 by omega, memmove_zero]
      rw [if_neg h0, e]
      have hl := memmove_length a.mem (idx + a.off) (idx + a.off + 1) (a.cnt - (idx + 1)) (by omega) (by omega)
      exact ⟨_, rfl, rfl, by show a.off + (a.cnt - 1) ≤ (memmove _ _ _ _).length; omega, abs_close a idx h hi⟩
  obtain ⟨b, eb, cb, rb, mb⟩ := st
  simp only [eb]
  by_cases hz : b.cnt - 1 = 0
  · rw [if_pos hz]
    refine ⟨_, rfl, ⟨by show 0 + (b.cnt - 1) ≤ _; omega, fun _ => rfl⟩, ?_⟩
    rw [← mb]
    show List.take (b.cnt - 1) _ = List.take (b.cnt - 1) _
    rw [hz]; rfl
  · rw [if_neg hz]
    exact ⟨_, rfl, ⟨rb, fun h0 => absurd h0 hz⟩, mb⟩

end Cares.Dsa.Arr
