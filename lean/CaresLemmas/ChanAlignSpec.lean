import CaresLemmas.ChanAlignLog
/-!
# What `read_answers` hands to `process_answer` (C20)

`readAnswersH_post`: on an aligned live TCP connection, the replies one (completed) run of `read_answers` hands to
`process_answer` are consecutive messages of the socket's stream starting at the consumed position; if the connection is
still live afterwards, the consumed position has moved exactly past them, and nothing else about its inbound side has
changed.
-/
namespace Cares.Chan

theorem arrived_of_split {st done todo : List (Nat × Reply)} {pos : Nat} (h : Split st pos done todo) :
    arrived st pos = done.map (·.2) := by
  unfold arrived
  rw [h.eq, List.filter_append]
  have h1 : done.filter (fun x => decide (x.1 ≤ pos)) = done :=
    List.filter_eq_self.mpr (fun x hx => by simpa using h.done_le x hx)
  have h2 : todo.filter (fun x => decide (x.1 ≤ pos)) = [] :=
    List.filter_eq_nil_iff.mpr (fun x hx => by
      have := WfStream.lt_of_mem h.wf x hx
      simp only [decide_eq_true_eq]; omega)
  rw [h1, h2, List.append_nil]

/-- taking the next frame moves the consumed position past exactly that message -/
theorem arrived_consume {x : SV} {y : CV} {r : Reply} (hs : StreamOk x) (ha : AlignedV x y)
    (hn : nextTcpFrame x.stream x.spos y.inBytes = some r) :
    arrived x.stream (x.spos - (y.inBytes - (2 + r.len))) = arrived x.stream (x.spos - y.inBytes) ++ [r] := by
  obtain ⟨done, todo, hsp⟩ := ha.split hs
  obtain ⟨e, rest, _, _, _, _, hc, hsp'⟩ := consume_split hsp ha.le hn
  rw [hc, arrived_of_split hsp', arrived_of_split hsp]
  simp

/-- nothing complete is waiting: the consumed position is as far as the bytes read allow -/
theorem arrived_drained {x : SV} {y : CV} (hs : StreamOk x) (ha : AlignedV x y)
    (hn : nextTcpFrame x.stream x.spos y.inBytes = none) :
    arrived x.stream (x.spos - y.inBytes) = arrived x.stream x.spos := by
  obtain ⟨done, todo, hsp⟩ := ha.split hs
  rw [nextTcpFrame_spec hsp] at hn
  rw [arrived_of_split hsp]
  have hle := ha.le
  unfold arrived
  rw [hsp.eq, List.filter_append]
  have h1 : done.filter (fun x_1 => decide (x_1.1 ≤ x.spos)) = done :=
    List.filter_eq_self.mpr (fun z hz => by have := hsp.done_le z hz; simp only [decide_eq_true_eq]; omega)
  have h2 : todo.filter (fun x_1 => decide (x_1.1 ≤ x.spos)) = [] := by
    cases todo with
    | nil => rfl
    | cons a rest =>
      obtain ⟨e, r⟩ := a
      simp only at hn
      split at hn
      · cases hn
      · rename_i hlt
        rw [List.filter_eq_nil_iff]
        intro z hz
        have hwf := hsp.wf
        have : e ≤ z.1 := by
          cases hz with
          | head => exact Nat.le_refl _
          | tail _ hz' => have := WfStream.lt_of_mem hwf.2 z hz'; omega
        simp only [decide_eq_true_eq]; omega
  rw [h1, h2, List.append_nil]

/-- `fd` names a TCP connection that is not being closed, on virtual socket `v` -/
def liveTcp (s : St) (fd : Nat) (c : Conn) (v : VSock) : Prop :=
  s.conn? fd = some c ∧ s.sock? fd = some v ∧ c.tcp = true ∧ c.unlinked = false

/-- what a read call on `fd` (started with connection `c` on socket `v`) leaves behind, with its log (all of whose
    entries are for `fd`: `execH_log_mem`): if `fd` still names a live connection, the peer's stream is unchanged, the read
    position has not gone back, the messages that have `arrived` at the new consumed position are those that had before
    followed by exactly the replies handed over, and no complete message is left in in_buf -/
def ReadPost (fd : Nat) (v : VSock) (c : Conn) (out : St) (log : HLog) : Prop :=
  ∀ c' v', out.conn? fd = some c' → out.sock? fd = some v' → c'.unlinked = false →
    c'.tcp = true ∧ v'.stream = v.stream ∧ v'.slen = v.slen ∧ v.spos ≤ v'.spos ∧
    arrived v.stream (v'.spos - c'.inBytes) = arrived v.stream (v.spos - c.inBytes) ++ log.map (·.2) ∧
    nextTcpFrame v'.stream v'.spos c'.inBytes = none

/-- a call that is not a read call, seen through the instrumented executor: no log entry, the invariant is kept, and
    any property `P` of the inbound side of the live connection `fd` is carried over (the connection is untouched) -/
theorem nonread_step (P : SV → CV → Prop) (n : Nat) (call : Call) (t : St) (fd : Nat)
    (hcall : ∀ fd, ¬ call.readsFd fd) (hal : Aligned t) (hfd : fd < t.nextFd)
    (ht0 : ∀ c' v', t.conn? fd = some c' → t.sock? fd = some v' → c'.unlinked = false → P (vflag v') (rflag c'))
    (hf : (execH n call t).1.1.outOfFuel = false) :
    (execH n call t).2 = [] ∧ Aligned (execH n call t).1.1 ∧ t.nextFd ≤ (execH n call t).1.1.nextFd ∧
      ∀ c' v', (execH n call t).1.1.conn? fd = some c' → (execH n call t).1.1.sock? fd = some v' →
        c'.unlinked = false → P (vflag v') (rflag c') := by
  rw [execH_fst] at hf ⊢
  obtain ⟨h1, h2, h3⟩ := exec_side (N0 := t.nextFd) (Q := fun fd' x y => fd' = fd → P x y)
    (fun fd' hle _ he => by omega) n call t hal (Nat.le_refl _)
    (fun fd' c v hc hv hu he => by subst he; exact ht0 c v hc hv hu) (fun fd' hr => absurd hr (hcall fd')) hf
  exact ⟨execH_log_nil n call t hcall, h1, h2, fun c' v' hc' hv' hu' => h3 fd c' v' hc' hv' hu' rfl⟩

theorem aligned_consume {s : St} (hal : Aligned s) {fd : Nat} {c : Conn} {v : VSock} {r : Reply}
    (hc : s.conn? fd = some c) (hv : s.sock? fd = some v)
    (hnext : c.tcp = true → nextTcpFrame v.stream v.spos c.inBytes = some r) (ho : s.outOfFuel = false) :
    Aligned (s.modConn fd fun c => { c with inMsgs := c.inMsgs.drop 1, inBytes := c.inBytes - (2 + r.len) }) := by
  have h0 : Al (fun _ _ _ => True) 0 s :=
    fun _ => alCore_of_aligned hal (Nat.zero_le _) (fun _ _ _ _ _ _ => trivial)
  exact aligned_of_alCore (Al_consume (fun _ _ _ _ _ => trivial) s c v r hc hv hnext h0 ho)

theorem execH_oof_back (n : Nat) (call : Call) (t : St) (h : (execH n call t).1.1.outOfFuel = false) :
    t.outOfFuel = false := by
  rw [execH_fst] at h; exact exec_oof_back _ _ _ h

theorem readAnswersH_post : ∀ (n : Nat) (s : St) (fd : Nat) (c : Conn) (v : VSock), Aligned s → liveTcp s fd c v →
    (execH n (.readAnswers fd) s).1.1.outOfFuel = false →
    ReadPost fd v c (execH n (.readAnswers fd) s).1.1 (execH n (.readAnswers fd) s).2
  | 0, s, fd, c, v, _, _, hf => by
    exact absurd hf (by simp [execH, St.oof])
  | n + 1, s, fd, c, v, hal, ⟨hc, hv, ht, hu⟩, hf => by
    have hfdlt : fd < s.nextFd := hal.fresh fd v hv
    have hf' : (bodyReadAnswersH (execH n) fd s).1.1.outOfFuel = false := hf
    show ReadPost fd v c (bodyReadAnswersH (execH n) fd s).1.1 (bodyReadAnswersH (execH n) fd s).2
    unfold bodyReadAnswersH at hf' ⊢
    simp only [hc, hv, ht, Bool.not_true, Bool.false_eq_true, ↓reduceIte] at hf' ⊢
    cases hnx : nextTcpFrame v.stream v.spos c.inBytes with
    | none =>
      simp only [hnx] at hf' ⊢
      obtain ⟨hl, _, _, hfr⟩ := nonread_step (fun x y => x = vflag v ∧ y = rflag c) n .flushRequeue s fd
        (fun _ h => h) hal hfdlt (by
          intro c' v' hc' hv' _
          rw [hc] at hc'; rw [hv] at hv'; cases hc'; cases hv'; exact ⟨rfl, rfl⟩) hf'
      intro c' v' hc' hv' hu'
      obtain ⟨hvv, hcc⟩ := hfr c' v' hc' hv' hu'
      have e1 : v'.stream = v.stream := congrArg SV.stream hvv
      have e2 : v'.slen = v.slen := congrArg SV.slen hvv
      have e3 : v'.spos = v.spos := congrArg SV.spos hvv
      have e4 : c'.inBytes = c.inBytes := congrArg CV.inBytes hcc
      have e5 : c'.tcp = c.tcp := congrArg CV.tcp hcc
      refine ⟨by rw [e5, ht], e1, e2, by omega, ?_, by rw [e1, e3, e4]; exact hnx⟩
      rw [hl, e3, e4]; simp
    | some r =>
      simp only [hnx] at hf' ⊢
      -- the state handed to `process_answer`
      generalize hs1 : (s.modConn fd fun c => { c with inMsgs := c.inMsgs.drop 1, inBytes := c.inBytes - (2 + r.len) }) = s1
        at hf' ⊢
      have hc1 : s1.conn? fd = some { c with inMsgs := c.inMsgs.drop 1, inBytes := c.inBytes - (2 + r.len) } := by
        rw [← hs1]; exact (conn?_modConn_self _ _ _ (by intro; rfl)).trans (congrArg (Option.map _) hc)
      have hv1 : s1.sock? fd = some v := by rw [← hs1]; exact hv
      have hn1 : s1.nextFd = s.nextFd := by rw [← hs1]; rfl
      have harr : arrived v.stream (v.spos - (c.inBytes - (2 + r.len))) =
          arrived v.stream (v.spos - c.inBytes) ++ [r] :=
        arrived_consume (x := vflag v) (y := rflag c) (hal.stream fd v hv) (hal.aligned fd c v hc hv ht hu) hnx
      generalize hp : execH n (.processAnswer fd r) s1 = p at hf' ⊢
      -- `process_answer` itself: once we know it did not run out of fuel
      have hpf : p.1.1.outOfFuel = false → p.2 = [] ∧ Aligned p.1.1 ∧ s.nextFd ≤ p.1.1.nextFd ∧
          ∀ c' v', p.1.1.conn? fd = some c' → p.1.1.sock? fd = some v' → c'.unlinked = false →
            vflag v' = vflag v ∧
              rflag c' = rflag { c with inMsgs := c.inMsgs.drop 1, inBytes := c.inBytes - (2 + r.len) } := by
        intro hpo
        rw [← hp] at hpo ⊢
        have ho1 : s1.outOfFuel = false := execH_oof_back _ _ _ hpo
        have hal1 : Aligned s1 := by
          rw [← hs1]; exact aligned_consume hal hc hv (fun _ => hnx) (by rw [← hs1] at ho1; exact ho1)
        have := nonread_step (fun x y => x = vflag v ∧
            y = rflag { c with inMsgs := c.inMsgs.drop 1, inBytes := c.inBytes - (2 + r.len) }) n
          (.processAnswer fd r) s1 fd (fun _ h => h) hal1 (by omega) (by
            intro c' v' hc' hv' _
            rw [hc1] at hc'; rw [hv1] at hv'; cases hc'; cases hv'; exact ⟨rfl, rfl⟩) hpo
        rw [hn1] at this
        exact this
      -- the connection is gone (or being closed) at some point: nothing is claimed of it
      have dead : ∀ (t : St) (L : HLog), Aligned t → s.nextFd ≤ t.nextFd →
          (∀ c', t.conn? fd = some c' → c'.unlinked = true) →
          (execH n .flushRequeue t).1.1.outOfFuel = false → ReadPost fd v c (execH n .flushRequeue t).1.1 L := by
        intro t L halt hmt hdead hto c' v' hc' hv' hu'
        exact ((nonread_step (fun _ _ => False) n .flushRequeue t fd (fun _ h => h) halt (by omega)
          (fun c' _ hc' _ hu' => by rw [hdead c' hc'] at hu'; cases hu') hto).2.2.2 c' v' hc' hv' hu').elim
      cases hcp : p.1.1.conn? fd with
      | none =>
        simp only [hcp] at hf' ⊢
        obtain ⟨_, halp, hmp, _⟩ := hpf (execH_oof_back _ _ _ hf')
        exact dead p.1.1 _ halp hmp (fun c' hc' => by rw [hcp] at hc'; cases hc') hf'
      | some cp =>
        simp only [hcp] at hf' ⊢
        by_cases hcu : cp.unlinked = true
        · simp only [hcu, ↓reduceIte] at hf' ⊢
          obtain ⟨_, halp, hmp, _⟩ := hpf (execH_oof_back _ _ _ hf')
          exact dead p.1.1 _ halp hmp (fun c' hc' => by rw [hcp] at hc'; cases hc'; exact hcu) hf'
        · simp only [hcu, Bool.false_eq_true, ↓reduceIte] at hf' ⊢
          by_cases hst : (p.1.2 != Status.ok) = true
          · simp only [hst, ↓reduceIte] at hf' ⊢
            have hfe := execH_oof_back _ _ _ hf'
            obtain ⟨_, halp, hmp, _⟩ := hpf (execH_oof_back _ _ _ hfe)
            obtain ⟨_, hale, hme, _⟩ := nonread_step (fun _ _ => True) n (.connError fd true p.1.2) p.1.1 fd
              (fun _ h => h) halp (by omega) (fun _ _ _ _ _ => trivial) hfe
            rw [execH_fst] at hfe
            exact dead _ _ hale (by omega)
              (by rw [execH_fst]; exact exec_connError_kills n fd p.1.2 p.1.1 halp (by omega) hfe) hf'
          · simp only [hst, Bool.false_eq_true, ↓reduceIte] at hf' ⊢
            obtain ⟨hpl, halp, hmp, hfrp⟩ := hpf (execH_oof_back _ _ _ hf')
            have hcpu : cp.unlinked = false := by simpa using hcu
            obtain ⟨vp, hvp⟩ := halp.hasSock fd cp hcp
            obtain ⟨hvv, hcc⟩ := hfrp cp vp hcp hvp hcpu
            have e1 : vp.stream = v.stream := congrArg SV.stream hvv
            have e2 : vp.slen = v.slen := congrArg SV.slen hvv
            have e3 : vp.spos = v.spos := congrArg SV.spos hvv
            have e4 : cp.inBytes = c.inBytes - (2 + r.len) := congrArg CV.inBytes hcc
            have e5 : cp.tcp = c.tcp := congrArg CV.tcp hcc
            intro c' v' hc' hv' hu'
            obtain ⟨a1, a2, a3, a4, a5, a6⟩ :=
              readAnswersH_post n p.1.1 fd cp vp halp ⟨hcp, hvp, by rw [e5, ht], hcpu⟩ hf' c' v' hc' hv' hu'
            refine ⟨a1, by rw [a2, e1], by rw [a3, e2], by omega, ?_, a6⟩
            rw [e1, e3, e4] at a5
            rw [a5, harr, hpl]
            simp

theorem ReadPost.mono {fd : Nat} {v v1 : VSock} {c c1 : Conn} {out : St} {log : HLog} (h : ReadPost fd v1 c1 out log)
    (e1 : v1.stream = v.stream) (e2 : v1.slen = v.slen) (e3 : v.spos ≤ v1.spos)
    (e4 : v1.spos - c1.inBytes = v.spos - c.inBytes) : ReadPost fd v c out log := by
  intro c' v' hc' hv' hu'
  obtain ⟨a1, a2, a3, a4, a5, a6⟩ := h c' v' hc' hv' hu'
  refine ⟨a1, by rw [a2, e1], by rw [a3, e2], by omega, ?_, a6⟩
  rw [e1, e4] at a5; exact a5

/-- **`read_conn_packets` on an aligned live TCP connection**: after at most one `recv` (which moves the read position
    and in_buf by the same amount) it runs `read_answers`, or closes the connection -/
theorem bodyProcessReadH_tcp (goH : Call → St → (St × Ret) × HLog) (fd : Nat) (s : St) (c : Conn) (v : VSock)
    (hal : Aligned s) (hl : liveTcp s fd c v) (ho : s.outOfFuel = false) :
    ∃ s' c' v', Aligned s' ∧ liveTcp s' fd c' v' ∧ s'.outOfFuel = false ∧ v'.stream = v.stream ∧ v'.slen = v.slen ∧
      v.spos ≤ v'.spos ∧ v'.spos - c'.inBytes = v.spos - c.inBytes ∧
      (bodyProcessReadH goH fd s = goH (.readAnswers fd) s' ∨
        bodyProcessReadH goH fd s =
          (((goH (.connError fd true .connrefused) s').1.1, .connrefused), (goH (.connError fd true .connrefused) s').2)) := by
  obtain ⟨hc, hv, ht, hu⟩ := hl
  -- states that differ from `s` outside connections and sockets only
  have same : ∀ s' : St, s'.conns = s.conns → s'.socks = s.socks → s'.nextFd = s.nextFd → s'.outOfFuel = s.outOfFuel →
      Aligned s' ∧ liveTcp s' fd c v ∧ s'.outOfFuel = false := by
    intro s' h1 h2 h3 h4
    refine ⟨hal.of_views (by rw [h1]) (by rw [h2]) h3, ⟨?_, ?_, ht, hu⟩, by rw [h4, ho]⟩
    · show s'.conns.find? _ = _; rw [h1]; exact hc
    · show s'.socks.find? _ = _; rw [h2]; exact hv
  have recv : ∀ (s' : St) (n : Nat) (chunks : List Nat), s'.conns = s.conns → s'.socks = s.socks →
      s'.nextFd = s.nextFd → s'.outOfFuel = s.outOfFuel → n ≤ v.slen - v.spos →
      ∃ c' v', Aligned ((s'.modSock fd fun v => { v with chunks := chunks, spos := v.spos + n }).modConn fd
          fun c => { c with inBytes := c.inBytes + n, connected := true }) ∧
        liveTcp ((s'.modSock fd fun v => { v with chunks := chunks, spos := v.spos + n }).modConn fd
          fun c => { c with inBytes := c.inBytes + n, connected := true }) fd c' v' ∧
        v'.stream = v.stream ∧ v'.slen = v.slen ∧ v.spos ≤ v'.spos ∧ v'.spos - c'.inBytes = v.spos - c.inBytes := by
    intro s' n chunks h1 h2 h3 h4 hn
    obtain ⟨hal', ⟨hc', hv', _, _⟩, ho'⟩ := same s' h1 h2 h3 h4
    have h0 : Al (fun _ _ _ => True) 0 s' :=
      fun _ => alCore_of_aligned hal' (Nat.zero_le _) (fun _ _ _ _ _ _ => trivial)
    refine ⟨{ c with inBytes := c.inBytes + n, connected := true }, { v with chunks := chunks, spos := v.spos + n },
      aligned_of_alCore (Al_readTcp (fun _ _ _ _ _ => trivial) s' n chunks v hv' hn h0 ho'), ⟨?_, ?_, ht, hu⟩, rfl, rfl,
      Nat.le_add_right _ _, ?_⟩
    · exact (conn?_modConn_self _ _ _ (by intro; rfl)).trans (congrArg (Option.map _) hc')
    · exact (sock?_modSock_self _ _ _ (by intro; rfl)).trans (congrArg (Option.map _) hv')
    · show v.spos + n - (c.inBytes + n) = v.spos - c.inBytes
      omega
  unfold bodyProcessReadH
  have hu' : ¬ c.unlinked = true := by simp [hu]
  simp only [hc, hv, hu, ht, Bool.false_eq_true, ↓reduceIte, Bool.not_true]
  split
  · -- `recv` failed
    obtain ⟨a1, a2, a3⟩ := same (((s.fault "recvfrom").2.slog fd "recv").emit s!"recv!({fd})") rfl rfl rfl rfl
    ite_split
    · exact ⟨_, c, v, a1, a2, a3, rfl, rfl, Nat.le_refl _, rfl, .inl rfl⟩
    · exact ⟨_, c, v, a1, a2, a3, rfl, rfl, Nat.le_refl _, rfl, .inr rfl⟩
  · obtain ⟨a1, a2, a3⟩ := same ((s.fault "recvfrom").2.slog fd "recv") rfl rfl rfl rfl
    ite_split
    · ite_split
      · exact ⟨_, c, v, a1, a2, a3, rfl, rfl, Nat.le_refl _, rfl, .inr rfl⟩
      · exact ⟨_, c, v, a1, a2, a3, rfl, rfl, Nat.le_refl _, rfl, .inl rfl⟩
    · cases hch : v.chunks with
      | nil =>
        -- no script: everything available is read
        simp only [Bool.false_eq_true, ↓reduceIte]
        obtain ⟨c', v', b1, b2, b3, b4, b5, b6⟩ :=
          recv ((s.fault "recvfrom").2.slog fd "recv") (v.slen - v.spos) [] rfl rfl rfl rfl (Nat.le_refl _)
        exact ⟨_, c', v', b1, b2, by simp only [chan_frame]; exact ho, b3, b4, b5, b6, .inl rfl⟩
      | cons k r =>
        by_cases hk : (k == 0) = true
        · simp only [hk, ↓reduceIte]
          refine ⟨_, c, { v with chunks := r }, ?_, ⟨?_, ?_, ht, hu⟩, by simp only [chan_frame]; exact ho, rfl, rfl,
            Nat.le_refl _, rfl, .inl rfl⟩
          · exact a1.of_views rfl (vks_modSock_id _ _ _ (fun _ => rfl)) rfl
          · exact a2.1
          · exact (sock?_modSock_self _ _ _ (by intro; rfl)).trans (congrArg (Option.map _) a2.2.1)
        · simp only [hk, Bool.false_eq_true, ↓reduceIte]
          obtain ⟨c', v', b1, b2, b3, b4, b5, b6⟩ :=
            recv ((s.fault "recvfrom").2.slog fd "recv") (min k (v.slen - v.spos)) r rfl rfl rfl rfl
              (Nat.min_le_right _ _)
          exact ⟨_, c', v', b1, b2, by simp only [chan_frame]; exact ho, b3, b4, b5, b6, .inl rfl⟩

/-- **one run of `read_conn_packets` on an aligned live TCP connection**: same conclusion as for `read_answers` -/
theorem processReadH_post (n : Nat) (s : St) (fd : Nat) (c : Conn) (v : VSock) (hal : Aligned s)
    (hl : liveTcp s fd c v) (hf : (execH n (.processRead fd) s).1.1.outOfFuel = false) :
    ReadPost fd v c (execH n (.processRead fd) s).1.1 (execH n (.processRead fd) s).2 := by
  cases n with
  | zero => exact absurd hf (by simp [execH, St.oof])
  | succ n =>
    have ho : s.outOfFuel = false := by rw [execH_fst] at hf; exact exec_oof_back _ _ _ hf
    obtain ⟨s', c', v', hal', hl', ho', e1, e2, e3, e4, hcase⟩ := bodyProcessReadH_tcp (execH n) fd s c v hal hl ho
    have hf' : (bodyProcessReadH (execH n) fd s).1.1.outOfFuel = false := hf
    show ReadPost fd v c (bodyProcessReadH (execH n) fd s).1.1 (bodyProcessReadH (execH n) fd s).2
    rcases hcase with hcase | hcase
    · rw [hcase] at hf' ⊢
      exact (readAnswersH_post n s' fd c' v' hal' hl' hf').mono e1 e2 e3 e4
    · rw [hcase] at hf' ⊢
      obtain ⟨hc', hv', ht', hu'⟩ := hl'
      have hfe : (exec n (.connError fd true .connrefused) s').1.outOfFuel = false := by rw [← execH_fst]; exact hf'
      have hkill := exec_connError_kills n fd .connrefused s' hal' (hal'.fresh fd v' hv') hfe
      intro c2 v2 hc2 hv2 hu2
      have hc2' : (exec n (.connError fd true .connrefused) s').1.conn? fd = some c2 := by
        rw [← execH_fst]; exact hc2
      rw [hkill c2 hc2'] at hu2; cases hu2

end Cares.Chan
