import CaresLemmas.ChanWfStep
import CaresLemmas.ChanExec
import CaresLemmas.ChanLookup
/-!
# C01 — `St.settle` (the by-timeout insertions replayed at the end of an API call) keeps the invariant
-/
namespace Cares.Chan

/-- one step of the replay, for a key that is not in the index yet: the skeleton changes in `byTimeout` only, and
    only by inserting `k` -/
theorem sk_settleStep (s : St) (k : Nat) (hn : s.byTimeout.Nodup) (hk : k ∉ s.byTimeout) :
    ∃ bt, (settleStep s k).sk = { s.sk with byTimeout := bt } ∧ (∀ x ∈ bt, x = k ∨ x ∈ s.byTimeout) ∧ bt.Nodup := by
  unfold settleStep
  cases hq : s.query? k with
  | none => exact ⟨s.byTimeout, rfl, fun x hx => Or.inr hx, hn⟩
  | some q =>
    have hqk : q.key = k := find?_key_eq hq
    simp only
    cases hdl : q.deadline with
    | none => exact ⟨s.byTimeout, rfl, fun x hx => Or.inr hx, hn⟩
    | «at» ms =>
      simp only
      refine ⟨insertByDeadline s.qs q.key ms (s.byTimeout.erase q.key), rfl, fun x hx => ?_, ?_⟩
      · rcases mem_insertByDeadline.mp hx with h | h
        · exact Or.inl (h.trans hqk)
        · exact Or.inr (List.mem_of_mem_erase h)
      · exact insertByDeadline_nodup (hn.erase _) (fun hm => ((List.Nodup.mem_erase_iff hn).mp hm).1 rfl)
    | pending lo hi =>
      simp only
      cases hf : s.obs.dls.find? (·.1 == q.qid) with
      | none => exact ⟨s.byTimeout, rfl, fun x hx => Or.inr hx, hn⟩
      | some p =>
        obtain ⟨p1, rem⟩ := p
        simp only
        -- the state in which the insertion is made
        have hX : ∀ (sX : St), sX.sk = s.sk → sX.byTimeout = s.byTimeout → ∀ (v : Nat),
            ∃ bt, ({ sX with byTimeout := insertByDeadline sX.qs q.key v sX.byTimeout } : St).sk =
                { s.sk with byTimeout := bt } ∧ (∀ x ∈ bt, x = k ∨ x ∈ s.byTimeout) ∧ bt.Nodup := by
          intro sX h1 h2 v
          refine ⟨insertByDeadline sX.qs q.key v s.byTimeout, ?_, fun x hx => ?_, ?_⟩
          · have : ∀ (X : St) (bt : List Nat), ({ X with byTimeout := bt } : St).sk = { X.sk with byTimeout := bt } :=
              fun _ _ => rfl
            rw [this, h1, h2]
          · rcases mem_insertByDeadline.mp hx with h | h
            · exact Or.inl (h.trans hqk)
            · exact Or.inr h
          · exact insertByDeadline_nodup hn (hqk ▸ hk)
        apply hX
        · rw [sk_modQuery_same]
          · split <;> rfl
          · intro; rfl
        · show (St.modQuery _ _ _).byTimeout = _
          have hbt : ∀ (X : St) k f, (X.modQuery k f).byTimeout = X.byTimeout := fun _ _ _ => rfl
          rw [hbt]
          split <;> rfl

theorem settle_fold (s0 : St) : ∀ (rem : List Nat) (s : St) (bt : List Nat),
    s.sk = { s0.sk with byTimeout := bt } → bt.Nodup →
    (∀ x ∈ bt, x ∈ s0.byTimeout ∨ x ∈ s0.pendingOrder) → rem.Nodup → (∀ k ∈ rem, k ∉ bt) →
    (∀ k ∈ rem, k ∈ s0.pendingOrder) →
    ∃ bt', (rem.foldl settleStep s).sk = { s0.sk with byTimeout := bt' } ∧ bt'.Nodup ∧
      ∀ x ∈ bt', x ∈ s0.byTimeout ∨ x ∈ s0.pendingOrder
  | [], s, bt, h1, h2, h3, _, _, _ => ⟨bt, h1, h2, h3⟩
  | k :: rest, s, bt, h1, h2, h3, h4, h5, h6 => by
    have hbt : s.byTimeout = bt := by have := congrArg Sk.byTimeout h1; exact this
    obtain ⟨bt1, e1, m1, n1⟩ := sk_settleStep s k (hbt ▸ h2) (hbt ▸ h5 k List.mem_cons_self)
    have hn4 := List.nodup_cons.mp h4
    refine settle_fold s0 rest (settleStep s k) bt1 ?_ ?_ ?_ hn4.2 ?_ (fun x hx => h6 x (List.mem_cons_of_mem _ hx))
    · rw [e1, h1]
    · exact n1
    · intro x hx
      rcases m1 x hx with h | h
      · exact Or.inr (h ▸ h6 k List.mem_cons_self)
      · exact h3 x (hbt ▸ h)
    · intro x hx hm
      rcases m1 x hm with h | h
      · exact hn4.1 (h ▸ hx)
      · exact h5 x (List.mem_cons_of_mem _ hx) (hbt ▸ h)

/-- what the replay does to the skeleton: `pendingOrder` is emptied into `byTimeout` -/
theorem sk_settle {s : St} (hw : Wf s) :
    ∃ bt', s.settle.sk = { s.sk with byTimeout := bt', pendingOrder := [] } ∧ bt'.Nodup ∧
      ∀ x ∈ bt', x ∈ s.byTimeout ∨ x ∈ s.pendingOrder := by
  rw [settle_eq]
  obtain ⟨bt', e, hn, hm⟩ := settle_fold s s.pendingOrder s s.byTimeout rfl hw.t.btNodup (fun x hx => Or.inl hx)
    hw.t.poNodup (fun k hk => (hw.t.poOk k hk).2.2) (fun _ hk => hk)
  refine ⟨bt', ?_, hn, hm⟩
  have : ∀ (X : St), ({ X with pendingOrder := [] } : St).sk = { X.sk with pendingOrder := [] } := fun _ => rfl
  rw [this, e]

theorem wf_settle {s : St} (hw : Wf s) : Wf s.settle := by
  obtain ⟨bt', e, hn, hm⟩ := sk_settle hw
  unfold Wf
  rw [e]
  refine ⟨hw.q, hw.i, ⟨hn, fun x hx => ?_, List.nodup_nil, fun _ hk => by cases hk⟩, hw.c, hw.s, hw.k, hw.tok⟩
  rcases hm x hx with h | h
  · exact hw.t.btOk x h
  · exact ⟨(hw.t.poOk x h).1, (hw.t.poOk x h).2.1⟩

theorem debt_settle {x d} {s : St} (hw : Wf s) (hd : DebtOk x d s.sk) : DebtOk x d s.settle.sk := by
  obtain ⟨bt', e, _, _⟩ := sk_settle hw
  rw [e]
  exact hd.congr rfl rfl rfl rfl rfl

end Cares.Chan
