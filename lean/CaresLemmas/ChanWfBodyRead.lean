import CaresLemmas.ChanWfMid
import CaresLemmas.ChanWfLookup
/-!
# C01 and C12c — body lemmas: `processRead`, `readAnswers`
-/
namespace Cares.Chan

@[simp] theorem sk_modSock_rx (s : St) (fd : Nat) (x : List Reply) :
    (s.modSock fd fun v => { v with rx := x }).sk = s.sk := by rw [sk_modSock]; intro; rfl
@[simp] theorem sk_modSock_chunks (s : St) (fd : Nat) (x : List Nat) :
    (s.modSock fd fun v => { v with chunks := x }).sk = s.sk := by rw [sk_modSock]; intro; rfl
@[simp] theorem sk_modSock_chunks_spos (s : St) (fd : Nat) (x : List Nat) (n : Nat) :
    (s.modSock fd fun v => { v with chunks := x, spos := v.spos + n }).sk = s.sk := by
  rw [sk_modSock]; intro; rfl

variable {cid : Nat}

/-- the ways `read_conn_packets` ends: nothing to do; or, on a live connection and from a state that differs from
    `s` outside the skeleton only, a tail call of `readAnswers` / `processRead`, or `connError` -/
theorem bodyProcessReadC_cases {goC : GoC} {fd : Nat} {s : St} (P : (St × Ret) × CLog → Prop) (h0 : P ((s, .ok), []))
    (hk : ∀ c, s.conn? fd = some c → c.unlinked = false → ∀ s1 : St, s1.sk = s.sk →
      P (goC (.readAnswers fd) s1) ∧ P (goC (.processRead fd) s1) ∧
        P (((goC (.connError fd true .connrefused) s1).1.1, .connrefused), (goC (.connError fd true .connrefused) s1).2)) :
    P (bodyProcessReadC goC fd s) := by
  unfold bodyProcessReadC
  split
  · rename_i c v hcn hv
    ite_split
    · exact h0
    · have hk' := hk c hcn (by simpa using hc)
      have hsk : ((s.fault "recvfrom").2.slog fd "recv").sk = s.sk := (sk_slog _ _ _).trans (sk_fault s _)
      generalize s.fault "recvfrom" = r0 at hsk ⊢
      obtain ⟨e, s0⟩ := r0
      dsimp only at hsk ⊢
      generalize s0.slog fd "recv" = s1 at hsk ⊢
      have recvErr : ∀ errno : Nat, P (if isWouldBlock errno = true then goC (.readAnswers fd) (s1.emit s!"recv!({fd})")
          else (((goC (.connError fd true .connrefused) (s1.emit s!"recv!({fd})")).1.1, .connrefused),
            (goC (.connError fd true .connrefused) (s1.emit s!"recv!({fd})")).2)) :=
        fun _ => ite_both P (hk' _ ((sk_emit _ _).trans hsk)).1 (hk' _ ((sk_emit _ _).trans hsk)).2.2
      have chunk : ∀ (n : Nat) (chunks : List Nat) (again : Bool),
          P (if again = true then goC (.readAnswers fd) (s1.modSock fd fun v => { v with chunks := chunks })
            else goC (.readAnswers fd) ((s1.modSock fd fun v => { v with chunks := chunks, spos := v.spos + n }).modConn
              fd fun c => { c with inBytes := c.inBytes + n, connected := true })) :=
        fun n chunks again => ite_both P (hk' _ ((sk_modSock_chunks _ _ _).trans hsk)).1
          (hk' _ (by rw [sk_modConn_same, sk_modSock_chunks_spos]; exact hsk; intro; rfl)).1
      ite_split
      · split
        · exact recvErr _
        · split
          · exact (hk' _ hsk).1
          · ite_split
            · exact (hk' _ ((sk_modSock_rx _ _ _).trans hsk)).1
            · exact (hk' _ (by rw [sk_modConn_same, sk_modSock_rx]; exact hsk; intro; rfl)).2.1
      · split
        · exact recvErr _
        · ite_split
          · exact ite_both P (hk' _ hsk).2.2 (hk' _ hsk).1
          · exact chunk _ _ _
  · exact h0

theorem good_processRead {goC : GoC} (h : GoGood cid goC) {d fd s L} (hpre : Pre d s (.processRead fd))
    (hL : LG cid L (xtra cid (.processRead fd)) s) :
    GoodL cid d (.processRead fd) s L (bodyProcessReadC goC fd s) := by
  obtain ⟨hw, hd⟩ := hpre
  have hm0 : MidL cid d s L s := MidL.refl hw hd hL
  refine bodyProcessReadC_cases _ (hm0.ret trivial) (fun c hc hcu s1 h1 => ?_)
  have hm1 := hm0.sk_eq h1
  exact ⟨(h.callL (d := d) (c := .readAnswers fd) ⟨hm1.mid.wf, by unfold Sk.liveConn; rw [h1]; exact live_of_conn? hc, hm1.mid.debt⟩
      hm1.lg).tail' hm1.mid.step (Or.inl rfl) (Or.inl rfl) (fun _ => trivial),
    (h.callL (d := d) (c := .processRead fd) ⟨hm1.mid.wf, hm1.mid.debt⟩ hm1.lg).tail' hm1.mid.step (Or.inl rfl)
      (Or.inl rfl) (fun _ => trivial),
    (h.callL (d := d) (c := .connError fd true .connrefused)
      ⟨hm1.mid.wf, by rw [h1]; have := hasConn_of_conn? hc; rwa [hcu] at this, hm1.mid.debt⟩ hm1.lg).tail
      hm1.mid.step (Or.inl rfl) (Or.inl rfl) (fun _ => trivial)⟩

theorem good_readAnswers {goC : GoC} (h : GoGood cid goC) {d fd s L} (hpre : Pre d s (.readAnswers fd))
    (hL : LG cid L (xtra cid (.readAnswers fd)) s) :
    GoodL cid d (.readAnswers fd) s L (bodyReadAnswersC goC fd s) := by
  obtain ⟨hw, hl, hd⟩ := hpre
  have hm0 : MidL cid d s L s := MidL.refl hw hd hL
  obtain ⟨c, hc⟩ := conn?_of_live hl
  obtain ⟨v, hv⟩ := sock?_of_conn hw hc
  unfold bodyReadAnswersC
  simp only [hc, hv]
  have toFR : ∀ (s1 : St) (L1 : CLog), MidLO cid d s L1 s1 → GoodL cid d (.readAnswers fd) s L1 (goC .flushRequeue s1) :=
    fun s1 L1 hm => hm.tailL h (fun hm => ⟨hm.mid.wf, hm.mid.debt⟩) rfl (Or.inl rfl) (Or.inl rfl) (fun _ => trivial)
  split
  · exact toFR s L (Or.inr hm0)
  · rename_i r _
    have hsk1 : (s.modConn fd fun c => { c with inMsgs := c.inMsgs.drop 1, inBytes := c.inBytes - (2 + r.len) }).sk = s.sk := by
      rw [sk_modConn_same]; intro; rfl
    generalize (s.modConn fd fun c => { c with inMsgs := c.inMsgs.drop 1, inBytes := c.inBytes - (2 + r.len) }) = s1
      at hsk1 ⊢
    have hm1 : MidL cid d s L s1 := hm0.sk_eq hsk1
    have hm2 : MidLO cid d s (L ++ (goC (.processAnswer fd r) s1).2) (goC (.processAnswer fd r) s1).1.1 :=
      hm1.call h (.processAnswer fd r) ⟨hm1.mid.wf, by unfold Sk.liveConn; rw [hsk1]; exact hl, hm1.mid.debt⟩ rfl rfl rfl
    generalize goC (.processAnswer fd r) s1 = r2 at hm2 ⊢
    obtain ⟨⟨s2, st⟩, l2⟩ := r2
    simp only at hm2 ⊢
    -- the completion callback may have closed this very connection: it is looked up again
    split
    · exact (toFR s2 _ hm2).seq
    · rename_i c' hc'
      split
      · exact (toFR s2 _ hm2).seq
      · rename_i hcu
        have hcu' : c'.unlinked = false := by simpa using hcu
        split
        · refine GoodL.seq ?_
          rw [← List.append_assoc]
          refine toFR _ _ (hm2.bind (h.oof (c := .connError fd true st)) (fun hm2 => ?_))
          exact hm2.call h (.connError fd true st)
            ⟨hm2.mid.wf, by have := hasConn_of_conn? hc'; rwa [hcu'] at this, hm2.mid.debt⟩ rfl rfl rfl
        · exact (hm2.tailL h (c := .readAnswers fd) (c' := .readAnswers fd)
            (fun hm2 => ⟨hm2.mid.wf, live_of_conn? hc', hm2.mid.debt⟩) rfl (Or.inl rfl) (Or.inl rfl)
            (fun _ => trivial)).seq

end Cares.Chan
