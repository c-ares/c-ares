import CaresModel.Dsa.HTable
/-! Helper lemmas for the `ares_htable` model: bucket arrays as lists (entries of a modified
    array, sums over a modified array), lookup among nodes with pairwise different keys. -/
namespace Cares.Dsa.HTable
open Cares.Generated
variable {K V : Type}

theorem ents_nil : ents ([] : List (Option (List (K × V)))) = [] := rfl

theorem ents_cons (b : Option (List (K × V))) (bs) : ents (b :: bs) = b.getD [] ++ ents bs := by
  simp [ents]

theorem ents_append (a b : List (Option (List (K × V)))) : ents (a ++ b) = ents a ++ ents b := by
  simp [ents]

theorem ents_replicate_none (n : Nat) : ents (List.replicate n (none : Option (List (K × V)))) = [] := by
  induction n with
  | zero => rfl
  | succ n ih => rw [List.replicate_succ, ents_cons, ih]; rfl

theorem bucketAt_eq_getD (bs : List (Option (List (K × V)))) (i : Nat) (h : i < bs.length) :
    bucketAt bs i = (bs[i]).getD [] := by
  unfold bucketAt
  rw [List.getElem?_eq_getElem h]
  cases bs[i] <;> rfl

theorem ents_split (bs : List (Option (List (K × V)))) (i : Nat) (h : i < bs.length) :
    ents bs = ents (bs.take i) ++ (bucketAt bs i ++ ents (bs.drop (i + 1))) := by
  have e : bs = bs.take i ++ bs[i] :: bs.drop (i + 1) := by
    rw [List.getElem_cons_drop h, List.take_append_drop]
  conv => lhs; rw [e]
  rw [ents_append, ents_cons, bucketAt_eq_getD bs i h]

theorem ents_set (bs : List (Option (List (K × V)))) (i : Nat) (h : i < bs.length) (l : List (K × V)) :
    ents (bs.set i (some l)) = ents (bs.take i) ++ (l ++ ents (bs.drop (i + 1))) := by
  rw [List.set_eq_take_append_cons_drop, if_pos h, ents_append, ents_cons]
  rfl

theorem bucketAt_set_self (bs : List (Option (List (K × V)))) (i : Nat) (h : i < bs.length) (l : List (K × V)) :
    bucketAt (bs.set i (some l)) i = l := by
  unfold bucketAt; simp [h]

theorem bucketAt_set_ne (bs : List (Option (List (K × V)))) (i j : Nat) (hne : i ≠ j) (b) :
    bucketAt (bs.set i b) j = bucketAt bs j := by
  unfold bucketAt; rw [List.getElem?_set_ne hne]

theorem slotNull_set_ne (bs : List (Option (List (K × V)))) (i j : Nat) (hne : i ≠ j) (b) :
    slotNull (bs.set i b) j = slotNull bs j := by
  unfold slotNull; rw [List.getElem?_set_ne hne]

theorem bucketAt_of_slotNull (bs : List (Option (List (K × V)))) (i : Nat) (h : slotNull bs i = true) :
    bucketAt bs i = [] := by
  unfold slotNull at h; unfold bucketAt
  split <;> simp_all

theorem ents_set_perm (bs : List (Option (List (K × V)))) (i : Nat) (h : i < bs.length) (l : List (K × V)) :
    ∃ rest, (ents bs).Perm (bucketAt bs i ++ rest) ∧ (ents (bs.set i (some l))).Perm (l ++ rest) := by
  refine ⟨ents (bs.take i) ++ ents (bs.drop (i + 1)), ?_, ?_⟩
  · rw [ents_split bs i h]
    exact List.perm_append_comm_assoc _ _ _
  · rw [ents_set bs i h]
    exact List.perm_append_comm_assoc _ _ _

theorem ents_push_perm (bs : List (Option (List (K × V)))) (i : Nat) (h : i < bs.length) (e : K × V) :
    (ents (bs.set i (some (e :: bucketAt bs i)))).Perm (e :: ents bs) := by
  obtain ⟨rest, h1, h2⟩ := ents_set_perm bs i h (e :: bucketAt bs i)
  exact h2.trans (List.Perm.cons e h1.symm)

theorem sum_map_set (f : Option (List (K × V)) → Nat) (bs : List (Option (List (K × V)))) (i : Nat)
    (h : i < bs.length) (b : Option (List (K × V))) :
    ((bs.set i b).map f).sum + f bs[i] = (bs.map f).sum + f b := by
  induction bs generalizing i with
  | nil => simp at h
  | cons x xs ih =>
    cases i with
    | zero => simp; omega
    | succ i =>
      simp only [List.set_cons_succ, List.map_cons, List.sum_cons, List.getElem_cons_succ]
      have := ih i (by simpa using h)
      omega

theorem getElem?_of_bucketAt_ne_nil (bs : List (Option (List (K × V)))) (i : Nat) (h : bucketAt bs i ≠ []) :
    bs[i]? = some (some (bucketAt bs i)) := by
  unfold bucketAt at h ⊢
  split at h
  · rename_i l hl; rw [hl]
  · exact absurd rfl h

theorem forall_set_bucket {P : Nat → List (K × V) → Prop} (bs : List (Option (List (K × V)))) (i : Nat)
    (hi : i < bs.length) (l' : List (K × V)) (hold : ∀ j l, bs[j]? = some (some l) → P j l) (hnew : P i l') :
    ∀ j l, (bs.set i (some l'))[j]? = some (some l) → P j l := by
  intro j l hj
  by_cases hji : i = j
  · subst hji
    rw [List.getElem?_set_self hi] at hj
    cases hj; exact hnew
  · rw [List.getElem?_set_ne hji] at hj
    exact hold j l hj

theorem sum_bcoll_push (bs : List (Option (List (K × V)))) (i : Nat) (h : i < bs.length) (e : K × V) :
    ((bs.set i (some (e :: bucketAt bs i))).map bcoll).sum =
      (bs.map bcoll).sum + (if (bucketAt bs i).length = 0 then 0 else 1) := by
  have hs := sum_map_set bcoll bs i h (some (e :: bucketAt bs i))
  unfold bucketAt at hs ⊢
  rw [List.getElem?_eq_getElem h] at hs ⊢
  cases hh : bs[i] with
  | none => rw [hh] at hs; exact hs
  | some b =>
    rw [hh] at hs
    cases b with
    | nil => exact hs
    | cons a t =>
      have hs' : _ + t.length = (bs.map bcoll).sum + t.length + 1 := hs
      rw [Nat.add_right_comm] at hs'
      exact Nat.add_right_cancel hs'

theorem sum_bcoll_shrink (bs : List (Option (List (K × V)))) (i : Nat) (h : i < bs.length) (b l' : List (K × V))
    (hb : bs[i] = some b) (hl : l'.length + 1 = b.length) :
    ((bs.set i (some l')).map bcoll).sum =
      if b.length > 1 then (bs.map bcoll).sum - 1 else (bs.map bcoll).sum := by
  have hs := sum_map_set bcoll bs i h (some l')
  rw [hb] at hs
  have hs' : _ + (b.length - 1) = (bs.map bcoll).sum + (l'.length - 1) := hs
  rw [← hl, Nat.add_sub_cancel] at hs'
  rw [← hl]
  cases l' with
  | nil => rw [if_neg (show ¬ ([] : List (K × V)).length + 1 > 1 from Nat.lt_irrefl 1)]; exact hs'
  | cons a t =>
    rw [if_pos (show (a :: t).length + 1 > 1 from Nat.succ_lt_succ (Nat.succ_pos _))]
    rw [List.length_cons, Nat.add_sub_cancel, ← Nat.add_assoc, Nat.add_right_comm] at hs'
    rw [← Nat.add_right_cancel hs', Nat.add_sub_cancel]

theorem sum_map_replicate_none (f : Option (List (K × V)) → Nat) (hf : f none = 0) (n : Nat) :
    ((List.replicate n (none : Option (List (K × V)))).map f).sum = 0 := by
  induction n with
  | zero => rfl
  | succ n ih => simp [List.replicate_succ, hf]

theorem length_ents (bs : List (Option (List (K × V)))) : (ents bs).length = (bs.map blen).sum := by
  induction bs with
  | nil => rfl
  | cons b bs ih =>
    rw [ents_cons, List.length_append, ih, List.map_cons, List.sum_cons]
    cases b <;> rfl

theorem hidx_lt (ops : HOps K) (size : Nat) (k : K) (h : 0 < size) : hidx ops size k < size := by
  unfold hidx
  have := @Nat.and_le_right (ops.hash k) (size - 1)
  omega

/-- no two nodes have equal keys: `Inv.uniq` of the table, for any list of nodes -/
abbrev KeysDiffer (ops : HOps K) (l : List (K × V)) : Prop := l.Pairwise (fun a b => ops.eq a.1 b.1 = false)

theorem find?_some_iff (ops : HOps K) (hl : Lawful ops) (l : List (K × V))
    (hu : KeysDiffer ops l) (q : K) (e : K × V) :
    l.find? (fun e => ops.eq q e.1) = some e ↔ e ∈ l ∧ ops.eq q e.1 = true := by
  induction l with
  | nil => simp
  | cons a l ih =>
    have hu := List.pairwise_cons.1 hu
    by_cases ha : ops.eq q a.1 = true
    · rw [List.find?_cons_of_pos (by simpa using ha)]
      constructor
      · intro h; cases h; exact ⟨List.mem_cons_self, ha⟩
      · rintro ⟨hm, he⟩
        rcases List.mem_cons.1 hm with rfl | hm
        · rfl
        · exfalso
          have h1 := hu.1 e hm
          have h2 := hl.trans _ _ _ (hl.symm _ _ ha) he
          rw [h2] at h1; cases h1
    · rw [List.find?_cons_of_neg (by simpa using ha), ih hu.2]
      constructor
      · rintro ⟨hm, he⟩; exact ⟨List.mem_cons_of_mem _ hm, he⟩
      · rintro ⟨hm, he⟩
        rcases List.mem_cons.1 hm with rfl | hm
        · exact absurd he ha
        · exact ⟨hm, he⟩

theorem keyNe_symm (ops : HOps K) (hl : Lawful ops) (a b : K × V) (h : ops.eq a.1 b.1 = false) :
    ops.eq b.1 a.1 = false := by
  cases hb : ops.eq b.1 a.1 with
  | false => rfl
  | true => rw [hl.symm _ _ hb] at h; cases h

theorem pairwise_perm (ops : HOps K) (hl : Lawful ops) (l1 l2 : List (K × V)) (hp : l1.Perm l2)
    (hu : KeysDiffer ops l1) : KeysDiffer ops l2 :=
  (hp.pairwise_iff (fun {a b} h => keyNe_symm ops hl a b h)).1 hu

theorem find?_perm (ops : HOps K) (hl : Lawful ops) (l1 l2 : List (K × V)) (hp : l1.Perm l2)
    (hu : KeysDiffer ops l1) (q : K) :
    l1.find? (fun e => ops.eq q e.1) = l2.find? (fun e => ops.eq q e.1) := by
  apply Option.ext
  intro e
  rw [find?_some_iff ops hl l1 hu, find?_some_iff ops hl l2 (pairwise_perm ops hl l1 l2 hp hu), hp.mem_iff]

end Cares.Dsa.HTable
