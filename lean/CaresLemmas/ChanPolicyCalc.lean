import CaresLemmas.ChanPolicyDeadline
import CaresLemmas.Float32
/-!
# C06 — the channel model's deadline against the arithmetic model of `ares_calc_query_timeout`

`sqDeadline` (channel model) computes `timeplus` on unbounded naturals and leaves the jitter to the observation inside
`[max T (tp − tp/2), max T tp]`; `Proto.Timeout.calcWith` (C06a) is the word-level function with the jitter as a
parameter, `calcQueryTimeout` the one of the tree under check (guarded shift, exact binary32 jitter).  The doubled and
capped value is the same in both as long as the channel's value fits `SIZE_MAX >> 1` (the saturating shift then never
shows, `preJitter_eq_chan`); for `tp < 2²³` ms the exact binary32 jitter takes away at most `⌊tp/2⌋`
(`jitterExact_le_half`) — for larger values the two roundings can exceed the half by one unit (`jitterOk` allows
`tp/2 + tp/2²⁴ + tp/2⁴⁹`).

The closed form `calcWith_eq` (`Float32`) has `p`, `d` and `jit` implicit and fixed by its two equations: it is called as
`calcWith_eq hn rfl (if_pos hr) hle` from the second pass on (`hle : jit p.1 ≤ p.1`, as in `calcWith_jittered`) and with
`(if_neg hr) (Nat.zero_le _)` on the first pass.
-/
namespace Cares.Chan
open Cares.Proto.Timeout Cares.Generated.Proto

/-- `timeplus` as the channel model computes it: doubled per completed round, capped by `maxtimeout` -/
def chanTimeplus (T maxtimeout rounds : Nat) : Nat :=
  let tp := if rounds > 0 then T * 2 ^ rounds else T
  if maxtimeout != 0 && tp > maxtimeout then maxtimeout else tp

/-- the two ends of the interval the channel model admits for a jittered wait -/
def chanLo (T tp : Nat) : Nat := max T (tp - tp / 2)
def chanHi (T tp : Nat) : Nat := max T tp

theorem sqDeadline_eq (s : St) (srvNow : Server) (tryCount : Nat) :
    sqDeadline s srvNow tryCount =
      if tryCount / s.servers.length > 0 then
        (.pending (s.now + chanLo (s.serverTimeout srvNow)
                      (chanTimeplus (s.serverTimeout srvNow) s.cfg.maxtimeout (tryCount / s.servers.length)))
                  (s.now + chanHi (s.serverTimeout srvNow)
                      (chanTimeplus (s.serverTimeout srvNow) s.cfg.maxtimeout (tryCount / s.servers.length))),
         s.draw2.2)
      else
        (.at (s.now + max (chanTimeplus (s.serverTimeout srvNow) s.cfg.maxtimeout (tryCount / s.servers.length))
                          (s.serverTimeout srvNow)), s) := by
  unfold sqDeadline chanTimeplus chanLo chanHi
  dsimp only
  split
  · rw [draw2_now]
  · rfl

theorem size_t_bits_eq : SIZE_T_BITS = 64 := rfl

theorem max_timeplus_val : MAX_TIMEPLUS = 9223372036854775807 := by decide

/-- the guarded doubling saturates exactly when the exact product exceeds `SIZE_MAX >> 1` -/
theorem shiftStep_guarded_eq (T rounds : Nat) (hT : 0 < T) (hr : 0 < rounds) :
    (shiftStep true T rounds).1 = if T * 2 ^ rounds > MAX_TIMEPLUS then MAX_TIMEPLUS else T * 2 ^ rounds := by
  unfold shiftStep
  have hr0 : rounds ≠ 0 := by omega
  simp only [hr0, ↓reduceIte]
  have hpos : 0 < 2 ^ rounds := Nat.pow_pos (by decide)
  have hiff : (rounds ≥ SIZE_T_BITS ∨ T > MAX_TIMEPLUS >>> rounds) ↔ T * 2 ^ rounds > MAX_TIMEPLUS := by
    rw [Nat.shiftRight_eq_div_pow]
    constructor
    · rintro (h | h)
      · have h64 : 2 ^ 64 ≤ 2 ^ rounds := Nat.pow_le_pow_right (by decide) (by rw [size_t_bits_eq] at h; exact h)
        have : 2 ^ rounds ≤ T * 2 ^ rounds := Nat.le_mul_of_pos_left _ hT
        rw [max_timeplus_val]
        have e : (2 : Nat) ^ 64 = 18446744073709551616 := by decide
        omega
      · exact (Nat.div_lt_iff_lt_mul hpos).1 h
    · intro h
      right
      exact (Nat.div_lt_iff_lt_mul hpos).2 h
  by_cases hs : T * 2 ^ rounds > MAX_TIMEPLUS
  · rw [if_pos (hiff.2 hs), if_pos hs]
  · rw [if_neg (fun h => hs (hiff.1 h)), if_neg hs, Nat.shiftLeft_eq]

/-- **the value before the jitter agrees**: whenever the channel model's `timeplus` fits `SIZE_MAX >> 1`, the
    word-level computation (guarded shift, cap) yields the same number -/
theorem preJitter_eq_chan (T maxtimeout rounds : Nat) (hT : 0 < T)
    (hfit : chanTimeplus T maxtimeout rounds ≤ MAX_TIMEPLUS) :
    (preJitter true T maxtimeout rounds).1 = chanTimeplus T maxtimeout rounds := by
  unfold preJitter
  dsimp only
  by_cases hr : rounds = 0
  · subst hr
    unfold shiftStep chanTimeplus
    simp only [↓reduceIte, Nat.lt_irrefl, gt_iff_lt]
    by_cases hm : maxtimeout = 0
    · simp [hm]
    · by_cases hc : maxtimeout < T <;> simp [hm, hc]
  · have hr' : 0 < rounds := by omega
    rw [shiftStep_guarded_eq T rounds hT hr']
    unfold chanTimeplus at hfit ⊢
    simp only [hr', ↓reduceIte, gt_iff_lt] at hfit ⊢
    generalize T * 2 ^ rounds = X at hfit ⊢
    generalize MAX_TIMEPLUS = M at hfit ⊢
    by_cases hm : maxtimeout = 0
    · simp only [hm, bne_self_eq_false, Bool.false_and, Bool.false_eq_true, ↓reduceIte, ne_eq,
        not_true_eq_false, false_and] at hfit ⊢
      rw [if_neg (by omega)]
    · have hm' : (maxtimeout != 0) = true := by simpa using hm
      simp only [hm', Bool.true_and, decide_eq_true_eq, ne_eq, hm, not_false_eq_true, true_and] at hfit ⊢
      by_cases hc : maxtimeout < X
      · rw [if_pos hc] at hfit ⊢
        by_cases hs : M < X
        · rw [if_pos hs]
          by_cases hmm : maxtimeout < M
          · rw [if_pos hmm]
          · rw [if_neg hmm]; omega
        · rw [if_neg hs, if_pos hc]
      · rw [if_neg hc] at hfit ⊢
        rw [if_neg (show ¬ M < X by omega), if_neg hc]

/-- `ares_calc_query_timeout` from the second pass on, for any jitter function that takes away at most `timeplus` -/
theorem calcWith_jittered (jit : Nat → Nat) (T maxtimeout tryCount nservers : Nat) (hn : 0 < nservers) (hT : 0 < T)
    (hr : 0 < tryCount / nservers)
    (hfit : chanTimeplus T maxtimeout (tryCount / nservers) ≤ MAX_TIMEPLUS)
    (hj : jit (chanTimeplus T maxtimeout (tryCount / nservers)) ≤ chanTimeplus T maxtimeout (tryCount / nservers)) :
    (calcWith true jit T maxtimeout tryCount nservers).timeplus =
      max T (chanTimeplus T maxtimeout (tryCount / nservers) -
               jit (chanTimeplus T maxtimeout (tryCount / nservers))) := by
  rw [calcWith_eq (by omega) rfl (if_pos hr) (by rwa [preJitter_eq_chan T maxtimeout _ hT hfit]),
    preJitter_eq_chan T maxtimeout _ hT hfit]

/-- the first pass: no doubling, no jitter — both models wait exactly the base timeout -/
theorem calcWith_first_pass (g : Bool) (jit : Nat → Nat) (T maxtimeout tryCount nservers : Nat) (hn : 0 < nservers)
    (hr : tryCount / nservers = 0) (hb : maxtimeout ≠ 0 → T ≤ maxtimeout) :
    (calcWith g jit T maxtimeout tryCount nservers).timeplus = T ∧
    max (chanTimeplus T maxtimeout (tryCount / nservers)) T = T := by
  constructor
  · rw [calcWith_first (by omega) hr hb]
  · unfold chanTimeplus
    rw [hr]
    simp only [Nat.lt_irrefl, ↓reduceIte, gt_iff_lt]
    by_cases hm : maxtimeout = 0
    · simp [hm]
    · have := hb hm
      have h1 : ¬ (maxtimeout < T) := by omega
      simp [h1]

/-- **the exact binary32 jitter takes away at most half** for `timeplus < 2²³` ms (about 2 h 20 min) -/
theorem jitterExact_le_half (tp r : Nat) (hr : r ≤ 65535) (htp : tp < 2 ^ 23) : jitterExact tp r ≤ tp / 2 := by
  have h := jitterExact_ok tp r hr
  have e1 : (2 : Nat) ^ 49 = 562949953421312 := by decide
  have e2 : ((2 : Nat) ^ 24 + 1) ^ 2 = 281475010265089 := by decide
  have e3 : (2 : Nat) ^ 23 = 8388608 := by decide
  rw [e1, e2] at h
  rw [e3] at htp
  omega

/-- membership in the channel's interval, in terms of the amount the jitter takes away -/
theorem chan_interval_iff (T tp v : Nat) :
    (chanLo T tp ≤ v ∧ v ≤ chanHi T tp) ↔ ∃ d, d ≤ tp / 2 ∧ v = max T (tp - d) := by
  unfold chanLo chanHi
  constructor
  · rintro ⟨h1, h2⟩
    by_cases hT : tp ≤ T
    · refine ⟨0, Nat.zero_le _, ?_⟩
      omega
    · refine ⟨tp - v, ?_, ?_⟩
      · omega
      · omega
  · rintro ⟨d, hd, rfl⟩
    omega

/-- `settle` takes an observed jittered deadline inside the interval as it is, and logs no observation fault -/
theorem settleStep_accepts (s : St) (k : Nat) (q : Query) (lo hi : Nat) (id : Nat) (rem : Int)
    (hq : s.query? k = some q) (hd : q.deadline = .pending lo hi)
    (ho : s.obs.dls.find? (·.1 == q.qid) = some (id, rem))
    (hlo : lo ≤ (Int.ofNat s.now + rem).toNat) (hhi : (Int.ofNat s.now + rem).toNat ≤ hi) :
    (settleStep s k).obsFaults = s.obsFaults ∧
    (settleStep s k).dl? k = some (.at (Int.ofNat s.now + rem).toNat) := by
  unfold settleStep
  rw [hq]
  dsimp only
  rw [hd]
  dsimp only
  rw [ho]
  dsimp only
  generalize (Int.ofNat s.now + rem).toNat = v at hlo hhi ⊢
  have hin : (decide (lo ≤ v) && decide (v ≤ hi)) = true := by simp [hlo, hhi]
  rw [if_pos hin]
  have hk : q.key = k := query?_key hq
  refine ⟨rfl, ?_⟩
  show (St.dl? _ k) = _
  unfold St.dl?
  show Option.map _ ((s.modQuery q.key fun q => { q with deadline := .at v }).query? k) = _
  rw [hk, query?_modQuery_self, hq]
  · rfl
  · intro _; rfl

end Cares.Chan
