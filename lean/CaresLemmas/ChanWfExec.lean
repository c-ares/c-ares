import CaresLemmas.ChanWfBodyComplete
import CaresLemmas.ChanWfBodyRequeue
import CaresLemmas.ChanWfBodySend
import CaresLemmas.ChanWfBodyClose
import CaresLemmas.ChanWfBodyLoop
import CaresLemmas.ChanWfBodyClient
import CaresLemmas.ChanWfBodyAnswer
import CaresLemmas.ChanWfBodyRead
import CaresLemmas.ChanWfBodySendQuery
import CaresLemmas.ChanReach
/-!
# C01 and C12c — the induction on fuel

`goGood_execC : ∀ n, GoGood cid (execC n)`: every procedure other than `ares_destroy`, run by the instrumented executor with
any fuel from a state satisfying its precondition, either runs out of fuel or satisfies its guarantee `Good` *and* keeps
the log invariant `LG` (hence the log stays causal for every compound request).  The instrumented executor computes
`exec` (`execC_fst`), so C01's statement about `exec`, `goOk_exec`, is the projection; `good_exec` is the form for a run
that completed.
-/
namespace Cares.Chan

variable {cid : Nat}

theorem fst_execCBody (goC : GoC) : GoC.fst (execCBody goC) = execBody goC.fst :=
  funext fun c => funext fun s => execCBody_fst goC c s

theorem goodL_execCBody {goC : GoC} (h : GoGood cid goC) {d c s L} (hpre : Pre d s c) (hL : LG cid L (xtra cid c) s) :
    GoodL cid d c s L (execCBody goC c s) := by
  cases c <;> simp only [execCBody]
  case sendNolock => exact good_sendNolock h hpre hL
  case sendQuery => exact good_sendQuery h hpre hL
  case requeue => exact good_requeue h hpre hL
  case endQuery => exact good_endQuery h hpre hL
  case callback => exact good_callback h hpre hL
  case reactions => exact good_reactions h hpre hL
  case closeConn => exact good_closeConn h hpre hL
  case closeLoop => exact good_closeLoop h hpre hL
  case connError => exact good_connError h hpre hL
  case flush => exact good_flush h hpre hL
  case processWrite => exact good_processWrite h hpre hL
  case processRead => exact good_processRead h hpre hL
  case readAnswers => exact good_readAnswers h hpre hL
  case processAnswer => exact good_processAnswer h hpre hL
  case flushRequeue => exact good_flushRequeue h hpre hL
  case processTimeouts => exact good_processTimeouts h hpre hL
  case cleanupConns => exact good_cleanupConns h hpre hL
  case cancel => exact good_cancel h hpre hL
  case cancelLoop => exact good_cancelLoop h hpre hL
  case destroy => exact absurd hpre (fun h => h)
  case probe => exact good_probe h hpre hL
  case clientStart => exact good_clientStart h hpre hL
  case runActs => exact good_runActs h hpre hL
  case userCb => exact good_userCb h hpre hL

/-- the guarantee without a log: it is the joint one for some log (`LG.exists`) -/
theorem GoGood.of_goodL {goC : GoC} (ho : OofMono goC.fst)
    (hg : ∀ d c s L, Pre d s c → LG cid L (xtra cid c) s → GoodL cid d c s L (goC c s)) : GoGood cid goC := by
  refine ⟨ho, fun d c s hp => ?_⟩
  by_cases hf : (goC c s).1.1.outOfFuel = true
  · exact Or.inl hf
  · obtain ⟨L0, hL0⟩ := LG.exists (cid := cid) s (xtra cid c)
    exact Or.inr ⟨((hg d c s L0 hp hL0).resolve_left hf).1, fun L hL => ((hg d c s L hp hL).resolve_left hf).2⟩

theorem goGood_execC : ∀ n, GoGood cid (execC n)
  | 0 => ⟨fun _ _ _ => rfl, fun _ _ _ _ => Or.inl rfl⟩
  | n + 1 => by
    have h : GoGood cid (execC n) := goGood_execC n
    refine GoGood.of_goodL (goC := execCBody (execC n)) ?_ fun _ _ _ _ hp hL => goodL_execCBody h hp hL
    rw [fst_execCBody]
    exact execBody_outOfFuel h.1

/-- C01's induction: every procedure other than `ares_destroy`, run with any fuel from a state satisfying its
    precondition, either runs out of fuel or satisfies its guarantee -/
theorem goOk_exec (n : Nat) : GoOk (exec n) :=
  (funext fun c => funext fun s => execC_fst n c s : GoC.fst (execC n) = exec n) ▸ (goGood_execC (cid := 0) n).goOk

/-- … and a run that did not run out of fuel satisfies its guarantee: the form in which `goOk_exec` is used -/
theorem good_exec (fuel : Nat) {d : Nat → Nat} {c : Call} {s : St} (hpre : Pre d s c)
    (hf : (exec fuel c s).1.outOfFuel = false) : Good d c s (exec fuel c s) :=
  ((goOk_exec fuel).2 d c s hpre).resolve_left (by rw [hf]; exact Bool.noConfusion)

theorem execC_lg (fuel : Nat) {d : Nat → Nat} {c : Call} {s : St} {L : CLog} (hpre : Pre d s c)
    (hL : LG cid L (xtra cid c) s) (hf : (exec fuel c s).1.outOfFuel = false) :
    LG cid (L ++ (execC fuel c s).2) 0 (exec fuel c s).1 := by
  rcases (goGood_execC (cid := cid) fuel).call hpre hL with hoof | ⟨_, hg⟩
  · rw [execC_fst, hf] at hoof; cases hoof
  · rw [execC_fst] at hg; exact hg

end Cares.Chan
