import CaresModel.Legacy.Parsers
/-! Helper lemmas: every conversion loop of the legacy parsers equals a filter/map expression.

    The lemmas of this file and of `LegacyAddr` are in `Cares.Legacy`, also those about functions of `Cares.AddrInfo`
    (`pLoop_eq`, `parsePtrReply_closed`, `addrinfo2addrttl_eq`); those of `LegacyPtr` and `LegacySort` are in
    `Cares.AddrInfo`. -/
namespace Cares.Legacy
open Cares.AddrInfo

theorem appendLoop_eq {β : Type} (f : RR → List β) (l : List RR) (acc : List β) :
    appendLoop f l acc = acc ++ l.flatMap f := by
  induction l generalizing acc with
  | nil => simp [appendLoop]
  | cons rr rest ih => simp [appendLoop, ih, List.flatMap_cons, List.append_assoc]

/-- a loop body that skips the answers outside `p` and contributes `g rr` for the others -/
theorem flatMap_keep {α β : Type} (p : α → Prop) [DecidablePred p] (sel g : α → List β)
    (h : ∀ a, sel a = if p a then g a else []) (l : List α) :
    l.flatMap sel = (l.filter (fun a => p a)).flatMap g := by
  induction l with
  | nil => rfl
  | cons a l ih =>
    rw [List.flatMap_cons, List.filter_cons, h, ih]
    by_cases hp : p a
    · rw [if_pos hp, if_pos (decide_eq_true hp), List.flatMap_cons]
    · rw [if_neg hp, if_neg (by simpa using hp)]; rfl

theorem filterMap_keep {α β : Type} (p : α → Prop) [DecidablePred p] (sel f : α → Option β)
    (h : ∀ a, sel a = if p a then f a else none) (l : List α) :
    l.filterMap sel = (l.filter (fun a => p a)).filterMap f := by
  rw [List.filterMap_filter]
  congr 1; funext a
  rw [h]; simp only [decide_eq_true_eq]

theorem txtChunks_eq (ex : Bool) (l : List Bytes) (j : Nat) :
    txtChunks ex l j = (l.zipIdx j).map (fun p => ({ txt := p.1, recordStart := ex && p.2 == 0 } : TxtReply)) := by
  induction l generalizing j with
  | nil => simp [txtChunks]
  | cons c rest ih => simp [txtChunks, ih, List.zipIdx_cons]

theorem txtChunks_map_txt (ex : Bool) (l : List Bytes) (j : Nat) :
    (txtChunks ex l j).map (·.txt) = l := by
  induction l generalizing j with
  | nil => simp [txtChunks]
  | cons c rest ih => simp [txtChunks, ih]


/-- node contributed by one answer -/
def nodeOf (port : Nat) (rr : RR) : Option AddrNode :=
  if rr.cls ≠ clsIN then none
  else match rr.data with
    | .a addr => some { family := afINET, addr := addr, port := port, ttl := toI32 rr.ttl }
    | .aaaa addr => some { family := afINET6, addr := addr, port := port, ttl := toI32 rr.ttl }
    | _ => none

/-- cname node contributed by one answer -/
def cnameOf (rr : RR) : Option CnameNode :=
  if rr.cls ≠ clsIN then none
  else match rr.data with
    | .cname c => some { ttl := toI32 rr.ttl, alias := some rr.name, name := some c }
    | _ => none

def isA (rr : RR) : Bool := rr.cls = clsIN && (match rr.data with | .a _ => true | _ => false)
def isAaaa (rr : RR) : Bool := rr.cls = clsIN && (match rr.data with | .aaaa _ => true | _ => false)
def isCname (rr : RR) : Bool := rr.cls = clsIN && (match rr.data with | .cname _ => true | _ => false)

/-- target of an IN CNAME -/
def cnameTarget (rr : RR) : Option Bytes :=
  if rr.cls ≠ clsIN then none
  else match rr.data with
    | .cname c => some c
    | _ => none

/-- one iteration of the answer loop, field by field -/
theorem pStep_eq (port : Nat) (s : PState) (rr : RR) : pStep port s rr =
    { hostname := (cnameTarget rr).getD s.hostname, gotA := s.gotA || isA rr, gotAaaa := s.gotAaaa || isAaaa rr,
      gotCname := s.gotCname || isCname rr, cnames := s.cnames ++ (cnameOf rr).toList,
      nodes := s.nodes ++ (nodeOf port rr).toList } := by
  unfold pStep cnameTarget isA isAaaa isCname cnameOf nodeOf
  by_cases h : rr.cls = clsIN
  · simp only [h, ne_eq, not_true_eq_false, ↓reduceIte, decide_true, Bool.true_and]
    cases rr.data <;> simp
  · simp [h]

theorem pLoop_cons (port : Nat) (s : PState) (rr : RR) (rest : List RR) :
    pLoop port s (rr :: rest) = pLoop port (pStep port s rr) rest := rfl

/-- the answer loop in closed form: flags, nodes and aliases of all answers; the hostname is the target of the last
    IN CNAME, else the initial one -/
theorem pLoop_eq (port : Nat) (l : List RR) (s : PState) : pLoop port s l =
    { hostname := ((l.filterMap cnameTarget).getLast?).getD s.hostname, gotA := s.gotA || l.any isA,
      gotAaaa := s.gotAaaa || l.any isAaaa, gotCname := s.gotCname || l.any isCname,
      cnames := s.cnames ++ l.filterMap cnameOf, nodes := s.nodes ++ l.filterMap (nodeOf port) } := by
  induction l generalizing s with
  | nil => simp [pLoop]
  | cons rr rest ih =>
    rw [pLoop_cons, ih, pStep_eq]
    cases h1 : cnameTarget rr <;> cases h2 : cnameOf rr <;> cases h3 : nodeOf port rr <;>
      simp [h1, h2, h3, Bool.or_assoc, List.getLast?_cons]


/-- the entry written for one node -/
def ttlEntry (cttl : Int) (n : AddrNode) : Bytes × Int := (n.addr, if n.ttl > cttl then cttl else n.ttl)

theorem ttlLoop_eq (family req : Nat) (cttl : Int) (nodes : List AddrNode) (acc : List (Bytes × Int))
    (h : acc.length ≤ req) :
    ttlLoop family req cttl nodes acc =
      acc ++ ((nodes.filter (fun n => n.family = family)).map (ttlEntry cttl)).take (req - acc.length) := by
  induction nodes generalizing acc with
  | nil => rw [ttlLoop, List.filter_nil, List.map_nil, List.take_nil, List.append_nil]
  | cons n rest ih =>
    rw [ttlLoop]
    split
    next hf => rw [ih acc h, List.filter_cons_of_neg (by rw [decide_eq_true_eq]; exact hf)]
    next hf =>
      rw [List.filter_cons_of_pos (by simpa using hf), List.map_cons]
      split
      next hc => rw [Nat.sub_eq_zero_of_le hc, List.take_zero, List.append_nil]
      next hc =>
        have hlt : acc.length < req := Nat.lt_of_not_ge hc
        have e : req - acc.length = (req - acc.length - 1) + 1 := (Nat.sub_add_cancel (Nat.sub_pos_of_lt hlt)).symm
        rw [ih _ (by rw [List.length_append]; exact hlt), List.append_assoc, List.length_append,
          List.length_singleton, ← Nat.sub_sub, e, List.take_succ_cons]
        rfl

/-- a running minimum (the CNAME TTL loop): below the start value and every element, and equal to one of them -/
theorem foldl_min_spec {α : Type} (f : α → Int) (l : List α) (m : Int) :
    l.foldl (fun m c => if f c < m then f c else m) m ≤ m ∧
    (∀ c ∈ l, l.foldl (fun m c => if f c < m then f c else m) m ≤ f c) ∧
    (l.foldl (fun m c => if f c < m then f c else m) m = m ∨
      ∃ c ∈ l, l.foldl (fun m c => if f c < m then f c else m) m = f c) := by
  induction l generalizing m with
  | nil => exact ⟨Int.le_refl _, fun _ h => absurd h List.not_mem_nil, .inl rfl⟩
  | cons c rest ih =>
    rw [List.foldl_cons]
    obtain ⟨h1, h2, h3⟩ := ih (if f c < m then f c else m)
    by_cases hc : f c < m
    · rw [if_pos hc] at h1 h2 h3 ⊢
      refine ⟨by omega, fun d hd => ?_, .inr ?_⟩
      · rcases List.mem_cons.mp hd with rfl | hd
        · exact h1
        · exact h2 d hd
      · rcases h3 with h3 | ⟨d, hd, h3⟩
        · exact ⟨c, List.mem_cons_self, h3⟩
        · exact ⟨d, List.mem_cons_of_mem _ hd, h3⟩
    · rw [if_neg hc] at h1 h2 h3 ⊢
      refine ⟨h1, fun d hd => ?_, h3.imp_right fun ⟨d, hd, h⟩ => ⟨d, List.mem_cons_of_mem _ hd, h⟩⟩
      rcases List.mem_cons.mp hd with rfl | hd
      · omega
      · exact h2 d hd


def soaOf (rr : RR) : Option SoaReply :=
  if rr.cls ≠ clsIN then none
  else match rr.data with
    | .soa mname rname serial refresh retry expire minimum =>
      some { nsname := mname, hostmaster := rname, serial := serial, refresh := refresh,
             retry := retry, expire := expire, minttl := minimum }
    | _ => none

theorem soaLoop_eq (l : List RR) : soaLoop l = (l.filterMap soaOf).head? := by
  induction l with
  | nil => simp [soaLoop]
  | cons rr rest ih =>
    unfold soaLoop
    by_cases h : rr.cls ≠ clsIN
    · simp [h, ih, soaOf]
    · simp only [h, ↓reduceIte]
      cases hd : rr.data <;> simp [ih, soaOf, h, hd]

def ptrOf (rr : RR) : Option Bytes :=
  if rr.cls ≠ clsIN then none
  else match rr.data with
    | .ptr d => some d
    | _ => none

/-- one iteration of the PTR answer loop, field by field -/
theorem ptrStep_eq (s : PtrState) (rr : RR) : ptrStep s rr =
    { ptrname := (cnameTarget rr).getD s.ptrname, hostname := (ptrOf rr).or s.hostname,
      aliases := s.aliases ++ (ptrOf rr).toList } := by
  unfold ptrStep cnameTarget ptrOf
  by_cases h : rr.cls = clsIN
  · simp only [h, ne_eq, not_true_eq_false, ↓reduceIte]
    cases rr.data <;> simp
  · simp [h]
theorem ptrFold_eq (l : List RR) (s : PtrState) : l.foldl ptrStep s =
    { ptrname := ((l.filterMap cnameTarget).getLast?).getD s.ptrname,
      hostname := ((l.filterMap ptrOf).getLast?).or s.hostname, aliases := s.aliases ++ l.filterMap ptrOf } := by
  induction l generalizing s with
  | nil => simp
  | cons rr rest ih =>
    rw [List.foldl_cons, ih, ptrStep_eq]
    cases h1 : cnameTarget rr <;> cases h2 : ptrOf rr <;> simp [h1, h2, List.getLast?_cons]

/-- `ares_parse_ptr_reply_dnsrec` in closed form; to take the `match` apart in a hypothesis and the goal together:
    `cases hl : (r.answers.filterMap ptrOf).getLast? with` (`split` takes one of them at a time) -/
theorem parsePtrReply_closed (r : LRec) (q : Bytes) (qs : List Bytes) (hq : r.questions = q :: qs)
    (addr : Option Bytes) (addrlen family : Nat) :
    parsePtrReply r addr addrlen family =
      match (r.answers.filterMap ptrOf).getLast? with
      | none => (.enodata, none)
      | some last => (.success, some { name := some last, aliases := r.answers.filterMap ptrOf, addrtype := family,
                                       length := addrlen, addrs := addr.toList }) := by
  unfold parsePtrReply
  have hqn : r.queryName = .ok q := by simp [LRec.queryName, hq]
  simp only [hqn]
  by_cases h : r.answers.isEmpty = true
  · rw [List.isEmpty_iff.mp h]; rfl
  · simp only [h, Bool.false_eq_true, ↓reduceIte, ptrFold_eq, List.nil_append, Option.or_none]
    cases (r.answers.filterMap ptrOf).getLast? with
    | none => rfl
    | some last => cases addr <;> rfl

end Cares.Legacy
