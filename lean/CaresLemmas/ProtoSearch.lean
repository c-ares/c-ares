import CaresModel.Proto.Search
/-! Helper lemmas for C12: the search walk (`searchLoop`, `gaiLoop`) expressed through the index of the
    first candidate that yields data or a hard error. -/
namespace Cares.Proto
open Cares.Text

theorem outcomeAt_zero (os : List Outcome) : outcomeAt os 0 = os.headD .etimeout := by
  cases os <;> rfl

theorem outcomeAt_succ (os : List Outcome) (i : Nat) : outcomeAt (os.drop 1) i = outcomeAt os (i + 1) := by
  cases os <;> simp [outcomeAt]

theorem soft_head (n : Name) (ns : List Name) (os : List Outcome) :
    soft ((n :: ns)[0]) (outcomeAt os 0) = soft n (os.headD .etimeout) := by
  rw [outcomeAt_zero]; rfl

theorem soft_succ (n : Name) (ns : List Name) (os : List Outcome) (j : Nat) (hj : j < ns.length) :
    soft ((n :: ns)[j + 1]'(by simp; omega)) (outcomeAt os (j + 1)) = soft ns[j] (outcomeAt (os.drop 1) j) := by
  rw [outcomeAt_succ]; rfl

theorem stopAt_spec (names : List Name) (os : List Outcome) (i : Nat) :
    stopAt names os = some i ↔
      ∃ h : i < names.length, soft names[i] (outcomeAt os i) = false ∧
        ∀ j (hj : j < i), soft (names[j]'(by omega)) (outcomeAt os j) = true := by
  induction names generalizing os i with
  | nil => simp [stopAt]
  | cons n ns ih =>
    unfold stopAt
    by_cases hs : soft n (os.headD .etimeout) = true
    · simp only [hs, Bool.not_true, Bool.false_eq_true, ↓reduceIte, Option.map_eq_some_iff]
      constructor
      · rintro ⟨k, hk, rfl⟩
        obtain ⟨hlt, h1, h2⟩ := (ih (os.drop 1) k).mp hk
        refine ⟨by simp only [List.length_cons]; omega, ?_, ?_⟩
        · rw [soft_succ n ns os k hlt]; exact h1
        · intro j hj
          cases j with
          | zero => rw [soft_head]; exact hs
          | succ j => rw [soft_succ n ns os j (by omega)]; exact h2 j (by omega)
      · rintro ⟨hlt, h1, h2⟩
        cases i with
        | zero => rw [soft_head, hs] at h1; simp at h1
        | succ k =>
          have hk : k < ns.length := by simp only [List.length_cons] at hlt; omega
          refine ⟨k, (ih (os.drop 1) k).mpr ⟨hk, ?_, ?_⟩, rfl⟩
          · rw [← soft_succ n ns os k hk]; exact h1
          · intro j hj
            rw [← soft_succ n ns os j (by omega)]; exact h2 (j + 1) (by omega)
    · have hs' : soft n (os.headD .etimeout) = false := by simpa using hs
      simp only [hs', Bool.not_false, ↓reduceIte, Option.some.injEq]
      constructor
      · rintro rfl
        exact ⟨by simp, by rw [soft_head]; exact hs', by intro j hj; omega⟩
      · rintro ⟨hlt, h1, h2⟩
        cases i with
        | zero => rfl
        | succ k =>
          have := h2 0 (by omega)
          rw [soft_head, hs'] at this; simp at this

theorem stopAt_none (names : List Name) (os : List Outcome) :
    stopAt names os = none ↔ ∀ j (hj : j < names.length), soft names[j] (outcomeAt os j) = true := by
  induction names generalizing os with
  | nil => simp [stopAt]
  | cons n ns ih =>
    unfold stopAt
    by_cases hs : soft n (os.headD .etimeout) = true
    · simp only [hs, Bool.not_true, Bool.false_eq_true, ↓reduceIte, Option.map_eq_none_iff]
      rw [ih]
      constructor
      · intro h j hj
        cases j with
        | zero => rw [soft_head]; exact hs
        | succ j =>
          have hj' : j < ns.length := by simp only [List.length_cons] at hj; omega
          rw [soft_succ n ns os j hj']; exact h j hj'
      · intro h j hj
        rw [← soft_succ n ns os j hj]; exact h (j + 1) (by simp only [List.length_cons]; omega)
    · have hs' : soft n (os.headD .etimeout) = false := by simpa using hs
      simp only [hs', Bool.not_false, ↓reduceIte, reduceCtorEq, false_iff]
      intro h
      have := h 0 (by simp)
      rw [soft_head, hs'] at this; simp at this

/-- the walk as a function of the stop index: names sent, and the final status -/
theorem searchLoop_spec (fixed : Bool) (names : List Name) (hne : names ≠ []) (os : List Outcome) (ever : Bool) (sent : List Name) :
    searchLoop fixed names os ever sent =
      (sent ++ takeUntilStop names os,
       match stopAt names os with
       | some i => outcomeAt os i
       | none =>
         let last := outcomeAt os (names.length - 1)
         let any := ever || anyNodata names.length os
         if fixed then (if any then .enodata else last)
         else (if last == .enotfound && any then .enodata else last)) := by
  induction names generalizing os ever sent with
  | nil => exact absurd rfl hne
  | cons n ns ih =>
    unfold searchLoop
    simp only
    by_cases hs : soft n (os.headD .etimeout) = true
    · simp only [hs, Bool.not_true, Bool.false_eq_true, ↓reduceIte]
      cases ns with
      | nil =>
        simp only [takeUntilStop, stopAt, hs, Bool.not_true, Bool.false_eq_true, ↓reduceIte, Option.map_none,
          List.length_cons, List.length_nil, Nat.zero_add, Nat.sub_self, outcomeAt_zero, anyNodata]
        cases fixed <;> simp [outcomeAt_zero]
      | cons m ms =>
        simp only
        rw [ih (by simp)]
        have e1 : takeUntilStop (n :: m :: ms) os = n :: takeUntilStop (m :: ms) (os.drop 1) := by
          unfold takeUntilStop
          conv => lhs; unfold stopAt
          simp only [hs, Bool.not_true, Bool.false_eq_true, ↓reduceIte]
          cases stopAt (m :: ms) (os.drop 1) <;> simp
        have e2 : stopAt (n :: m :: ms) os = (stopAt (m :: ms) (os.drop 1)).map (· + 1) := by
          conv => lhs; unfold stopAt
          simp only [hs, Bool.not_true, Bool.false_eq_true, ↓reduceIte]
        have e3 : ∀ k, anyNodata (k + 1) os = (os.headD .etimeout == .enodata || anyNodata k (os.drop 1)) := by
          intro k
          unfold anyNodata
          rw [List.range_succ_eq_map]
          simp only [List.any_cons, List.any_map, outcomeAt_zero]
          have : ((fun j => outcomeAt os j == Status.enodata) ∘ Nat.succ) =
              (fun j => outcomeAt (os.drop 1) j == Status.enodata) := by
            funext j; simp only [Function.comp, outcomeAt_succ]
          rw [this]
        rw [e1, e2]
        simp only [List.append_assoc, List.cons_append, List.nil_append, Prod.mk.injEq, true_and]
        cases hst : stopAt (m :: ms) (os.drop 1) with
        | some i =>
          simp only [Option.map_some]
          exact outcomeAt_succ os i
        | none =>
          simp only [Option.map_none, List.length_cons]
          rw [e3 (ms.length + 1)]
          have : outcomeAt (os.drop 1) (ms.length + 1 - 1) = outcomeAt os (ms.length + 1 + 1 - 1) := by
            rw [outcomeAt_succ]; congr 1
          rw [this]
          simp only [Bool.or_assoc]
    · have hs' : soft n (os.headD .etimeout) = false := by simpa using hs
      simp only [hs', Bool.not_false, ↓reduceIte, takeUntilStop, stopAt, outcomeAt_zero]
      simp

theorem gaiLoop_eq (names : List Name) (hne : names ≠ []) (os : List Outcome) (any : Bool) (sent : List Name) :
    gaiLoop names os any sent = searchLoop true names os any sent := by
  induction names generalizing os any sent with
  | nil => exact absurd rfl hne
  | cons n ns ih =>
    unfold gaiLoop searchLoop
    simp only
    split
    · rfl
    · cases ns with
      | nil => simp
      | cons m ms => simp only; exact ih (by simp) _ _ _

theorem nameList_ne_nil (c : Config) (name : Name) (l : List Name) (h : nameList c name = .ok l) : l ≠ [] := by
  unfold nameList at h
  split at h
  · simp only [Except.ok.injEq] at h; subst h; simp
  · split at h
    · simp only [Except.ok.injEq] at h; subst h; simp
    · simp only [Except.ok.injEq] at h
      subst h
      by_cases hd : labelCnt name - 1 ≥ c.ndots
      · simp [hd]
      · have : labelCnt name - 1 < c.ndots := by omega
        simp [this]
  · simp at h

end Cares.Proto
