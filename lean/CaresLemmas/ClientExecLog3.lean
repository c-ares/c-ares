import CaresLemmas.ClientExecLog2
/-!
# The instrumented executor `execC`
-/
namespace Cares.Chan

/-- one procedure with its log of client events -/
def execCBody (goC : GoC) (call : Call) (s : St) : (St × Ret) × CLog :=
  match call with
  | .sendNolock reqSrv nocache noretry spec owner react => bodySendNolockC goC reqSrv nocache noretry spec owner react s
  | .sendQuery reqSrv key => bodySendQueryC goC reqSrv key s
  | .probe srvId key => bodyProbeC goC srvId key s
  | .flush fd => bodyFlushC goC fd s
  | .requeue key st inc rec deferred => bodyRequeueC goC key st inc rec deferred s
  | .endQuery srv key st rec => bodyEndQueryC goC srv key st rec s
  | .callback owner react st timeouts rec => bodyCallbackC goC owner react st timeouts rec s
  | .userCb tok react st timeouts dg => bodyUserCbC goC tok react st timeouts dg s
  | .reactions l => bodyReactionsC goC l s
  | .connError fd critical st => bodyConnErrorC goC fd critical st s
  | .closeConn fd st => bodyCloseConnC goC fd st s
  | .closeLoop fd st => bodyCloseLoopC goC fd st s
  | .processWrite fd => bodyProcessWriteC goC fd s
  | .processRead fd => bodyProcessReadC goC fd s
  | .readAnswers fd => bodyReadAnswersC goC fd s
  | .flushRequeue => bodyFlushRequeueC goC s
  | .processAnswer fd r => bodyProcessAnswerC goC fd r s
  | .processTimeouts => bodyProcessTimeoutsC goC s
  | .cleanupConns todo => bodyCleanupConnsC goC todo s
  | .clientStart kind tok react spec family => bodyClientStartC goC kind tok react spec family s
  | .runActs id acts => bodyRunActsC goC id acts s
  | .cancel => bodyCancelC goC s
  | .cancelLoop st fromAll => bodyCancelLoopC goC st fromAll s
  | .destroy => bodyDestroyC goC s

/-- **the instrumented executor** -/
def execC : Nat → Call → St → (St × Ret) × CLog
  | 0, _, s => (s.oof, [])
  | fuel + 1, call, s => execCBody (execC fuel) call s

end Cares.Chan
