import CaresModel.Dsa.Alloc
/-! The allocation oracle when no allocation fails (used by the buffer and the hash-table proofs): whatever the
    code asked for, it got it, and the oracle it goes on with does not fail either. -/
namespace Cares.Dsa
namespace Oracle
variable {o o' : Oracle} {b : Bool}

theorem next_allOk (e : o.next = (b, o')) (h : o.AllOk) : b = true ∧ o'.AllOk := by
  cases e; exact ⟨by rw [h o.pos]; rfl, h⟩

theorem nextN_allOk (n : Nat) (e : o.nextN n = (b, o')) (h : o.AllOk) : b = true ∧ o'.AllOk := by
  induction n generalizing o with
  | zero => cases e; exact ⟨rfl, h⟩
  | succ n ih =>
    unfold nextN at e
    cases hn : o.next with
    | mk b1 o1 =>
      obtain ⟨rfl, h1⟩ := next_allOk hn h
      rw [hn] at e
      exact ih e h1

theorem cond_next_allOk {c : Prop} [Decidable c] (e : (if c then o.next else (true, o)) = (b, o')) (h : o.AllOk) :
    b = true ∧ o'.AllOk := by
  by_cases hc : c
  · rw [if_pos hc] at e; exact next_allOk e h
  · rw [if_neg hc] at e; cases e; exact ⟨rfl, h⟩

end Oracle

end Cares.Dsa
