import CaresLemmas.ChanPolicyWritesCalls
/-!
# C06 — the accounting through `ares_send_query` (the blocks of `bodySendQuery`)

The call comes with a write credit for its query.  `sqEnqueue` spends it (`sqEnqueue_sq`); from there to the commit the
invariant `SQ` carries what was learnt when the connection was chosen (`SendFacts`: a query that uses TCP got a TCP
connection, a query whose cookie resends are used up carries no cookie), which `sqCommit_c` needs to attach the query.
-/
namespace Cares.Chan

def IsOof (s : St) : Prop := s.outOfFuel = true

set_option linter.unusedVariables false in
theorem IsOof.oof {s : St} (h : IsOof s) : IsOof s.oof.1 := rfl

theorem kindOf_conn? (s : St) (fd : Nat) : kindOfL (cproj s).kinds fd = (s.conn? fd).map (·.tcp) :=
  congrFun (kfind_map_pair Conn.fd Conn.tcp s.conns) fd

theorem kinds_mem_of_conn? {s : St} {fd : Nat} {c : Conn} (h : s.conn? fd = some c) :
    (c.fd, c.tcp) ∈ (cproj s).kinds ∧ c.fd = fd := by
  have hm := List.mem_of_find?_eq_some h
  have hp := List.find?_some h
  exact ⟨List.mem_map.2 ⟨c, hm, rfl⟩, by simpa using hp⟩

section
variable {tr ns : Nat} {cw ex : Option Nat}

theorem cproj_sqChoose (reqSrv : Option Nat) (s : St) :
    cproj (sqChoose reqSrv s).2 = cproj s ∧ (sqChoose reqSrv s).2.outOfFuel = s.outOfFuel ∧
    (sqChoose reqSrv s).2.servers = s.servers := by
  rcases sqChoose_snd reqSrv s with h | h <;> rw [h]
  · exact ⟨rfl, rfl, rfl⟩
  · unfold St.draw1
    split <;> exact ⟨rfl, rfl, rfl⟩

theorem COk.bumpFd {p : CP} (h : COk tr ns cw ex p) : COk tr ns cw ex { p with nextFd := p.nextFd + 1 } :=
  { h with
    kindLt := fun e he => by have := h.kindLt e he; show e.1 < p.nextFd + 1; omega
    tcpOk := fun o ho fd hfd =>
      ⟨by have := (h.tcpOk o ho fd hfd).1; show fd < p.nextFd + 1; omega, (h.tcpOk o ho fd hfd).2⟩
    attLt := fun q hq fd hc => by have := h.attLt q hq fd hc; show fd < p.nextFd + 1; omega }

theorem CInv.bumpFd {s s' : St} (h1 : cproj s' = { cproj s with nextFd := s.nextFd + 1 })
    (h2 : s'.outOfFuel = s.outOfFuel) (h : CInv tr ns cw ex s) : CInv tr ns cw ex s' := by
  refine CInv.lift h h2 ?_
  intro hok; rw [h1]; exact COk.bumpFd hok

theorem cproj_addConn (s : St) (c : Conn) :
    cproj { s with conns := s.conns ++ [c] } = { cproj s with kinds := (cproj s).kinds ++ [(c.fd, c.tcp)] } := by
  simp [cproj]

/-- a new connection: `sA` is `s` with the descriptor counter bumped; `c` takes the old counter value as descriptor and
    the server rewrite sets `tcpConn` to its old value, `none`, or (TCP only) `c` -/
theorem CInv.openConn {s sA : St} (c : Conn) (id : Nat) (f : Server → Server) (h : CInv tr ns cw ex s)
    (hA : cproj sA = { cproj s with nextFd := s.nextFd + 1 } ∧ sA.outOfFuel = s.outOfFuel) (hc : c.fd = s.nextFd)
    (hf : ∀ v, (f v).tcpConn = v.tcpConn ∨ (f v).tcpConn = none ∨ ((f v).tcpConn = some c.fd ∧ c.tcp = true)) :
    CInv tr ns cw ex (St.modServer { sA with conns := sA.conns ++ [c] } id f) := by
  refine CInv.lift h hA.2 ?_
  intro hok
  rw [cproj_modServer, cproj_addConn, hA.1, hc]
  refine COk.newConn c.tcp _ ?_ hok
  intro o ho
  obtain ⟨x, hx, rfl⟩ := List.mem_map.1 ho
  obtain ⟨y, hy, rfl⟩ := List.mem_map.1 hx
  have hy' : y.tcpConn ∈ (cproj s).tcpConns := by
    rw [show (cproj s).tcpConns = (cproj sA).tcpConns by rw [hA.1]]
    exact List.mem_map.2 ⟨y, hy, rfl⟩
  by_cases hyv : y.id == id
  · simp only [hyv, ↓reduceIte]
    rcases hf y with e | e | e
    · left; rw [e]; exact hy'
    · right; left; exact e
    · right; right; exact ⟨e.1.trans (congrArg some hc), e.2⟩
  · simp only [hyv]; left; exact hy'

theorem sqOpen_cg (s : St) (q : Query) (srv : Server) (existing : Option Nat) (h : CInv tr ns cw ex s) :
    CInv tr ns cw ex (sqOpen s q srv existing).2 := by
  apply sqOpen_cases (P := fun r => CInv tr ns cw ex r.2)
  · exact fun _ _ => h
  · exact fun _ _ => h.ofSameProj rfl rfl
  · intro ev fl sl pw sk sA e
    have hA : cproj sA = { cproj s with nextFd := s.nextFd + 1 } ∧ sA.outOfFuel = s.outOfFuel := by
      rw [e]; exact ⟨rfl, rfl⟩
    refine ⟨CInv.bumpFd (s := s) hA.1 hA.2 h, CInv.notify (CInv.openConn _ _ _ h hA rfl ?_)⟩
    -- TCP: the server's `tcpConn` is set to the new connection
    intro v
    cases hu : q.usingTcp
    · exact Or.inl rfl
    · exact Or.inr (Or.inr ⟨rfl, rfl⟩)

/-- the connection `sqOpen` returns for a query that uses TCP is a TCP connection (if it exists at all) -/
theorem sqOpen_kind (s : St) (q : Query) (srv : Server) (hsrv : srv ∈ s.servers) (hok : COk tr ns cw ex (cproj s))
    (hu : q.usingTcp = true) :
    ∀ fd, (sqOpen s q srv (fetchConn s q srv)).1 = .ok fd →
      TcpIfAny (cproj (sqOpen s q srv (fetchConn s q srv)).2).kinds fd := by
  apply sqOpen_cases (P := fun r => ∀ fd, r.1 = .ok fd → TcpIfAny (cproj r.2).kinds fd)
  · intro fd0 hex fd hfd
    cases hfd
    have htc : srv.tcpConn = some fd0 := by rw [← hex]; unfold fetchConn; rw [if_pos hu]
    exact (hok.tcpOk (some fd0) (List.mem_map.2 ⟨srv, hsrv, htc⟩) fd0 rfl).2
  · exact fun _ _ _ hfd => nomatch hfd
  · intro ev fl sl pw sk sA e
    refine ⟨fun _ hfd => (nomatch hfd), fun fd hfd b hb => ?_⟩
    cases hfd
    -- the new connection has the old counter value as descriptor
    rw [(cproj_notify _ _ _ _).1, cproj_modServer, cproj_addConn] at hb
    have hb' : kindOfL ((cproj s).kinds ++ [(s.nextFd, q.usingTcp)]) s.nextFd = some b := by
      rw [← show (cproj sA).kinds = (cproj s).kinds by rw [e]; rfl]; exact hb
    have hlt : ∀ e ∈ (cproj s).kinds, e.1 < s.nextFd := hok.kindLt
    rw [COk.kindOfL_append_of_lt hlt, if_pos rfl] at hb'
    rw [← Option.some.inj hb']
    exact hu

/-- facts about the query being sent that the send phase carries from the choice of the connection to the commit:
    if it uses TCP the chosen connection is a TCP connection; if its cookie resends are used up it carries no cookie -/
def SendFacts (key fd : Nat) (p : CP) : Prop :=
  ∀ q ∈ p.qs, q.key = key → (q.usingTcp = true → TcpIfAny p.kinds fd) ∧ (3 ≤ q.cookieTry → q.reqCookie = none)

/-- the invariant of the send phase after the write has been logged -/
def SQ (tr ns key fd : Nat) (s : St) : Prop :=
  s.outOfFuel = true ∨ (COk tr ns none none (cproj s) ∧ SendFacts key fd (cproj s))

theorem apply_tcp_no_cookie (c : Cares.Proto.Cookie.CookieSt) (conn : Cares.Proto.Cookie.Conn)
    (now : Cares.Proto.Cookie.TimeVal) (fresh : List UInt8) (req : Cares.Proto.Cookie.ReqOpt) (h : conn.tcp = true) :
    (Cares.Proto.Cookie.apply c conn now fresh req).req.join = none := by
  unfold Cares.Proto.Cookie.apply Cares.Proto.Cookie.applyWith
  cases req with
  | none => rfl
  | some r => simp [h]

theorem map_cookie_tcpConn (l : List Server) (id : Nat) (ck : Cares.Proto.Cookie.CookieSt) :
    (l.map fun x => if x.id == id then { x with cookie := ck } else x).map (·.tcpConn) = l.map (·.tcpConn) :=
  map_if_keep l fun _ _ _ => rfl

theorem cproj_sqEnqueue (s : St) (q : Query) (srv : Server) (key fd : Nat) :
    cproj (sqEnqueue s q srv key fd) =
      { cproj s with
        qs := s.qs.map (fun x => if x.key == key then
          { x with reqCookie := (sqApply s q srv fd).req.join, cookie := sqCookie (sqApply s q srv fd) } else x),
        wlog := s.writeLog ++ [key] } ∧
    (sqEnqueue s q srv key fd).outOfFuel = s.outOfFuel := by
  unfold sqEnqueue
  dsimp only
  have hpop : ∀ b : Bool, cproj (if b then s.pop8 else s) = cproj s ∧ (if b then s.pop8 else s).outOfFuel = s.outOfFuel ∧
      (if b then s.pop8 else s).qs = s.qs ∧ (if b then s.pop8 else s).writeLog = s.writeLog := by
    intro b
    cases b
    · exact ⟨rfl, rfl, rfl, rfl⟩
    · unfold St.pop8
      simp only [↓reduceIte]
      split <;> exact ⟨rfl, rfl, rfl, rfl⟩
  generalize hb : decide ((sqApply s q srv fd).draws > 0) = b
  have hif : (if (sqApply s q srv fd).draws > 0 then s.pop8 else s) = (if b then s.pop8 else s) := by
    subst hb; by_cases hd : (sqApply s q srv fd).draws > 0 <;> simp [hd]
  rw [hif]
  obtain ⟨h1, h2, h3, h4⟩ := hpop b
  generalize (if b then s.pop8 else s) = s1 at h1 h2 h3 h4
  refine ⟨?_, h2⟩
  unfold cproj St.modConn St.modQuery St.modServer at *
  simp only [CP.mk.injEq] at h1
  obtain ⟨e1, e2, e3, e4, e5, e6, e7, e8, e9, e10, e11⟩ := h1
  simp only [List.length_map, CP.mk.injEq, map_cookie_tcpConn]
  refine ⟨e1, e2, by rw [h3], e4, e5, e6, e7, by rw [h4], ?_, e10, e11⟩
  rw [← e9]
  exact map_if_keep _ fun _ _ _ => rfl

theorem sqEnqueue_sq (s : St) (q : Query) (srv : Server) (key fd : Nat)
    (h : CInv tr ns (some key) none s)
    (hq : q ∈ s.qs ∧ q.key = key)
    (hfd' : s.outOfFuel = true ∨ (q.usingTcp = true → TcpIfAny (cproj s).kinds fd)) :
    SQ tr ns key fd (sqEnqueue s q srv key fd) := by
  obtain ⟨hc, ho⟩ := cproj_sqEnqueue s q srv key fd
  rcases h with h | hok
  · exact Or.inl (by rw [ho]; exact h)
  rcases hfd' with h | hfd0
  · exact Or.inl (by rw [ho]; exact h)
  · right
    obtain ⟨hqm, hqk⟩ := hq
    subst hqk
    -- the new cookie is absent once the resends are used up (the query then uses TCP, so does the connection)
    have hnone : 3 ≤ q.cookieTry → (sqApply s q srv fd).req.join = none := by
      intro h3
      have hu := hok.ck3tcp q hqm h3
      have htcp := hfd0 hu
      unfold sqApply
      apply apply_tcp_no_cookie
      show ((s.conn? fd).map (·.tcp)).getD q.usingTcp = true
      rw [← kindOf_conn?]
      cases hk : kindOfL (cproj s).kinds fd with
      | none => exact hu
      | some b => exact htcp b hk
    have hmod := COk.modKey q hqm
      (fun x => { x with reqCookie := (sqApply s q srv fd).req.join, cookie := sqCookie (sqApply s q srv fd) })
      (some q.key) none ⟨rfl, rfl⟩ (Or.inr rfl) (Or.inr rfl) (Or.inl rfl) (Or.inl rfl) hok
      fun n hq => ⟨hq.acct, hq.ck3, hq.ck3tcp, fun _ h3 => Or.inl (hnone h3), hq.attTcp, hq.attLt⟩
    have hmem : ({ q with reqCookie := (sqApply s q srv fd).req.join, cookie := sqCookie (sqApply s q srv fd) } : Query) ∈
        (cproj s).qs.map (fun x => if x.key == q.key then
          { x with reqCookie := (sqApply s q srv fd).req.join, cookie := sqCookie (sqApply s q srv fd) } else x) :=
      List.mem_map.2 ⟨q, hqm, by simp⟩
    have hw := COk.write ({ q with reqCookie := (sqApply s q srv fd).req.join, cookie := sqCookie (sqApply s q srv fd) } : Query) hmem hmod
    rw [hc]
    refine ⟨hw, ?_⟩
    intro x hx hxk
    obtain ⟨x0, hx0, rfl⟩ := List.mem_map.1 hx
    by_cases hk : x0.key == q.key
    · have : x0 = q := hok.eq_of_key hx0 hqm (by simpa using hk)
      subst this
      simp only [hk, ↓reduceIte]
      exact ⟨hfd0, hnone⟩
    · simp only [hk] at hxk
      exact absurd hxk (by simpa using hk)

theorem SQ.toCInv {key fd : Nat} {s : St} (h : SQ tr ns key fd s) : CInv tr ns none none s := by
  rcases h with h | h
  · exact Or.inl h
  · exact Or.inr h.1

theorem SQ.ofFlush {key fd : Nat} {s r : St} (h : SQ tr ns key fd s) (hf : FlushRel s r) : SQ tr ns key fd r := by
  rcases h with h | ⟨hok, hfa⟩
  · exact Or.inl (hf.1 h)
  · rcases hf.2 with hr | ⟨g, hg, e⟩
    · exact Or.inl hr
    · right
      rw [e]
      refine ⟨COk.mapQs (coreEq_nameOnly hg) hok, ?_⟩
      intro x hx hxk
      obtain ⟨x0, hx0, rfl⟩ := List.mem_map.1 hx
      obtain ⟨nm, en⟩ := hg x0
      rw [en] at hxk ⊢
      exact hfa x0 hx0 hxk

theorem sqFlush_sq {go : Call → St → St × Ret} (hgo : GoCredit tr ns go) (key fd : Nat) (s : St)
    (h : SQ tr ns key fd s) : SQ tr ns key fd (sqFlush go fd s).2 := by
  unfold sqFlush
  dsimp only
  split
  · exact h
  · split
    · rcases h with h | h
      · exact Or.inl h
      · exact Or.inr h
    · exact SQ.ofFlush h (hgo.flush fd s s (FlushRel.refl s))

theorem cproj_sqCommit (s : St) (q : Query) (key fd : Nat) (dl : Deadline) :
    cproj (sqCommit s q key fd dl) =
      { cproj s with qs := s.qs.map (fun x => if x.key == key then
          { x with ts := s.now, deadline := dl, conn := some fd, inConnList := true } else x) } ∧
    (sqCommit s q key fd dl).outOfFuel = s.outOfFuel := by
  unfold sqCommit
  dsimp only
  cases q.conn with
  | none =>
    refine ⟨?_, rfl⟩
    dsimp only
    rw [cproj_modConn]
    · rfl
    · intro _; exact ⟨rfl, rfl⟩
  | some old =>
    refine ⟨?_, rfl⟩
    dsimp only
    rw [cproj_modConn]
    · unfold cproj
      dsimp only
      rw [St.modQuery_conns, connsMap_modConn _ _ _ _ (by intro; rfl)]; rfl
    · intro _; exact ⟨rfl, rfl⟩

/-- the commit: the query gets attached to `fd` -/
theorem sqCommit_c {key fd : Nat} (s : St) (q : Query) (dl : Deadline)
    (h : SQ tr ns key fd s) (hq : s.query? key = some q) (hconn : ∃ c, s.conn? fd = some c) :
    CInv tr ns none none (sqCommit s q key fd dl) := by
  obtain ⟨hc, ho⟩ := cproj_sqCommit s q key fd dl
  rcases h with h | ⟨hok, hfa⟩
  · exact Or.inl (by rw [ho]; exact h)
  · right
    have hqm : q ∈ s.qs := query?_mem hq
    have hqk : q.key = key := query?_key hq
    subst hqk
    obtain ⟨c, hcn⟩ := hconn
    obtain ⟨hkm, hkf⟩ := kinds_mem_of_conn? hcn
    have hfdlt : fd < s.nextFd := by
      have := hok.kindLt _ hkm
      rw [hkf] at this; exact this
    have hf := hfa q hqm rfl
    rw [hc]
    exact COk.modKey q hqm
      (fun x => { x with ts := s.now, deadline := dl, conn := some fd, inConnList := true })
      none none ⟨rfl, rfl⟩ (Or.inl rfl) (Or.inl rfl) (Or.inl rfl) (Or.inl rfl) hok
      fun n hq => ⟨hq.acct, hq.ck3, hq.ck3tcp, fun _ h3 => Or.inl (hf.2 h3),
        fun _ hu fd' hc' => Option.some.inj hc' ▸ hf.1 hu, fun fd' hc' => Option.some.inj hc' ▸ hfdlt⟩

theorem sqDeadline_cframe (s : St) (a : Server) (t : Nat) :
    (cproj (sqDeadline s a t).2 = cproj s ∨ cproj (sqDeadline s a t).2 = { cproj s with rnd2 := s.obs.rnd2.tail }) ∧
    (sqDeadline s a t).2.outOfFuel = s.outOfFuel ∧ (sqDeadline s a t).2.qs = s.qs ∧
    (sqDeadline s a t).2.conns = s.conns := by
  unfold sqDeadline
  dsimp only
  split
  · refine ⟨Or.inr (cproj_draw2 s).1, (cproj_draw2 s).2, ?_, ?_⟩
    · unfold St.draw2; split <;> rfl
    · unfold St.draw2; split <;> rfl
  · exact ⟨Or.inl rfl, rfl, rfl, rfl⟩

theorem sqDeadline_sq {key fd : Nat} (s : St) (a : Server) (t : Nat) (h : SQ tr ns key fd s) :
    SQ tr ns key fd (sqDeadline s a t).2 := by
  obtain ⟨hc, ho, _, _⟩ := sqDeadline_cframe s a t
  rcases h with h | ⟨hok, hfa⟩
  · exact Or.inl (by rw [ho]; exact h)
  · right
    rcases hc with e | e
    · rw [e]; exact ⟨hok, hfa⟩
    · rw [e]; exact ⟨COk.shrinkRnd (List.tail_sublist _) hok, hfa⟩

theorem commit_after_deadline {key fd : Nat} (s : St) (a : Server) (q : Query) (c : Conn)
    (h : SQ tr ns key fd s) (hq : s.query? key = some q) (hc : s.conn? fd = some c) :
    CInv tr ns none none
      (sqCommit (sqDeadline s a q.tryCount).2 q key fd (sqDeadline s a q.tryCount).1) := by
  obtain ⟨_, _, hqs, hcs⟩ := sqDeadline_cframe s a q.tryCount
  apply sqCommit_c _ _ _ (sqDeadline_sq s a q.tryCount h)
  · unfold St.query?; rw [hqs]; exact hq
  · exact ⟨c, by unfold St.conn?; rw [hcs]; exact hc⟩

theorem commit_after_deadline' {key fd : Nat} {s s1 : St} {a : Server} {q : Query} {c : Conn} {dl : Deadline}
    (h : SQ tr ns key fd s) (hq : s.query? key = some q) (hc : s.conn? fd = some c)
    (hdl : sqDeadline s a q.tryCount = (dl, s1)) :
    CInv tr ns none none (sqCommit s1 q key fd dl) := by
  have := commit_after_deadline (tr := tr) (ns := ns) s a q c h hq hc
  rw [hdl] at this; exact this

theorem sqAfter_c {go : Call → St → St × Ret} (hgo : GoCredit tr ns go) (q : Query) (srv : Server) (key fd : Nat)
    (pd : Bool) (wst : Status) (s : St) (h : SQ tr ns key fd s) :
    CInv tr ns none none (sqAfter go q srv key fd pd wst s).1 := by
  have hC : CInv tr ns none none s := h.toCInv
  unfold sqAfter
  body_paths
  all_goals first
    | ((repeat' (c_step hgo)); done)
    | skip
  -- the two commits (with and without the probe)
  · apply pair_fst ‹go _ _ = _›
    apply hgo.inv
    show CInv _ _ _ _ _
    exact commit_after_deadline' h ‹_› ‹_› ‹_›
  · exact commit_after_deadline' h ‹_› ‹_› ‹_›

theorem sqOpen_qs (s : St) (q : Query) (srv : Server) (existing : Option Nat) :
    (sqOpen s q srv existing).2.qs = s.qs := by
  rw [sqOpen_shape]

theorem sendQueryBlocks_c {go : Call → St → St × Ret} (hgo : GoCredit tr ns go) (reqSrv : Option Nat) (key : Nat)
    (s : St) (h : CInv tr ns (some key) none s) :
    CInv tr ns none none (sendQueryBlocks go reqSrv key s).1 := by
  unfold sendQueryBlocks
  split
  · exact CInv.mfault h.dropW
  · rename_i q hq
    have hqm : q ∈ s.qs ∧ q.key = key := ⟨query?_mem hq, query?_key hq⟩
    extract_lets sorted
    split
    rename_i srv? s1 hch
    obtain ⟨hc1, ho1, hs1⟩ : cproj s1 = cproj s ∧ s1.outOfFuel = s.outOfFuel ∧ s1.servers = s.servers := by
      have := cproj_sqChoose reqSrv s; rw [hch] at this; exact this
    have h1 : CInv tr ns (some key) none s1 := CInv.lift h ho1 (fun hok => by rw [hc1]; exact hok)
    split
    · exact hgo.inv (.endQuery none key .noserver none) s1 h1.dropW
    · rename_i srv
      have hsrv : srv ∈ s1.servers := by rw [hs1]; exact sqChoose_fst_mem (congrArg Prod.fst hch)
      extract_lets s2 probeDowned existing
      have h2 : CInv tr ns (some key) none s2 := h1.ofSameProj rfl rfl
      split
      rename_i connRes s3 hop
      have h3 : CInv tr ns (some key) none s3 := pair_snd hop (sqOpen_cg s2 q srv existing h2)
      have hq3 : q ∈ s3.qs ∧ q.key = key := by
        have e3 : s3.qs = s2.qs := by have := sqOpen_qs s2 q srv existing; rw [hop] at this; exact this
        have e1 : s1.qs = s.qs := congrArg CP.qs hc1
        refine ⟨?_, hqm.2⟩
        rw [e3]; show q ∈ s1.qs; rw [e1]; exact hqm.1
      split
      · rename_i st
        exact hgo.inv (.requeue key st true none false) _ (CInv.incFailures h3.dropW)
      · rename_i fd
        extract_lets cookie newCk s4 q'
        split
        rename_i wst s5 hw
        have hfd : s3.outOfFuel = true ∨ (q.usingTcp = true → TcpIfAny (cproj s3).kinds fd) := by
          rcases h2 with h2 | hok2
          · left
            have : IsOof (sqOpen s2 q srv existing).2 := by
              show (sqOpen s2 q srv existing).2.outOfFuel = true
              rw [sqOpen_shape]; exact h2
            rw [hop] at this; exact this
          · right
            intro hu
            have := sqOpen_kind s2 q srv hsrv hok2 hu fd (by
              show (sqOpen s2 q srv existing).1 = _; rw [hop])
            have e : sqOpen s2 q srv (fetchConn s2 q srv) = (Except.ok fd, s3) := hop
            rw [e] at this; exact this
        have hsq4 : SQ tr ns key fd s4 := sqEnqueue_sq s3 q srv key fd h3 hq3 hfd
        have hsq5 : SQ tr ns key fd s5 := pair_snd hw (sqFlush_sq hgo key fd s4 hsq4)
        exact sqAfter_c hgo _ srv key fd _ wst s5 hsq5

end
end Cares.Chan
