import CaresModel.Text.Junk
import CaresLemmas.TextResolv
/-! Helper lemmas for C15 `ranges`: every number the configuration-text parsers produce lies in its
    documented range, as an invariant (`rangesOk`) preserved by every line step. -/
namespace Cares.Text

theorem strtoulU32_lt (s : Bytes) : strtoulU32 s < 4294967296 := by
  unfold strtoulU32
  exact Nat.mod_lt _ (by decide)

theorem atoiU16_lt (s : Bytes) : atoiU16 s < 65536 := by
  unfold atoiU16
  have h : (atoi s % 65536) < 65536 := Int.emod_lt_of_pos _ (by decide)
  have h0 : 0 ≤ atoi s % 65536 := Int.emod_nonneg _ (by decide)
  omega

theorem timeoutMsOf_sat (v : Nat) (hv : v ≠ 0) :
    1000 ≤ timeoutMsOf true v ∧ timeoutMsOf true v % 1000 = 0 ∧ timeoutMsOf true v ≤ 4294967000 := by
  unfold timeoutMsOf
  simp only [↓reduceIte]
  have : (4294967295 / 1000 : Nat) = 4294967 := by decide
  rw [this]
  split <;> omega

theorem strcpyTrunc_len (cap : Nat) (s : Bytes) (h : 0 < cap) : (strcpyTrunc cap s).length + 1 ≤ cap := by
  unfold strcpyTrunc
  have := List.length_take_le (cap - 1) s
  omega

theorem popcount8_le (b : Nat) : popcount8 b ≤ 8 := by
  have gen : ∀ (l : List Nat) (acc : Nat), l.foldl (fun acc i => acc + (b / 2 ^ i) % 2) acc ≤ acc + l.length := by
    intro l
    induction l with
    | nil => intro acc; exact Nat.le_refl _
    | cons x xs ih =>
      intro acc
      have := ih (acc + b / 2 ^ x % 2)
      have := Nat.mod_lt (b / 2 ^ x) (by decide : 0 < 2)
      rw [List.foldl_cons, List.length_cons]; omega
  have := gen (List.range 8) 0
  rwa [Nat.zero_add, List.length_range] at this

theorem decOctets_len : ∀ (fuel ch : Nat) (src : Bytes) (size : Nat) (out : List Nat) (c : Nat) (s : Bytes) (size' : Nat) (out' : List Nat),
    decOctets fuel ch src size out = .ok (c, s, size', out') → out'.length + size' = out.length + size := by
  intro fuel
  induction fuel with
  | zero => intro ch src size out c s size' out' h; cases h
  | succ n ih =>
    intro ch src size out c s size' out' h
    unfold decOctets at h
    rcases hd : decNum 255 0 ch src with _ | ⟨v, ch', src'⟩
    · rw [hd] at h; cases h
    rw [hd] at h
    dsimp only at h
    split at h
    · cases h
    rename_i hsz
    split at h
    · cases h
      rw [List.length_append, List.length_singleton]; omega
    replace h := ok_of_ite h
    rcases src' with _ | ⟨c1, r1⟩
    · cases h
    dsimp only at h
    split at h
    · have := ih _ _ _ _ _ _ _ _ h
      rw [List.length_append, List.length_singleton] at this; omega
    · cases h
theorem hexLoop_len : ∀ (src : Bytes) (dirty tmp size : Nat) (out : List Nat) (c : Nat) (s : Bytes) (size' : Nat) (out' : List Nat),
    hexLoop src dirty tmp size out = .ok (c, s, size', out') → out'.length + size' = out.length + size := by
  intro src
  induction src with
  | nil =>
    intro dirty tmp size out c s size' out' h
    unfold hexLoop at h
    split at h
    · split at h
      · cases h
      · cases h
        simp; omega
    · cases h
      rfl
  | cons x xs ih =>
    intro dirty tmp size out c s size' out' h
    unfold hexLoop at h
    split at h
    · simp only at h
      split at h
      · split at h
        · cases h
        · have := ih _ _ _ _ _ _ _ _ h
          simp at this; omega
      · exact ih _ _ _ _ _ _ _ _ h
    · split at h
      · split at h
        · cases h
        · cases h
          simp; omega
      · cases h
        rfl

theorem padTo_len (n : Nat) (l : List Nat) (h : l.length ≤ n) : (padTo n l).length = n := by
  unfold padTo; simp; omega

theorem netPton4_len (src : Bytes) (size0 bits : Nat) (o : List Nat) (h : netPton4 src size0 = .ok (bits, o)) :
    o.length = size0 := by
  unfold netPton4 at h
  simp only at h
  split at h
  · cases h
  · rename_i ch src' size out hr
    have hlen : out.length + size = size0 := by
      split at hr
      · split at hr
        · cases hr
        · have := hexLoop_len _ _ _ _ _ _ _ _ _ hr
          simpa using this
      · split at hr
        · have := decOctets_len _ _ _ _ _ _ _ _ _ hr
          simpa using this
        · cases hr
    have fin : ∀ (bb : Nat) (x : Except (List Nat) (Nat × List Nat)),
        x = (if (bb + 7) / 8 > out.length + size then Except.error (padTo size0 out) else Except.ok (bb, padTo size0 out)) →
        x = .ok (bits, o) → o.length = size0 := by
      intro bb x hx hxo
      rw [hx] at hxo
      split at hxo
      · cases hxo
      · simp only [Except.ok.injEq, Prod.mk.injEq] at hxo
        rw [← hxo.2]
        exact padTo_len _ _ (by omega)
    split at h
    · cases h
    · split at h
      · cases h
      · split at h
        · cases h
        · split at h
          · exact fin _ _ rfl h
          · exact fin _ _ rfl h

theorem pton4_len (s : Bytes) (o : List Nat) (h : pton4 s = some o) : o.length = 4 := by
  unfold pton4 at h
  split at h
  · rename_i r hr
    simp only [Option.some.injEq] at h
    subst h
    exact netPton4_len s 4 r.1 r.2 (by rw [hr])
  · cases h

def maskOk (a : Addr) (m : Nat) : Bool := if a.isV6 then m ≤ 128 else m ≤ 32
def patOk (p : Pat) : Bool := maskOk p.addr p.mask

theorem patOk_iff (p : Pat) : patOk p = true ↔ (p.addr.isV6 = false → p.mask ≤ 32) ∧ p.mask ≤ 128 := by
  unfold patOk maskOk
  cases p.addr.isV6 <;> simp <;> omega

theorem sum_popcount_le (o : List Nat) : (o.map popcount8).foldl (· + ·) 0 ≤ 8 * o.length := by
  have gen : ∀ (l : List Nat) (acc : Nat), (l.map popcount8).foldl (· + ·) acc ≤ acc + 8 * l.length := by
    intro l
    induction l with
    | nil => intro acc; simp
    | cons x xs ih =>
      intro acc
      simp only [List.map_cons, List.foldl_cons, List.length_cons]
      have := ih (acc + popcount8 x)
      have := popcount8_le x
      omega
  simpa using gen o 0

theorem sortMask_ok (a : Addr) (rest : Bytes) (m : Nat) (r : Bytes) (h : sortMask a rest = .ok (m, r)) :
    maskOk a m = true := by
  unfold sortMask at h
  split at h
  · simp only at h
    split at h
    · cases h
    · split at h
      · cases h
      · split at h
        · split at h
          · cases h
          · split at h
            · cases h
            · rename_i ms _ _ h1 h2
              cases h
              simp only [Bool.or_eq_true, decide_eq_true_eq, not_or, Int.not_lt] at h1
              simp only [Bool.and_eq_true, Bool.not_eq_eq_eq_not, Bool.not_true, decide_eq_true_eq, not_and, Int.not_lt] at h2
              unfold maskOk
              cases hv : a.isV6 with
              | true => simp; omega
              | false => simp; have := h2 hv; omega
        · split at h
          · rename_i o ho
            cases h
            have hl := pton4_len _ _ ho
            have := sum_popcount_le o
            unfold maskOk
            split <;> simp <;> omega
          · cases h
  · cases h
    unfold maskOk naturalMask
    cases a with
    | v4 o => simp [Addr.isV6]; split <;> (try split) <;> omega
    | v6 o => simp [Addr.isV6]

theorem parseSort_ok (e : Bytes) (p : Pat) (h : parseSort e = .ok p) : patOk p = true := by
  unfold parseSort at h
  simp only at h
  split at h
  · cases h
  · split at h
    · cases h
    · split at h
      · cases h
      · split at h
        · cases h
        · split at h
          · cases h
          · rename_i a _ mask rest3 hm
            split at h
            · cases h
            · cases h
              exact sortMask_ok _ _ _ _ hm

theorem sortEntry_ok (acc : Status × List Pat) (e : Bytes) (h : acc.2.all patOk = true) :
    (sortEntry acc e).2.all patOk = true := by
  unfold sortEntry
  split
  · exact h
  · split
    · rename_i p hp
      simp only [List.all_append, h, List.all_cons, List.all_nil, Bool.and_true, Bool.true_and]
      exact parseSort_ok e p hp
    · exact h
    · exact h

theorem parseSortlist_ok (v : Bytes) : (parseSortlist v).2.all patOk = true := by
  unfold parseSortlist
  split
  · rfl
  · simp only
    split
    · rfl
    · exact foldl_inv (P := (·.2.all patOk = true)) sortEntry sortEntry_ok _ (.success, []) rfl

def sconfOk (c : SConfig) : Bool := c.udp < 65536 && c.tcp < 65536 && c.iface.length ≤ 15

theorem sconfOk_iff (c : SConfig) : sconfOk c = true ↔ c.udp ≤ 65535 ∧ c.tcp ≤ 65535 ∧ c.iface.length ≤ 15 := by
  simp only [sconfOk, Bool.and_eq_true, decide_eq_true_eq]
  omega

theorem lookupLetter_val (w : Bytes) (ch : Nat) (h : lookupLetter w = some ch) : ch = 98 ∨ ch = 102 := by
  unfold lookupLetter at h
  simp only at h
  split at h
  · simp at h; omega
  · split at h
    · simp at h; omega
    · cases h

def lookupsOk (l : Bytes) : Bool := l == [] || l == [98] || l == [102] || l == [98, 102] || l == [102, 98]

theorem lookupStep_ok (acc w : Bytes) (h : lookupsOk acc = true) : lookupsOk (lookupStep acc w) = true := by
  unfold lookupStep
  split
  · rename_i ch hc
    have := lookupLetter_val w ch hc
    unfold lookupsOk at h
    simp only [Bool.or_eq_true, beq_iff_eq] at h
    rcases h with (((h | h) | h) | h) | h <;> rcases this with hc | hc <;> subst h <;> subst hc <;> decide
  · exact h

theorem lookupsOk_len (l : Bytes) (h : lookupsOk l = true) : l.length ≤ 2 ∧ ∀ c ∈ l, c = 98 ∨ c = 102 := by
  unfold lookupsOk at h
  simp only [Bool.or_eq_true, beq_iff_eq] at h
  rcases h with (((h | h) | h) | h) | h <;> subst h <;> simp

theorem nsPort_lt (rest : Bytes) (p : Nat) (r : Bytes) (h : nsPort rest = .ok (p, r)) : p < 65536 := by
  unfold nsPort at h
  split at h
  · simp only at h
    split at h
    · cases h
    · split at h
      · cases h
      · cases h
        exact atoiU16_lt _
  · simp only [Except.ok.injEq, Prod.mk.injEq] at h
    omega

theorem nsIface_len (rest : Bytes) (i r : Bytes) (h : nsIface rest = .ok (i, r)) : i.length ≤ 15 := by
  unfold nsIface at h
  split at h
  · simp only at h
    split at h
    · cases h
    · split at h
      · cases h
      · rename_i i' hi
        cases h
        have := (fetchString_len 16 _ _ hi).2
        omega
  · cases h
    simp

theorem parseNameserver_ok (e : Bytes) (s : SConfig) (h : parseNameserver e = .ok s) : sconfOk s = true := by
  unfold parseNameserver at h
  split at h
  · cases h
  · split at h
    · cases h
    · split at h
      · cases h
      · rename_i port rest2 hp
        split at h
        · cases h
        · rename_i iface rest3 hi
          split at h
          · cases h
          · cases h
            have := nsPort_lt _ _ _ hp
            have := nsIface_len _ _ _ hi
            simp [sconfOk]; omega

theorem uriHostport_lt (c : Cur) (h : Bytes) (p : Nat) (hh : uriHostport c = .ok (h, p)) : p < 65536 := by
  unfold uriHostport at hh
  rcases hp : c.peek with _ | b
  · rw [hp] at hh; cases hh
  rw [hp] at hh
  dsimp only at hh
  split at hh
  · cases hh
  rename_i h3 c3 _
  rcases hu : uriSetHost h3 with e | host
  · rw [hu] at hh; cases hh
  rw [hu] at hh
  dsimp only at hh
  split at hh
  · cases hh; decide
  replace hh := ok_of_ite (ok_of_ite (ok_of_ite hh))
  cases hh
  exact atoiU16_lt _
theorem uriParse_port_lt (bs : Bytes) (u : Uri) (h : uriParse bs = .ok u) : u.port < 65536 := by
  unfold uriParse at h
  rcases hfs : findSeq [58, 47, 47] bs with _ | n
  · rw [hfs] at h; cases h
  rw [hfs] at h
  replace h := ok_of_ite h
  rcases hx : fetchString 16 (List.take n bs) with e | sch
  · rw [hx] at h; cases h
  rw [hx] at h
  replace h := ok_of_ite (ok_of_ite (ok_of_ite h))
  rcases hx : uriUserinfo _ with e | ac
  · rw [hx] at h; cases h
  rw [hx] at h
  dsimp only at h
  rcases hhp : uriHostport ac with e | ⟨host, port⟩
  · rw [hhp] at h; cases h
  rw [hhp] at h
  dsimp only at h
  -- path, query and fragment can only fail; the port is the one `uriHostport` returned
  split at h
  · cases h
  split at h
  · cases h
  split at h
  · cases h
  cases h
  exact uriHostport_lt _ _ _ hhp

theorem parseNameserverUri_ok (e : Bytes) (s : SConfig) (h : parseNameserverUri e = .ok s) : sconfOk s = true := by
  unfold parseNameserverUri at h
  split at h
  · cases h
  · rename_i u hu
    have hp := uriParse_port_lt e u hu
    split at h
    · cases h
    · simp only at h
      split at h
      · cases h
      · cases h
        simp only [sconfOk, Bool.and_eq_true, decide_eq_true_eq]
        refine ⟨⟨hp, ?_⟩, ?_⟩
        · split
          · exact atoiU16_lt _
          · exact hp
        · split
          · simp
          · have := strcpyTrunc_len 16 (by assumption) (by decide)
            omega

theorem parseServerEntry_ok (e : Bytes) (s : SConfig) (h : parseServerEntry e = .ok s) : sconfOk s = true := by
  unfold parseServerEntry at h
  split at h
  · rename_i s' hs
    cases h
    exact parseNameserverUri_ok e _ hs
  · exact parseNameserver_ok e s h

def listOk (l : Option (List SConfig)) : Bool := (l.getD []).all sconfOk

theorem sconfigAppend_ok (ifs : Ifaces) (l : Option (List SConfig)) (a : Addr) (u t : Nat) (i : Bytes)
    (hl : listOk l = true) (hu : u < 65536) (ht : t < 65536) : listOk (sconfigAppend ifs l a u t i) = true := by
  unfold sconfigAppend
  split
  · exact hl
  · simp only
    have hl' : (l.getD []).all sconfOk = true := hl
    split
    · split
      · simpa [listOk] using hl'
      · split
        · rename_i nm scope hr
          have hn : nm.length ≤ 15 := by
            unfold linkLocalResolve at hr
            split at hr
            · simp only at hr
              split at hr
              · simp only [Option.some.injEq, Prod.mk.injEq] at hr
                rw [← hr.1]
                have := strcpyTrunc_len 16 (by assumption) (by decide); omega
              · cases hr
            · simp only at hr
              split at hr
              · cases hr
              · simp only [Option.some.injEq, Prod.mk.injEq] at hr
                rw [← hr.1]
                have := strcpyTrunc_len 16 i (by decide); omega
          simp only [listOk, Option.getD_some, List.all_append, hl', List.all_cons, List.all_nil, Bool.and_true, Bool.true_and]
          simp [sconfOk]; omega
        · simpa [listOk] using hl'
    · simp only [listOk, Option.getD_some, List.all_append, hl', List.all_cons, List.all_nil, Bool.and_true, Bool.true_and]
      simp [sconfOk]; omega

theorem appendEntry_ok (ifs : Ifaces) (ign : Bool) (acc : Status × Option (List SConfig)) (e : Bytes)
    (h : listOk acc.2 = true) : listOk (appendEntry ifs ign acc e).2 = true := by
  unfold appendEntry
  split
  · exact h
  · split
    · rename_i s hs
      have := parseServerEntry_ok e s hs
      simp only [sconfOk, Bool.and_eq_true, decide_eq_true_eq] at this
      exact sconfigAppend_ok ifs acc.2 s.addr s.udp s.tcp s.iface h this.1.1 this.1.2
    · split
      · exact h
      · exact h

theorem appendFromStr_ok (ifs : Ifaces) (l : Option (List SConfig)) (v : Bytes) (ign : Bool) (h : listOk l = true) :
    listOk (appendFromStr ifs l v ign).2 = true := by
  unfold appendFromStr
  split
  · exact h
  · exact foldl_inv (P := (listOk ·.2 = true)) (appendEntry ifs ign) (appendEntry_ok ifs ign) _ (.success, l) h

def rangesOk (c : SysConfig) : Bool :=
  (c.timeoutMs == 0 || (1000 ≤ c.timeoutMs && c.timeoutMs % 1000 == 0 && c.timeoutMs ≤ 4294967000)) &&
  c.tries < 4294967296 && c.ndots < 4294967296 && c.sortlist.all patOk && listOk c.sconfig &&
  (match c.lookups with
   | none => true
   | some l => lookupsOk l)

theorem rangesOk_iff (c : SysConfig) : rangesOk c = true ↔
    ((c.timeoutMs = 0 ∨ (1000 ≤ c.timeoutMs ∧ c.timeoutMs % 1000 = 0 ∧ c.timeoutMs ≤ 4294967000)) ∧
     c.tries < 4294967296 ∧ c.ndots < 4294967296 ∧ c.sortlist.all patOk = true ∧ listOk c.sconfig = true ∧
     (match c.lookups with
      | none => true
      | some l => lookupsOk l) = true) := by
  simp only [rangesOk, Bool.and_eq_true, Bool.or_eq_true, beq_iff_eq, decide_eq_true_eq, and_assoc]

theorem strtoulU32_lt_opt (rest : List Bytes) : optValint rest < 4294967296 := by
  unfold optValint
  split
  · exact strtoulU32_lt _
  · decide

theorem processOption_ranges (s : SysConfig) (o : Bytes) (h : rangesOk s = true) :
    rangesOk (processOption true s o).2 = true := by
  have h' := (rangesOk_iff s).mp h
  obtain ⟨h1, h2, h3, h4, h5, h6⟩ := h'
  unfold processOption
  cases splitStr [58] SplitFlags.trim 2 o with
  | error e => exact h
  | ok kv =>
    cases kv with
    | nil => exact h
    | cons key rest =>
      have hv := strtoulU32_lt_opt rest
      let P : Status × SysConfig → Prop := fun r => rangesOk r.2 = true
      refine ite_of (P := P) (fun _ => ?_) fun _ => ite_of (P := P) (fun _ => ite_of (P := P) (fun _ => h) fun hz => ?_) fun _ =>
        ite_of (P := P) (fun _ => ite_of (P := P) (fun _ => h) fun _ => ?_) fun _ =>
        ite_of (P := P) (fun _ => ?_) fun _ => ite_of (P := P) (fun _ => ?_) fun _ => h
      · exact (rangesOk_iff _).mpr ⟨h1, h2, hv, h4, h5, h6⟩
      · exact (rangesOk_iff _).mpr ⟨Or.inr (timeoutMsOf_sat _ hz), h2, h3, h4, h5, h6⟩
      · exact (rangesOk_iff _).mpr ⟨h1, hv, h3, h4, h5, h6⟩
      · exact (rangesOk_iff _).mpr ⟨h1, h2, h3, h4, h5, h6⟩
      · exact (rangesOk_iff _).mpr ⟨h1, h2, h3, h4, h5, h6⟩

theorem setOptions_ranges (s : SysConfig) (v : Bytes) (h : rangesOk s = true) : rangesOk (setOptions true s v).2 = true := by
  unfold setOptions
  split
  · exact h
  · exact foldl_inv (P := fun c => rangesOk c = true) (optionStep true) (fun a b ha => processOption_ranges a b ha) _ _ h

theorem rangesOk_domains (s : SysConfig) (d : Option (List Bytes)) (h : rangesOk s = true) :
    rangesOk { s with domains := d } = true := by
  rw [rangesOk_iff] at h ⊢; exact h

theorem configSearch_ranges (s : SysConfig) (v : Bytes) (m : Nat) (h : rangesOk s = true) :
    rangesOk (configSearch s v m).2 = true := by
  unfold configSearch
  split
  · exact h
  · split <;> exact rangesOk_domains s _ h

theorem configLookup_ranges (s : SysConfig) (b : Bytes) (seps : List Nat) (h : rangesOk s = true) :
    rangesOk (configLookup s b seps) = true := by
  unfold configLookup
  split
  · exact h
  · simp only
    split
    · exact h
    · rw [rangesOk_iff] at h ⊢
      obtain ⟨h1, h2, h3, h4, h5, _⟩ := h
      exact ⟨h1, h2, h3, h4, h5, foldl_inv (P := (lookupsOk · = true)) lookupStep lookupStep_ok _ [] rfl⟩

theorem resolvLine_ranges (ifs : Ifaces) (s : SysConfig) (line : Bytes) (h : rangesOk s = true) :
    rangesOk (resolvLine ifs s line).2 = true := by
  unfold resolvLine resolvLineG
  cases resolvSplit line with
  | none => exact h
  | some x =>
    obtain ⟨option, value, raw⟩ := x
    have hl := (rangesOk_iff s).mp h
    refine resolvApply_cases (P := fun r => rangesOk r.2 = true) ifs s option value raw
      (configSearch_ranges s value 1 h) (configLookup_ranges s raw _ h) (configSearch_ranges s value 0 h) ?_ ?_
      (setOptions_ranges s value h) h
    · exact (rangesOk_iff _).mpr
        ⟨hl.1, hl.2.1, hl.2.2.1, hl.2.2.2.1, appendFromStr_ok ifs s.sconfig _ true hl.2.2.2.2.1, hl.2.2.2.2.2⟩
    · exact ite_of (P := fun c => rangesOk c = true)
        (fun _ => (rangesOk_iff _).mpr ⟨hl.1, hl.2.1, hl.2.2.1, parseSortlist_ok value, hl.2.2.2.2.1, hl.2.2.2.2.2⟩)
        fun _ => h

theorem dbLine_ranges (sep : Nat) (vseps : List Nat) (s : SysConfig) (line : Bytes) (h : rangesOk s = true) :
    rangesOk (dbLine sep vseps s line).2 = true := by
  unfold dbLine
  split
  · exact h
  · split
    · split
      · exact h
      · split
        · exact configLookup_ranges s _ _ h
        · exact h
    · exact h

theorem processFile_ranges (step : SysConfig → Bytes → Status × SysConfig)
    (hs : ∀ a l, rangesOk a = true → rangesOk (step a l).2 = true) (s : SysConfig) (f : Option Bytes)
    (h : rangesOk s = true) : rangesOk (processFile step s f).2 = true := by
  unfold processFile
  split
  · exact h
  · exact (foldLines_inv step (fun _ => True) (rangesOk · = true) trivial (fun _ _ _ => trivial) hs s _ h).2

theorem initSysconfigFiles_ranges (ifs : Ifaces) (s : SysConfig) (f : SysFiles) (pr : Bool) (h : rangesOk s = true) :
    rangesOk (initSysconfigFiles true ifs s f pr).2 = true := by
  unfold initSysconfigFiles
  let P : Status × SysConfig → Prop := fun r => rangesOk r.2 = true
  have hd : ∀ sep vs a l, rangesOk a = true → rangesOk (dbLine sep vs a l).2 = true := dbLine_ranges
  have h1 : P (if pr then processFile (resolvLineG true ifs) s f.resolv else (.success, s)) :=
    ite_of (fun _ => processFile_ranges _ (resolvLine_ranges ifs) s _ h) fun _ => h
  have h2 : P _ := processFile_ranges _ (hd 58 [32, 9]) _ f.nsswitch h1
  have h3 : P _ := processFile_ranges _ (hd 61 [44]) _ f.netsvc h2
  have h4 : P _ := processFile_ranges _ (hd 61 [44]) _ f.svc h3
  exact ite_of (P := P) (fun _ => h1) fun _ => ite_of (P := P) (fun _ => h2) fun _ =>
    ite_of (P := P) (fun _ => h3) fun _ => ite_of (P := P) (fun _ => h4) fun _ => h4

theorem initByEnvironment_ranges (s : SysConfig) (ld ro : Option Bytes) (h : rangesOk s = true) :
    rangesOk (initByEnvironment s ld ro).2 = true := by
  unfold initByEnvironment
  cases ld with
  | none =>
    simp only [bne_self_eq_false, Bool.false_eq_true, ↓reduceIte]
    cases ro with
    | none => exact h
    | some v => exact setOptions_ranges _ _ h
  | some d =>
    simp only
    have h1 := configSearch_ranges s d 1 h
    generalize configSearch s d 1 = r1 at h1 ⊢
    split
    · exact h1
    · cases ro with
      | none => exact h1
      | some v => exact setOptions_ranges _ _ h1

end Cares.Text
