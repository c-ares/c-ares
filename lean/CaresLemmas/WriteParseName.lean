import CaresLemmas.DnsName
import CaresLemmas.WriteDecode
/-!
# Bridge: what the parser model (`Cares.Dns.parseName`, C02/C04 slice) reads where the writer's bytes
`Decodes`

`parseName_of_decodes`: if a message decodes at `pos` to the labels `ls` (the writer-side relation, proved for
every name the writer emits), then `ares_dns_name_parse` of the parser model, started at `pos`, succeeds,
returns the canonical presentation text `escapeName ls`, and leaves the cursor behind the name.
-/
namespace Cares.Dns.NameW
open Cares.Dns

theorem isPrint_generated (n : Nat) : Cares.Generated.isPrint n = (0x20 ≤ n && n ≤ 0x7E) := by
  simp [Cares.Generated.isPrint, Cares.Generated.inRanges]

theorem isReservedCh_generated (c : UInt8) : Cares.Generated.isReservedCh c.toNat = isReservedCh c := by
  have h : ∀ n, n < 256 →
      Cares.Generated.isReservedCh (UInt8.ofNat n).toNat = isReservedCh (UInt8.ofNat n) := by decide +kernel
  have := h c.toNat c.toNat_lt
  rwa [UInt8.ofNat_toNat] at this

/-- both models escape by the same case split, over character classes that agree -/
theorem escapeByte_eq_parser (c : UInt8) : Cares.Dns.escapeByte c = escapeByte c := by
  unfold Cares.Dns.escapeByte escapeByte
  rw [isPrint_generated, isReservedCh_generated]
  rfl

theorem escapeLabel_eq_parser (l : BStr) : Cares.Dns.escapeLabel l = escapeLabel l := by
  unfold Cares.Dns.escapeLabel escapeLabel
  induction l with
  | nil => rfl
  | cons c r ih => simp [List.flatMap_cons, escapeByte_eq_parser, ih]

theorem isHostnameCh_eq_generated (c : UInt8) : isHostnameCh c = Cares.Generated.isHostnameCh c.toNat := by
  have h : ∀ n, n < 256 → isHostnameCh (UInt8.ofNat n) = Cares.Generated.isHostnameCh (UInt8.ofNat n).toNat := by
    decide +kernel
  have := h c.toNat c.toNat_lt
  rwa [UInt8.ofNat_toNat] at this

theorem ptrOffset_ptrOff (c d : UInt8) : ptrOffset c d = ptrOff c d := Cares.Dns.ptrOffset_eq c d

theorem toArray_getElem (msg : BStr) (i : Nat) (h : i < msg.toArray.size) (c : UInt8)
    (hc : msg[i]? = some c) : msg.toArray[i] = c := by
  have := List.getElem?_eq_some_iff.1 hc
  simp [this.2]

theorem slice_toArray (msg : BStr) (off len : Nat) : slice msg.toArray off len = (msg.drop off).take len := by
  unfold slice
  rw [Array.toList_extract, List.extract_eq_take_drop]
  simp

theorem escapeName_eq_parser (ls : List BStr) : Cares.Dns.escapeName ls = escapeName ls := by
  induction ls with
  | nil => exact escapeName_nil
  | cons l r ih =>
    cases r with
    | nil => rw [escapeName_single, escapeLabel_eq_parser]; rfl
    | cons l' r => rw [escapeName_cons₂, ih, escapeLabel_eq_parser]; rfl

theorem Decodes.labels_nonempty {msg : BStr} {lo pos e : Nat} {ls : List BStr} (h : Decodes msg lo pos ls e) :
    ∀ l ∈ ls, l ≠ [] := by
  induction h with
  | root _ => intro l hl; cases hl
  | label _ h0 _ _ hlen _ ih =>
    intro l hl
    rcases List.mem_cons.1 hl with rfl | hl
    · intro hc; rw [hc] at hlen; simp at hlen; omega
    · exact ih l hl
  | ptr _ _ _ _ _ ih => exact ih

theorem lsNext_le {ls pos lo : Nat} (h1 : lo ≤ ls) (h2 : lo ≤ pos) : lo ≤ lsNext ls pos := by
  unfold lsNext; split <;> omega

theorem nameLoop_of_decodes {msg : BStr} {lo pos e : Nat} {ls : List BStr} (h : Decodes msg lo pos ls e) :
    ∀ (lsC save : Nat) (acc : BStr) (iters : Nat) (jumps : List (Nat × Nat × Nat)),
      lo ≤ lsC → lo ≤ pos →
      (nameLoop msg.toArray false pos lsC save acc iters jumps).out =
        .ok (accAddAll acc ls) (if save ≠ 0 then save else e) := by
  induction h with
  | @root lo pos h =>
    intro lsC save acc iters jumps _ _
    have hp : pos < msg.toArray.size := by simpa using (List.getElem?_eq_some_iff.1 h).1
    rw [nameLoop_end hp (toArray_getElem msg pos hp 0 h)]
    rfl
  | @label lo pos e c lab rest h h0 h63 hl hlen _ ih =>
    intro lsC save acc iters jumps hls hpos
    have hp : pos < msg.toArray.size := by simpa using (List.getElem?_eq_some_iff.1 h).1
    have hc : msg.toArray[pos] = c := toArray_getElem msg pos hp c h
    have hfit : pos + 1 + c.toNat ≤ msg.length := by
      rw [hl, List.length_take, List.length_drop] at hlen; omega
    rw [nameLoop_label hp (by rw [hc]; intro h0'; rw [h0'] at h0; simp at h0)
      (by rw [hc]; exact (byte_lab_iff c).2 h63) (by rw [hc]; simpa using hfit) (by simp)]
    rw [hc, ih _ _ _ _ _ (lsNext_le hls hpos) (by omega)]
    simp only [slice_toArray, ← hl]
    rfl
  | @ptr lo pos e' c d ls h hc hd hlt _ ih =>
    intro lsC save acc iters jumps hls hpos
    have hp1 : pos + 1 < msg.toArray.size := by simpa using (List.getElem?_eq_some_iff.1 hd).1
    have hp : pos < msg.toArray.size := by omega
    have hcc : msg.toArray[pos] = c := toArray_getElem msg pos hp c h
    have hdd : msg.toArray[pos + 1] = d := toArray_getElem msg (pos + 1) hp1 d hd
    have hback : ptrOffset msg.toArray[pos] msg.toArray[pos + 1] < lsNext lsC pos := by
      rw [hcc, hdd, ptrOffset_ptrOff]
      exact Nat.lt_of_lt_of_le hlt (lsNext_le hls hpos)
    rw [nameLoop_ptr hp1 (by rw [hcc]; exact (byte_ptr_iff c).2 hc) hback]
    rw [hcc, hdd, ptrOffset_ptrOff] at hback ⊢
    rw [ih _ _ _ _ _ (by omega) (Nat.le_refl _)]
    by_cases hs : save = 0
    · simp [hs]
    · simp [hs]

/-- **bridge**: the parser model reads the canonical text of the labels a name decodes to and continues
    behind the name -/
theorem parseName_of_decodes {msg : BStr} {pos e : Nat} {ls : List BStr} (h : Decodes msg pos pos ls e) :
    parseName msg.toArray false pos = .ok (escapeName ls) e := by
  unfold parseName parseNameRun
  rw [nameLoop_of_decodes h pos 0 [] 0 [] (Nat.le_refl _) (Nat.le_refl _)]
  have := accAddAll_escapeName ls [] (by simpa using h.labels_nonempty)
  rw [escapeName_nil] at this
  simp [this, escapeName_eq_parser]

end Cares.Dns.NameW
