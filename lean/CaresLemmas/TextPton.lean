import CaresModel.Text.Pton
/-! Helper lemmas for C16 `ntop_pton` (IPv4): decimal rendering of an octet and reading it back. -/
namespace Cares.Text

theorem showDecAux_step (f n : Nat) (acc : Bytes) :
    showDecAux (f + 1) n acc = if n < 10 then (48 + n) :: acc else showDecAux f (n / 10) ((48 + n % 10) :: acc) := rfl

theorem isDigit_iff (c : Nat) : isDigit c = true ↔ 48 ≤ c ∧ c ≤ 57 := by
  simp [isDigit]

theorem isDigit_add (d : Nat) (h : d < 10) : isDigit (48 + d) = true := by
  unfold isDigit; simp; omega

theorem showDecAux_digits (f n : Nat) (acc : Bytes) (hacc : acc.all isDigit = true) :
    (showDecAux f n acc).all isDigit = true := by
  induction f generalizing n acc with
  | zero => exact hacc
  | succ f ih =>
    rw [showDecAux_step]
    split
    · rw [List.all_cons, isDigit_add n ‹n < 10›, hacc]; rfl
    · apply ih
      rw [List.all_cons, isDigit_add (n % 10) (Nat.mod_lt n (by decide)), hacc]; rfl

theorem showDecAux_length (f n : Nat) (acc : Bytes) (k : Nat) (h : n < 10 ^ (k + 1)) :
    acc.length ≤ (showDecAux f n acc).length ∧ (showDecAux f n acc).length ≤ acc.length + (k + 1) := by
  induction f generalizing n acc k with
  | zero => exact ⟨Nat.le_refl _, Nat.le_add_right _ _⟩
  | succ f ih =>
    rw [showDecAux_step]
    split
    · rw [List.length_cons]; omega
    · cases k with
      | zero => omega
      | succ k =>
        have := ih (n / 10) ((48 + n % 10) :: acc) k (Nat.div_lt_of_lt_mul (by rw [← Nat.pow_succ']; exact h))
        rw [List.length_cons] at this
        omega

theorem showDecAux_val (f n : Nat) (acc : Bytes) (h : n < 10 ^ f) :
    (showDecAux f n acc).foldl (fun a c => a * 10 + (c - 48)) 0 = acc.foldl (fun a c => a * 10 + (c - 48)) n := by
  induction f generalizing n acc with
  | zero =>
    have : n = 0 := by rw [Nat.pow_zero] at h; omega
    rw [this]; rfl
  | succ f ih =>
    rw [showDecAux_step]
    split
    · rw [List.foldl_cons]
      have : 0 * 10 + (48 + n - 48) = n := by omega
      rw [this]
    · rw [ih (n / 10) _ (Nat.div_lt_of_lt_mul (by rw [← Nat.pow_succ']; exact h)), List.foldl_cons]
      have : n / 10 * 10 + (48 + n % 10 - 48) = n := by omega
      rw [this]

theorem showDec_digits (n : Nat) : (showDec n).all isDigit = true := showDecAux_digits 40 n [] rfl

theorem showDec_length (n k : Nat) (h : n < 10 ^ (k + 1)) : 1 ≤ (showDec n).length ∧ (showDec n).length ≤ k + 1 := by
  unfold showDec
  refine ⟨?_, (Nat.zero_add (k + 1)) ▸ (showDecAux_length 40 n [] k h).2⟩
  rw [showDecAux_step]
  split
  · exact Nat.le_refl 1
  · exact (showDecAux_length 39 (n / 10) [48 + n % 10] k (Nat.lt_of_le_of_lt (Nat.div_le_self n 10) h)).1

theorem showDec_val (n : Nat) (h : n < 10 ^ 40) : decVal (showDec n) = n := showDecAux_val 40 n [] h

theorem showDec_cons (n : Nat) : ∃ d ds, showDec n = d :: ds ∧ isDigit d = true ∧ ds.all isDigit = true := by
  have hd := showDec_digits n
  have hl := (showDec_length n n (Nat.lt_of_lt_of_le (Nat.lt_pow_self (by decide))
    (Nat.pow_le_pow_right (by decide) (Nat.le_succ n)))).1
  cases hs : showDec n with
  | nil => rw [hs] at hl; exact absurd hl (Nat.not_succ_le_zero 0)
  | cons d ds => rw [hs, List.all_cons, Bool.and_eq_true] at hd; exact ⟨d, ds, rfl, hd⟩

theorem decNum_nil (L tmp ch : Nat) :
    decNum L tmp ch [] = if tmp * 10 + (ch - 48) > L then none else some (tmp * 10 + (ch - 48), 0, []) := by
  simp only [decNum]

theorem decNum_cons (L tmp ch c : Nat) (r : Bytes) :
    decNum L tmp ch (c :: r) = if tmp * 10 + (ch - 48) > L then none
      else if isDigit c then decNum L (tmp * 10 + (ch - 48)) c r else some (tmp * 10 + (ch - 48), c, r) := by
  simp only [decNum]

theorem decFold_ge (l : Bytes) (a : Nat) : a ≤ l.foldl (fun a c => a * 10 + (c - 48)) a := by
  induction l generalizing a with
  | nil => exact Nat.le_refl a
  | cons x xs ih => exact Nat.le_trans (by omega) (ih (a * 10 + (x - 48)))

/-- `decNum` on a digit string followed by something that is not a digit reads the whole string, provided
    its value (and so every prefix's) stays within the limit -/
theorem decNum_digits (L : Nat) (ds rest : Bytes) (tmp ch : Nat) (hds : ds.all isDigit = true)
    (hr : isDigit (rest.headD 0) = false) (hle : ds.foldl (fun a c => a * 10 + (c - 48)) (tmp * 10 + (ch - 48)) ≤ L) :
    decNum L tmp ch (ds ++ rest) =
      some (ds.foldl (fun a c => a * 10 + (c - 48)) (tmp * 10 + (ch - 48)), rest.headD 0, rest.drop 1) := by
  have hle' : ¬ tmp * 10 + (ch - 48) > L := Nat.not_lt.mpr (Nat.le_trans (decFold_ge ds _) hle)
  induction ds generalizing tmp ch with
  | nil =>
    rw [List.nil_append, List.foldl_nil]
    cases rest with
    | nil => rw [decNum_nil, if_neg hle']; rfl
    | cons c r => rw [decNum_cons, if_neg hle', if_neg (by rw [show isDigit c = false from hr]; exact Bool.false_ne_true)]; rfl
  | cons x xs ih =>
    rw [List.all_cons, Bool.and_eq_true] at hds
    rw [List.foldl_cons] at hle ⊢
    rw [List.cons_append, decNum_cons, if_neg hle', if_pos hds.1]
    exact ih _ _ hds.2 hle (Nat.not_lt.mpr (Nat.le_trans (decFold_ge xs _) hle))

theorem decNum_octet (n : Nat) (hn : n < 256) (d : Nat) (ds : Bytes) (hd : showDec n = d :: ds) (rest : Bytes)
    (hr : isDigit (rest.headD 0) = false) : decNum 255 0 d (ds ++ rest) = some (n, rest.headD 0, rest.drop 1) := by
  have hdig := showDec_digits n
  have hv : decVal (showDec n) = n := showDec_val n (Nat.lt_trans hn (by decide))
  rw [hd] at hdig hv
  rw [List.all_cons, Bool.and_eq_true] at hdig
  rw [decVal, List.foldl_cons] at hv
  rw [decNum_digits 255 ds rest 0 d hdig.2 hr (by rw [hv]; omega), hv]

theorem decOctets_dot (fuel n : Nat) (hn : n < 256) (size : Nat) (hs : size ≠ 0) (out : List Nat)
    (c : Nat) (r : Bytes) (hc : isDigit c = true) (d : Nat) (ds : Bytes) (hd : showDec n = d :: ds) :
    decOctets (fuel + 1) d (ds ++ 46 :: c :: r) size out = decOctets fuel c r (size - 1) (out ++ [n]) := by
  rw [decOctets, decNum_octet n hn d ds hd (46 :: c :: r) rfl]
  simp [hs, hc]

theorem decOctets_end (fuel n : Nat) (hn : n < 256) (size : Nat) (hs : size ≠ 0) (out : List Nat)
    (d : Nat) (ds : Bytes) (hd : showDec n = d :: ds) :
    decOctets (fuel + 1) d (ds ++ []) size out = .ok (0, [], size - 1, out ++ [n]) := by
  rw [decOctets, decNum_octet n hn d ds hd [] rfl]
  simp [hs]

theorem classBits_le (out : List Nat) (h : out.length = 4) : classBits out ≤ 32 := by
  -- every class width is at most 32, so four octets raise it to exactly 32
  have hb : (if out.headD 0 ≥ 240 then 32 else if out.headD 0 ≥ 224 then 8 else if out.headD 0 ≥ 192 then 24
      else if out.headD 0 ≥ 128 then 16 else 8) ≤ 32 := by
    split
    · decide
    · split
      · decide
      · split
        · decide
        · split <;> decide
  unfold classBits
  rw [h]
  dsimp only
  generalize (if out.headD 0 ≥ 240 then 32 else _) = b at hb ⊢
  have h32 : (if b < 4 * 8 then 4 * 8 else b) = 32 := by split <;> omega
  rw [h32]
  exact Nat.le_refl 32

/-- the decimal branch of `ares_inet_net_pton_ipv4` when the octet loop ends at the terminator -/
theorem netPton4_dec (ch : Nat) (src : Bytes) (size0 size : Nat) (out : List Nat)
    (hd : isDigit ch = true) (hnx : src.headD 0 ≠ 120 ∧ src.headD 0 ≠ 88)
    (hr : decOctets ((ch :: src).length + 1) ch src size0 [] = .ok (0, [], size, out))
    (hne : out ≠ []) (hfit : (classBits out + 7) / 8 ≤ out.length + size) :
    netPton4 (ch :: src) size0 = .ok (classBits out, padTo size0 out) := by
  unfold netPton4
  simp only [List.headD_cons, List.drop_succ_cons, List.drop_zero]
  have h1 : (ch == 48 && (src.headD 0 == 120 || src.headD 0 == 88) &&
      isXDigit ((List.drop 1 src).headD 0)) = false := by
    rw [beq_false_of_ne hnx.1, beq_false_of_ne hnx.2]
    simp only [Bool.or_self, Bool.and_false, Bool.false_and]
  rw [h1]
  simp only [Bool.false_eq_true, ↓reduceIte, hd, hr]
  have hne' : out.isEmpty = false := List.isEmpty_eq_false_iff.mpr hne
  simp only [show ((0:Nat) == 47) = false by decide, Bool.false_and, Bool.false_eq_true, ↓reduceIte, ne_eq,
    not_true_eq_false, hne']
  have : ¬ ((classBits out + 7) / 8 > out.length + size) := by omega
  simp [this]

theorem pton4_ntop4 (a b c d : Nat) (ha : a < 256) (hb : b < 256) (hc : c < 256) (hd : d < 256) :
    pton4 (ntop4 [a, b, c, d]) = some [a, b, c, d] := by
  obtain ⟨a0, as, ea, da, das⟩ := showDec_cons a
  obtain ⟨b0, bs, eb, db, _⟩ := showDec_cons b
  obtain ⟨c0, cs, ec, dc, _⟩ := showDec_cons c
  obtain ⟨d0, dds, ed, dd, _⟩ := showDec_cons d
  obtain ⟨src, hsrc⟩ : ∃ src, src = as ++ 46 :: b0 :: (bs ++ 46 :: c0 :: (cs ++ 46 :: d0 :: (dds ++ []))) := ⟨_, rfl⟩
  have hT : ntop4 [a, b, c, d] = a0 :: src := by
    simp [ntop4, ea, eb, ec, ed, hsrc]
  have hnx : src.headD 0 ≠ 120 ∧ src.headD 0 ≠ 88 := by
    rw [hsrc]
    cases as with
    | nil => simp
    | cons x xs =>
      have := (isDigit_iff x).mp (List.all_eq_true.mp das x List.mem_cons_self)
      simp only [List.cons_append, List.headD_cons]; omega
  obtain ⟨f, hf⟩ : ∃ f, (a0 :: src).length + 1 = f + 1 + 1 + 1 + 1 := by
    refine ⟨as.length + bs.length + cs.length + dds.length + 4, ?_⟩
    simp only [hsrc, List.length_cons, List.length_append, List.length_nil]; omega
  have hloop : decOctets ((a0 :: src).length + 1) a0 src 4 [] = .ok (0, [], 0, [a, b, c, d]) := by
    rw [hf, hsrc, decOctets_dot _ a ha 4 (by decide) [] b0 _ db a0 as ea,
        decOctets_dot _ b hb 3 (by decide) _ c0 _ dc b0 bs eb,
        decOctets_dot _ c hc 2 (by decide) _ d0 _ dd c0 cs ec,
        decOctets_end _ d hd 1 (by decide) _ d0 dds ed]
    rfl
  unfold pton4
  rw [hT, netPton4_dec a0 _ 4 0 [a, b, c, d] da hnx hloop (by simp)
      (by have := classBits_le [a, b, c, d] rfl; simp only [List.length_cons, List.length_nil]; omega)]
  rfl

theorem dnsPton_ntop_v4 (a b c d : Nat) (ha : a < 256) (hb : b < 256) (hc : c < 256) (hd : d < 256) :
    dnsPton .unspec (ntop (.v4 [a, b, c, d])) = some (.v4 [a, b, c, d]) := by
  have h := pton4_ntop4 a b c d ha hb hc hd
  unfold pton4 at h
  unfold dnsPton ntop
  simp only
  split at h
  · simp only [Option.some.injEq] at h
    simp [h]
  · simp at h

end Cares.Text
