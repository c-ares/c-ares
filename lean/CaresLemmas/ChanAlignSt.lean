import CaresLemmas.ChanAlign
import CaresLemmas.ChanSockInv
import CaresLemmas.ChanSockAnswer
/-!
# TCP read alignment (C20) — the invariant on states of the channel model

`Al Q N0 s`: unless fuel ran out, `AlCore Q N0` holds of the lookup functions of `s.conns` / `s.socks` (through the
views `rk`, `vk`) and `s.nextFd`.  One lemma per primitive state update that touches connections or virtual sockets.
-/
namespace Cares.Chan

/-- keyed views of a connection / a virtual socket; `pfind` looks a descriptor up in a list of them -/
def rk (c : Conn) : Nat × CV := (c.fd, rflag c)
def vk (v : VSock) : Nat × SV := (v.fd, vflag v)

abbrev pfind {β : Type} (l : List (Nat × β)) : Nat → Option β := kfind Prod.fst Prod.snd l

/-- the invariant on the four components of a state it reads (keyed views of the connections, of the sockets, `nextFd`,
    `outOfFuel`): the lemma of a primitive update rewrites the one component the update changes -/
def AlF (Q : Nat → SV → CV → Prop) (N0 : Nat) (cv : List (Nat × CV)) (sv : List (Nat × SV)) (nfd : Nat) (oof : Bool) :
    Prop := oof = false → AlCore Q N0 (pfind cv) (pfind sv) nfd

/-- the alignment invariant (with side property `Q`) of a state, conditional on fuel not having run out -/
abbrev Al (Q : Nat → SV → CV → Prop) (N0 : Nat) (s : St) : Prop :=
  AlF Q N0 (s.conns.map rk) (s.socks.map vk) s.nextFd s.outOfFuel

theorem pfind_map {α β : Type} (key : α → Nat) (view : α → β) (l : List α) :
    pfind (l.map fun a => (key a, view a)) = kfind key view l := kfind_map_pair key view l

theorem pfind_conns (s : St) (fd : Nat) : pfind (s.conns.map rk) fd = (s.conn? fd).map rflag :=
  congrFun (pfind_map Conn.fd rflag s.conns) fd
theorem pfind_socks (s : St) (fd : Nat) : pfind (s.socks.map vk) fd = (s.sock? fd).map vflag :=
  congrFun (pfind_map VSock.fd vflag s.socks) fd

theorem pfind_upd {β : Type} (fd : Nat) (g : β → β) (l : List (Nat × β)) :
    pfind (l.map fun p => if p.1 == fd then (p.1, g p.2) else p) =
      fun fd' => if fd' = fd then (pfind l fd').map g else pfind l fd' :=
  kfind_map_upd Prod.fst Prod.snd fd (fun p => (p.1, g p.2)) g (fun _ h => h) (fun _ _ => rfl) l

theorem pfind_const {β : Type} (fd : Nat) (w : β) (l : List (Nat × β)) :
    pfind (l.map fun p => if p.1 == fd then (fd, w) else p) =
      fun fd' => if fd' = fd then (pfind l fd').map (fun _ => w) else pfind l fd' :=
  kfind_map_upd Prod.fst Prod.snd fd (fun _ => (fd, w)) (fun _ => w) (fun _ _ => rfl) (fun _ _ => rfl) l

theorem rks_modConn (s : St) (fd : Nat) (f : Conn → Conn) (g : CV → CV) (hf : ∀ c, rk (f c) = (c.fd, g (rflag c))) :
    (s.modConn fd f).conns.map rk = (s.conns.map rk).map fun p => if p.1 == fd then (p.1, g p.2) else p :=
  map_if_comm _ rk _ (·.1 == fd) f _ (fun _ => rfl) hf

theorem vks_modSock_id (s : St) (fd : Nat) (f : VSock → VSock) (hf : ∀ v, vk (f v) = vk v) :
    (s.modSock fd f).socks.map vk = s.socks.map vk :=
  map_if_keep _ fun v _ _ => hf v

theorem vks_modSock (s : St) (fd : Nat) (f : VSock → VSock) (k : SV → SV) (hf : ∀ v, vk (f v) = (v.fd, k (vflag v))) :
    (s.modSock fd f).socks.map vk = (s.socks.map vk).map fun p => if p.1 == fd then (p.1, k p.2) else p :=
  map_if_comm _ vk _ (·.1 == fd) f _ (fun _ => rfl) hf

theorem vks_setSock (s : St) (v : VSock) :
    (s.setSock v).socks.map vk = (s.socks.map vk).map fun p => if p.1 == v.fd then (v.fd, vflag v) else p :=
  map_if_comm _ vk _ (·.1 == v.fd) (fun _ => v) (fun _ => (v.fd, vflag v)) (fun _ => rfl) (fun _ => rfl)

theorem rk_blind : ConnBlind rk := fun _ _ _ _ _ _ => rfl

theorem rks_filter (cs : List Conn) (fd : Nat) :
    (cs.filter (·.fd != fd)).map rk = (cs.map rk).filter (·.1 != fd) := by
  rw [List.filter_map]; rfl

theorem tcpAccept_vk (v : VSock) (n : Nat) : vk (tcpAccept v n).2 = vk v := by
  unfold tcpAccept
  split
  · rfl
  · split <;> rfl

section
variable {Q : Nat → SV → CV → Prop} {N0 : Nat} {cv : List (Nat × CV)} {sv : List (Nat × SV)} {nfd : Nat} {oof : Bool}

theorem AlF_oof (cv : List (Nat × CV)) (sv : List (Nat × SV)) (nfd : Nat) : AlF Q N0 cv sv nfd true :=
  fun h => by cases h

theorem AlF_modConn (s : St) (fd : Nat) (f : Conn → Conn) (hf : ∀ c, rk (f c) = rk c)
    (h : AlF Q N0 (s.conns.map rk) sv nfd oof) : AlF Q N0 ((s.modConn fd f).conns.map rk) sv nfd oof := by
  rw [(connsMap_modConn rk) s fd f hf]; exact h
theorem AlF_modSock (s : St) (fd : Nat) (f : VSock → VSock) (hf : ∀ v, vk (f v) = vk v)
    (h : AlF Q N0 cv (s.socks.map vk) nfd oof) : AlF Q N0 cv ((s.modSock fd f).socks.map vk) nfd oof := by
  rw [vks_modSock_id s fd f hf]; exact h
theorem AlF_notify (s : St) (fd : Nat) (r w : Bool) (h : AlF Q N0 (s.conns.map rk) sv nfd oof) :
    AlF Q N0 ((s.notify fd r w).conns.map rk) sv nfd oof := by rw [(connsMap_notify rk rk_blind)]; exact h
theorem AlF_removeFromConn (s : St) (k : Nat) (h : AlF Q N0 (s.conns.map rk) sv nfd oof) :
    AlF Q N0 ((s.removeFromConn k).conns.map rk) sv nfd oof := by rw [(connsMap_removeFromConn rk rk_blind)]; exact h
theorem AlF_detach (s : St) (k : Nat) (h : AlF Q N0 (s.conns.map rk) sv nfd oof) :
    AlF Q N0 ((s.detach k).conns.map rk) sv nfd oof := by rw [(connsMap_detach rk rk_blind)]; exact h
theorem AlF_freeQuery (s : St) (k : Nat) (h : AlF Q N0 (s.conns.map rk) sv nfd oof) :
    AlF Q N0 ((s.freeQuery k).conns.map rk) sv nfd oof := by rw [(connsMap_freeQuery rk rk_blind)]; exact h
theorem AlF_advanceOut (fuel fd : Nat) (s : St) (n : Nat) (h : AlF Q N0 (s.conns.map rk) sv nfd oof) :
    AlF Q N0 ((advanceOut fuel fd s n).conns.map rk) sv nfd oof := by rw [(connsMap_advanceOut rk rk_blind)]; exact h
/-- `ares_close_connection` marks the connection as being closed and empties its buffers -/
theorem AlF_unlink (s : St) (fd : Nat) (f : Conn → Conn)
    (hf : ∀ c, rk (f c) = (c.fd, ⟨(rflag c).tcp, true, 0⟩))
    (h : AlF Q N0 (s.conns.map rk) sv nfd oof) : AlF Q N0 ((s.modConn fd f).conns.map rk) sv nfd oof := by
  intro ho
  rw [rks_modConn s fd f (fun y => ⟨y.tcp, true, 0⟩) hf, pfind_upd fd (fun y : CV => ⟨y.tcp, true, 0⟩)]
  have := (h ho).upd fd (fun y => ⟨y.tcp, true, 0⟩) id (fun x hx => (h ho).stream fd x hx)
    (fun _ _ _ _ _ hu => by cases hu) (fun _ _ _ _ hu => by cases hu)
  simpa only [Option.map_id_fun, id_eq, ite_self] using this

/-- … and finally releases it -/
theorem AlF_filter (cs : List Conn) (fd : Nat) (h : AlF Q N0 (cs.map rk) sv nfd oof) :
    AlF Q N0 ((cs.filter (·.fd != fd)).map rk) sv nfd oof := by
  intro ho
  rw [rks_filter]
  have e : pfind ((cs.map rk).filter (·.1 != fd)) = fun fd' => if fd' = fd then none else pfind (cs.map rk) fd' :=
    kfind_filter_ne Prod.fst Prod.snd fd (cs.map rk)
  rw [e]
  exact (h ho).del fd

/-- the virtual `sendto` on the socket of a live connection only consumes the scripted acceptance size -/
theorem AlF_setSock_accept (s : St) (fd total : Nat) (hc : ∃ y, pfind cv fd = some y)
    (h : AlF Q N0 cv (s.socks.map vk) nfd oof) :
    AlF Q N0 cv ((s.setSock (tcpAccept ((s.sock? fd).getD default) total).2).socks.map vk) nfd oof := by
  intro ho
  obtain ⟨y, hy⟩ := hc
  obtain ⟨x, hx⟩ := (h ho).hasSock fd y hy
  rw [pfind_socks] at hx
  cases hv : s.sock? fd with
  | none => rw [hv] at hx; cases hx
  | some v =>
    rw [hv] at hx
    simp only [Option.map_some, Option.some.injEq] at hx
    have hfd : v.fd = fd := by
      have := List.find?_some hv
      simpa using this
    have hk := tcpAccept_vk v total
    have hfd' : (tcpAccept v total).2.fd = fd := by
      have := congrArg Prod.fst hk; simp only [vk] at this; rw [this, hfd]
    have hfl : vflag (tcpAccept v total).2 = vflag v := by
      have := congrArg Prod.snd hk; simpa only [vk] using this
    simp only [Option.getD_some]
    rw [vks_setSock, hfd', hfl, pfind_const]
    have e : (fun fd' => if fd' = fd then (pfind (s.socks.map vk) fd').map (fun _ => vflag v)
        else pfind (s.socks.map vk) fd') = pfind (s.socks.map vk) := by
      funext fd'
      by_cases hfd2 : fd' = fd
      · subst hfd2
        simp only [↓reduceIte, pfind_socks, hv, Option.map_some]
      · simp only [hfd2, ↓reduceIte]
    rw [e]
    exact h ho

end

end Cares.Chan
