import CaresLemmas.ChanWfConn
/-!
# C01 — the transient state inside `process_answer`: the answered query has left its connection's list but
still names the connection (`hole = some key`)
-/
namespace Cares.Chan

/-- the answered query leaves the list of connection `fd` -/
def Sk.hole (a : Sk) (fd key : Nat) : Sk := a.modC fd fun c => { c with queries := c.queries.erase key }

section
variable {a : Sk} {fd key : Nat}

theorem hole_cFQ : (a.hole fd key).cFQ = cfqErase a.cFQ (some fd) key := cFQ_modC_queries a fd (·.erase key)
theorem hole_cFUQ : (a.hole fd key).cFUQ = cfuqErase a.cFUQ (some fd) key := cFUQ_modC_queries a fd (·.erase key)
theorem hole_cF4 : (a.hole fd key).cF4 = a.cF4 := proj_modC _ _ _ _ (fun _ => rfl)

theorem wf_hole (h : WfS a none) : WfS (a.hole fd key) (some key) :=
  ⟨h.q, h.i, h.t, by rw [hole_cFQ]; exact h.c.eraseAt (some fd) key (Or.inl rfl), by rw [hole_cF4]; exact h.s, h.k,
    h.tok⟩

theorem step_hole {xf xi d} : StepS xf xi d a (a.hole fd key) := by
  refine StepS.of_same rfl rfl rfl rfl rfl rfl rfl ?_
  intro fd' q hm _
  rw [hole_cFUQ]
  by_cases hcf : some fd' = some fd
  · exact ⟨q.erase key, mem_mapAt.mpr (Or.inr ⟨hcf, (true, q), hm, rfl⟩), fun x hx => List.mem_of_mem_erase hx⟩
  · exact ⟨q, mem_mapAt.mpr (Or.inl ⟨hm, hcf⟩), fun _ hx => hx⟩

theorem debt_hole {x d} (hd : DebtOk x d a) : DebtOk x d (a.hole fd key) := hd.congr rfl rfl rfl rfl rfl

theorem hole_q? (k : Nat) : (a.hole fd key).q? k = a.q? k := rfl

end

end Cares.Chan
