import CaresLemmas.ClientExecLog3
import CaresLemmas.ChanSockProv
import CaresLemmas.IteLemmas
import CaresLemmas.ChanStages
/-!
# What every procedure does: the model's result, and an invariant of the client events

The invariants proved of the log of `execC` (the log replays, `ClientExecReplay`; the replies it hands to compound
requests are accepted responses, `ClientExecProv`) speak of the log and of six fields of the state (`St.cview`).
Most procedures touch neither: they change other fields and make recursive calls, whose logs they concatenate.
`Keeps P L x` says that the result `x` of a procedure extends an invariant `P` of the log `L`; `Sim P L x y` says
besides that `x` projects to the result `y` of the model's procedure.  Every instrumented body is walked through once,
next to its model twin: for every procedure other than `bodyCallbackC`, `bodyClientStartC`, `bodyRunActsC` this gives
`Sim`, for any `P`, from `Keeps` of the recursive calls (`GoKeeps`); with the trivial `P` it gives `execC_fst`.

`Keeps` is used transparently: a `Keeps P L x` is passed where `P (L ++ x.2) x.1.1.cview` is expected and the other way
round (so the invariant of `sqFlushC`, `reactOneC`, `closeAllC`, whose results have another shape, is stated unfolded and
still feeds `.seq`).  A leaf of a `Sim` proof is `⟨rfl, k⟩` with `k : Keeps …` where the model twin is the projection by
`rfl`; where it is not, `constructor` and the equation first (`sqWriteQC_sim`).
-/
namespace Cares.Chan

structure CView where
  oof : Bool
  cfg : Cfg
  clients : List Client
  next : Nat
  accepted : List (Nat × Nat × Reply)
  cache : List CacheEntry

def St.cview (s : St) : CView := ⟨s.outOfFuel, s.cfg, s.clients, s.nextClient, s.accepted, s.cache⟩

def Keeps (P : CLog → CView → Prop) (L : CLog) (x : (St × Ret) × CLog) : Prop := P (L ++ x.2) x.1.1.cview

def Sim (P : CLog → CView → Prop) (L : CLog) (x : (St × Ret) × CLog) (y : St × Ret) : Prop := x.1 = y ∧ Keeps P L x

def Call.isRunActs : Call → Bool
  | .runActs .. => true
  | _ => false

/-- the specification of the recursive calls: a call that carries a response carries one satisfying `R`.  `runActs` is
    left out: it is the one call that consumes a frame of the replay stack (`preσ`, ClientExecReplay), so an invariant
    that is fixed over the call does not describe it; only `bodyCallbackC` and `bodyClientStartC` make it. -/
abbrev GoKeeps (P : CLog → CView → Prop) (R : Reply → Prop) (goC : GoC) : Prop :=
  ∀ c s L, c.isRunActs = false → (∀ r, c.rec? = some r → R r) → P L s.cview → Keeps P L (goC c s)

section
variable {P : CLog → CView → Prop} {L : CLog}

/-- an invariant passes to a state with the same view (by default, one reached by the primitive updates) -/
theorem keepView {s s' : St} (h : P L s.cview) (e : s'.cview = s.cview := by simp only [St.cview, chan_frame]) :
    P L s'.cview :=
  e ▸ h

theorem Keeps.ret {s : St} {r : Ret} (h : P L s.cview) : Keeps P L ((s, r), []) := by
  unfold Keeps
  rwa [List.append_nil]

theorem Keeps.ite {c : Prop} [Decidable c] {a b : (St × Ret) × CLog} (ha : Keeps P L a) (hb : Keeps P L b) :
    Keeps P L (if c then a else b) :=
  ite_both (Keeps P L) ha hb

/-- a procedure that has logged `l1` and ends with `x` (a call, or the rest of the body) -/
theorem Keeps.seq {x : (St × Ret) × CLog} {l1 : CLog} (h : Keeps P (L ++ l1) x) : Keeps P L (x.1, l1 ++ x.2) := by
  unfold Keeps at *
  rwa [← List.append_assoc]

theorem Keeps.seq₂ {x : (St × Ret) × CLog} {l1 l2 : CLog} {r : Ret} (h : Keeps P (L ++ l1 ++ l2) x) :
    Keeps P L ((x.1.1, r), l1 ++ l2 ++ x.2) := by
  unfold Keeps at *
  rwa [← List.append_assoc, ← List.append_assoc]

theorem Sim.ret {s : St} {r : Ret} (h : P L s.cview) : Sim P L ((s, r), []) (s, r) :=
  ⟨rfl, Keeps.ret h⟩

theorem Sim.ite {c : Prop} [Decidable c] {a b : (St × Ret) × CLog} {a' b' : St × Ret} (ha : Sim P L a a')
    (hb : Sim P L b b') : Sim P L (if c then a else b) (if c then a' else b') :=
  ite_ite (Sim P L) (fun _ => ha) (fun _ => hb)

end

section
variable {P : CLog → CView → Prop} {R : Reply → Prop} {goC : GoC} (hgo : GoKeeps P R goC) (s : St) (L : CLog)
  (h : P L s.cview)
include hgo

theorem GoKeeps.call {c : Call} {s : St} {L : CLog} (hq : c.isRunActs = false) (hn : c.rec? = none)
    (h : P L s.cview) : Keeps P L (goC c s) :=
  hgo c s L hq (fun _ hr => nomatch hn ▸ hr) h

theorem GoKeeps.tail {c : Call} {s : St} {L : CLog} (hq : c.isRunActs = false) (hn : c.rec? = none)
    (h : P L s.cview) : Sim P L (goC c s) (goC.fst c s) :=
  ⟨rfl, hgo.call hq hn h⟩

include h

theorem sqFlushC_sim (fd : Nat) :
    (sqFlushC goC fd s).1 = sqFlush goC.fst fd s ∧ P (L ++ (sqFlushC goC fd s).2) (sqFlushC goC fd s).1.2.cview := by
  unfold sqFlushC sqFlush
  simp only []
  split
  · exact ⟨rfl, by simpa only [List.append_nil] using h⟩
  · split
    · exact ⟨rfl, by simpa only [List.append_nil, St.cview, chan_frame] using h⟩
    · exact ⟨rfl, hgo.call rfl rfl h⟩

theorem sqLinkC_sim (pd : Bool) (key : Nat) (srv : Server) (fd : Nat) :
    Sim P L (sqLinkC goC pd key srv fd s) (sqLink goC.fst pd key srv fd s) := by
  unfold sqLinkC sqLink
  cases s.query? key <;> cases s.conn? fd
  case some.some => exact .ite ⟨rfl, hgo.call rfl rfl (keepView h)⟩ (.ret (keepView h))
  all_goals exact .ret (keepView h)

theorem sqWriteQC_sim (reqSrv : Option Nat) (key : Nat) (q : Query) (srv : Server) (fd : Nat) :
    Sim P L (sqWriteQC goC reqSrv key q srv fd s) (sqWriteQ goC.fst reqSrv key q srv fd s) := by
  obtain ⟨ef, hf⟩ := sqFlushC_sim hgo (sqPrepare key q srv fd s).1 L (keepView h) fd
  obtain ⟨el, hl⟩ := sqLinkC_sim hgo _ _ hf (reqSrv.isNone && srv.failures == 0 && q.tryCount == 0) key srv fd
  constructor
  · unfold sqWriteQC sqWriteQ
    simp only [← ef, ← el]
    cases (sqFlushC goC fd (sqPrepare key q srv fd s).1).1.1 <;> try rfl
    all_goals cases (List.find? _ _).bind _ <;> rfl
  · unfold sqWriteQC
    simp only []
    split
    · exact .seq hl
    · exact .seq (hgo.call rfl rfl hf)
    case h_5 => exact .seq (hgo.call rfl rfl (keepView hf))  -- the last arm (`wst'`): any other status of the flush
    all_goals
      split
      · exact .seq (hgo.call rfl rfl hf)
      · exact .seq₂ (hgo.call rfl rfl (hgo.call rfl rfl hf))

theorem bodySendQueryC_sim (reqSrv : Option Nat) (key : Nat) :
    Sim P L (bodySendQueryC goC reqSrv key s) (bodySendQuery goC.fst reqSrv key s) := by
  rw [bodySendQuery_stages]
  unfold bodySendQueryC
  cases s.query? key with
  | none => exact .ret (keepView h)
  | some q =>
    simp only []
    have hp : P L (pickServer reqSrv s).2.cview := keepView h
    generalize pickServer reqSrv s = pk at hp ⊢
    obtain ⟨_ | srv, s1⟩ := pk
    · exact hgo.tail rfl rfl hp
    · simp only []
      cases fetchConn _ q srv with
      | some fd => exact sqWriteQC_sim hgo _ L (keepView hp) reqSrv key q srv fd
      | none =>
        simp only []
        generalize hoc : openConn _ q.usingTcp srv = oc
        have ho : P L oc.2.cview := hoc ▸ keepView hp
        obtain ⟨_ | fd, s2⟩ := oc
        · exact hgo.tail rfl rfl (keepView ho)
        · exact sqWriteQC_sim hgo s2 L ho reqSrv key q srv fd

theorem bodyProbeC_sim (srvId key : Nat) : Sim P L (bodyProbeC goC srvId key s) (bodyProbe goC.fst srvId key s) := by
  unfold bodyProbeC bodyProbe
  cases s.query? key with
  | none => exact .ret h
  | some q =>
    simp only []
    cases s.sortedServers.getLast? with
    | none => exact .ret h
    | some last =>
      have h2 : P L s.draw2.2.cview := keepView h
      generalize s.draw2 = d at h2 ⊢
      obtain ⟨r, s1⟩ := d
      simp only []
      refine .ite (.ret h) (.ite (.ret h2) ?_)
      cases s.sortedServers.find? _ with
      | none => exact .ret h2
      | some pv => exact .ite (.ret h2) ⟨rfl, hgo.call rfl rfl (keepView h2)⟩

theorem bodyFlushC_sim (fd : Nat) : Sim P L (bodyFlushC goC fd s) (bodyFlush goC.fst fd s) := by
  unfold bodyFlushC bodyFlush
  cases s.conn? fd with
  | none => exact .ret (keepView h)
  | some c =>
    simp only []
    cases c.out with
    | nil => exact .ret (keepView h)
    | cons f rest =>
      have hf : P L (s.fault "sendto").2.cview := keepView h
      generalize s.fault "sendto" = fa at hf ⊢
      obtain ⟨_ | errno, s1⟩ := fa
      · refine .ite (hgo.tail rfl rfl (keepView hf)) (.ite (.ret (keepView h)) ?_)
        simp only []
        generalize tcpAccept ((s1.sock? fd).getD default) (outBytes c) = ta
        obtain ⟨_ | n, v⟩ := ta
        · exact .ret (keepView hf)
        · refine .ret (keepView hf ?_)
          simp only [St.cview, chan_frame]
          split <;> split <;> simp only [chan_frame]
      · exact .ite (.ite (.ret (keepView hf)) (.ret (keepView hf)))
          (.ite (.ret (keepView h)) (.ite (.ret (keepView hf)) (.ret (keepView hf))))

theorem bodyRequeueC_sim (key : Nat) (st : Status) (inc : Bool) (rec : Option Reply) (d : Bool)
    (hr : ∀ r, rec = some r → R r) :
    Sim P L (bodyRequeueC goC key st inc rec d s) (bodyRequeue goC.fst key st inc rec d s) := by
  unfold bodyRequeueC bodyRequeue
  cases s.query? key with
  | none => exact .ret (keepView h)
  | some _ =>
    exact .ite (.ite (.ret (keepView h)) (hgo.tail rfl rfl (keepView h))) ⟨rfl, hgo _ _ _ rfl hr (keepView h)⟩

theorem bodyEndQueryC_sim (srv : Option Nat) (key : Nat) (st : Status) (rec : Option Reply)
    (hr : ∀ r, rec = some r → R r) :
    Sim P L (bodyEndQueryC goC srv key st rec s) (bodyEndQuery goC.fst srv key st rec s) := by
  unfold bodyEndQueryC bodyEndQuery
  cases s.query? key with
  | none => exact .ret (keepView h)
  | some q =>
    refine ⟨rfl, ?_⟩
    simp only [Keeps, St.cview, chan_frame]
    exact hgo _ _ L rfl hr (by cases srv <;> simpa only [St.cview, chan_frame] using h)

theorem bodyUserCbC_sim (tok : Nat) (re : List Nat) (st : Status) (t : Nat) (dg : String) :
    Sim P L (bodyUserCbC goC tok re st t dg s) (bodyUserCb goC.fst tok re st t dg s) := by
  have h1 : P L (s.userCallback tok st t dg).cview := keepView h
  exact .ite (.ret h1) (hgo.tail rfl rfl h1)

theorem reactOneC_keeps (i : Nat) : P (L ++ (reactOneC goC i s).2) (reactOneC goC i s).1.cview := by
  unfold reactOneC
  rcases s.reactions.find? _ with _ | ⟨_, r⟩
  · simpa only [List.append_nil] using h
  · simp only []
    split
    · exact hgo.call rfl rfl (keepView h)
    · split
      · simp only [St.cview, chan_frame]
        exact hgo.call rfl rfl (keepView h)
      · simpa only [List.append_nil] using h

theorem bodyReactionsC_sim (l : List Nat) : Sim P L (bodyReactionsC goC l s) (bodyReactions goC.fst l s) := by
  unfold bodyReactionsC bodyReactions
  cases l with
  | nil => exact .ret h
  | cons i rest =>
    refine .ite (.ret h) ⟨?_, .seq (hgo.call rfl rfl (reactOneC_keeps hgo s L h i))⟩
    unfold reactOneC
    rcases s.reactions.find? _ with _ | ⟨_, r⟩ <;> simp only [apply_ite Prod.fst]

theorem bodyConnErrorC_sim (fd : Nat) (cr : Bool) (st : Status) :
    Sim P L (bodyConnErrorC goC fd cr st s) (bodyConnError goC.fst fd cr st s) := by
  unfold bodyConnErrorC bodyConnError
  cases s.conn? fd with
  | none => exact .ret (keepView h)
  | some c => exact hgo.tail rfl rfl (by split <;> simpa only [St.cview, chan_frame] using h)

theorem bodyCloseConnC_sim (fd : Nat) (st : Status) :
    Sim P L (bodyCloseConnC goC fd st s) (bodyCloseConn goC.fst fd st s) := by
  unfold bodyCloseConnC bodyCloseConn
  cases s.conn? fd with
  | none => exact .ret (keepView h)
  | some c => exact hgo.tail rfl rfl (keepView h)

theorem bodyCloseLoopC_sim (fd : Nat) (st : Status) :
    Sim P L (bodyCloseLoopC goC fd st s) (bodyCloseLoop goC.fst fd st s) := by
  unfold bodyCloseLoopC bodyCloseLoop
  cases s.conn? fd with
  | none => exact .ret (keepView h)
  | some c =>
    simp only []
    cases c.queries with
    | nil => exact .ret (keepView h)
    | cons k _ =>
      exact ⟨rfl, .seq (hgo.call rfl rfl (by
        simpa only [Keeps, St.cview, chan_frame] using hgo.call (c := .requeue k st true none false) rfl rfl h))⟩

theorem bodyProcessWriteC_sim (fd : Nat) :
    Sim P L (bodyProcessWriteC goC fd s) (bodyProcessWrite goC.fst fd s) := by
  unfold bodyProcessWriteC bodyProcessWrite
  cases s.conn? fd with
  | none => exact .ret h
  | some c =>
    have hp := hgo.call (c := .flush fd) rfl rfl
      (keepView h : P L (s.modConn fd fun c => { c with connected := true }).cview)
    exact .ite (.ret h) (.ite ⟨rfl, .seq (hgo.call rfl rfl hp)⟩ ⟨rfl, hp⟩)

theorem bodyProcessReadC_sim (fd : Nat) :
    Sim P L (bodyProcessReadC goC fd s) (bodyProcessRead goC.fst fd s) := by
  unfold bodyProcessReadC bodyProcessRead
  cases s.conn? fd with
  | none => cases s.sock? fd <;> exact .ret h
  | some c =>
    cases s.sock? fd with
    | none => exact .ret h
    | some v =>
      have hf : P L (s.fault "recvfrom").2.cview := keepView h
      generalize s.fault "recvfrom" = fa at hf ⊢
      obtain ⟨_ | errno, s1⟩ := fa
      · refine .ite (.ret h) (.ite ?_ (.ite (.ite ?_ ?_) ?_))
        · simp only []
          cases v.rx with
          | nil => exact hgo.tail rfl rfl (keepView hf)
          | cons r rest => exact .ite (hgo.tail rfl rfl (keepView hf)) (hgo.tail rfl rfl (keepView hf))
        · exact ⟨rfl, hgo.call rfl rfl (keepView hf)⟩
        · exact hgo.tail rfl rfl (keepView hf)
        · simp only []
          exact .ite (hgo.tail rfl rfl (keepView hf)) (hgo.tail rfl rfl (keepView hf))
      · exact .ite (.ret h) (.ite
          (.ite (hgo.tail rfl rfl (keepView hf)) ⟨rfl, hgo.call rfl rfl (keepView hf)⟩)
          (.ite (hgo.tail rfl rfl (keepView hf)) ⟨rfl, hgo.call rfl rfl (keepView hf)⟩))

theorem bodyReadAnswersC_sim (fd : Nat) :
    Sim P L (bodyReadAnswersC goC fd s) (bodyReadAnswers goC.fst fd s) := by
  unfold bodyReadAnswersC bodyReadAnswers
  cases s.conn? fd with
  | none => cases s.sock? fd <;> exact .ret (keepView h)
  | some c =>
    cases s.sock? fd with
    | none => exact .ret (keepView h)
    | some v =>
      simp only []
      cases (if (!c.tcp) = true then (c.inMsgs.head?).map (·.2) else nextTcpFrame v.stream v.spos c.inBytes) with
      | none => exact hgo.tail rfl rfl h
      | some r =>
        have hp := hgo.call (c := .processAnswer fd r) rfl rfl
          (keepView h : P L (s.modConn fd fun c => { c with inMsgs := c.inMsgs.drop 1, inBytes := c.inBytes - (2 + r.len) }).cview)
        simp only []
        cases St.conn? _ fd with
        | none => exact ⟨rfl, .seq (hgo.call rfl rfl hp)⟩
        | some c' =>
          refine .ite ⟨rfl, .seq (hgo.call rfl rfl hp)⟩ (.ite ⟨rfl, ?_⟩ ⟨rfl, .seq (hgo.call rfl rfl hp)⟩)
          exact .seq₂ (hgo.call rfl rfl (hgo.call rfl rfl hp))

theorem bodyFlushRequeueC_sim : Sim P L (bodyFlushRequeueC goC s) (bodyFlushRequeue goC.fst s) := by
  unfold bodyFlushRequeueC bodyFlushRequeue
  rcases s.requeueArr with _ | ⟨⟨qid, srv⟩, rest⟩
  · exact .ret h
  · simp only []
    rcases List.find? _ _ with _ | ⟨_, key⟩
    · exact hgo.tail rfl rfl (keepView h)
    · exact ⟨rfl, .seq (hgo.call rfl rfl (hgo.call rfl rfl (keepView h)))⟩

theorem bodyProcessTimeoutsC_sim : Sim P L (bodyProcessTimeoutsC goC s) (bodyProcessTimeouts goC.fst s) := by
  unfold bodyProcessTimeoutsC bodyProcessTimeouts
  cases s.byTimeout.head? with
  | none => exact .ret h
  | some key =>
    simp only []
    cases s.query? key with
    | none => exact .ret (keepView h)
    | some q =>
      refine .ite (.ret h) ?_
      cases q.conn.bind s.conn? with
      | none => exact .ret (keepView h)
      | some c => exact ⟨rfl, .seq (hgo.call rfl rfl (hgo.call rfl rfl (keepView h)))⟩

theorem bodyCleanupConnsC_sim (todo : List Nat) :
    Sim P L (bodyCleanupConnsC goC todo s) (bodyCleanupConns goC.fst todo s) := by
  unfold bodyCleanupConnsC bodyCleanupConns
  cases todo with
  | nil => exact .ret h
  | cons fd rest =>
    simp only []
    cases s.conn? fd with
    | none => exact hgo.tail rfl rfl h
    | some c =>
      refine ⟨by simp only [apply_ite Prod.fst], .seq (hgo.call rfl rfl ?_)⟩
      split
      · exact hgo.call rfl rfl h
      · simpa only [List.append_nil] using h

theorem bodyCancelC_sim : Sim P L (bodyCancelC goC s) (bodyCancel goC.fst s) := by
  unfold bodyCancelC bodyCancel
  refine ⟨by simp only [apply_ite Prod.fst], .seq (hgo.call rfl rfl ?_)⟩
  split
  · simpa only [List.append_nil] using h
  · exact keepView (hgo.call (c := .cancelLoop .cancelled false) rfl rfl (keepView h))

theorem bodyCancelLoopC_sim (st : Status) (fa : Bool) :
    Sim P L (bodyCancelLoopC goC st fa s) (bodyCancelLoop goC.fst st fa s) := by
  unfold bodyCancelLoopC bodyCancelLoop
  cases (if fa = true then s.all.head? else (s.listCopy.head?).bind (·.head?)) with
  | none => exact .ret h
  | some key =>
    simp only []
    cases s.query? key with
    | none => exact .ret (keepView h)
    | some q => exact ⟨rfl, .seq (hgo.call rfl rfl (hgo.call rfl rfl (keepView h)))⟩

omit hgo h in
theorem closeAllC_fst (goC : GoC) (fds : List Nat) (s : St) :
    (closeAllC goC fds s).1 = fds.foldl (fun s fd => (goC.fst (.closeConn fd .ok) s).1) s := by
  induction fds generalizing s with
  | nil => rfl
  | cons fd rest ih => simp only [closeAllC, List.foldl_cons, ih]

theorem closeAllC_keeps (fds : List Nat) : P (L ++ (closeAllC goC fds s).2) (closeAllC goC fds s).1.cview := by
  induction fds generalizing s L with
  | nil => simpa only [closeAllC, List.append_nil] using h
  | cons fd rest ih =>
    simp only [closeAllC, ← List.append_assoc]
    exact ih _ _ (hgo.call rfl rfl h)

theorem bodyDestroyC_sim : Sim P L (bodyDestroyC goC s) (bodyDestroy goC.fst s) := by
  unfold bodyDestroyC bodyDestroy
  refine ⟨by simp only [closeAllC_fst], ?_⟩
  exact .seq (x := ((_, _), _))
    (keepView (closeAllC_keeps hgo _ _ (hgo.call (c := .cancelLoop .destruction true) rfl rfl (keepView h)) _))

omit hgo h in
theorem paDeliverC_fst (goC : GoC) (fd : Nat) (r : Reply) (c : Conn) (key : Nat) (q : Query) (s : St) :
    (paDeliverC goC fd r c key q s).1 = paDeliver goC.fst fd r c key q s := by
  unfold paDeliverC paDeliver
  simp only [apply_ite Prod.fst]

/-- `bodyProcessAnswerC`, given what its tail `paDeliverC` does (which records the response as accepted, so that not
    every invariant passes through it unchanged) -/
theorem bodyProcessAnswerC_sim (fd : Nat) (r : Reply)
    (hpa : ∀ c key q s' L', P L' s'.cview → Keeps P L' (paDeliverC goC fd r c key q s')) :
    Sim P L (bodyProcessAnswerC goC fd r s) (bodyProcessAnswer goC.fst fd r s) := by
  rw [bodyProcessAnswer_stages]
  unfold bodyProcessAnswerC
  cases s.conn? fd with
  | none => exact .ret (keepView h)
  | some c =>
    refine .ite (.ret h) (.ite (.ret h) ?_)
    rcases s.byQid.find? _ with _ | ⟨_, key⟩
    · exact .ret h
    · simp only []
      cases s.query? key with
      | none => exact .ret (keepView h)
      | some q =>
        refine .ite (.ret h) (.ite (.ret h) ?_)
        have hp : P L (paPre s c key q r).cview := keepView h (by simp only [St.cview, paPre, chan_frame])
        simp only [← paDeliverC_fst]
        cases (cookieCheck s c q r).requeue with
        | false => exact .ite (.ret hp) ⟨rfl, hpa _ _ _ _ _ hp⟩
        | true => exact .ite ⟨rfl, hgo.call rfl rfl hp⟩ ⟨rfl, .seq (hpa _ _ _ _ _ (hgo.call rfl rfl hp))⟩

/-- `bodySendNolockC`, given what expiring the cache does to the invariant and what the completion with a cached
    answer does (the only response a procedure hands on that it was not given) -/
theorem bodySendNolockC_sim (a : Option Nat) (b c : Bool) (sp : ReqSpec) (o : Owner) (re : List Nat)
    (hexp : ∀ s' : St, P L s'.cview → P L s'.cacheExpire.cview)
    (hhit : ∀ (s' : St) e, P L s'.cview → s'.cacheExpire.cacheFetch sp.name sp.qtype sp.qclass sp.rd = some e →
      Keeps P L (goC (.callback o re .ok 0
        (some { e.reply with ttls := e.reply.ttls.map (· - (s'.cacheExpire.nowSec - e.insert)) })) s'.cacheExpire)) :
    Sim P L (bodySendNolockC goC a b c sp o re s) (bodySendNolock goC.fst a b c sp o re s) := by
  have h1 : P L (genQid 70000 s).2.cview := keepView h
  -- the random bytes drawn for 0x20 leave the view alone
  have draws : ∀ (s2 : St) (d : Bool) (n : Nat),
      (if d = true then (if n == 1 then s2.draw1.2 else if n == 2 then s2.draw2.2 else s2) else s2).cview = s2.cview := by
    intro s2 d n
    cases d <;> simp only [Bool.false_eq_true, ↓reduceIte]
    split
    · simp only [St.cview, chan_frame]
    · split <;> simp only [St.cview, chan_frame]
  unfold bodySendNolockC bodySendNolock
  generalize genQid 70000 s = g at h1 ⊢
  obtain ⟨qid, s1⟩ := g
  cases b with
  | true =>
    exact .ite ⟨rfl, hgo.call rfl rfl h1⟩
      (.ite ⟨rfl, hgo.call rfl rfl h1⟩ (hgo.tail rfl rfl (keepView h1 (draws _ _ _))))
  | false =>
    simp only [Bool.false_eq_true, ↓reduceIte]
    refine .ite ⟨rfl, hgo.call rfl rfl h1⟩ ?_
    cases hf : s1.cacheExpire.cacheFetch sp.name sp.qtype sp.qclass sp.rd with
    | some e => exact ⟨rfl, hhit s1 e h1 hf⟩
    | none =>
      exact .ite ⟨rfl, hgo.call rfl rfl (hexp _ h1)⟩ (hgo.tail rfl rfl (keepView (hexp _ h1) (draws _ _ _)))

/-- the procedures above: all but `sendNolock` and `processAnswer` (which need to be told about the cache and the
    accepted responses) and the three procedures of the compound requests (which record client events themselves) -/
def Call.plain : Call → Bool
  | .sendNolock .. | .processAnswer .. | .callback .. | .clientStart .. | .runActs .. => false
  | _ => true

omit h in
theorem execCBody_sim : (c : Call) → c.plain = true → (∀ r, c.rec? = some r → R r) → (s : St) → (L : CLog) →
    P L s.cview → Sim P L (execCBody goC c s) (execBody goC.fst c s)
  | .sendQuery reqSrv key, _, _, s, L, h => bodySendQueryC_sim hgo s L h reqSrv key
  | .probe srvId key, _, _, s, L, h => bodyProbeC_sim hgo s L h srvId key
  | .flush fd, _, _, s, L, h => bodyFlushC_sim hgo s L h fd
  | .requeue key st inc rec d, _, hr, s, L, h => bodyRequeueC_sim hgo s L h key st inc rec d hr
  | .endQuery srv key st rec, _, hr, s, L, h => bodyEndQueryC_sim hgo s L h srv key st rec hr
  | .userCb tok re st t dg, _, _, s, L, h => bodyUserCbC_sim hgo s L h tok re st t dg
  | .reactions l, _, _, s, L, h => bodyReactionsC_sim hgo s L h l
  | .connError fd cr st, _, _, s, L, h => bodyConnErrorC_sim hgo s L h fd cr st
  | .closeConn fd st, _, _, s, L, h => bodyCloseConnC_sim hgo s L h fd st
  | .closeLoop fd st, _, _, s, L, h => bodyCloseLoopC_sim hgo s L h fd st
  | .processWrite fd, _, _, s, L, h => bodyProcessWriteC_sim hgo s L h fd
  | .processRead fd, _, _, s, L, h => bodyProcessReadC_sim hgo s L h fd
  | .readAnswers fd, _, _, s, L, h => bodyReadAnswersC_sim hgo s L h fd
  | .flushRequeue, _, _, s, L, h => bodyFlushRequeueC_sim hgo s L h
  | .processTimeouts, _, _, s, L, h => bodyProcessTimeoutsC_sim hgo s L h
  | .cleanupConns todo, _, _, s, L, h => bodyCleanupConnsC_sim hgo s L h todo
  | .cancel, _, _, s, L, h => bodyCancelC_sim hgo s L h
  | .cancelLoop st fa, _, _, s, L, h => bodyCancelLoopC_sim hgo s L h st fa
  | .destroy, _, _, s, L, h => bodyDestroyC_sim hgo s L h
  | .sendNolock .., hq, _, _, _, _ => nomatch hq
  | .processAnswer .., hq, _, _, _, _ => nomatch hq
  | .callback .., hq, _, _, _, _ => nomatch hq
  | .clientStart .., hq, _, _, _, _ => nomatch hq
  | .runActs .., hq, _, _, _, _ => nomatch hq

end

theorem execCBody_fst (goC : GoC) (c : Call) (s : St) : (execCBody goC c s).1 = execBody goC.fst c s := by
  have hk : GoKeeps (fun _ _ => True) (fun _ => True) goC := fun _ _ _ _ _ _ => trivial
  cases c with
  | sendNolock a b c sp o re =>
    exact (bodySendNolockC_sim hk s [] trivial a b c sp o re (fun _ _ => trivial) fun _ _ _ _ => trivial).1
  | processAnswer fd r => exact (bodyProcessAnswerC_sim hk s [] trivial fd r fun _ _ _ _ _ _ => trivial).1
  | callback o re st t rec =>
    show (bodyCallbackC goC o re st t rec s).1 = bodyCallback goC.fst o re st t rec s
    unfold bodyCallbackC bodyCallback
    cases o with
    | client id =>
      simp only []
      cases s.client? id <;> rfl
    | _ => rfl
  | clientStart k tok re sp f => rfl
  | runActs id acts =>
    show (bodyRunActsC goC id acts s).1 = bodyRunActs goC.fst id acts s
    unfold bodyRunActsC bodyRunActs
    rcases acts with _ | ⟨_ | _ | _ | _, rest⟩
    case cons.finish => cases s.client? id <;> rfl
    all_goals rfl
  | _ => exact (execCBody_sim hk _ (by rfl) (fun _ _ => trivial) s [] trivial).1

theorem execC_fst : ∀ (fuel : Nat) (call : Call) (s : St), (execC fuel call s).1 = exec fuel call s
  | 0, _, _ => rfl
  | fuel + 1, call, s => by
    have e : GoC.fst (execC fuel) = exec fuel := funext fun c => funext fun s => execC_fst fuel c s
    show (execCBody (execC fuel) call s).1 = execBody (exec fuel) call s
    rw [execCBody_fst, e]

end Cares.Chan
