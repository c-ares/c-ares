import CaresLemmas.ChanSockAnswer
/-!
# Provenance of the data handed to callbacks and to the cache (C05)

* no procedure other than `process_answer` writes `accepted`;
* the only response a procedure hands on (to `ares_requeue_query` / `end_query` / a callback) is the one it was given,
  `process_answer` hands on only the response it has just recorded as accepted, and `ares_send_nolock` hands on
  only (TTL-adjusted) cache entries;
* every cache entry's record is an accepted response.
-/
namespace Cares.Chan

theorem Prim.accepted_eq {c : Call} {s s' : St} (p : Prim c s s') (hc : ∀ fd r, c ≠ .processAnswer fd r) :
    s'.accepted = s.accepted := by
  cases p
  case accept => exact absurd rfl (hc _ _)
  case sqCommit => rw [sqCommit_shape]
  case openConn => rw [sqOpen_shape]
  case closeFinal => rw [closeFinal_shape]
  all_goals simp only [chan_frame]

/-- **No procedure other than `process_answer` writes `accepted`** (given that its recursive calls do not) -/
theorem execBody_accepted_frame (go : Call → St → St × Ret) (hgo : ∀ c s, (go c s).1.accepted = s.accepted) (c : Call)
    (s : St) (hc : ∀ fd r, c ≠ .processAnswer fd r) : (execBody go c s).1.accepted = s.accepted :=
  (execBody_reach c s).invariant (I := fun t => t.accepted = s.accepted) (fun p h => (p.accepted_eq hc).trans h)
    (fun c' t _ h => (hgo c' t).trans h) rfl

/-- the response a call carries (every constructor has its line: with a catch-all the equations `simp only [Call.rec?]`
    rewrites with would carry side conditions) -/
def Call.rec? : Call → Option Reply
  | .requeue _ _ _ rec _ => rec
  | .endQuery _ _ _ rec => rec
  | .callback _ _ _ _ rec => rec
  | .sendNolock .. => none | .sendQuery .. => none | .reactions .. => none | .closeConn .. => none
  | .closeLoop .. => none | .connError .. => none | .flush .. => none | .processWrite .. => none
  | .processRead .. => none | .readAnswers .. => none | .processAnswer .. => none | .flushRequeue => none
  | .processTimeouts => none | .cleanupConns .. => none | .cancel => none | .cancelLoop .. => none
  | .destroy => none | .probe .. => none | .clientStart .. => none | .runActs .. => none | .userCb .. => none

section
variable (go go' : Call → St → St × Ret)

/-- **`process_answer` hands on only the response it has just accepted**: once `(fd, key, r)` is accepted, the rest of
    `process_answer` does not depend on how recursive calls behave that carry any other response, or that carry `r`
    in a state where `(fd, key, r)` is not in `accepted` -/
theorem paDeliver_calls (fd : Nat) (r : Reply) (c : Conn) (key : Nat) (q : Query) (s : St)
    (h : ∀ cl s', (cl.rec? = none ∨ (cl.rec? = some r ∧ (fd, key, r) ∈ s'.accepted)) → go cl s' = go' cl s') :
    paDeliver go fd r c key q s = paDeliver go' fd r c key q s := by
  unfold paDeliver
  simp only []
  split
  · rfl
  · split
    · rfl
    · split
      · rw [h _ _ (.inr ⟨rfl, by simp only [chan_frame]; simp⟩)]
      · rw [h _ _ (.inr ⟨rfl, by simp only [chan_frame]; simp⟩)]

theorem bodyProcessAnswer_calls (fd : Nat) (r : Reply) (s : St)
    (h : ∀ cl s', (cl.rec? = none ∨
        (cl.rec? = some r ∧ ∃ key, acceptKey s fd r = some key ∧ (fd, key, r) ∈ s'.accepted)) →
      go cl s' = go' cl s') :
    bodyProcessAnswer go fd r s = bodyProcessAnswer go' fd r s := by
  cases hk : acceptKey s fd r with
  | some key =>
    obtain ⟨c, q, _, _, _, heq⟩ := bodyProcessAnswer_accept hk
    rw [heq, heq]
    apply paDeliver_calls
    intro cl s' hcl
    apply h
    rcases hcl with h1 | ⟨h1, h2⟩
    · exact .inl h1
    · exact .inr ⟨h1, key, hk, h2⟩
  | none =>
    -- not accepted: the only call is the BADCOOKIE re-send, which carries no response
    rcases bodyProcessAnswer_reject hk with ⟨_, h'⟩ | ⟨e, h'⟩ | ⟨c, key, q, _, _, _, h'⟩ <;> rw [h', h']
    rw [h _ _ (.inl rfl)]

/-- **Every other procedure hands on only the response it was given** (`ares_send_nolock`, which hands on cache
    entries, is treated separately) -/
theorem execBody_calls (c : Call) (s : St)
    (hc : ∀ fd r, c ≠ .processAnswer fd r) (hs : ∀ a b d e f g, c ≠ .sendNolock a b d e f g)
    (h : ∀ cl s', (cl.rec? = none ∨ cl.rec? = c.rec?) → go cl s' = go' cl s') :
    execBody go c s = execBody go' c s := by
  cases c <;> simp only [execBody]
  case processAnswer fd r => exact absurd rfl (hc fd r)
  case sendNolock a b d e f g => exact absurd rfl (hs a b d e f g)
  case sendQuery r k =>
    rw [bodySendQuery_stages, bodySendQuery_stages]
    unfold sqWriteQ sqFlush sqLink
    simp only [h, Call.rec?, true_or, or_true, eq_self]
  all_goals
    first
      | unfold bodyProbe | unfold bodyFlush
      | unfold bodyRequeue | unfold bodyEndQuery | unfold bodyCallback | unfold bodyUserCb | unfold bodyReactions
      | unfold bodyConnError | unfold bodyCloseConn | unfold bodyCloseLoop | unfold bodyProcessWrite
      | unfold bodyProcessRead | unfold bodyReadAnswers | unfold bodyFlushRequeue | unfold bodyProcessTimeouts
      | unfold bodyCleanupConns | unfold bodyClientStart | unfold bodyRunActs | unfold bodyCancel
      | unfold bodyCancelLoop | unfold bodyDestroy
    simp only [Call.rec?] at h
    first
      | rfl
      | (simp only [h, Call.rec?, true_or, or_true, eq_self])

/-- what `ares_qcache_fetch` returns is (a copy of) an entry of the cache, possibly already marked as superseded -/
theorem cacheFetch_mem {s : St} {name : String} {qtype qclass : Nat} {rd : Bool} {e : CacheEntry}
    (h : s.cacheExpire.cacheFetch name qtype qclass rd = some e) :
    ∃ e0 ∈ s.cache, e0.reply = e.reply ∧ e0.insert = e.insert := by
  have h1 := List.mem_of_find?_eq_some h
  simp only [St.cacheExpire, List.mem_map, List.mem_filter] at h1
  obtain ⟨e0, ⟨hm, _⟩, he⟩ := h1
  refine ⟨e0, hm, ?_⟩
  split at he <;> (subst he; exact ⟨rfl, rfl⟩)

/-- `ares_send_nolock` hands on only a cache entry's record with its TTLs reduced by the time spent in the cache -/
theorem bodySendNolock_calls (a : Option Nat) (b d : Bool) (spec : ReqSpec) (ow : Owner) (re : List Nat) (s : St)
    (h : ∀ cl s', (cl.rec? = none ∨
        ∃ e ∈ s.cache, ∃ dec, cl.rec? = some { e.reply with ttls := e.reply.ttls.map (· - dec) }) →
      go cl s' = go' cl s') :
    bodySendNolock go a b d spec ow re s = bodySendNolock go' a b d spec ow re s := by
  have h0 : ∀ cl s', (cl.rec? = none ∨ False) → go cl s' = go' cl s' :=
    fun cl s' hn => h cl s' (.inl (hn.resolve_right id))
  rw [bodySendNolock_stages, bodySendNolock_stages]
  simp only [h0, Call.rec?, true_or, eq_self]
  split
  · rfl
  · split
    · rename_i e he
      have hmem : ∃ e0 ∈ s.cache, e0.reply = e.reply ∧ e0.insert = e.insert := by
        split at he
        · cases he
        · rename_i hnc
          obtain ⟨e0, hm, hr⟩ := cacheFetch_mem he
          rw [genQid_cache] at hm
          exact ⟨e0, hm, hr⟩
      obtain ⟨e0, hm, hr, _⟩ := hmem
      rw [h _ _ (.inr ⟨e0, hm, _, by rw [hr]; rfl⟩)]
    · rfl

end

/-- every cache entry's record is an accepted response -/
def CacheProvF (cache : List CacheEntry) (acc : List (Nat × Nat × Reply)) : Prop :=
  ∀ e ∈ cache, ∃ fd key, (fd, key, e.reply) ∈ acc

abbrev CacheProv (s : St) : Prop := CacheProvF s.cache s.accepted

theorem CacheProvF_expire (s : St) (acc : List (Nat × Nat × Reply)) (h : CacheProvF s.cache acc) :
    CacheProvF s.cacheExpire.cache acc := by
  intro e he
  simp only [St.cacheExpire, List.mem_map, List.mem_filter] at he
  obtain ⟨e0, ⟨hm, _⟩, he⟩ := he
  obtain ⟨fd, key, hk⟩ := h e0 hm
  refine ⟨fd, key, ?_⟩
  split at he <;> (subst he; exact hk)

theorem cacheInsert_cache (s : St) (q : Query) (r : Reply) :
    (s.cacheInsert q r).cache = s.cache ∨
      ∃ ttl, (s.cacheInsert q r).cache =
        (s.cache.map fun e => if sameKey e (cacheKeyName q.name) q.qtype q.qclass q.rd then { e with inTable := false } else e) ++
          [{ name := cacheKeyName q.name, qtype := q.qtype, qclass := q.qclass, rd := q.rd, expire := s.nowSec + ttl,
             insert := s.nowSec, reply := r }] := by
  unfold St.cacheInsert
  ite_split
  · exact .inl rfl
  · ite_split
    · exact .inl rfl
    · ite_split
      · exact .inl rfl
      · extract_lets ttl0 ttl
        ite_split
        · exact .inl rfl
        · exact .inr ⟨ttl, rfl⟩

theorem mem_cacheInsert {s : St} {q : Query} {r : Reply} {e : CacheEntry} (h : e ∈ (s.cacheInsert q r).cache) :
    e.reply = r ∨ ∃ e0 ∈ s.cache, e0.reply = e.reply := by
  rcases cacheInsert_cache s q r with h1 | ⟨ttl, h1⟩
  · rw [h1] at h; exact .inr ⟨e, h, rfl⟩
  · rw [h1] at h
    simp only [List.mem_append, List.mem_map, List.mem_singleton] at h
    rcases h with ⟨e0, hm, he⟩ | he
    · refine .inr ⟨e0, hm, ?_⟩
      split at he <;> (subst he; rfl)
    · subst he; exact .inl rfl

theorem CacheProvF_insert (s : St) (q : Query) (r : Reply) (acc : List (Nat × Nat × Reply))
    (h : CacheProvF s.cache acc) (hr : ∃ fd key, (fd, key, r) ∈ acc) : CacheProvF (s.cacheInsert q r).cache acc := by
  intro e he
  rcases mem_cacheInsert he with h1 | ⟨e0, hm, h1⟩
  · rw [h1]; exact hr
  · rw [← h1]; exact h e0 hm

theorem CacheProvF_append {cache : List CacheEntry} {acc : List (Nat × Nat × Reply)} (h : CacheProvF cache acc)
    (l : List (Nat × Nat × Reply)) : CacheProvF cache (acc ++ l) := by
  intro e he
  obtain ⟨fd, key, hk⟩ := h e he
  exact ⟨fd, key, List.mem_append_left _ hk⟩

/-- Only three primitive updates touch the cache or the acceptance log: an expiry keeps the records it leaves, an
    insertion stores a reply accepted just before (the premise of `Prim.cacheInsert`), and the log only grows. -/
theorem CacheProv.prim {c : Call} {s s' : St} (p : Prim c s s') (h : CacheProv s) : CacheProv s' := by
  cases p
  case cacheInsert q r hr => simpa only [CacheProv, chan_frame] using CacheProvF_insert s q r _ h hr
  case cacheExpire => simpa only [CacheProv, chan_frame] using CacheProvF_expire s _ h
  case accept => exact CacheProvF_append h [_]
  case closeFinal => rw [CacheProv, closeFinal_shape]; exact h
  case sqCommit => rw [CacheProv, sqCommit_shape]; exact h
  case openConn => rw [CacheProv, sqOpen_shape]; exact h
  all_goals simpa only [CacheProv, chan_frame] using h

/-- **Cache provenance (whole runs)**: if every cache entry's record is an accepted response, this remains so -/
theorem exec_CacheProv (fuel : Nat) (c : Call) (s : St) (h : CacheProv s) : CacheProv (exec fuel c s).1 :=
  exec_invariant CacheProv.prim (fun _ h => h) fuel c s h

end Cares.Chan
