import CaresLemmas.WriteRR
/-!
# Message level: `ares_dns_parse` after `ares_dns_write`
-/
namespace Cares.Dns.Write
open Cares.Dns Cares.Dns.NameW Cares.Dns.Build

/-- what `parseRRs` ORs together for a section -/
def hiOfRRs (rcode : Nat) : List RR → Nat
  | [] => 0
  | rr :: rest => hiOfRR rcode rr ||| hiOfRRs rcode rest

theorem parseRRs_writeRRs (rcode : Nat) (hrc : rcodeValid rcode = true) (sect : Sect) (msg : BStr)
    (hsize : msg.length ≤ 65535) (rrs : List RR) :
    ∀ (out : BStr) (names : List NameOff) (p : Piece),
      (∀ rr ∈ rrs, rrOk rr = true) → writeRRs rcode 0 out.length names rrs = .ok p → NInv names out →
      out ++ p.bytes <+: msg →
      parseRRs msg.toArray 0 sect rrs.length out.length =
          .ok (rrs.map canonRR, hiOfRRs rcode rrs) (out.length + p.bytes.length) ∧
        NInv p.names (out ++ p.bytes) ∧ p.trunc = false := by
  induction rrs with
  | nil =>
    intro out names p _ hw hinv _
    simp only [writeRRs] at hw
    cases hw
    simp [parseRRs, hiOfRRs, hinv]
  | cons rr rest ih =>
    intro out names p hok hw hinv hpre
    simp only [writeRRs] at hw
    cases h1 : writeRR rcode 0 out.length names rr with
    | error e => simp [h1] at hw
    | ok p1 =>
      simp only [h1] at hw
      cases h2 : writeRRs rcode 0 (out.length + p1.bytes.length) p1.names rest with
      | error e => simp [h2] at hw
      | ok q =>
        simp only [h2] at hw
        cases hw
        dsimp only at hpre ⊢
        obtain ⟨f1, f2, f3⟩ := parseRR_writeRR rcode hrc sect rr (hok rr List.mem_cons_self) out msg names p1 h1
          hinv (List.IsPrefix.trans (by simp) hpre) hsize
        have hlen : (out ++ p1.bytes).length = out.length + p1.bytes.length := List.length_append
        obtain ⟨g1, g2, g3⟩ := ih (out ++ p1.bytes) p1.names q
          (fun x hx => hok x (List.mem_cons_of_mem _ hx)) (by rw [hlen]; exact h2) f2
          (by rw [List.append_assoc]; exact hpre)
        refine ⟨?_, by rw [← List.append_assoc]; exact g2, by simp [f3, g3]⟩
        simp only [List.length_cons, parseRRs]
        rw [P.bind_ok f1]
        simp only
        rw [← hlen, P.bind_ok g1]
        simp [hiOfRRs, List.length_append, Nat.add_assoc]

/-- The header bit fields survive the round trip.  The flag word is written as a sum of disjoint fields; read as a
    mixed-radix number its digits are those fields (`peel`), so each bit the parser tests is the flag the writer
    tested, and OR-ing the selected flag bits is masking `r.flags` with `0x7f`. -/
theorem flagWord_fields (r : Rec) (hfl : r.flags < 128) (hop : r.opcode < 16)
    (hext : r.rcode ≤ 15 ∨ hasOpt r = true) :
    headerFlags (flagWord r) = r.flags ∧ (flagWord r >>> 11) &&& 0xf = r.opcode ∧
      flagWord r &&& 0xf = r.rcode % 16 ∧ flagWord r < 65536 := by
  have hrc : (if (decide (r.rcode > 15) && !hasOpt r) = true then 2 else r.rcode % 16) = r.rcode % 16 := by
    rcases hext with h | h
    · rw [if_neg (by simp; omega)]
    · simp [h]
  have hw : flagWord r / 1 = r.rcode % 16 + 16 * ((r.hasFlag Flag.cd).toNat + 2 * ((r.hasFlag Flag.ad).toNat + 2 *
      (0 + 2 * ((r.hasFlag Flag.ra).toNat + 2 * ((r.hasFlag Flag.rd).toNat + 2 * ((r.hasFlag Flag.tc).toNat + 2 *
      ((r.hasFlag Flag.aa).toNat + 2 * (r.opcode + 16 * ((r.hasFlag Flag.qr).toNat + 2 * 0))))))))) := by
    simp only [flagWord, hrc, Nat.mod_eq_of_lt hop, ite_toNat, Nat.div_one]
    simp +arith only
  obtain ⟨frc, q4⟩ := peel hw (Nat.mod_lt _ (by decide))
  rw [Nat.div_one] at frc
  obtain ⟨f4, q5⟩ := peel q4 (Bool.toNat_lt _)
  obtain ⟨f5, q6⟩ := peel q5 (Bool.toNat_lt _)
  obtain ⟨-, q7⟩ := peel q6 (by decide)
  obtain ⟨f7, q8⟩ := peel q7 (Bool.toNat_lt _)
  obtain ⟨f8, q9⟩ := peel q8 (Bool.toNat_lt _)
  obtain ⟨f9, q10⟩ := peel q9 (Bool.toNat_lt _)
  obtain ⟨f10, q11⟩ := peel q10 (Bool.toNat_lt _)
  obtain ⟨fop, q15⟩ := peel q11 hop
  obtain ⟨f15, q16⟩ := peel q15 (Bool.toNat_lt _)
  refine ⟨?_, ?_, ?_, ?_⟩
  · simp only [headerFlags, bit_read _ 0x8000 15 _ rfl f15, bit_read _ 0x400 10 _ rfl f10,
      bit_read _ 0x200 9 _ rfl f9, bit_read _ 0x100 8 _ rfl f8, bit_read _ 0x80 7 _ rfl f7,
      bit_read _ 0x20 5 _ rfl f5, bit_read _ 0x10 4 _ rfl f4, Rec.hasFlag]
    rw [sel_bit _ Flag.qr 0 rfl, sel_bit _ Flag.aa 1 rfl, sel_bit _ Flag.tc 2 rfl, sel_bit _ Flag.rd 3 rfl,
      sel_bit _ Flag.ra 4 rfl, sel_bit _ Flag.ad 5 rfl, sel_bit _ Flag.cd 6 rfl]
    simp only [← Nat.and_or_distrib_left]
    exact Nat.and_two_pow_sub_one_of_lt_two_pow (n := 7) hfl
  · rw [Nat.shiftRight_eq_div_pow]
    exact (Nat.and_two_pow_sub_one_eq_mod _ 4).trans fop
  · exact (Nat.and_two_pow_sub_one_eq_mod _ 4).trans frc
  · exact Nat.lt_of_div_eq_zero (by decide) q16

/-- `fl = fl &&& 0xFFFF = (fl &&& 0xFF80) ||| (fl &&& 0x7F)`, and the first part is zero -/
theorem flagsValid_lt (fl : Nat) (h : flagsValid fl = true) (h16 : fl < 65536) : fl < 128 := by
  simp only [flagsValid, decide_eq_true_eq] at h
  have e : fl &&& 0xFF80 ||| fl &&& 0x7F = fl := by
    rw [← Nat.and_or_distrib_left]
    exact Nat.and_two_pow_sub_one_of_lt_two_pow (n := 16) h16
  rw [h, Nat.zero_or] at e
  rw [← e]
  exact Nat.lt_succ_of_le Nat.and_le_right

theorem parseHeader_written (id w qd an ns ar : Nat) (rest : BStr)
    (h1 : id < 65536) (h2 : w < 65536) (h3 : qd < 65536) (h4 : an < 65536) (h5 : ns < 65536) (h6 : ar < 65536)
    (hop : Cares.Generated.opcodeValid ((w >>> 11) &&& 0xf) = true) :
    parseHeader (be16 id ++ be16 w ++ be16 qd ++ be16 an ++ be16 ns ++ be16 ar ++ rest).toArray 0 =
      .ok { id := id, flags := headerFlags w, opcode := (w >>> 11) &&& 0xf, rawRcode := w &&& 0xf,
            qdcount := qd, ancount := an, nscount := ns, arcount := ar } 12 := by
  unfold parseHeader
  rw [P.bind_ok (fetchBe16_at [] h1 (by simp) (by rfl)), P.bind_ok (fetchBe16_at (be16 id) h2 (by simp) (by rfl)),
    P.bind_ok (fetchBe16_at (be16 id ++ be16 w) h3 (by simp) (by rfl)),
    P.bind_ok (fetchBe16_at (be16 id ++ be16 w ++ be16 qd) h4 (by simp) (by rfl)),
    P.bind_ok (fetchBe16_at (be16 id ++ be16 w ++ be16 qd ++ be16 an) h5 (by simp) (by rfl)),
    P.bind_ok (fetchBe16_at (be16 id ++ be16 w ++ be16 qd ++ be16 an ++ be16 ns) h6 (by simp) (by rfl))]
  have hr0 : Cares.Generated.rcodeValid 0 = true := by decide
  simp [hop, hr0]

theorem parseQd_written (out msg : BStr) (q : Question) (p : Piece)
    (hq : recTypeValid q.qtype true = true ∧ classValid q.qclass q.qtype true = true)
    (hw : writeQuestions out.length [] [q] = .ok p) (hpre : out ++ p.bytes <+: msg) :
    parseQd msg.toArray out.length = .ok (canonQ q) (out.length + p.bytes.length) ∧
      NInv p.names (out ++ p.bytes) ∧ p.trunc = false := by
  obtain ⟨post, rfl⟩ := hpre
  obtain ⟨hqt, hqc⟩ := hq
  obtain ⟨hqt', hqt16⟩ := recTypeValid_query_imp q.qtype hqt
  have hqc' := classValid_imp _ _ _ hqc
  have hqc16 : q.qclass < 65536 := by
    have := classValid_lt q.qclass q.qtype true hqc (by simp only [RecType.rawRR]; omega)
    omega
  simp only [writeQuestions] at hw
  cases hn : nameWrite out.length [] true true q.name with
  | error e => simp [hn] at hw
  | ok n =>
    simp only [hn, u16t_small _ hqt16, u16t_small _ hqc16] at hw
    cases hw
    dsimp only
    obtain ⟨hname, hinvN, htrN⟩ := parseName_nameWrite out (be16 q.qtype ++ be16 q.qclass ++ post) [] true true
      q.name n (NInv.nil out) hn
    refine ⟨?_, ?_, ?_⟩
    · unfold parseQd
      simp only [List.append_assoc, List.append_nil] at hname ⊢
      rw [P.bind_ok hname, P.bind_ok (fetchBe16_at (out ++ n.bytes) hqt16 (by simp) (by simp)),
        P.bind_ok (fetchBe16_at (out ++ n.bytes ++ be16 q.qtype) hqc16 (by simp) (by simp +arith))]
      simp only [hqt', hqc', Bool.not_true, Bool.false_eq_true, or_self, ↓reduceIte, P.pure_apply]
      congr 1
      simp [be16]; omega
    · have := hinvN.append (be16 q.qtype ++ be16 q.qclass ++ [])
      simpa [List.append_assoc] using this
    · simp [htrN]

theorem hiOfRRs_eq (rcode : Nat) (rrs : List RR) :
    hiOfRRs rcode rrs = if rrs.any (·.type = RecType.opt) then optHi rcode else 0 := by
  induction rrs with
  | nil => rfl
  | cons rr rest ih =>
    simp only [hiOfRRs, ih, hiOfRR, List.any_cons, Bool.or_eq_true, decide_eq_true_eq]
    by_cases h1 : rr.type = RecType.opt <;> by_cases h2 : (rest.any fun x => decide (x.type = RecType.opt)) = true <;>
      simp [h1, h2]

theorem writeRR_length (rcode pos : Nat) (names : List NameOff) (rr : RR) (p : Piece)
    (h : writeRR rcode 0 pos names rr = .ok p) : 10 ≤ p.bytes.length := by
  obtain ⟨n, d, -, -, hb, -, -⟩ := writeRR_inv h
  have h2 : (u16t d.bytes.length).1.length = 2 := rfl
  rw [hb]
  simp only [List.length_append, rrFixed_length, h2]
  omega

theorem writeRRs_length (rcode : Nat) (rrs : List RR) : ∀ (pos : Nat) (names : List NameOff) (p : Piece),
    writeRRs rcode 0 pos names rrs = .ok p → 10 * rrs.length ≤ p.bytes.length := by
  induction rrs with
  | nil => intro pos names p h; simp
  | cons rr rest ih =>
    intro pos names p h
    simp only [writeRRs] at h
    cases h1 : writeRR rcode 0 pos names rr with
    | error e => simp [h1] at h
    | ok p1 =>
      simp only [h1] at h
      cases h2 : writeRRs rcode 0 (pos + p1.bytes.length) p1.names rest with
      | error e => simp [h2] at h
      | ok q =>
        simp only [h2] at h
        cases h
        have := writeRR_length _ _ _ _ _ h1
        have := ih _ _ _ h2
        simp only [List.length_append, List.length_cons]
        omega

theorem or_optHi (rc : Nat) (h : rc < 4096) : rc % 16 ||| optHi rc = rc := by
  unfold optHi
  rw [Nat.mod_eq_of_lt (by omega : rc / 16 < 256), Nat.or_comm, Nat.mul_comm]
  exact (Nat.two_pow_add_eq_or_of_lt (i := 4) (Nat.mod_lt rc (by decide)) (rc / 16)).symm.trans
    (Nat.div_add_mod rc 16)

/-- the parser's `raw_rcode`: the header's low four bits, with the OPT record's high bits OR-ed in once per
    OPT record seen (idempotent), is the rcode the writer split -/
theorem rawRcode_written (rc : Nat) (hrc : rc < 4096) (an ns ar : List RR)
    (hext : rc ≤ 15 ∨ ar.any (·.type = RecType.opt) = true) :
    rc % 16 ||| hiOfRRs rc an ||| hiOfRRs rc ns ||| hiOfRRs rc ar = rc := by
  rw [hiOfRRs_eq, hiOfRRs_eq, hiOfRRs_eq]
  rcases hext with h | h
  · have h0 : optHi rc = 0 := by unfold optHi; omega
    simp only [h0, ite_self, Nat.or_zero]
    exact Nat.mod_eq_of_lt (by omega)
  · rw [if_pos h, Nat.or_assoc, Nat.or_assoc]
    split <;> split <;> simp only [Nat.or_self, Nat.zero_or, or_optHi rc hrc]

/-- **write then parse**: for a record in the claimed class the parser model returns the canonical form of
    the record from the bytes the writer model produced, and those bytes fit into 65535 -/
theorem parse_writeMsg (r : Rec) (bs : BStr) (tr : Bool) (hok : recOk r = true)
    (hw : writeMsg 0 r = .ok (bs, tr)) :
    bs.length ≤ 65535 ∧ parse bs.toArray 0 = .ok (canon r) ∧ tr = false := by
  simp only [recOk, Bool.and_eq_true, decide_eq_true_eq, Bool.or_eq_true, List.all_eq_true] at hok
  obtain ⟨⟨⟨⟨⟨⟨⟨⟨⟨⟨hid, hfl16⟩, hfl⟩, hop⟩, hrc⟩, hqd1⟩, hqok⟩, hext⟩, han⟩, hns⟩, har⟩ := hok
  simp only [writeMsg] at hw
  cases hs : writeSections 0 r with
  | error e => simp [hs] at hw
  | ok mt =>
    obtain ⟨msg, t⟩ := mt
    simp only [hs] at hw
    by_cases hbig : msg.length > 65535
    · simp [hbig] at hw
    simp only [hbig, ↓reduceIte, Except.ok.injEq, Prod.mk.injEq] at hw
    obtain ⟨hw1, hw2⟩ := hw
    subst hw1; subst hw2
    have hle : msg.length ≤ 65535 := Nat.not_lt.1 hbig
    refine ⟨hle, ?_⟩
    obtain ⟨q0, hq0⟩ : ∃ q, r.qd = [q] := by
      match r.qd, hqd1 with
      | [q], _ => exact ⟨q, rfl⟩
    unfold writeSections at hs
    simp only [hq0] at hs
    cases hq : writeQuestions (writeHeader r).1.length [] [q0] with
    | error e => simp [hq] at hs
    | ok qp =>
      simp only [hq] at hs
      cases ha : writeRRs r.rcode 0 ((writeHeader r).1.length + qp.bytes.length) qp.names r.an with
      | error e => simp [ha] at hs
      | ok ap =>
        simp only [ha] at hs
        cases hn : writeRRs r.rcode 0 ((writeHeader r).1.length + qp.bytes.length + ap.bytes.length) ap.names r.ns with
        | error e => simp [hn] at hs
        | ok np =>
          simp only [hn] at hs
          cases hx : writeRRs r.rcode 0 ((writeHeader r).1.length + qp.bytes.length + ap.bytes.length + np.bytes.length)
              np.names r.ar with
          | error e => simp [hx] at hs
          | ok xp =>
            simp only [hx, Except.ok.injEq, Prod.mk.injEq] at hs
            obtain ⟨hmsg, htr⟩ := hs
            have hla := writeRRs_length _ _ _ _ _ ha
            have hln := writeRRs_length _ _ _ _ _ hn
            have hlx := writeRRs_length _ _ _ _ _ hx
            have hmlen : msg.length = (writeHeader r).1.length + qp.bytes.length + ap.bytes.length + np.bytes.length +
                xp.bytes.length := by rw [← hmsg]; simp only [List.length_append]
            have hcnt : r.an.length < 65536 ∧ r.ns.length < 65536 ∧ r.ar.length < 65536 := by omega
            have hfl128 := flagsValid_lt r.flags hfl hfl16
            have hop16 : r.opcode < 16 := by
              simp only [opcodeValid, Bool.or_eq_true, decide_eq_true_eq] at hop
              omega
            obtain ⟨w1, w2, w3, w4⟩ := flagWord_fields r hfl128 hop16 hext
            have hH : writeHeader r = (be16 r.id ++ be16 (flagWord r) ++ be16 1 ++ be16 r.an.length ++
                be16 r.ns.length ++ be16 r.ar.length, false) := by
              unfold writeHeader
              simp only [hq0, List.length_singleton, u16t_small _ hcnt.1, u16t_small _ hcnt.2.1,
                u16t_small _ hcnt.2.2, u16t_small 1 (by decide), Nat.mod_eq_of_lt hid, Bool.or_self]
            have hH12 : (writeHeader r).1.length = 12 := by rw [hH]; rfl
            have hhdr := parseHeader_written r.id (flagWord r) 1 r.an.length r.ns.length r.ar.length
              (qp.bytes ++ ap.bytes ++ np.bytes ++ xp.bytes) hid w4 (by decide) hcnt.1 hcnt.2.1 hcnt.2.2
              (by rw [w2, ← opcodeValid_eq]; exact hop)
            have hmsgH : be16 r.id ++ be16 (flagWord r) ++ be16 1 ++ be16 r.an.length ++ be16 r.ns.length ++
                be16 r.ar.length ++ (qp.bytes ++ ap.bytes ++ np.bytes ++ xp.bytes) = msg := by
              rw [← hmsg, hH]; simp [List.append_assoc]
            rw [hmsgH] at hhdr
            have hq0ok := hqok q0 (by rw [hq0]; simp)
            obtain ⟨q1, q2, q3⟩ := parseQd_written (writeHeader r).1 msg q0 qp hq0ok hq
              ⟨ap.bytes ++ np.bytes ++ xp.bytes, by rw [← hmsg]; simp only [List.append_assoc]⟩
            -- the three RR sections, each behind the one before
            obtain ⟨a1, a2, a3⟩ := parseRRs_writeRRs r.rcode hrc .answer msg hle r.an ((writeHeader r).1 ++ qp.bytes)
              qp.names ap han (by simpa only [List.length_append] using ha) q2
              ⟨np.bytes ++ xp.bytes, by rw [← hmsg]; simp only [List.append_assoc]⟩
            obtain ⟨n1, n2, n3⟩ := parseRRs_writeRRs r.rcode hrc .authority msg hle r.ns
              ((writeHeader r).1 ++ qp.bytes ++ ap.bytes) ap.names np hns
              (by simpa only [List.length_append] using hn) a2 ⟨xp.bytes, hmsg⟩
            obtain ⟨x1, x2, x3⟩ := parseRRs_writeRRs r.rcode hrc .additional msg hle r.ar
              ((writeHeader r).1 ++ qp.bytes ++ ap.bytes ++ np.bytes) np.names xp har
              (by simpa only [List.length_append] using hx) n2 (hmsg ▸ List.prefix_rfl)
            simp only [List.length_append, hH12] at q1 a1 n1 x1
            have hsz : msg.toArray.size = msg.length := List.size_toArray
            have hne : msg.toArray.size ≠ 0 := by
              rw [hsz, hmlen, hH12, Nat.add_assoc, Nat.add_assoc, Nat.add_assoc]
              exact Nat.ne_of_gt (Nat.add_pos_left (by decide) _)
            have hpm : parseMsg msg.toArray 0 0 = .ok (canon r) (12 + qp.bytes.length + ap.bytes.length + np.bytes.length + xp.bytes.length) := by
              unfold parseMsg
              rw [P.bind_ok hhdr]
              simp only [show ¬ ((1 : Nat) = 0) by decide, show ¬ ((1 : Nat) > 1) by decide, ↓reduceIte]
              rw [P.bind_ok q1, P.bind_ok a1]
              simp only
              rw [P.bind_ok n1]
              simp only
              rw [P.bind_ok x1]
              simp only [P.pure_apply]
              refine congrArg (fun x => Res.ok x _) ?_
              have hraw : (flagWord r &&& 0xf) ||| hiOfRRs r.rcode r.an ||| hiOfRRs r.rcode r.ns ||| hiOfRRs r.rcode r.ar
                  = r.rcode := by
                rw [w3]
                exact rawRcode_written r.rcode (by have := rcodeValid_small r.rcode hrc; omega) r.an r.ns r.ar hext
              rw [hraw, w1, w2]
              have hrcv : Cares.Generated.rcodeValid r.rcode = true := by rw [← rcodeValid_eq]; exact hrc
              simp only [hrcv, ↓reduceIte, canon, hq0, List.map_cons, List.map_nil]
            refine ⟨parse_eq_ok.2 ⟨hne, by rw [hsz]; exact hle, _, hpm⟩, ?_⟩
            rw [← htr, q3, a3, n3, x3, hH]
            rfl

theorem parse_write (r : Rec) (bs : BStr) (hok : recOk r = true) (hw : write r = .ok bs) :
    bs.length ≤ 65535 ∧ parse bs.toArray 0 = .ok (canon r) := by
  simp only [write, Except.map] at hw
  cases h : writeMsg 0 r with
  | error e => simp [h] at hw
  | ok mt =>
    obtain ⟨msg, t⟩ := mt
    simp only [h] at hw
    cases hw
    obtain ⟨h1, h2, _⟩ := parse_writeMsg r _ t hok h
    exact ⟨h1, h2⟩

end Cares.Dns.Write
