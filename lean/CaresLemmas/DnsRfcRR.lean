import CaresLemmas.DnsRfcFields
/-!
# One resource record: operational parser vs. RFC reference (helper lemmas for C04)
-/
namespace Cares.Dns
open Cares.Generated

/-- generated-table obligation: every generated parse script is compatible with the RFC format of its type -/
def scriptsCompatible : Bool :=
  parseScript.all fun p =>
    match Rfc.format p.1 with
    | some specs => compatScript p.2 specs && abinOk p.2
    | none => false

theorem scripts_compatible : scriptsCompatible = true := by decide

/-- the RR types the parser accepts are OPT, `*`, RAW_RR and exactly the types that have both a generated
    script and an RFC format -/
theorem types_valid (t : Nat) (h : recTypeValid t false = true) :
    t = 41 ∨ t = 255 ∨ t = 65536 ∨ ((scriptOf parseScript t).isSome = true ∧ (Rfc.format t).isSome = true) := by
  simp only [recTypeValid, Bool.false_eq_true, ↓reduceIte, recTypeValidRR, List.contains_eq_mem,
    List.mem_cons, List.not_mem_nil, or_false, decide_eq_true_eq] at h
  rcases h with h | h | h | h | h | h | h | h | h | h | h | h | h | h | h | h | h | h | h | h <;> subst h <;> decide

theorem format_valid (t : Nat) (h : (Rfc.format t).isSome = true) : recTypeValid t false = true ∧ t ≠ 41 ∧ t ≠ 255 := by
  unfold Rfc.format at h
  split at h <;> first | (simp at h; done) | decide

theorem classValid_raw (cls : Nat) : classValid cls RecType.rawRR false = true := by
  unfold classValid; rfl

/-- class check of `ares_dns_class_isvalid` for the decoded types = the RFC reference's class list: the table has
    one row for SIG, one for RAW_RR (which has no format) and one for all other types -/
theorem classValid_decoded (t cls : Nat) (h : (Rfc.format t).isSome = true) :
    classValid cls t false = Rfc.classSupported t cls := by
  have h1 : t ≠ 65536 := by rintro rfl; cases h
  by_cases h24 : t = 24
  · subst h24
    simp [classValid, Rfc.classSupported, List.contains_eq_mem, List.mem_cons, Bool.or_assoc]
  · simp [classValid, Rfc.classSupported, List.contains_eq_mem, List.mem_cons, Bool.or_assoc, h24, h1]

theorem scriptOf_compat {t : Nat} {sc : Script} (h : scriptOf parseScript t = some sc) :
    ∃ specs, Rfc.format t = some specs ∧ compatScript sc specs = true ∧ abinOk sc = true := by
  have := List.all_eq_true.1 scripts_compatible _ (scriptOf_mem h)
  split at this
  · rename_i specs hs
    exact ⟨specs, hs, by simpa using this⟩
  · cases this

/-- the reference RR for the bytes the parser just read -/
def refRR (bs : Bytes) (owner : List Rfc.Label) (rawType qclass ttl rd rdlength : Nat) : Rfc.RR :=
  { owner := owner, type := rawType, cls := qclass, ttl := ttl, rdata := slice bs rd rdlength,
    view := Rfc.decodeView bs rawType rd (rd + rdlength) }

def optHi (rawType ttl : Nat) : Nat := if rawType = 41 then ttl / 16777216 * 16 else 0

theorem refRR_supported (bs : Bytes) (owner : List Rfc.Label) (t c ttl rd n : Nat) :
    (refRR bs owner t c ttl rd n).supported =
      (if t = 41 then (Rfc.decodeView bs t rd (rd + n)).isSome
       else match Rfc.format t with
         | some specs => Rfc.classSupported t c &&
             (match Rfc.decodeView bs t rd (rd + n) with
              | some vals => Rfc.fieldsSupported specs vals
              | none => false)
         | none => t != 255) := rfl

theorem rrData_within {bs : Bytes} {rd n : Nat} (wf : rd + n ≤ bs.size) (sect : Sect) (owner : List Rfc.Label)
    {T C ttl : Nat} (ht : T < 65536) (httl : ttl < 4294967296) :
    (if rrAddValid (effectiveType 0 sect T) (rrClass (effectiveType 0 sect T) C) = false then none
     else ((parseRRData bs n (effectiveType 0 sect T) T C ttl rd).within (rd + n)).map fun r =>
       ((⟨escapeName owner, effectiveType 0 sect T, rrClass (effectiveType 0 sect T) C,
          rrTtl (effectiveType 0 sect T) ttl, r.1.1⟩ : RR), r.1.2)) =
      if (refRR bs owner T C ttl rd n).supported = true then
        (refRR bs owner T C ttl rd n).toRec.map (·, optHi T ttl)
      else none := by
  rw [effectiveType_zero, refRR_supported]
  by_cases hv : recTypeValid T false = true
  · rw [if_pos hv]
    rcases types_valid T hv with rfl | rfl | h | ⟨hsc, hfm⟩
    · -- OPT
      have hw : (parseRRData bs n 41 41 C ttl rd).within (rd + n) =
          (Rfc.tlvs bs (rd + n) rd).map fun tl =>
            (([(Key.optUdpSize, .u16 C), (Key.optVersion, .u8 ((ttl >>> 16) &&& 0xFF)),
               (Key.optFlags, .u16 (ttl &&& 0xFFFF)), (Key.optOptions, .opt (optFold [] tl))],
              (ttl >>> 20) &&& 0x0FF0), rd + n) := by
        unfold parseRRData
        rw [if_neg (by decide), if_pos (by decide)]
        unfold parseRROpt
        rw [P.bind_ok (bufLen_eq (by omega)), Res.within_map, optLoop_within wf [] rd (Nat.le_refl _) (by omega)]
        cases Rfc.tlvs bs (rd + n) rd <;> rfl
      rw [hw, if_pos rfl]
      simp only [Rfc.RR.toRec, refRR, Rfc.decodeView, Rfc.typeOPT, if_true, Rfc.decodeFields, Rfc.decodeField]
      cases Rfc.tlvs bs (rd + n) rd <;>
        simp [rrAddValid, rrClass, rrTtl, RecType.opt, opt_version_eq, opt_flags_eq, optFold, optHi, opt_hi_eq ttl httl]
      exact ⟨by decide, by decide⟩
    · -- `*` as an RR type is rejected
      have hw : (parseRRData bs n 255 255 C ttl rd).within (rd + n) = none := by
        unfold parseRRData; rw [if_pos (by decide)]; rfl
      rw [hw, Option.map_none, ite_self, if_neg (show ¬ (255 : Nat) = 41 by decide)]
      rfl
    · omega
    · obtain ⟨_, h41, h255⟩ := format_valid T hfm
      obtain ⟨sc, hs⟩ := Option.isSome_iff_exists.1 hsc
      obtain ⟨specs, hf, hc, hab⟩ := scriptOf_compat hs
      obtain ⟨hsp, hck⟩ := compatScript_specsOf hc
      obtain ⟨hkeys, _⟩ := scriptOf_ok hs
      have hw : ((parseRRData bs n T T C ttl rd).within (rd + n)).map (·.1) =
          ((Rfc.decodeFields bs (rd + n) specs rd).bind (present specs (rrKeys T))).map (·, 0) := by
        unfold parseRRData
        rw [if_neg (show ¬ T = RecType.any from h255), if_neg (show ¬ T = RecType.opt from h41),
          if_neg (show ¬ T = RecType.rawRR by unfold RecType.rawRR; omega), hs]
        simp only
        rw [P.bind_ok (bufLen_eq (by omega)), Res.within_map, Option.map_map, ← hsp, ← hkeys,
          ← parseFields_within wf sc hck (Nat.le_refl _) (Nat.le_add_right _ _) (Or.inr ⟨rfl, hab⟩), Option.map_map]
        rfl
      have hcl : rrClass T C = C := by simp [rrClass, RecType.opt, h41]
      have httl' : rrTtl T ttl = ttl := by simp [rrTtl, RecType.opt, h41]
      have hval : rrAddValid T C = Rfc.classSupported T C := by
        unfold rrAddValid; rw [hv, Bool.true_and, classValid_decoded T C hfm]
      rw [hcl, httl', hval, if_neg h41, hf]
      show (if _ then none else Option.map ((fun x : List (Nat × Val) × Nat =>
        ((⟨escapeName owner, T, C, ttl, x.1⟩ : RR), x.2)) ∘ fun r : (List (Nat × Val) × Nat) × Nat => r.1) _) = _
      rw [← Option.map_map, hw]
      simp only [refRR, Rfc.RR.toRec, Rfc.decodeView, Rfc.typeOPT, if_neg h41, hf, optHi]
      cases hd : Rfc.decodeFields bs (rd + n) specs rd with
      | none => cases Rfc.classSupported T C <;> simp
      | some vals =>
        cases hcs : Rfc.classSupported T C <;> cases hfs : Rfc.fieldsSupported specs vals <;>
          cases htv : Rfc.toVals specs vals <;> simp [present, hfs, htv]
  · -- undecoded type: RAW_RR
    have hfm : Rfc.format T = none := by
      cases hf : Rfc.format T with
      | none => rfl
      | some x => exact absurd (format_valid T (by rw [hf]; rfl)).1 hv
    have h41 : T ≠ 41 := fun h => hv (h ▸ by decide)
    have h255 : T ≠ 255 := fun h => hv (h ▸ by decide)
    have hw : (parseRRData bs n RecType.rawRR T C ttl rd).within (rd + n) =
        some (([(Key.rawRRType, .u16 T), (Key.rawRRData, .bin (some (slice bs rd n)))], 0), rd + n) := by
      unfold parseRRData
      rw [if_neg (by decide), if_neg (by decide), if_pos rfl, Res.within_map]
      unfold parseRRRaw
      by_cases h0 : n = 0
      · subst h0; simp [Res.within, slice_zero]
      · rw [if_neg h0, Res.within_map, fetchBytes_eq (by omega), if_pos ⟨h0, wf⟩]
        simp [Res.within]
    have hval : rrAddValid RecType.rawRR (rrClass RecType.rawRR C) = true := by
      unfold rrAddValid; rw [Bool.and_eq_true]; exact ⟨by decide, classValid_raw _⟩
    rw [if_neg hv, hw, hval, if_neg h41, hfm]
    simp [refRR, Rfc.RR.toRec, Rfc.typeOPT, h41, hfm, h255, optHi, rrClass, rrTtl, RecType.rawRR, RecType.opt]

theorem name_next_le {bs : Bytes} {p q : Nat} {owner : List Rfc.Label} (hp : p ≤ bs.size)
    (hn : Rfc.name bs p = some (owner, q)) : p ≤ q ∧ q ≤ bs.size := by
  have := (safe_parseName (bs := bs) (off := p) false hp)
  unfold SafeAt at this
  rw [parseName_eq_rfc bs p hp, hn] at this
  exact this

theorem decodeRR_eq {bs : Bytes} {p q : Nat} {owner : List Rfc.Label} (hn : Rfc.name bs p = some (owner, q)) :
    Rfc.decodeRR bs p =
      if h10 : q + 10 ≤ bs.size then
        if q + 10 + be16At bs (q + 8) (by omega) ≤ bs.size then
          some (refRR bs owner (be16At bs q (by omega)) (be16At bs (q + 2) (by omega)) (be32At bs (q + 4) (by omega))
                  (q + 10) (be16At bs (q + 8) (by omega)), q + 10 + be16At bs (q + 8) (by omega))
        else none
      else none := by
  unfold Rfc.decodeRR
  rw [hn]
  simp only [u16At_eq, u32At_eq]
  by_cases h10 : q + 10 ≤ bs.size
  · rw [dif_pos (by omega), dif_pos (by omega), dif_pos (by omega), dif_pos (by omega), dif_pos h10]
    rfl
  · rw [dif_neg (show ¬ q + 8 + 2 ≤ bs.size by omega), dif_neg h10]
    split
    · rename_i h; cases h
    · rfl

/-- the RR the reference decodes at `p` as the record API shows it, with the extended-RCODE bits an OPT carries,
    if c-ares supports it -/
def rrAt (bs : Bytes) (p : Nat) : Option ((RR × Nat) × Nat) :=
  (Rfc.decodeRR bs p).bind fun r =>
    (if r.1.supported = true then r.1.toRec.map (·, optHi r.1.type r.1.ttl) else none).map (·, r.2)

theorem parseRR_toOpt {bs : Bytes} {sect : Sect} {p : Nat} (hp : p ≤ bs.size) :
    (parseRR bs 0 sect p).toOpt = rrAt bs p := by
  have hname := parseName_eq_rfc bs p hp
  unfold rrAt
  cases hn : Rfc.name bs p with
  | none =>
    rw [hn] at hname
    unfold parseRR
    rw [P.bind_err hname]
    simp [Res.toOpt, Rfc.decodeRR, hn]
  | some r =>
    obtain ⟨owner, q⟩ := r
    rw [hn] at hname
    rw [parseRR_frame hname (name_next_le hp hn).2, decodeRR_eq hn]
    by_cases h10 : q + 10 ≤ bs.size
    · rw [dif_pos h10, dif_pos h10]
      simp only
      by_cases hfit : q + 10 + be16At bs (q + 8) (by omega) ≤ bs.size
      · rw [if_neg (by omega), if_pos hfit, Option.bind_some]
        simp only
        have key := rrData_within hfit sect owner (C := be16At bs (q + 2) (by omega)) (be16At_lt (bs := bs) (off := q) (by omega))
          (be32At_lt (bs := bs) (off := q + 4) (by omega))
        refine Eq.trans ?_ (congrArg (Option.map (·, q + 10 + be16At bs (q + 8) (by omega))) key)
        split
        · rfl
        · cases g6 : parseRRData bs _ _ _ _ _ (q + 10) with
          | ok fr p6 =>
            have b6 := (post_parseRRData _ _ _ _ _ h10 (be16At_lt _) (be16At_lt _)).safe.ok g6
            simp only [Res.within]
            by_cases hp6 : p6 ≤ q + 10 + be16At bs (q + 8) (by omega)
            · rw [if_neg (by omega), if_pos hp6]; rfl
            · rw [if_pos (by omega), if_neg hp6]; rfl
          | err e => rfl
          | fault k => rfl
      · rw [if_pos (by omega), if_neg hfit]; rfl
    · rw [dif_neg h10, dif_neg h10]; rfl

theorem toRec_isSome {bs : Bytes} {m : Rfc.RR} {rd e : Nat} (hv : m.view = Rfc.decodeView bs m.type rd e)
    (hs : m.supported = true) : m.toRec.isSome = true := by
  unfold Rfc.RR.supported at hs
  unfold Rfc.RR.toRec
  unfold Rfc.decodeView at hv
  by_cases h41 : m.type = Rfc.typeOPT
  · rw [if_pos h41] at hs hv ⊢
    simp only [Rfc.decodeFields, Rfc.decodeField] at hv
    cases ht : Rfc.tlvs bs e rd <;> simp [ht] at hv <;> simp [hv] at hs ⊢
  · rw [if_neg h41] at hs hv ⊢
    cases hf : Rfc.format m.type with
    | none => rfl
    | some specs =>
      simp only [hf] at hs hv ⊢
      cases hvw : m.view with
      | none => simp [hvw] at hs
      | some vals =>
        obtain ⟨vs, hvs⟩ := Option.isSome_iff_exists.1 (toVals_isSome specs (hv ▸ hvw))
        simp [hvs]

theorem decodeRR_toRec_isSome {bs : Bytes} {p p' : Nat} {m : Rfc.RR} (hd : Rfc.decodeRR bs p = some (m, p'))
    (hs : m.supported = true) : m.toRec.isSome = true := by
  unfold Rfc.decodeRR at hd
  split at hd
  · cases hd
  · split at hd
    · simp only at hd
      split at hd
      · cases hd; exact toRec_isSome rfl hs
      · cases hd
    · cases hd

end Cares.Dns
