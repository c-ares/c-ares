import CaresLemmas.CookieStep
/-!
# Histories of cookie events for one server (scaffolding for the C17 theorems)

`World` = the per-server cookie state + the clock + two history variables that no transition reads:
`sent` (every COOKIE option value put on the wire, `none` for a request that went out without one) and `firstDrop`
(instant of the first response dropped for lacking a server cookie since the server last proved support).
`Ev` = `advance | send | recv`; `send` is `ares_cookie_apply` on a request, `recv` is `ares_cookie_validate` on a
response to a request that was sent earlier (its COOKIE option is one of `sent`).
-/
namespace Cares.Proto.Cookie
open Cares.Generated.Proto

/-- the repaired `timeval_is_set`: a time stamp is set unless both fields are zero -/
def IsSetOk (isSet : TimeVal → Bool) : Prop :=
  ∀ tv, isSet tv = (decide (tv.sec ≠ 0) || decide (tv.usec ≠ 0))

theorem isSetOk_or : IsSetOk timevalIsSetOr := fun _ => rfl

/-- the address families a connection's `self_ip` can have -/
def Addr.Wf (a : Addr) : Prop := a.family = AF_INET ∨ a.family = AF_INET6 ∨ a.family = AF_UNSPEC

/-- a response cookie that proves cookie support to the request it answers: 8 client bytes equal to the ones sent,
    followed by 1..32 server bytes -/
def validFor (reqCookie resp : Option Bytes) : Bool :=
  match reqCookie, resp with
  | some rq, some r => decide (8 < r.length) && decide (r.length ≤ 40) && (rq.take 8 == r.take 8)
  | _, _ => false

/-- a response without server cookie to a request that carried a cookie: no COOKIE option, or the bare client cookie -/
def lacksServerCookie (reqCookie resp : Option Bytes) : Bool :=
  match reqCookie, resp with
  | some _, none => true
  | some rq, some r => decide (r.length = 8) && (rq.take 8 == r.take 8)
  | none, _ => false

def TimeVal.addUsec (t : TimeVal) (us : Nat) : TimeVal :=
  ⟨t.sec + ((t.usec + us) / 1000000 : Nat), (t.usec + us) % 1000000⟩

structure World where
  ck : CookieSt
  now : TimeVal
  sent : List (Option Bytes)
  firstDrop : Option TimeVal
deriving Repr

def World.init (t0 : TimeVal) : World := ⟨CookieSt.cleared, t0, [], none⟩

inductive Ev where
  | advance (usec : Nat)
  | send (conn : Conn) (fresh : Bytes) (req : ReqOpt)
  | recv (q : QState) (reqCookie resp : Option Bytes) (rcode : Nat)
deriving Repr

/-- the COOKIE option value of a request (`none`: no OPT RR or no COOKIE option) -/
def cookieOf : ReqOpt → Option Bytes
  | some c => c
  | none => none

/-- `ares_cookie_apply` either leaves the per-server state alone and sends no cookie (no OPT RR, TCP, the quiet period),
    or runs the state machine and attaches `client ++ server` -/
theorem applyWith_cases (isSet) (c : CookieSt) (conn : Conn) (now : TimeVal) (fresh : Bytes) (req : ReqOpt) :
    let o := applyWith isSet c conn now fresh req
    (o.ck = c ∧ cookieOf o.req = none) ∨
    (conn.tcp = false ∧ o.ck = applyCore isSet c conn now fresh ∧ cookieOf o.req = some (o.ck.client ++ o.ck.server)) := by
  intro o
  cases req with
  | none => exact .inl ⟨rfl, rfl⟩
  | some x =>
    cases ht : conn.tcp with
    | true => exact .inl ⟨by simp [o, applyWith, ht], by simp [o, applyWith, ht, cookieOf]⟩
    | false =>
      cases hq : quiet (regress isSet c now) now with
      | true =>
        exact .inl ⟨(show o.ck = regress isSet c now by simp [o, applyWith, ht, hq]).trans (quiet_regress isSet c now hq),
          by simp [o, applyWith, ht, hq, cookieOf]⟩
      | false => exact .inr ⟨rfl, by simp [o, applyWith, ht, hq, applyCore], by simp [o, applyWith, ht, hq, cookieOf]⟩

def step (isSet : TimeVal → Bool) (w : World) : Ev → World
  | .advance us => { w with now := w.now.addUsec us }
  | .send conn fresh req =>
    let o := applyWith isSet w.ck conn w.now fresh req
    { w with ck := o.ck, sent := cookieOf o.req :: w.sent }
  | .recv q reqCookie resp rcode =>
    let o := validateWith isSet w.ck q reqCookie resp rcode w.now
    { w with ck := o.ck,
             firstDrop :=
               if validFor reqCookie resp then none
               else if w.firstDrop.isNone && o.verdict == .drop && lacksServerCookie reqCookie resp &&
                       decide (rcode ≠ RCODE_BADCOOKIE) then some w.now
               else w.firstDrop }

def run (isSet : TimeVal → Bool) (w : World) : List Ev → World
  | [] => w
  | e :: es => run isSet (step isSet w e) es

/-- what the environment guarantees about an event: 8 fresh random bytes, a well-formed local address; a response
    answers a request that went out earlier -/
def EvOk (w : World) : Ev → Prop
  | .advance _ => True
  | .send conn fresh _ => fresh.length = COOKIE_CLIENT_LEN ∧ conn.selfIp.Wf
  | .recv _ reqCookie _ _ => reqCookie ∈ w.sent

def TraceOk (isSet : TimeVal → Bool) (w : World) : List Ev → Prop
  | [] => True
  | e :: es => EvOk w e ∧ TraceOk isSet (step isSet w e) es

instance (w : World) (e : Ev) : Decidable (EvOk w e) := by
  cases e <;> unfold EvOk <;> (try unfold Addr.Wf) <;> infer_instance

instance decTraceOk (isSet : TimeVal → Bool) : ∀ (es : List Ev) (w : World), Decidable (TraceOk isSet w es)
  | [], _ => isTrue trivial
  | e :: es, w => by
    unfold TraceOk
    exact @instDecidableAnd _ _ _ (decTraceOk isSet es _)

/-- a clock as `ares_tvnow` reports it (monotonic clock: at least one second after its origin) -/
def StartOk (t0 : TimeVal) : Prop := 1 ≤ t0.sec ∧ t0.usec < 1000000

instance (t0 : TimeVal) : Decidable (StartOk t0) := by unfold StartOk; infer_instance

def Reach (isSet : TimeVal → Bool) (w : World) : Prop :=
  ∃ t0 es, StartOk t0 ∧ TraceOk isSet (World.init t0) es ∧ w = run isSet (World.init t0) es

structure Inv (w : World) : Prop where
  now_sec : 1 ≤ w.now.sec
  now_usec : w.now.usec < 1000000
  wf : w.ck.Wf
  sent_len : ∀ b, some b ∈ w.sent → 8 ≤ b.length ∧ b.length ≤ 40
  sup_ts : w.ck.state = .supported → w.ck.unsupportedTs = w.firstDrop.getD .zero
  drop_sec : ∀ t, w.firstDrop = some t → 1 ≤ t.sec

theorem inv_init (t0 : TimeVal) (h : StartOk t0) : Inv (World.init t0) where
  now_sec := h.1
  now_usec := h.2
  wf := wf_cleared
  sent_len := by simp [World.init]
  sup_ts := by simp [World.init, CookieSt.cleared]
  drop_sec := by simp [World.init]

theorem isSet_of_sec (isSet) (h : IsSetOk isSet) (t : TimeVal) (ht : 1 ≤ t.sec) : isSet t = true := by
  rw [h t]
  have : t.sec ≠ 0 := by omega
  simp [this]

theorem isSet_zero (isSet) (h : IsSetOk isSet) : isSet TimeVal.zero = false := by
  rw [h]; simp [TimeVal.zero]

theorem inv_advance (w : World) (us : Nat) (h : Inv w) : Inv { w with now := w.now.addUsec us } where
  now_sec := by
    have := h.now_sec
    simp only [TimeVal.addUsec]
    have h0 : (0 : Int) ≤ (((w.now.usec + us) / 1000000 : Nat) : Int) := Int.natCast_nonneg _
    omega
  now_usec := by simp only [TimeVal.addUsec]; omega
  wf := h.wf
  sent_len := h.sent_len
  sup_ts := h.sup_ts
  drop_sec := h.drop_sec

theorem inv_send (isSet) (w : World) (conn : Conn) (fresh : Bytes) (req : ReqOpt) (h : Inv w)
    (hf : fresh.length = COOKIE_CLIENT_LEN) : Inv (step isSet w (.send conn fresh req)) := by
  simp only [step]
  have hc := applyWith_cases isSet w.ck conn w.now fresh req
  simp only [] at hc
  rcases hc with ⟨h1, h2⟩ | ⟨_, h1, h2⟩
  · -- a request that goes out without a cookie leaves everything but `sent` as it was
    rw [h1, h2]
    refine ⟨h.now_sec, h.now_usec, h.wf, fun b hb => ?_, h.sup_ts, h.drop_sec⟩
    rcases List.mem_cons.mp hb with hb | hb
    · cases hb
    · exact h.sent_len b hb
  · have hwf := wf_applyCore isSet w.ck conn w.now fresh h.wf hf
    rw [h2, h1]
    refine ⟨h.now_sec, h.now_usec, ?_, fun b hb => ?_, fun hs => ?_, h.drop_sec⟩
    · -- reduce the projection first: given `hwf` directly the unifier unfolds `applyCore`
      dsimp only; exact hwf
    · rcases List.mem_cons.mp hb with hb | hb
      · -- (`cases hb` or `subst` would put the append in weak head normal form, unfolding `applyCore`)
        have hc : _ = 8 := hwf.client_len
        have hs : _ ≤ 32 := hwf.server_len
        rw [Option.some.inj hb, List.length_append, hc]
        omega
      · exact h.sent_len b hb
    · dsimp only at hs ⊢
      obtain ⟨hs0, hu, _⟩ := applyCore_sup isSet w.ck conn w.now fresh hs
      rw [hu]; exact h.sup_ts hs0

theorem validFor_noserver (rq : Bytes) (resp : Option Bytes) (h : NoServer rq resp) : validFor (some rq) resp = false := by
  rcases h with h | ⟨r, h, hl, _⟩
  · subst h; rfl
  · subst h; simp [validFor, hl]

theorem lacks_noserver (rq : Bytes) (resp : Option Bytes) (h : NoServer rq resp) : lacksServerCookie (some rq) resp = true := by
  rcases h with h | ⟨r, h, hl, hp⟩
  · subst h; rfl
  · subst h; simp [lacksServerCookie, hl, hp]

theorem validFor_badlen (rq r : Bytes) (hb : r.length < 8 ∨ 40 < r.length) : validFor (some rq) (some r) = false := by
  show (decide (8 < r.length) && decide (r.length ≤ 40) && (rq.take 8 == r.take 8)) = false
  rcases hb with hb | hb
  · rw [decide_eq_false (Nat.not_lt.mpr (Nat.le_of_lt hb))]; rfl
  · rw [decide_eq_false (Nat.not_le.mpr hb), Bool.and_false]; rfl

theorem lacks_badlen (rq r : Bytes) (hb : r.length < 8 ∨ 40 < r.length) :
    lacksServerCookie (some rq) (some r) = false := by
  show (decide (r.length = 8) && (rq.take 8 == r.take 8)) = false
  rw [decide_eq_false (hb.elim Nat.ne_of_lt fun h => Nat.ne_of_gt (Nat.lt_trans (by decide) h))]; rfl

/-- every call of `ares_cookie_validate` is of one of four kinds: nothing changes in the per-server state (and the
    response does not count as a drop for lacking a server cookie), a valid server cookie is learnt, or a response
    without server cookie meets the SUPPORTED or the GENERATED state -/
theorem validate_classes (isSet) (c : CookieSt) (q : QState) (reqCookie resp : Option Bytes) (rcode : Nat) (now : TimeVal) :
    let o := validateWith isSet c q reqCookie resp rcode now
    (o.ck = c ∧ validFor reqCookie resp = false ∧
      (lacksServerCookie reqCookie resp = false ∨ rcode = RCODE_BADCOOKIE ∨ o.verdict = .accept)) ∨
    (∃ rq r, reqCookie = some rq ∧ resp = some r ∧ validFor reqCookie resp = true ∧ r.length ≤ 40 ∧
      o.ck = learnG c rq r) ∨
    (∃ rq, reqCookie = some rq ∧ NoServer rq resp ∧ rcode ≠ RCODE_BADCOOKIE ∧ c.state = .supported ∧
      o.ck = (if !isSet c.unsupportedTs then { c with unsupportedTs := now } else c) ∧ o.verdict = .drop) ∨
    (∃ rq, reqCookie = some rq ∧ NoServer rq resp ∧ rcode ≠ RCODE_BADCOOKIE ∧ c.state = .generated ∧
      o.ck = { CookieSt.cleared with state := .unsupported, unsupportedTs := now } ∧ o.verdict = .accept) := by
  intro o
  have h : VCase isSet c q now reqCookie resp rcode o := validateWith_case ..
  clear_value o
  cases h with
  | badlen _ r _ hb =>
    cases reqCookie with
    | none => exact .inl ⟨rfl, rfl, .inl rfl⟩
    | some rq => exact .inl ⟨rfl, validFor_badlen rq r hb, .inl (lacks_badlen rq r hb)⟩
  | noreq => exact .inl ⟨rfl, by cases resp <;> rfl, .inl (by cases resp <;> rfl)⟩
  | badclient _ _ _ _ _ hp => exact .inl ⟨rfl, by simp [validFor, hp], .inl (by simp [lacksServerCookie, hp])⟩
  | serverBad rq r h1 h2 hp => exact .inr (.inl ⟨rq, r, rfl, rfl, by simp [validFor, h1, h2, hp], h2, rfl⟩)
  | serverOk rq r _ h1 h2 hp => exact .inr (.inl ⟨rq, r, rfl, rfl, by simp [validFor, h1, h2, hp], h2, rfl⟩)
  | bareBadNone => exact .inl ⟨rfl, rfl, .inr (.inl rfl)⟩
  | bareBad rq r h8 hp => exact .inl ⟨rfl, validFor_noserver rq _ (.inr ⟨r, rfl, h8, hp⟩), .inr (.inl rfl)⟩
  | noServer rq _ _ hn hr =>
    have hv := validFor_noserver rq resp hn
    obtain ⟨hck, hvd⟩ := noServerOut_ck_verdict isSet c q now (oobOf rq resp)
    by_cases hs : c.state = .supported
    · rw [if_pos hs] at hck hvd; exact .inr (.inr (.inl ⟨rq, rfl, hn, hr, hs, hck, hvd⟩))
    · rw [if_neg hs] at hck hvd
      by_cases hg : c.state = .generated
      · rw [if_pos hg] at hck; exact .inr (.inr (.inr ⟨rq, rfl, hn, hr, hg, hck, hvd⟩))
      · rw [if_neg hg] at hck; exact .inl ⟨hck, hv, .inr (.inr hvd)⟩

theorem inv_recv (isSet) (hset : IsSetOk isSet) (w : World) (q : QState) (reqCookie resp : Option Bytes) (rcode : Nat)
    (h : Inv w) : Inv (step isSet w (.recv q reqCookie resp rcode)) := by
  simp only [step]
  rcases validate_classes isSet w.ck q reqCookie resp rcode w.now with
    ⟨hck, hv, hfd⟩ | ⟨rq, r, _, _, hv, h2, hck⟩ | ⟨rq, rfl, hn, hr, hs, hck, hd⟩ | ⟨rq, rfl, hn, hr, hg, hck, hd⟩
  · -- nothing changes: one of the conjuncts that would record a drop is false
    rw [hck, hv]
    rcases hfd with hfd | hfd | hfd <;> simpa [hfd] using h
  · rw [hck, hv]
    refine ⟨h.now_sec, h.now_usec, ?_, h.sent_len, ?_, by intro t ht; cases ht⟩
    · dsimp only; exact wf_learnG _ _ _ h.wf h2
    · intro hs
      rcases learnG_cases w.ck rq r with hl | ⟨hl, _, hns⟩
      · simp only [hl, learn_uts]; rfl
      · simp only [hl] at hs; exact absurd hs hns
  · -- SUPPORTED: the first such drop starts the regression timer, later ones leave it
    rw [hck, hd, validFor_noserver rq resp hn, lacks_noserver rq resp hn]
    have hu := h.sup_ts hs
    simp only [ne_eq, hr, not_false_eq_true, decide_true, Bool.and_true, beq_self_eq_true, Bool.false_eq_true,
      ↓reduceIte]
    cases hfd : w.firstDrop with
    | none =>
      rw [hfd] at hu
      have : isSet w.ck.unsupportedTs = false := by rw [hu]; exact isSet_zero isSet hset
      simp only [this, Bool.not_false, ↓reduceIte, Option.isNone_none]
      exact ⟨h.now_sec, h.now_usec, ⟨h.wf.client_len, h.wf.server_len, fun hx => absurd hs hx⟩, h.sent_len,
             fun _ => rfl, by intro t ht; cases ht; exact h.now_sec⟩
    | some t =>
      rw [hfd] at hu
      have : isSet w.ck.unsupportedTs = true := by rw [hu]; exact isSet_of_sec isSet hset t (h.drop_sec t hfd)
      simp only [this, Bool.not_true, Bool.false_eq_true, ↓reduceIte, Option.isNone_some]
      rw [← hfd]; exact h
  · rw [hck, hd, validFor_noserver rq resp hn]
    have hne : (Verdict.accept == Verdict.drop) = false := by decide
    simp only [hne, Bool.and_false, Bool.false_and, Bool.false_eq_true, ↓reduceIte]
    exact ⟨h.now_sec, h.now_usec,
           ⟨by simp [CookieSt.cleared, zeroClient], by simp [CookieSt.cleared], by simp [CookieSt.cleared]⟩,
           h.sent_len, by simp, h.drop_sec⟩

theorem step_inv (isSet) (hset : IsSetOk isSet) (w : World) (e : Ev) (h : Inv w) (he : EvOk w e) :
    Inv (step isSet w e) := by
  cases e with
  | advance us => exact inv_advance w us h
  | send conn fresh req => exact inv_send isSet w conn fresh req h he.1
  | recv q reqCookie resp rcode => exact inv_recv isSet hset w q reqCookie resp rcode h

theorem run_inv (isSet) (hset : IsSetOk isSet) (es : List Ev) : ∀ (w : World), Inv w → TraceOk isSet w es →
    Inv (run isSet w es) := by
  induction es with
  | nil => intro w h _; exact h
  | cons e es ih => intro w h ht; exact ih _ (step_inv isSet hset w e h ht.1) ht.2

theorem reach_inv (isSet) (hset : IsSetOk isSet) (w : World) (h : Reach isSet w) : Inv w := by
  obtain ⟨t0, es, h0, ht, rfl⟩ := h
  exact run_inv isSet hset es _ (inv_init t0 h0) ht

theorem run_append (isSet) (es : List Ev) (e : Ev) :
    ∀ w, run isSet w (es ++ [e]) = step isSet (run isSet w es) e := by
  induction es with
  | nil => intro w; rfl
  | cons x xs ih => intro w; exact ih _

theorem traceOk_append (isSet) (es : List Ev) (e : Ev) :
    ∀ w, TraceOk isSet w es → EvOk (run isSet w es) e → TraceOk isSet w (es ++ [e]) := by
  induction es with
  | nil => intro w _ he; exact ⟨he, trivial⟩
  | cons x xs ih => intro w ht he; exact ⟨ht.1, ih _ ht.2 he⟩

theorem reach_step (isSet) (w : World) (e : Ev) (h : Reach isSet w) (he : EvOk w e) : Reach isSet (step isSet w e) := by
  obtain ⟨t0, es, h0, ht, rfl⟩ := h
  exact ⟨t0, es ++ [e], h0, traceOk_append isSet es e _ ht he, (run_append isSet es e _).symm⟩

theorem reach_run (isSet) (es : List Ev) : ∀ (w : World), Reach isSet w → TraceOk isSet w es →
    Reach isSet (run isSet w es) := by
  induction es with
  | nil => intro w h _; exact h
  | cons e es ih => intro w h ht; exact ih _ (reach_step isSet w e h ht.1) ht.2

/-- the four things `ares_cookie_validate` can do to the per-server state -/
theorem validate_ck_cases (isSet) (c : CookieSt) (q : QState) (reqCookie resp : Option Bytes) (rcode : Nat) (now : TimeVal) :
    let o := validateWith isSet c q reqCookie resp rcode now
    o.ck = c ∨
    (∃ rq r, reqCookie = some rq ∧ resp = some r ∧ validFor reqCookie resp = true ∧ o.ck = learnG c rq r) ∨
    (c.state = .supported ∧ o.ck = { c with unsupportedTs := now } ∧ o.verdict = .drop) ∨
    (c.state = .generated ∧ o.ck = { CookieSt.cleared with state := .unsupported, unsupportedTs := now } ∧
       o.verdict = .accept ∧ ∃ rq, reqCookie = some rq ∧ NoServer rq resp ∧ rcode ≠ RCODE_BADCOOKIE) := by
  intro o
  rcases validate_classes isSet c q reqCookie resp rcode now with
    ⟨hck, _⟩ | ⟨rq, r, h1, h2, hv, _, hck⟩ | ⟨rq, _, _, _, hs, hck, hd⟩ | ⟨rq, h1, hn, hr, hg, hck, hd⟩
  · exact .inl hck
  · exact .inr (.inl ⟨rq, r, h1, h2, hv, hck⟩)
  · by_cases hi : isSet c.unsupportedTs = true
    · exact .inl (by rw [hck, hi]; rfl)
    · exact .inr (.inr (.inl ⟨hs, by rw [hck, Bool.not_eq_true _ |>.mp hi]; rfl, hd⟩))
  · exact .inr (.inr (.inr ⟨hg, hck, hd, rq, h1, hn, hr⟩))

end Cares.Proto.Cookie
