import CaresModel.Dns.Build
import CaresModel.Generated.DnsTables
/-!
# The hand-written validity switches of `Build.lean` are the regenerated tables

(`Generated/DnsTables.lean` is produced by exhaustive evaluation of the compiled C functions on every
check run; these lemmas are the obligations that tie the writer-side copies to it.)
-/
namespace Cares.Dns.Build
open Cares.Dns

/-- the regenerated list of valid RR types is `knownTypes` followed by `RAW_RR` -/
theorem recTypeValid_rr_eq (t : Nat) : recTypeValid t false = Cares.Generated.recTypeValid t false := by
  have e : Cares.Generated.recTypeValidRR = knownTypes ++ [RecType.rawRR] := rfl
  simp only [recTypeValid, Cares.Generated.recTypeValid, e, List.contains_append, Bool.false_eq_true, ↓reduceIte,
    Bool.not_false, ite_self]
  cases knownTypes.contains t <;> by_cases h : t = RecType.rawRR <;> simp [h]

theorem recTypeValid_query_imp (t : Nat) (h : recTypeValid t true = true) :
    Cares.Generated.recTypeValid t true = true ∧ t < 65536 := by
  have hk : knownTypes.all (· < 65536) = true := by decide
  simp only [recTypeValid, Bool.not_true] at h
  simp only [Cares.Generated.recTypeValid, Cares.Generated.recTypeInvalidQuery, ↓reduceIte]
  have : t < 65536 := by
    split at h
    · rename_i hc
      exact of_decide_eq_true (List.all_eq_true.mp hk t (List.contains_iff_mem.mp hc))
    · split at h
      · cases h
      · split at h
        · cases h
        · omega
  refine ⟨?_, this⟩
  simp; omega

theorem classValid_imp (c t : Nat) (q : Bool) (h : classValid c t q = true) :
    Cares.Generated.classValid c t q = true := by
  unfold classValid at h
  simp only [Cares.Generated.classValid, List.contains_cons, List.contains_nil, Bool.or_false, ite_self, beq_iff_eq]
  by_cases h1 : t = RecType.rawRR
  · simp [h1, RecType.rawRR]
  · simp only [h1, ↓reduceIte] at h
    rw [if_neg (c := t = 65536) h1]
    by_cases h2 : c = 255
    · have h : t = RecType.sig ∨ q = true := by simpa [h2] using h
      rcases h with h | h <;> simp [h, h2, RecType.sig]
    · have h : c = 1 ∨ c = 3 ∨ c = 4 ∨ c = 254 := by simpa [h2, or_assoc] using h
      rcases h with h | h | h | h <;> simp [h]

theorem classValid_lt (c t : Nat) (q : Bool) (h : classValid c t q = true) (ht : t ≠ RecType.rawRR) : c < 256 := by
  simp only [classValid, ht, ↓reduceIte] at h
  split at h
  · rename_i hc; simp at hc; omega
  · split at h
    · omega
    · cases h

theorem opcodeValid_eq (o : Nat) : opcodeValid o = Cares.Generated.opcodeValid o := by
  simp [opcodeValid, Cares.Generated.opcodeValid, Cares.Generated.opcodeValidList, Bool.or_assoc]

theorem rcodeValid_eq (r : Nat) : rcodeValid r = Cares.Generated.rcodeValid r := by
  simp only [rcodeValid, Cares.Generated.rcodeValid, Cares.Generated.rcodeValidList]
  by_cases h : r ≤ 23
  · have : ∀ x, x ≤ 23 → (decide (x ≤ 11) || (decide (16 ≤ x) && decide (x ≤ 23))) =
        [0, 1, 2, 3, 4, 5, 6, 7, 8, 9, 10, 11, 16, 17, 18, 19, 20, 21, 22, 23].contains x := by decide
    exact this r h
  · have h1 : r ∉ [0, 1, 2, 3, 4, 5, 6, 7, 8, 9, 10, 11, 16, 17, 18, 19, 20, 21, 22, 23] := by
      simp only [List.mem_cons, List.not_mem_nil, or_false]; omega
    simp [h1]
    omega

end Cares.Dns.Build
