import CaresModel.BufSpec
import CaresLemmas.Buf
/-! Helper lemmas for the `ares_buf` model: ares_buf_split on cursor and tag = the list specification. -/
namespace Cares
open Cares.Dsa Cares.Buf

/-- two buffers that differ only in offset and tag -/
structure SameData (b b' : Buf) : Prop where
  mem : b'.mem = b.mem
  const : b'.isConst = b.isConst
  dlen : b'.dataLen = b.dataLen

theorem SameData.refl (b : Buf) : SameData b b := ⟨rfl, rfl, rfl⟩
theorem SameData.trans {a b c : Buf} (h1 : SameData a b) (h2 : SameData b c) : SameData a c :=
  ⟨h2.mem.trans h1.mem, h2.const.trans h1.const, h2.dlen.trans h1.dlen⟩

theorem inv_of_sameData (b b' : Buf) (h : b.Inv) (s : SameData b b') (ho : b'.off ≤ b'.dataLen)
    (ht : ∀ t, b'.tag = some t → t ≤ b'.dataLen) : b'.Inv := by
  refine ⟨by rw [s.dlen, s.mem]; exact h.dlen, ho, ht, ?_⟩
  have := h.room
  rw [s.const, s.dlen, s.mem]; exact this

theorem remaining_of_sameData (b b' : Buf) (s : SameData b b') : b'.remaining = b.live.drop b'.off := by
  unfold Buf.remaining Buf.live; rw [s.mem, s.dlen]

theorem consume_ok (b : Buf) (n : Nat) (h : n ≤ b.len) : b.consume n = (.ok, { b with off := b.off + n }) := by
  unfold Buf.consume; rw [if_neg (Nat.not_lt.2 h)]

theorem splitAdvance_spec (fl : SplitFlags) (b : Buf) (first : Bool) (h : b.Inv) (hlen : b.len ≠ 0) :
    SameData b (splitAdvance fl b first) ∧ (splitAdvance fl b first).Inv ∧
      (splitAdvance fl b first).tag = some (if first = true ∨ fl.keepDelims = true then b.off else b.off + 1) ∧
      (splitAdvance fl b first).off = (if first = true then b.off else b.off + 1) := by
  have hl : 1 ≤ b.len := Nat.pos_of_ne_zero hlen
  have ho := h.offLe
  have hlen' : b.off + 1 ≤ b.dataLen := Nat.add_le_of_le_sub' ho hl
  unfold splitAdvance
  cases first with
  | true =>
    simp only [↓reduceIte, true_or]
    refine ⟨⟨rfl, rfl, rfl⟩, ?_, rfl, rfl⟩
    exact inv_of_sameData b _ h ⟨rfl, rfl, rfl⟩ ho (fun t ht => by cases ht; exact ho)
  | false =>
    simp only [Bool.false_eq_true, ↓reduceIte, false_or]
    cases hk : fl.keepDelims with
    | true =>
      simp only [↓reduceIte]
      rw [consume_ok b.doTag 1 hl]
      refine ⟨⟨rfl, rfl, rfl⟩, ?_, rfl, rfl⟩
      exact inv_of_sameData b _ h ⟨rfl, rfl, rfl⟩ hlen' (fun t ht => by cases ht; exact ho)
    | false =>
      simp only [Bool.false_eq_true, ↓reduceIte]
      rw [consume_ok b 1 hl]
      refine ⟨⟨rfl, rfl, rfl⟩, ?_, rfl, rfl⟩
      exact inv_of_sameData b _ h ⟨rfl, rfl, rfl⟩ hlen' (fun t ht => by cases ht; exact hlen')

theorem remaining_length' (b : Buf) (h : b.Inv) : b.remaining.length = b.len := remaining_length b h

theorem splitScan_spec (delims : List Nat) (mr : Bool) (b1 : Buf) (h : b1.Inv) (hd : delims ≠ []) :
    SameData b1 (splitScan delims mr b1) ∧ (splitScan delims mr b1).tag = b1.tag ∧
      (splitScan delims mr b1).off = b1.off +
        (if mr = true then b1.remaining else b1.remaining.takeWhile (fun c => !delims.contains c)).length ∧
      (splitScan delims mr b1).off ≤ b1.dataLen := by
  have hrl := remaining_length b1 h
  have ho := h.offLe
  unfold splitScan
  cases mr with
  | true =>
    simp only [↓reduceIte]
    rw [consume_ok b1 b1.len (Nat.le_refl _)]
    refine ⟨⟨rfl, rfl, rfl⟩, rfl, by simp only; rw [hrl], ?_⟩
    show b1.off + (b1.dataLen - b1.off) ≤ b1.dataLen
    rw [Nat.add_sub_of_le ho]; exact Nat.le_refl _
  | false =>
    simp only [Bool.false_eq_true, ↓reduceIte]
    unfold Buf.consumeUntilCharset
    have hde : delims.isEmpty = false := by cases delims <;> simp_all
    rw [fetch_of_inv b1 h]
    by_cases hl : b1.len = 0
    · rw [if_pos hl]
      have hr0 : b1.remaining = [] := List.eq_nil_of_length_eq_zero (hrl.trans hl)
      exact ⟨⟨rfl, rfl, rfl⟩, rfl, by rw [hr0]; rfl, ho⟩
    · rw [if_neg hl]
      simp only [hde, Bool.false_eq_true, ↓reduceIte, false_and]
      have hpl : (b1.remaining.takeWhile (fun c => !delims.contains c)).length ≤ b1.len := by
        rw [← hrl]; exact (List.takeWhile_sublist _).length_le
      unfold Buf.consumeCount
      by_cases hp : (b1.remaining.takeWhile (fun c => !delims.contains c)).length > 0
      · simp only [hp, ↓reduceIte]
        rw [consume_ok b1 _ hpl]
        refine ⟨⟨rfl, rfl, rfl⟩, rfl, rfl, ?_⟩
        simp only; unfold Buf.len at hpl; omega
      · simp only [hp, ↓reduceIte]
        refine ⟨⟨rfl, rfl, rfl⟩, trivial, by omega, ho⟩

theorem takeWhile_eq_take (p : Nat → Bool) (l : List Nat) : l.takeWhile p = l.take (l.takeWhile p).length :=
  List.prefix_iff_eq_take.1 (List.takeWhile_prefix p)

/-- **split**: the loop of ares_buf_split driven on cursor and tag computes the list specification on the unread
    bytes, for every flag combination and section limit; it only moves offset and tag; and with enough fuel
    (`len + 1` iterations) it consumes the whole buffer -/
theorem splitLoop_spec (delims : List Nat) (fl : SplitFlags) (maxSections : Nat) (hd : delims ≠ []) (fuel : Nat)
    (b : Buf) (first : Bool) (acc : List (List Nat)) (h : b.Inv) :
    ∃ b', splitLoop delims fl maxSections fuel b first acc =
        some (b', specSplitLoop delims fl maxSections fuel b.remaining first acc) ∧
      SameData b b' ∧ b'.Inv ∧ (b.len + (if first = true then 1 else 0) ≤ fuel → b'.len = 0) := by
  induction fuel generalizing b first acc with
  | zero =>
    refine ⟨b, rfl, SameData.refl b, h, ?_⟩
    intro hf
    cases first <;> simp at hf <;> omega
  | succ fuel ih =>
    have hrl := remaining_length b h
    unfold splitLoop specSplitLoop
    by_cases h0 : b.len = 0
    · simp only [h0, ↓reduceIte, hrl]
      exact ⟨b, rfl, SameData.refl b, h, fun _ => h0⟩
    · simp only [h0, ↓reduceIte, hrl]
      obtain ⟨s1, i1, t1, o1⟩ := splitAdvance_spec fl b first h h0
      obtain ⟨s2, t2, o2, le2⟩ := splitScan_spec delims (decide (maxSections ≠ 0 ∧ acc.length ≥ maxSections - 1))
        (splitAdvance fl b first) i1 hd
      rw [t1] at t2
      rw [t2]
      simp only
      have hr1 : (splitAdvance fl b first).remaining = if first = true then b.remaining else b.remaining.drop 1 := by
        rw [remaining_of_sameData b _ s1, o1, Buf.remaining_eq]
        cases first with
        | true => rfl
        | false => simp only [Bool.false_eq_true, ↓reduceIte, List.drop_drop]
      rw [hr1] at o2
      generalize splitScan delims (decide (maxSections ≠ 0 ∧ acc.length ≥ maxSections - 1)) (splitAdvance fl b first) = b2
        at s2 t2 o2 le2
      have s12 := SameData.trans s1 s2
      have hle2 : b2.off ≤ b2.dataLen := by rw [s2.dlen]; exact le2
      have ho := h.offLe
      have hlen' : b.off + 1 ≤ b.dataLen := Nat.add_le_of_le_sub' ho (Nat.pos_of_ne_zero h0)
      have i2 : b2.Inv := by
        refine inv_of_sameData b _ h s12 hle2 ?_
        intro t ht
        rw [t2] at ht
        cases ht
        rw [s12.dlen]
        split <;> omega
      generalize hscan : (if first = true then b.remaining else b.remaining.drop 1) = scan at o2
      have hbody : (if decide (maxSections ≠ 0 ∧ acc.length ≥ maxSections - 1) = true then scan
          else scan.takeWhile (fun c => !delims.contains c)) =
          (if maxSections ≠ 0 ∧ acc.length ≥ maxSections - 1 then scan else scan.takeWhile (fun c => !delims.contains c)) := by
        by_cases hm : maxSections ≠ 0 ∧ acc.length ≥ maxSections - 1 <;> simp [hm]
      rw [hbody] at o2
      generalize hbd : (if maxSections ≠ 0 ∧ acc.length ≥ maxSections - 1 then scan
          else scan.takeWhile (fun c => !delims.contains c)) = body at o2
      have hbt : body = scan.take body.length := by
        rw [← hbd]
        split
        · simp
        · exact takeWhile_eq_take _ _
      -- the section the C code reads through the tag
      have hsec : (b2.mem.drop (if first = true ∨ fl.keepDelims = true then b.off else b.off + 1)).take
            (b2.off - (if first = true ∨ fl.keepDelims = true then b.off else b.off + 1)) =
          (if first = true then [] else if fl.keepDelims = true then b.remaining.take 1 else []) ++ body := by
        rw [slice_eq b2 _ _ hle2]
        have hlive : b2.live = b.live := by unfold Buf.live; rw [s12.mem, s12.dlen]
        rw [hlive, o2, o1]
        cases first with
        | true =>
          simp only [true_or, ↓reduceIte, List.nil_append]
          simp only [↓reduceIte] at hscan
          rw [← Buf.remaining_eq, hscan, Nat.add_sub_cancel_left]
          exact hbt.symm
        | false =>
          simp only [Bool.false_eq_true, false_or, ↓reduceIte] at hscan ⊢
          cases hk : fl.keepDelims with
          | true =>
            simp only [↓reduceIte]
            rw [← Buf.remaining_eq, Nat.add_assoc, Nat.add_sub_cancel_left, List.take_add, hscan]
            rw [← hbt]
          | false =>
            simp only [Bool.false_eq_true, ↓reduceIte, List.nil_append]
            rw [Nat.add_sub_cancel_left]
            rw [← List.drop_drop, ← Buf.remaining_eq, hscan]
            exact hbt.symm
      rw [hsec]
      have hrest : b2.remaining = scan.drop body.length := by
        rw [remaining_of_sameData b b2 s12, o2, o1, ← hscan]
        cases first with
        | true => simp only [↓reduceIte]; rw [Buf.remaining_eq, List.drop_drop]
        | false => simp only [Bool.false_eq_true, ↓reduceIte]; rw [Buf.remaining_eq, List.drop_drop, List.drop_drop]; congr 1; omega
      obtain ⟨b', e', s', i', l'⟩ := ih b2 false
        (keepSection fl acc ((if first = true then [] else if fl.keepDelims = true then b.remaining.take 1 else []) ++ body)) i2
      rw [hrest] at e'
      refine ⟨b', ?_, SameData.trans s12 s', i', ?_⟩
      · rw [e']
      · intro hf
        apply l'
        have : b2.len + 1 ≤ b.len + (if first = true then 1 else 0) := by
          unfold Buf.len
          rw [s12.dlen, o2, o1]
          cases first with
          | true => exact Nat.add_le_add_right (Nat.sub_le_sub_left (Nat.le_add_right _ _) _) 1
          | false =>
            -- one byte (the delimiter) is consumed before the body
            refine Nat.le_trans (Nat.add_le_add_right (Nat.sub_le_sub_left (Nat.le_add_right _ body.length) _) 1) ?_
            show b.dataLen - (b.off + 1) + 1 ≤ b.dataLen - b.off + 0
            rw [Nat.sub_add_eq, Nat.sub_add_cancel (show 1 ≤ b.dataLen - b.off from Nat.pos_of_ne_zero h0)]
            exact Nat.le_refl _
        exact Nat.le_of_succ_le_succ (Nat.le_trans this hf)

end Cares
