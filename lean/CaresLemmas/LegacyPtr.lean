import CaresModel.AddrInfo
/-! Helper lemmas for `ptr_name_correct`: `ares_dns_addr_to_ptr` followed by the RFC reading of the name. -/
namespace Cares.AddrInfo
open Cares.Legacy

/-- the text one address byte contributes -/
def ptrPiece (family : Nat) (b : UInt8) : Bytes :=
  if family = afINET then numDec b.toNat ++ [46]
  else [hexDigit (b.toNat % 16), 46, hexDigit (b.toNat / 16 % 16), 46]

theorem ptrLoop_eq (family : Nat) (bs : List UInt8) (buf : Bytes) :
    ptrLoop family bs buf = buf ++ bs.flatMap (ptrPiece family) := by
  induction bs generalizing buf with
  | nil => simp [ptrLoop]
  | cons b rest ih =>
    unfold ptrLoop
    by_cases h : family = afINET
    · rw [if_pos h, ih]; simp [h, ptrPiece, List.append_assoc]
    · rw [if_neg h, ih]; simp [h, ptrPiece, List.append_assoc]

theorem splitDots_nodot (l : Bytes) (h : ∀ c ∈ l, c ≠ 46) : splitDots l = [l] := by
  induction l with
  | nil => rfl
  | cons c rest ih =>
    have hc : c ≠ 46 := h c List.mem_cons_self
    have hr : ∀ d ∈ rest, d ≠ 46 := fun d hd => h d (List.mem_cons_of_mem _ hd)
    simp [splitDots, hc, ih hr]

theorem splitDots_label (l rest : Bytes) (h : ∀ c ∈ l, c ≠ 46) :
    splitDots (l ++ 46 :: rest) = l :: splitDots rest := by
  induction l with
  | nil => simp [splitDots]
  | cons c r ih =>
    have hc : c ≠ 46 := h c List.mem_cons_self
    have hr : ∀ d ∈ r, d ≠ 46 := fun d hd => h d (List.mem_cons_of_mem _ hd)
    simp [splitDots, hc, ih hr]

/-- decimal rendering and reading of an octet agree (all 256 values, by evaluation) -/
theorem octet_roundtrip : ∀ n, n < 256 → parseOctet (numDec n) = some (UInt8.ofNat n) := by
  decide +kernel

theorem decVal_digits : ∀ (l : Bytes) (acc v : Nat), decVal l acc = some v → ∀ c ∈ l, isDigit c = true
  | [], _, _, _, _, hc => absurd hc List.not_mem_nil
  | d :: rest, acc, v, h, c, hc => by
    rw [decVal] at h
    split at h
    next hd =>
      rcases List.mem_cons.mp hc with rfl | hc
      · exact hd
      · exact decVal_digits rest _ v h c hc
    · cases h

theorem parseOctet_digits (l : Bytes) (b : UInt8) (h : parseOctet l = some b) : ∀ c ∈ l, isDigit c = true := by
  unfold parseOctet at h
  split at h
  · cases h
  split at h
  · cases h
  split at h
  next v hv => exact decVal_digits l 0 v hv
  · cases h

/-- a rendered octet is read back, so it consists of digits -/
theorem numDec_nodot (n : Nat) (hn : n < 256) : ∀ c ∈ numDec n, c ≠ 46 := by
  rintro c hc rfl
  exact absurd (parseOctet_digits _ _ (octet_roundtrip n hn) _ hc) (by decide)

theorem hex_roundtrip : ∀ n, n < 16 → parseNibble [hexDigit n] = some n := by
  decide +kernel

theorem hexDigit_nodot : ∀ n, n < 16 → hexDigit n ≠ 46 := by
  decide +kernel



theorem splitDots_v4 (bs : List UInt8) (suffix : Bytes) :
    splitDots (bs.flatMap (ptrPiece afINET) ++ suffix) = bs.map (fun b => numDec b.toNat) ++ splitDots suffix := by
  induction bs with
  | nil => simp
  | cons b rest ih =>
    have hb : b.toNat < 256 := b.toNat_lt
    simp only [List.flatMap_cons, ptrPiece, ↓reduceIte, List.append_assoc, List.map_cons, List.cons_append]
    rw [splitDots_label _ _ (numDec_nodot b.toNat hb)]
    simp only [List.nil_append, ih]

theorem mapM_parseOctet (bs : List UInt8) : (bs.map (fun b => numDec b.toNat)).mapM parseOctet = some bs := by
  induction bs with
  | nil => rfl
  | cons b rest ih =>
    have hb : b.toNat < 256 := b.toNat_lt
    simp [List.mapM_cons, octet_roundtrip b.toNat hb, ih]

theorem splitDots_inAddrArpa : splitDots inAddrArpa = [lblInAddr, lblArpa] := by decide
theorem splitDots_ip6Arpa : splitDots ip6Arpa = [lblIp6, lblArpa] := by decide

theorem ptr_v4 (addr : Bytes) (h : addr.length = 4) :
    (addrToPtr afINET addr).bind parsePtrName = some (afINET, addr) := by
  unfold addrToPtr
  simp only [ne_eq, not_true_eq_false, false_and, ↓reduceIte, Option.bind_some, ptrLoop_eq, List.nil_append]
  unfold parsePtrName
  have hlen : (addr.reverse.map (fun b => numDec b.toNat)).length = 4 := by
    rw [List.length_map, List.length_reverse, h]
  simp only [splitDots_v4, splitDots_inAddrArpa, List.length_append, hlen, List.drop_left' hlen, List.take_left' hlen,
    List.length_cons, List.length_nil, and_self, ↓reduceIte]
  rw [← List.map_reverse, List.reverse_reverse, mapM_parseOctet]
  rfl


/-- the two nibble labels of one byte, least significant first -/
def revNib (b : UInt8) : List Bytes := [[hexDigit (b.toNat % 16)], [hexDigit (b.toNat / 16 % 16)]]

theorem splitDots_char (c : UInt8) (rest : Bytes) (hc : c ≠ 46) :
    splitDots (c :: 46 :: rest) = [c] :: splitDots rest := by
  rw [splitDots, if_neg hc, splitDots, if_pos rfl]

theorem splitDots_v6 (bs : List UInt8) (suffix : Bytes) :
    splitDots (bs.flatMap (ptrPiece afINET6) ++ suffix) =
      bs.flatMap revNib ++ splitDots suffix := by
  induction bs with
  | nil => rfl
  | cons b rest ih =>
    have hne : afINET6 ≠ afINET := by decide
    have hp : ptrPiece afINET6 b = [hexDigit (b.toNat % 16), 46, hexDigit (b.toNat / 16 % 16), 46] := if_neg hne
    rw [List.flatMap_cons, hp, List.append_assoc]
    show splitDots (_ :: 46 :: _ :: 46 :: (List.flatMap (ptrPiece afINET6) rest ++ suffix)) = _
    rw [splitDots_char _ _ (hexDigit_nodot _ (Nat.mod_lt _ (by decide))),
      splitDots_char _ _ (hexDigit_nodot _ (Nat.mod_lt _ (by decide))), ih]
    rfl

/-- nibble labels, most significant nibble first -/
def nibLabels (bs : List UInt8) : List Bytes :=
  bs.flatMap (fun b => [[hexDigit (b.toNat / 16 % 16)], [hexDigit (b.toNat % 16)]])

theorem reverse_nibbles (bs : List UInt8) :
    (bs.reverse.flatMap revNib).reverse =
      nibLabels bs := by
  induction bs with
  | nil => rfl
  | cons b rest ih =>
    simp only [List.reverse_cons, List.flatMap_append, List.flatMap_cons, List.flatMap_nil, List.append_nil,
      List.reverse_append, ih, nibLabels]
    rfl

theorem mapM_parseNibble (bs : List UInt8) :
    (nibLabels bs).mapM parseNibble = some (bs.flatMap (fun b => [b.toNat / 16 % 16, b.toNat % 16])) := by
  induction bs with
  | nil => rfl
  | cons b rest ih =>
    have h1 := hex_roundtrip (b.toNat / 16 % 16) (Nat.mod_lt _ (by decide))
    have h2 := hex_roundtrip (b.toNat % 16) (Nat.mod_lt _ (by decide))
    simp only [nibLabels, List.flatMap_cons, List.cons_append, List.nil_append, List.mapM_cons, h1, h2] at ih ⊢
    simp [ih]

theorem pairUp_nibbles (bs : List UInt8) :
    pairUp (bs.flatMap (fun b => [b.toNat / 16 % 16, b.toNat % 16])) = some bs := by
  induction bs with
  | nil => rfl
  | cons b rest ih =>
    simp only [List.flatMap_cons, List.cons_append, List.nil_append, pairUp, ih, Option.map_some]
    have hb : b.toNat / 16 < 16 := Nat.div_lt_of_lt_mul b.toNat_lt
    rw [Nat.mod_eq_of_lt hb, Nat.div_add_mod' b.toNat 16, UInt8.ofNat_toNat]

theorem length_flatMap_revNib (l : List UInt8) :
    (l.flatMap revNib).length = 2 * l.length := by
  induction l with
  | nil => rfl
  | cons b r ih => rw [List.flatMap_cons, List.length_append, ih, List.length_cons (as := r), Nat.mul_succ, Nat.add_comm]; rfl

theorem ptr_v6 (addr : Bytes) (h : addr.length = 16) :
    (addrToPtr afINET6 addr).bind parsePtrName = some (afINET6, addr) := by
  unfold addrToPtr
  have hne : afINET6 ≠ afINET := by decide
  simp only [ne_eq, hne, not_false_eq_true, not_true_eq_false, and_false, ↓reduceIte, Option.bind_some, ptrLoop_eq,
    List.nil_append]
  unfold parsePtrName
  have hlen : (addr.reverse.flatMap revNib).length = 32 := by
    rw [length_flatMap_revNib, List.length_reverse, h]
  have h6 : ¬ ((32 + 2 : Nat) = 6) := by decide
  simp only [splitDots_v6, splitDots_ip6Arpa, List.length_append, hlen, List.drop_left' hlen, List.take_left' hlen,
    List.length_cons, List.length_nil, h6, false_and, and_self, ↓reduceIte, reverse_nibbles, mapM_parseNibble,
    Option.bind_some, pairUp_nibbles, Option.map_some]

end Cares.AddrInfo
