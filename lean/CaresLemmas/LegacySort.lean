import CaresModel.AddrInfo
import CaresLemmas.ListLemmas
/-! The two sorts of the address results.

    `ares_sortaddrinfo`: the relink step rebuilds exactly the array order; the insertion sort that stands in for `qsort`
    permutes.

    The sortlist insertion sort (`sort_addresses`, on the array as coded): the inner loop inserts the entry at the hole
    into the entries before it (`shiftLoop_spec`, `sortStep_insert`), so after `n` rounds the first `n` entries are a
    sorted permutation of the first `n` of the input (`sortSteps_spec`). -/
namespace Cares.AddrInfo
open Cares.Legacy


theorem relinkLoop_untouched (elems : List Nat) (l : Links) (i : Nat) (hi : i ∉ elems) :
    (relinkLoop elems l)[i]? = l[i]? := by
  induction elems generalizing l with
  | nil => rfl
  | cons e rest ih =>
    cases rest with
    | nil =>
      have : e ≠ i := by intro h; exact hi (by simp [h])
      simp [relinkLoop, setNext, this]
    | cons e' rest' =>
      have hne : e ≠ i := by intro h; exact hi (by simp [h])
      have hi' : i ∉ e' :: rest' := by intro h; exact hi (List.mem_cons_of_mem _ h)
      simp only [relinkLoop]
      rw [ih _ hi']
      simp [setNext, hne]

theorem walk_none (l : Links) (fuel : Nat) : walk l fuel none = [] := by
  cases fuel <;> rfl

theorem relink_walk_aux (elems : List Nat) (l : Links) (hn : elems.Nodup) (hb : ∀ e ∈ elems, e < l.length)
    (fuel : Nat) (hf : elems.length ≤ fuel) :
    walk (relinkLoop elems l) fuel elems.head? = elems := by
  induction elems generalizing l fuel with
  | nil => simp [walk_none]
  | cons e rest ih =>
    cases fuel with
    | zero => simp at hf
    | succ fuel =>
      cases rest with
      | nil =>
        simp only [List.head?_cons, walk, relinkLoop, setNext]
        have : (l.set e none).getD e none = none := by
          simp [List.getD_eq_getElem?_getD, List.getElem?_set]
          split <;> simp
        rw [this, walk_none]
      | cons e' rest' =>
        have hne : e ∉ e' :: rest' := (List.nodup_cons.mp hn).1
        have hn' : (e' :: rest').Nodup := (List.nodup_cons.mp hn).2
        have he : e < l.length := hb e List.mem_cons_self
        have hb' : ∀ x ∈ e' :: rest', x < (setNext l e (some e')).length := by
          intro x hx; simp only [setNext, List.length_set]; exact hb x (List.mem_cons_of_mem _ hx)
        simp only [List.head?_cons, walk, relinkLoop]
        have hnext : (relinkLoop (e' :: rest') (setNext l e (some e'))).getD e none = some e' := by
          rw [List.getD_eq_getElem?_getD, relinkLoop_untouched _ _ _ hne]
          simp [setNext, he]
        rw [hnext]
        have := ih (setNext l e (some e')) hn' hb' fuel (by simp at hf ⊢; omega)
        simp only [List.head?_cons] at this
        rw [this]

theorem range_filterMap_getElem? {α : Type} (l : List α) : (List.range l.length).filterMap (fun i => l[i]?) = l := by
  induction l with
  | nil => rfl
  | cons a t ih =>
    rw [List.length_cons, List.range_succ_eq_map]
    simp only [List.filterMap_cons, List.getElem?_cons_zero, List.filterMap_map]
    congr 1

theorem isort_perm (cmp : SortElem → SortElem → Int) (l : List SortElem) : (isort cmp l).Perm l := by
  induction l with
  | nil => exact List.Perm.refl _
  | cons x xs ih =>
    simp only [isort, List.foldr_cons]
    exact (insert_perm (ins := insertBy cmp x) (fun y _ => cmp x y < 0) rfl (fun _ _ => rfl) _).trans
      (List.Perm.cons x ih)

theorem mkElems_order (nodes : List AddrNode) (specs : List SrcSpec) (i : Nat) (elems : List SortElem)
    (h : mkElems nodes specs i = some elems) : elems.map (·.order) = List.range' i nodes.length := by
  induction nodes generalizing specs i elems with
  | nil => cases h; rfl
  | cons n ns ih =>
    have step : ∀ e : SortElem, e.order = i → (mkElems ns specs.tail (i + 1)).map (e :: ·) = some elems →
        elems.map (·.order) = List.range' i (ns.length + 1) := by
      intro e he h
      obtain ⟨r, hr, rfl⟩ := Option.map_eq_some_iff.mp h
      rw [List.map_cons, he, ih _ _ _ hr, List.range'_succ]
    unfold mkElems at h
    simp only at h
    split at h
    · cases h
    · exact step _ rfl h
    · exact step _ rfl h


theorem shiftLoop_le {α : Type} (ind : α → Nat) (v : Nat) (k : Nat) (l : List α) :
    (shiftLoop ind v k l).1 ≤ k := by
  induction k generalizing l with
  | zero => exact Nat.le_refl 0
  | succ k ih =>
    unfold shiftLoop
    split
    · exact Nat.le_refl _
    · split
      · exact Nat.le_refl _
      · exact Nat.le_succ_of_le (ih _)

theorem shiftLoop_succ {α : Type} (ind : α → Nat) (v k : Nat) (l : List α) (a2 : α) (h : l[k]? = some a2) :
    shiftLoop ind v (k + 1) l = if ind a2 ≤ v then (k + 1, l) else shiftLoop ind v k (l.set (k + 1) a2) := by
  rw [shiftLoop, h]

/-- the inner loop on `pre ++ x :: post` with the hole at `pre.length`: the entries at the end of `pre` that are above `v`
    move one place to the right, so putting `a` into the hole inserts `a` into `pre` in front of them -/
theorem shiftLoop_spec {α : Type} (ind : α → Nat) (v : Nat) (a : α) (pre : List α) : ∀ (x : α) (post : List α),
    ∃ lo hi, pre = lo ++ hi ∧ (shiftLoop ind v pre.length (pre ++ x :: post)).1 = lo.length ∧
      (shiftLoop ind v pre.length (pre ++ x :: post)).2.set lo.length a = lo ++ a :: (hi ++ post) ∧
      (∀ b ∈ hi, v < ind b) ∧ (∀ b, lo.getLast? = some b → ind b ≤ v) := by
  -- the loop runs from the end of `pre`
  rw [← List.reverse_reverse pre]
  induction pre.reverse with
  | nil => exact fun x post => ⟨[], [], rfl, rfl, rfl, fun _ h => absurd h List.not_mem_nil, fun _ h => by cases h⟩
  | cons a2 rp ih =>
    intro x post
    rw [List.reverse_cons]
    generalize rp.reverse = p at ih ⊢
    have hget : (p ++ [a2] ++ x :: post)[p.length]? = some a2 := by
      rw [List.append_assoc, List.getElem?_append_right (Nat.le_refl _), Nat.sub_self]; rfl
    rw [List.length_append, List.length_singleton, shiftLoop_succ _ _ _ _ _ hget]
    by_cases hle : ind a2 ≤ v
    · refine ⟨p ++ [a2], [], (List.append_nil _).symm, ?_, ?_, fun _ h => absurd h List.not_mem_nil, ?_⟩
      · rw [if_pos hle, List.length_append, List.length_singleton]
      · rw [if_pos hle, List.length_append, List.length_singleton]
        simp
      · intro b hb
        rw [List.getLast?_concat] at hb
        cases hb; exact hle
    · have hset : (p ++ [a2] ++ x :: post).set (p.length + 1) a2 = p ++ a2 :: (a2 :: post) := by simp
      obtain ⟨lo, hi, hp, h1, h2, h3, h4⟩ := ih a2 (a2 :: post)
      refine ⟨lo, hi ++ [a2], by rw [hp, List.append_assoc], ?_, ?_, ?_, h4⟩
      · rw [if_neg hle, hset, h1]
      · rw [if_neg hle, hset, h2]; simp
      · intro b hb
        rcases List.mem_append.mp hb with hb | hb
        · exact h3 b hb
        · rw [List.mem_singleton.mp hb]; omega

/-- one step of the outer loop inserts `a1` into the entries before it, behind those that are not above it -/
theorem sortStep_insert {α : Type} (ind : α → Nat) (pre : List α) (a1 : α) (post : List α) :
    ∃ lo hi, pre = lo ++ hi ∧ sortStep ind (pre ++ a1 :: post) pre.length = lo ++ a1 :: (hi ++ post) ∧
      (∀ b ∈ hi, ind a1 < ind b) ∧ (∀ b, lo.getLast? = some b → ind b ≤ ind a1) := by
  obtain ⟨lo, hi, hp, h1, h2, h3, h4⟩ := shiftLoop_spec ind (ind a1) a1 pre a1 post
  have hget : (pre ++ a1 :: post)[pre.length]? = some a1 := by
    rw [List.getElem?_append_right (Nat.le_refl _), Nat.sub_self]; rfl
  refine ⟨lo, hi, hp, ?_, h3, h4⟩
  rw [sortStep, hget]
  show (shiftLoop ind (ind a1) pre.length (pre ++ a1 :: post)).2.set (shiftLoop ind (ind a1) pre.length (pre ++ a1 :: post)).1 a1 = _
  rw [h1, h2]

theorem le_of_getLast_le {α : Type} (ind : α → Nat) (v : Nat) (lo : List α)
    (hs : lo.Pairwise (fun a b => ind a ≤ ind b)) (hl : ∀ b, lo.getLast? = some b → ind b ≤ v) :
    ∀ a ∈ lo, ind a ≤ v := by
  intro a ha
  rcases List.eq_nil_or_concat lo with rfl | ⟨init, last, rfl⟩
  · cases ha
  · rw [List.concat_eq_append] at hs hl ha
    have hv := hl last List.getLast?_concat
    rcases List.mem_append.mp ha with ha | ha
    · exact Nat.le_trans ((List.pairwise_append.mp hs).2.2 a ha last (List.mem_singleton.mpr rfl)) hv
    · rw [List.mem_singleton.mp ha]; exact hv

/-- the invariant of the outer loop: after `n` rounds the first `n` entries are the first `n` entries of the input in
    ascending order of `ind`, and the rest has not been touched -/
theorem sortSteps_spec {α : Type} (ind : α → Nat) (l : List α) : ∀ n, n ≤ l.length →
    ∃ s, (List.range n).foldl (sortStep ind) l = s ++ l.drop n ∧ s.Perm (l.take n) ∧
      s.Pairwise (fun a b => ind a ≤ ind b)
  | 0, _ => ⟨[], rfl, List.Perm.refl _, List.Pairwise.nil⟩
  | n + 1, hn => by
    obtain ⟨s, hs, hp, hw⟩ := sortSteps_spec ind l n (Nat.le_of_succ_le hn)
    have hlen : s.length = n := hp.length_eq.trans (List.length_take_of_le (Nat.le_of_succ_le hn))
    rw [List.range_succ, List.foldl_append, hs, List.drop_eq_getElem_cons hn, List.take_succ_eq_append_getElem hn]
    generalize l[n] = a, l.drop (n + 1) = post
    obtain ⟨lo, hi, rfl, he, h3, h4⟩ := sortStep_insert ind s a post
    have hlo := le_of_getLast_le ind _ lo (List.pairwise_append.mp hw).1 h4
    refine ⟨lo ++ a :: hi, ?_, List.perm_middle.trans ((hp.cons a).trans (List.perm_append_singleton a _).symm), ?_⟩
    · show sortStep ind _ n = _
      rw [← hlen, he, List.append_assoc, List.cons_append]
    · have hq := List.pairwise_append.mp hw
      exact List.pairwise_append.mpr ⟨hq.1, List.pairwise_cons.mpr ⟨fun b hb => Nat.le_of_lt (h3 b hb), hq.2.1⟩,
        fun a ha b hb => (List.mem_cons.mp hb).elim (fun e => e ▸ hlo a ha) (hq.2.2 a ha b)⟩

/-- `sort_addresses` returns the addresses it was given, in ascending order of `ind` -/
theorem sortAddresses_spec {α : Type} (ind : α → Nat) (l : List α) :
    (sortAddresses ind l).Perm l ∧ (sortAddresses ind l).Pairwise (fun a b => ind a ≤ ind b) := by
  obtain ⟨s, hs, hp, hw⟩ := sortSteps_spec ind l l.length (Nat.le_refl _)
  rw [List.drop_length, List.append_nil] at hs
  rw [List.take_length] at hp
  rw [sortAddresses, hs]
  exact ⟨hp, hw⟩

end Cares.AddrInfo
