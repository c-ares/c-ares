import CaresLemmas.ChanWfAttach
/-!
# C01 — opening a connection (`ares_open_connection`): a virtual socket is allocated; on success the connection
enters the store and its server's list
-/
namespace Cares.Chan

def Sk.addSock (a : Sk) : Sk := { a with nextFd := a.nextFd + 1, socks := a.socks ++ [a.nextFd] }

def Sk.addConn (a : Sk) (fd srvId : Nat) (tcp : Bool) : Sk :=
  ({ a with conns := a.conns ++ [⟨fd, srvId, tcp, false, []⟩] } : Sk).modS srvId fun v =>
    { v with conns := if tcp then v.conns ++ [fd] else fd :: v.conns, tcpConn := if tcp then some fd else v.tcpConn }

theorem wf_addSock {a : Sk} {hole} (h : WfS a hole) : WfS a.addSock hole := by
  refine ⟨h.q, h.i, h.t, ?_, h.s, h.k, h.tok⟩
  have hc := h.c
  exact ⟨hc.nodup, fun c hcm => Nat.lt_succ_of_lt (hc.lt c hcm),
    fun c hcm => List.mem_append.mpr (Or.inl (hc.sock c hcm)), hc.qNodup, hc.cq, hc.qc⟩

theorem step_addSock {xf xi d} {a : Sk} : StepS xf xi d a a.addSock :=
  StepS.of_same rfl rfl rfl rfl rfl rfl rfl (fun _ q hm _ => ⟨q, hm, fun _ hx => hx⟩)

theorem debt_addSock {x d} {a : Sk} (hd : DebtOk x d a) : DebtOk x d a.addSock := hd.congr rfl rfl rfl rfl rfl

section
variable {a : Sk} {fd srvId : Nat} {tcp : Bool}

theorem addConn_cFQ : (a.addConn fd srvId tcp).cFQ = a.cFQ ++ [(fd, [])] := by
  simp [Sk.addConn, Sk.modS, Sk.cFQ]
theorem addConn_cF4 : (a.addConn fd srvId tcp).cF4 = a.cF4 ++ [(fd, false, srvId, tcp)] := by
  simp [Sk.addConn, Sk.modS, Sk.cF4]
theorem addConn_cFUQ : (a.addConn fd srvId tcp).cFUQ = a.cFUQ ++ [(fd, false, [])] := by
  simp [Sk.addConn, Sk.modS, Sk.cFUQ]

theorem mem_servers_addConn {v : SSk} : v ∈ (a.addConn fd srvId tcp).servers ↔
    ∃ v1 ∈ a.servers, v = if v1.id = srvId then
      { v1 with conns := if tcp then v1.conns ++ [fd] else fd :: v1.conns,
                tcpConn := if tcp then some fd else v1.tcpConn } else v1 := by
  simp only [Sk.addConn, Sk.modS, List.mem_map, beq_iff_eq]
  constructor <;> rintro ⟨c1, h1, rfl⟩ <;> exact ⟨c1, h1, rfl⟩

theorem addConn_server_ids : (a.addConn fd srvId tcp).servers.map (·.id) = a.servers.map (·.id) :=
  map_if_keep _ fun _ _ _ => rfl

theorem wf_addConn (h : WfS a none) (hlt : fd < a.nextFd) (hs : fd ∈ a.socks) (hfresh : ∀ c ∈ a.cFQ, c.1 ≠ fd)
    (hsrv : ∃ v ∈ a.servers, v.id = srvId) : WfS (a.addConn fd srvId tcp) none := by
  have hc := h.c
  have hsv := h.s
  -- a descriptor listed by a server is not the fresh one
  have listed_ne : ∀ fd' u v t, (fd', u, v, t) ∈ a.cF4 → fd' ≠ fd := by
    intro fd' u v t hm
    obtain ⟨c, hcm, he⟩ := mem_cF4.mp hm
    simp only [Prod.mk.injEq] at he
    rw [he.1]
    exact hfresh (c.fd, c.queries) (mem_cFQ.mpr ⟨c, hcm, rfl⟩)
  refine ⟨h.q, h.i, h.t, ?_, ?_, h.k, h.tok⟩
  · rw [addConn_cFQ]
    show WfCP a.qKC a.idx (a.cFQ ++ [(fd, [])]) a.nextFd a.socks none
    refine ⟨?_, ?_, ?_, ?_, ?_, ?_⟩
    · rw [List.map_append, List.nodup_append]
      refine ⟨hc.nodup, by simp, fun x hx y hy => ?_⟩
      obtain ⟨c, hcm, rfl⟩ := List.mem_map.mp hx
      simp only [List.map_cons, List.map_nil, List.mem_singleton] at hy
      rw [hy]; exact hfresh c hcm
    · intro c hcm
      rcases List.mem_append.mp hcm with hcm | hcm
      · exact hc.lt c hcm
      · rw [List.mem_singleton.mp hcm]; exact hlt
    · intro c hcm
      rcases List.mem_append.mp hcm with hcm | hcm
      · exact hc.sock c hcm
      · rw [List.mem_singleton.mp hcm]; exact hs
    · intro c hcm
      rcases List.mem_append.mp hcm with hcm | hcm
      · exact hc.qNodup c hcm
      · rw [List.mem_singleton.mp hcm]; exact List.nodup_nil
    · intro c hcm k hk
      rcases List.mem_append.mp hcm with hcm | hcm
      · exact hc.cq c hcm k hk
      · rw [List.mem_singleton.mp hcm] at hk; cases hk
    · intro p hp fd' hfd'
      obtain ⟨c, hcm, h1, h2⟩ := hc.qc p hp fd' hfd'
      exact ⟨c, List.mem_append.mpr (Or.inl hcm), h1, h2⟩
  · rw [addConn_cF4]
    refine ⟨by rw [addConn_server_ids]; exact hsv.nodup, ?_, ?_, ?_, ?_⟩
    rotate_left 3
    · intro fd' srv t hm
      -- the image of a server lists at least what the server listed
      have img : ∀ v1 ∈ a.servers, ∀ x ∈ v1.conns, ∃ v ∈ (a.addConn fd srvId tcp).servers, v.id = v1.id ∧ x ∈ v.conns := by
        intro v1 hv1 x hx
        refine ⟨_, mem_servers_addConn.mpr ⟨v1, hv1, rfl⟩, by split <;> rfl, ?_⟩
        split
        · show x ∈ (if tcp = true then v1.conns ++ [fd] else fd :: v1.conns)
          split
          · exact List.mem_append.mpr (Or.inl hx)
          · exact List.mem_cons_of_mem _ hx
        · exact hx
      rcases List.mem_append.mp hm with hm | hm
      · obtain ⟨v1, hv1, hid, hx⟩ := hsv.linked fd' srv t hm
        obtain ⟨v, hv, hvid, hvx⟩ := img v1 hv1 fd' hx
        exact ⟨v, hv, hvid.trans hid, hvx⟩
      · simp only [List.mem_singleton, Prod.mk.injEq] at hm
        obtain ⟨v1, hv1, hid⟩ := hsrv
        refine ⟨_, mem_servers_addConn.mpr ⟨v1, hv1, rfl⟩, ?_, ?_⟩
        · rw [hm.2.2.1, ← hid]; split <;> rfl
        · rw [hm.1, if_pos hid]
          show fd ∈ (if tcp = true then v1.conns ++ [fd] else fd :: v1.conns)
          split
          · exact List.mem_append.mpr (Or.inr (List.mem_singleton.mpr rfl))
          · exact List.mem_cons_self
    · intro v hv
      obtain ⟨v1, hv1, rfl⟩ := mem_servers_addConn.mp hv
      have hnot : fd ∉ v1.conns := fun hm => by
        obtain ⟨t, ht⟩ := hsv.conns v1 hv1 fd hm
        exact listed_ne _ _ _ _ ht rfl
      split
      · show (if tcp = true then v1.conns ++ [fd] else fd :: v1.conns).Nodup
        split
        · rw [List.nodup_append]
          exact ⟨hsv.connsNodup v1 hv1, by simp, fun x hx y hy => by
            rw [List.mem_singleton.mp hy]; exact fun he => hnot (he ▸ hx)⟩
        · exact List.nodup_cons.mpr ⟨hnot, hsv.connsNodup v1 hv1⟩
      · exact hsv.connsNodup v1 hv1
    · intro v hv fd' hfd'
      obtain ⟨v1, hv1, rfl⟩ := mem_servers_addConn.mp hv
      by_cases hid : v1.id = srvId
      · simp only [hid, ↓reduceIte] at hfd' ⊢
        have : fd' ∈ v1.conns ∨ fd' = fd := by
          split at hfd'
          · rcases List.mem_append.mp hfd' with h1 | h1
            · exact Or.inl h1
            · exact Or.inr (List.mem_singleton.mp h1)
          · rcases List.mem_cons.mp hfd' with h1 | h1
            · exact Or.inr h1
            · exact Or.inl h1
        rcases this with h1 | h1
        · obtain ⟨t, ht⟩ := hsv.conns v1 hv1 fd' h1
          exact ⟨t, List.mem_append.mpr (Or.inl (by rw [← hid]; exact ht))⟩
        · exact ⟨tcp, List.mem_append.mpr (Or.inr (by rw [h1]; exact List.mem_singleton.mpr rfl))⟩
      · simp only [hid, ↓reduceIte] at hfd' ⊢
        obtain ⟨t, ht⟩ := hsv.conns v1 hv1 fd' hfd'
        exact ⟨t, List.mem_append.mpr (Or.inl ht)⟩
    · intro v hv fd' hfd'
      obtain ⟨v1, hv1, rfl⟩ := mem_servers_addConn.mp hv
      by_cases hid : v1.id = srvId
      · simp only [hid, ↓reduceIte] at hfd' ⊢
        by_cases htcp : tcp = true
        · simp only [htcp, ↓reduceIte, Option.some.injEq] at hfd'
          rw [← hfd', htcp]
          exact List.mem_append.mpr (Or.inr (List.mem_singleton.mpr rfl))
        · simp only [htcp, Bool.false_eq_true, ↓reduceIte] at hfd'
          have := hsv.tcp v1 hv1 fd' hfd'
          exact List.mem_append.mpr (Or.inl (by rw [← hid]; exact this))
      · simp only [hid, ↓reduceIte] at hfd' ⊢
        exact List.mem_append.mpr (Or.inl (hsv.tcp v1 hv1 fd' hfd'))

theorem step_addConn {xf xi d} : StepS xf xi d a (a.addConn fd srvId tcp) :=
  StepS.of_same rfl rfl rfl rfl rfl rfl rfl
    (fun _ q hm _ => ⟨q, by rw [addConn_cFUQ]; exact List.mem_append.mpr (Or.inl hm), fun _ hx => hx⟩)

theorem debt_addConn {x d} (hd : DebtOk x d a) : DebtOk x d (a.addConn fd srvId tcp) :=
  hd.congr rfl rfl rfl rfl rfl

theorem hasConn_addConn : (a.addConn fd srvId tcp).hasConn fd false :=
  ⟨[], by rw [addConn_cFUQ]; exact List.mem_append.mpr (Or.inr (List.mem_singleton.mpr rfl))⟩

end

end Cares.Chan
