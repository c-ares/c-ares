import CaresLemmas.ChanSockUnl
import CaresLemmas.ChanSockDestroy
import CaresLemmas.ChanWfDestroy
/-!
# `ares_destroy` closes every socket (C10) — full statement

Combines the socket-protocol invariant (`SInv`), "no half-closed connection survives a completed call" (`exec_Unl`)
and the ownership invariant of C01 (`Wf`, `DebtOk`; `destroy_walk_no_queries` in `ChanWfDestroy.lean`): after the
cancel loop no connection lists a query and every (linked) connection is on its server's list.
-/
namespace Cares.Chan

/-- **`ares_destroy` leaves no connection and no open socket.**  Hypotheses on the (top-level) entry state: the socket
    invariant, the ownership invariant of C01, no list walk in progress, no half-closed connection; and the run does not
    run out of fuel. -/
theorem exec_destroy_closes_all_full (f : Nat) (s : St) (h : SInv none s) (hw : Wf s)
    (hd : DebtOk none (fun _ => 0) s.sk) (hlc : s.listCopy = []) (hu : ∀ c ∈ s.conns, c.unlinked = false)
    (hf : (exec (f + 3) .destroy s).1.outOfFuel = false) :
    (exec (f + 3) .destroy s).1.conns = [] ∧
      (∀ fd, fdState (exec (f + 3) .destroy s).1.sockLog fd ≠ .opened) := by
  have hft : (exec (f + 2) (.cancelLoop .destruction true) { s with destroying := true }).1.outOfFuel = false := by
    cases hb : (exec (f + 2) (.cancelLoop .destruction true) { s with destroying := true }).1.outOfFuel with
    | false => rfl
    | true =>
      exfalso
      have hfold : ∀ (fds : List Nat) (t : St), t.outOfFuel = true →
          (fds.foldl (fun s fd => (exec (f + 2) (.closeConn fd .ok) s).1) t).outOfFuel = true := by
        intro fds
        induction fds with
        | nil => exact fun _ h => h
        | cons fd rest ih => exact fun t h => ih _ (exec_outOfFuel _ _ _ h)
      have : (exec (f + 3) .destroy s).1.outOfFuel = true := by
        show (execBody (exec (f + 2)) .destroy s).1.outOfFuel = true
        simp only [execBody, bodyDestroy]
        exact hfold _ _ hb
      rw [hf] at this; cases this
  obtain ⟨_, _, hq, hl⟩ := destroy_walk_no_queries (f + 2) hw hd hlc hft
  have hun : Unl [] (exec (f + 2) (.cancelLoop .destruction true) { s with destroying := true }).1 := by
    apply exec_Unl
    intro _ c hc hcu
    rw [hu c hc] at hcu; cases hcu
  have hl' : ∀ c ∈ (exec (f + 2) (.cancelLoop .destruction true) { s with destroying := true }).1.conns,
      c.fd ∈ ((exec (f + 2) (.cancelLoop .destruction true) { s with destroying := true }).1.sortedServers.map
        (·.conns)).flatten := by
    intro c hc
    apply hl c hc
    cases hcu : c.unlinked with
    | false => rfl
    | true => have := hun hft c hc hcu; cases this
  obtain ⟨h1, h2, _⟩ := exec_destroy_closes_all f s h hq hl'
  exact ⟨h1, h2⟩

end Cares.Chan
