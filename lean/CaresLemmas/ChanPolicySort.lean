import CaresModel.Chan.Core
import CaresLemmas.ListLemmas
/-!
# Server priority order (`server_sort_cb`, `ares_slist` of servers) — list lemmas for C09

`St.sortedServers` is the insertion sort of `s.servers` by `(failures, id)`; the lemmas here are pure list facts:
permutation, sortedness, position = number of strictly better servers, `countBest`.
-/
namespace Cares.Chan

/-- strict priority order: fewer consecutive failures first, configuration index breaks ties -/
def srvLt (a b : Server) : Prop := a.failures < b.failures ∨ (a.failures = b.failures ∧ a.id < b.id)
def srvLe (a b : Server) : Prop := a.failures < b.failures ∨ (a.failures = b.failures ∧ a.id ≤ b.id)

instance (a b : Server) : Decidable (srvLt a b) := by unfold srvLt; infer_instance
instance (a b : Server) : Decidable (srvLe a b) := by unfold srvLe; infer_instance

theorem srvLt_iff_cond (v x : Server) :
    (v.failures < x.failures || (v.failures == x.failures && v.id < x.id)) = true ↔ srvLt v x := by
  simp [srvLt]

theorem srvLe_of_not_lt {v x : Server} (h : ¬ srvLt v x) : srvLe x v := by
  unfold srvLt at h; unfold srvLe; omega

theorem srvLe_of_lt {v x : Server} (h : srvLt v x) : srvLe v x := by
  unfold srvLt at h; unfold srvLe; omega

theorem srvLe_trans {a b c : Server} (h1 : srvLe a b) (h2 : srvLe b c) : srvLe a c := by
  unfold srvLe at *; omega

theorem srvLt_trans {a b c : Server} (h1 : srvLt a b) (h2 : srvLt b c) : srvLt a c := by
  unfold srvLt at *; omega

theorem srvLt_irrefl (a : Server) : ¬ srvLt a a := by unfold srvLt; omega

theorem srvLt_asymm {a b : Server} (h : srvLt a b) : ¬ srvLt b a := by unfold srvLt at *; omega

theorem srvLt_of_le_of_ne {a b : Server} (h : srvLe a b) (hne : a.id ≠ b.id) : srvLt a b := by
  unfold srvLe at h; unfold srvLt; omega

theorem srvLt_total {a b : Server} (hne : a.id ≠ b.id) : srvLt a b ∨ srvLt b a := by
  unfold srvLt; omega

theorem insertServer_perm (v : Server) (l : List Server) : (insertServer v l).Perm (v :: l) :=
  insert_perm (ins := insertServer v) (fun x _ => v.failures < x.failures || (v.failures == x.failures && v.id < x.id))
    rfl (fun _ _ => rfl) l

theorem mem_insertServer {v w : Server} {l : List Server} : w ∈ insertServer v l ↔ w = v ∨ w ∈ l := by
  rw [(insertServer_perm v l).mem_iff]; simp

theorem insertServer_sorted (v : Server) (l : List Server) (h : l.Pairwise srvLe) :
    (insertServer v l).Pairwise srvLe := by
  induction l with
  | nil => simp [insertServer]
  | cons x r ih =>
    unfold insertServer
    split
    · rename_i hc
      have hvx : srvLt v x := (srvLt_iff_cond v x).1 hc
      rw [List.pairwise_cons] at h
      refine List.pairwise_cons.2 ⟨?_, List.pairwise_cons.2 h⟩
      intro y hy
      rcases List.mem_cons.1 hy with rfl | hy
      · exact srvLe_of_lt hvx
      · exact srvLe_trans (srvLe_of_lt hvx) (h.1 y hy)
    · rename_i hc
      have hvx : ¬ srvLt v x := fun hh => hc ((srvLt_iff_cond v x).2 hh)
      rw [List.pairwise_cons] at h
      refine List.pairwise_cons.2 ⟨?_, ih h.2⟩
      intro y hy
      rcases mem_insertServer.1 hy with rfl | hy
      · exact srvLe_of_not_lt hvx
      · exact h.1 y hy

theorem foldl_insert_perm (l acc : List Server) :
    (l.foldl (fun acc v => insertServer v acc) acc).Perm (l ++ acc) := by
  induction l generalizing acc with
  | nil => exact List.Perm.refl _
  | cons x r ih =>
    simp only [List.foldl_cons, List.cons_append]
    refine (ih _).trans ?_
    exact (List.Perm.append_left r (insertServer_perm x acc)).trans List.perm_middle

theorem foldl_insert_sorted (l acc : List Server) (h : acc.Pairwise srvLe) :
    (l.foldl (fun acc v => insertServer v acc) acc).Pairwise srvLe := by
  induction l generalizing acc with
  | nil => exact h
  | cons x r ih => exact ih _ (insertServer_sorted x acc h)

/-- C09: the priority list is a permutation of the configured servers … -/
theorem sortedServers_perm (s : St) : s.sortedServers.Perm s.servers := by
  have := foldl_insert_perm s.servers []
  simpa [St.sortedServers] using this

theorem sortedServers_sorted (s : St) : s.sortedServers.Pairwise srvLe :=
  foldl_insert_sorted s.servers [] List.Pairwise.nil

theorem mem_sortedServers {s : St} {v : Server} : v ∈ s.sortedServers ↔ v ∈ s.servers :=
  (sortedServers_perm s).mem_iff

theorem sortedServers_length (s : St) : s.sortedServers.length = s.servers.length :=
  (sortedServers_perm s).length_eq

/-- distinct configuration indices -/
def St.IdsNodup (s : St) : Prop := (s.servers.map (·.id)).Nodup

theorem sortedServers_ids_nodup {s : St} (h : s.IdsNodup) : (s.sortedServers.map (·.id)).Nodup :=
  ((sortedServers_perm s).map _).nodup_iff.2 h

theorem sortedServers_strict {s : St} (h : s.IdsNodup) : s.sortedServers.Pairwise srvLt := by
  have hs := sortedServers_sorted s
  have hn := sortedServers_ids_nodup h
  rw [List.Nodup, List.pairwise_map] at hn
  exact (hs.and hn).imp (fun ⟨a, b⟩ => srvLt_of_le_of_ne a b)

theorem filter_lt_length_of_sorted (l : List Server) (hs : l.Pairwise srvLt) (i : Nat) (v : Server)
    (hv : l[i]? = some v) : (l.filter (fun w => decide (srvLt w v))).length = i := by
  induction l generalizing i with
  | nil => simp at hv
  | cons x r ih =>
    rw [List.pairwise_cons] at hs
    cases i with
    | zero =>
      simp only [List.getElem?_cons_zero, Option.some.injEq] at hv
      subst hv
      have : r.filter (fun w => decide (srvLt w x)) = [] := by
        rw [List.filter_eq_nil_iff]
        intro w hw
        simpa using srvLt_asymm (hs.1 w hw)
      simp [srvLt_irrefl, this]
    | succ j =>
      simp only [List.getElem?_cons_succ] at hv
      have hmem : v ∈ r := List.mem_of_getElem? hv
      have hx : srvLt x v := hs.1 v hmem
      simp [hx, ih hs.2 j hv]

def St.better (s : St) (v : Server) : List Server := s.servers.filter (fun w => decide (srvLt w v))

/-- with distinct ids: the server at position `i` of the priority list has exactly `i` strictly better servers -/
theorem sortedServers_pos {s : St} (h : s.IdsNodup) (i : Nat) (v : Server) (hv : s.sortedServers[i]? = some v) :
    (s.better v).length = i := by
  have := filter_lt_length_of_sorted s.sortedServers (sortedServers_strict h) i v hv
  rw [← this]
  exact ((sortedServers_perm s).filter _).length_eq.symm

theorem countBest_pos (l : List Server) (h : l ≠ []) : 0 < countBest l := by
  cases l with
  | nil => exact absurd rfl h
  | cons x r => simp [countBest]; omega

theorem countBest_le (l : List Server) : countBest l ≤ l.length := by
  cases l with
  | nil => simp [countBest]
  | cons x r =>
    simp only [countBest, List.length_cons]
    have := (List.takeWhile_prefix (l := r) (fun y => y.failures == x.failures)).length_le
    omega

theorem getElem?_takeWhile_holds {α : Type} (p : α → Bool) (l : List α) (i : Nat) (v : α)
    (hi : i < (l.takeWhile p).length) (hv : l[i]? = some v) : p v = true := by
  have h := List.prefix_iff_getElem?.mp (List.takeWhile_prefix (l := l) p) i hi
  rw [hv] at h
  exact List.all_eq_true.mp List.all_takeWhile v (Option.some.inj h ▸ List.getElem_mem hi)

/-- every entry of the `countBest` prefix has the head's failure count -/
theorem countBest_prefix_failures (x : Server) (r : List Server) (i : Nat) (hi : i < countBest (x :: r))
    (v : Server) (hv : (x :: r)[i]? = some v) : v.failures = x.failures := by
  cases i with
  | zero => simp at hv; subst hv; rfl
  | succ j =>
    simp only [List.getElem?_cons_succ] at hv
    simp only [countBest] at hi
    have hj : j < (r.takeWhile (fun y => y.failures == x.failures)).length := by omega
    have := getElem?_takeWhile_holds (fun y => y.failures == x.failures) r j v hj hv
    simpa using this

theorem head_min_failures (x : Server) (r : List Server) (hs : (x :: r).Pairwise srvLe) (w : Server)
    (hw : w ∈ x :: r) : x.failures ≤ w.failures := by
  rw [List.pairwise_cons] at hs
  rcases List.mem_cons.1 hw with rfl | hw
  · exact Nat.le_refl _
  · have := hs.1 w hw
    unfold srvLe at this; omega

end Cares.Chan
