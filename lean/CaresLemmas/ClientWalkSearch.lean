import CaresLemmas.ClientWalkCand
import CaresLemmas.ChanWfContract
/-! The `search` client of the channel model is a `Walker` with one completion per candidate. -/
namespace Cares.ClientWalk
open Cares.Chan Cares.Text Cares.Proto

/-- state of a search client whose request for `cand` is outstanding -/
structure SInv (c : Client) (cand : Name) (rest : List Name) (ever : Bool) (qt : Nat) : Prop where
  kind : c.kind = "search"
  names : c.names = rest.map hex
  last : c.lastName = hex cand
  ever : c.everNodata = ever
  qtype : c.qtype = qt

theorem SInv.setQids {c : Client} {cand rest ever qt} (h : SInv c cand rest ever qt) (q : Option (Nat × Nat)) :
    SInv (setQids c q) cand rest ever qt := by
  cases q with
  | none => exact h
  | some p => exact ⟨h.kind, h.names, h.last, h.ever, h.qtype⟩

theorem kind_search_ne : ("search" == "gai") = false ∧ ("search" == "query") = false := by decide

theorem clientOnCb_search (cfg : Cfg) (c : Client) (hk : c.kind = "search") (e : Ev) :
    clientOnCb cfg c e.st e.timeouts e.reply = searchCb c (searchStatus e) e.timeouts (digest e.reply) :=
  Chan.clientOnCb_search cfg c _ _ _ (by rw [hk]; rfl) (by rw [hk]; rfl)

/-- `search_callback` carries out the verdict on the candidate's status -/
theorem search_step {c : Client} {cand rest ever qt} (h : SInv c cand rest ever qt) (my : Chan.Status) (t dg) :
    match verdict cand rest ever my with
    | .fin st => ∃ t' dg', (searchCb c my t dg).2 = [.finish st t' dg']
    | .next n r e => ∃ sp, (searchCb c my t dg).2 = [.send sp] ∧ sp.name = hex n ∧ sp.qtype = qt ∧
        SInv (searchCb c my t dg).1 n r e qt := by
  unfold searchCb verdict softB
  simp only [h.last]
  generalize (my == .nodata || my == .notfound ||
    ((my == .servfail || my == .refused) && Chan.labelCnt (hex cand) == 1)) = sb
  cases sb with
  | false => exact ⟨_, _, rfl⟩
  | true =>
    cases hnd : my == Chan.Status.nodata <;> cases rest <;>
      simp only [Bool.not_true, Bool.not_false, Bool.false_eq_true, ↓reduceIte, h.names, List.map_nil, List.map_cons,
        List.isEmpty_nil, List.isEmpty_cons, h.ever, Bool.or_false, Bool.or_true, searchNextAct]
    · split <;> exact ⟨_, _, rfl⟩
    · exact ⟨_, rfl, rfl, h.qtype, h.kind, rfl, rfl, rfl, h.qtype⟩
    · exact ⟨_, _, rfl⟩
    · exact ⟨_, rfl, rfl, h.qtype, h.kind, rfl, rfl, rfl, h.qtype⟩

/-- tag the candidate names of model (A) the way the fold records sub-requests -/
def tagNames (qt : Nat) (l : List Name) : List (String × Nat) := l.map fun n => (hex n, qt)

def searchWalker (cfg : Cfg) (qt : Nat) : Walker cfg where
  At c cand rest ever := SInv c cand rest ever qt
  grp := 1
  out g := searchStatus (g.headD default)
  specs n := [(hex n, qt)]
  Dg _ _ := True
  idle tail w _ ht _ := by
    cases tail with
    | nil => rfl
    | cons => simp at ht
  step g es w hat hg hw := by
    obtain ⟨e, rfl⟩ := List.length_eq_one_iff.mp hg
    have hs := search_step (hat.setQids e.qids) (searchStatus e) e.timeouts (digest e.reply)
    simp only [List.cons_append, List.nil_append, walkFrom, hw, Option.isSome_none, Bool.false_eq_true, ↓reduceIte,
      clientOnCb_search cfg _ (hat.setQids e.qids).kind, List.headD_cons]
    split <;> rename_i hv <;> rw [hv] at hs
    · obtain ⟨t', dg', ha⟩ := hs
      exact ⟨t', dg', by rw [ha]; exact walkFrom_fin _ _ _ _ rfl, trivial⟩
    · obtain ⟨sp, ha, hn, hq, hi⟩ := hs
      exact ⟨_, by rw [ha, applyActs, applyActs, hn, hq, hw], hi⟩

end Cares.ClientWalk
