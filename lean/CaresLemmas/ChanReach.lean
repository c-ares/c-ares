import CaresLemmas.ChanLeaf
import CaresLemmas.ChanSockAccept
/-!
# What a procedure body does to the state: primitive updates and calls

Every procedure body of `Chan.Core` is a composition of a fixed vocabulary of state updates (`Prim`) and of calls
through `go`.  `Prim c s s'` says that the body of procedure `c` performs the update `s ↦ s'` somewhere; `Reach go c s s'`
that `s'` is obtained from `s` by updates of the body of `c` and by calls `c'` it may make (`Calls c c'`).
`bodyXxx_reach` is proved once per body by walking each path backwards from its last update, and `exec_invariant`
concludes: *a predicate on states that every primitive update keeps is kept by `exec`*.  For such a predicate nobody
looks at the control flow of a body again; a body is unfolded and walked by hand only where the statement is not of that
form (below: "What does not fit"), e.g. the bodies that spend or earn credit of C06 and C09, and the statements that
compare two runs.

**The index.**  An update that occurs in several bodies is stated for every `c`; one that only some procedures perform
names them (or their class, `Call.resends` / `Call.releases`), so that `cases p` at such a `c`, or with a hypothesis
`c ≠ …`, rules the others out.  A premise records what the body has checked before the update: the connection / socket
looked up at the head of the body is there, and what was read fits; `accept`: the decision `acceptKey`; `cacheInsert`:
the reply was accepted.

**Proving a state invariant `I`.**  Show `Prim c s s' → I s → I s'` by `cases` on the update and hand it to
`exec_invariant` (`hoof` is `fun _ h => h` unless `I` reads the fuel flag).  For the constructors that do not touch
what `I` reads, `simp only [chan_frame]` (the generated frame lemmas of `ChanFrame`) shows the fields unchanged;
`sqCommit_shape`, `sqOpen_shape` and `closeFinal_shape` are the footprints of the constructors that are whole blocks,
`St.*_eq` (ChanFrame) and `*_shape` (ChanShape) those of the helpers; `ev`, `obs` and `obsFaults` have no frame lemmas, for
them `rw [St.x_eq]`.  A footprint says which fields are written, not what is written.  For the helpers and blocks
the values can be had: an `I` that reads a field one of them writes takes them from `sqOpen_cases` (or from a case
analysis over `openConn_paths` with `OcOpened.fields`, as `sview_openConn`, `ukeys_openConn`, `uflags_openConn`,
`openConn_views` are), `closeFinal_conns`, `notify_conns`, `userCallback_toks`; for a raw update they are what the
constructor's premises say and no more (below, "What does not fit").  An `I` over `conns` states what it reads as a
function `g` of a connection and gets `notify`, `removeFromConn`, `detach`, `freeQuery`, `advanceOut`, `sqCommit` from
`connsMap_*` (ChanShape; `Unl.prim`, `UInv.prim` are examples; mind the remark on `hf` there).  The instances at the end
of this file are the smallest examples; `BTR.prim`, `Pol.prim`, `TInv.prim`, `CacheProv.prim`, `SInv.prim`, `AccOK.prim` have constructors
of their own to treat (`recvUdp`, `recvTcp`, `consume` are a `modConn` that changes `inBytes`: an invariant that reads
the connections treats them like `modConn`).  A fact relating the final state to the initial one is an invariant that
mentions the initial state (`exec_modelFaults_mono`).

**Invariants that some procedures break, or with a precondition per call.**  `execBody_invariant c` and
`Reach.invariant` ask only for the updates of the body of `c` and for the calls it may make, so the bodies in which
nothing happens to such an invariant are one `cases p` in which the special constructors are ruled out by their index
(`CInv.prim`, `PXo.prim`, `Unl.prim`, `UInv.prim`, `Prim.accepted_eq`), and the bodies in which something happens are
proved by hand and put together with `exec_induct` (`execBody_Unl`, `execBody_UInv`), in the form
`cases c; case X … => (by hand); all_goals exact execBody_invariant _ (fun p => I.prim p (by nofun)) hgo s h`.
Where the exceptional procedures are closed under `Calls`, `exec_invariant_on` does the induction (`exec_Al`).

**What does not fit.**  `I` must hold after every single constructor, cannot depend on the result of a call, and sees
of a `modQuery` / `modConn` / `modServer` only what `QuietQuery` / `KeepsQuery` / `KeepsConn` / `KeepsServer` say of the
function.  Where an invariant is broken inside a body and restored later, the updates in between are one constructor:
`sqCommit` (by-timeout index), `openConn`, `enqueue`, `udpSent` (transmissions ≤ writes), `closeFinal` (socket protocol),
`recvTcp` (read alignment).
Of a raw `{ s with … }` update `Prim` records only what the premises of its constructor say: the value written may be a
free variable of the constructor, and an invariant about such a value needs a premise added that pins it to the state,
as `popRequeue`, `addQuery` (`key = s.nextKey`), `expectTok` have (`reach_prim` then discharges it at the one site).
A statement that compares `execBody go` with `execBody go'` is not about one run and is proved body by body.

**When `Core` changes.**  A new kind of update makes the `reach_walk` of its body stop there: add a constructor to
`Prim` and an alternative to `reach_prim`; every `cases p` then asks for the new case.  A constructor whose new value
is a free variable needs a premise that pins it (`popRequeue`), or `apply` matches any state by eta.  A new call of a
procedure `Calls` restricts shows as a failed `Reach.call` in the walk of the calling body.
-/
namespace Cares.Chan

/-- What a `modQuery` / `modConn` / `modSock` / `modServer` in a body may rely on being told about its function.  The
    in-place rewrites of the bodies (cookie and retry counters, flags, statistics, buffered input, the list of a
    connection's queries) keep the fields below; a field is here because the invariant named beside it reads it.  An
    invariant that needs more adds a field; `reach_prim` then has to supply it, by `rfl`, at every site. -/
structure KeepsQuery (f : Query → Query) : Prop where
  key : ∀ q, (f q).key = q.key                -- every invariant that looks a query up
  deadline : ∀ q, (f q).deadline = q.deadline -- the by-timeout index (`BTR`, C07)
  owner : ∀ q, (f q).owner = q.owner          -- a probe's query remains a probe's (`PXo`, C09)
/-- … and, for the rewrites made outside the procedures that send or re-send a query (`Call.resends`), what the write
    accounting (`CInv`, C06) reads of a query -/
structure QuietQuery (f : Query → Query) : Prop extends KeepsQuery f where
  qid : ∀ q, (f q).qid = q.qid
  tryCount : ∀ q, (f q).tryCount = q.tryCount
  cookieTry : ∀ q, (f q).cookieTry = q.cookieTry
  edns : ∀ q, (f q).edns = q.edns
  usingTcp : ∀ q, (f q).usingTcp = q.usingTcp
  conn : ∀ q, (f q).conn = q.conn
  reqCookie : ∀ q, (f q).reqCookie = q.reqCookie
structure KeepsConn (f : Conn → Conn) : Prop where
  fd : ∀ c, (f c).fd = c.fd                   -- every invariant over `conns`
  out : ∀ c, (f c).out = c.out                -- transmissions ≤ writes (`TInv`, C06)
  notR : ∀ c, (f c).notR = c.notR             -- the announced interest of the socket protocol (`SInv`, C10)
  notW : ∀ c, (f c).notW = c.notW
  tcp : ∀ c, (f c).tcp = c.tcp                -- `udp_max_queries` (`UInv`, C10), the connection kinds of `CInv`, `Al`
  total : ∀ c, (f c).total = c.total          -- `UInv`: only `sqCommit` counts a query on a connection
  unlinked : ∀ c, (f c).unlinked = c.unlinked -- no half-closed connection survives (`Unl`, C10), `Al`
  inBytes : ∀ c, (f c).inBytes = c.inBytes    -- read alignment (`Al`, C20): the reads and `consume` are constructors
/-- what read alignment (`Al`, C20) reads of a virtual socket: what the peer has written and how far it has been read -/
structure KeepsSock (f : VSock → VSock) : Prop where
  fd : ∀ v, (f v).fd = v.fd
  stream : ∀ v, (f v).stream = v.stream
  slen : ∀ v, (f v).slen = v.slen
  spos : ∀ v, (f v).spos = v.spos
/-- `tcpConn` may be cleared by such a rewrite (`ares_close_connection` does it) but is set only within `openConn`:
    `UInv` and `CInv` need that a server's TCP connection is never replaced by another descriptor.  `probePending` may be
    cleared (`end_query`, `server_probe_cb`) but is set only by `setFlag`: `PXo` (C09) says a set flag has its probe. -/
structure KeepsServer (f : Server → Server) : Prop where
  id : ∀ v, (f v).id = v.id
  tcpConn : ∀ v, (f v).tcpConn = v.tcpConn ∨ (f v).tcpConn = none
  probePending : ∀ v, (f v).probePending = true → v.probePending = true

/-- the procedures that send a query again or rewrite what a later send depends on: `ares_send_query`,
    `ares_requeue_query`, `process_answer` -/
def Call.resends : Call → Prop
  | .sendQuery .. | .requeue .. | .processAnswer .. => True
  | _ => False

/-- the procedures that take a query out of the store: `end_query` and the walk of `ares_cancel` / `ares_destroy` -/
def Call.releases : Call → Prop
  | .endQuery .. | .cancelLoop .. => True
  | _ => False

theorem fault_conn? {s s' : St} {call : String} {e : Option Nat} (h : s.fault call = (e, s')) (fd : Nat) :
    s'.conn? fd = s.conn? fd := by
  have : s' = (s.fault call).2 := by rw [h]
  rw [this]; rfl

theorem fault_live {s s' : St} {call : String} {e : Option Nat} {fd : Nat} {c : Conn} (h : s.fault call = (e, s'))
    (hc : s.conn? fd = some c) : s'.conn? fd = some c := (fault_conn? h fd).trans hc

theorem fault_sock {s s' : St} {call : String} {e : Option Nat} {fd : Nat} {v : VSock} (h : s.fault call = (e, s'))
    (hv : s.sock? fd = some v) : s'.sock? fd = some v := by
  have : s' = (s.fault call).2 := by rw [h]
  rw [this]; exact hv

/-- the random draws of `ares_apply_dns0x20`, made between the reading of the next key and the creation of the query -/
theorem draws_nextKey (b : Bool) (n : Nat) (s : St) :
    (if b = true then (if (n == 1) = true then s.draw1.2 else if (n == 2) = true then s.draw2.2 else s)
      else s).nextKey = s.nextKey := by
  repeat' split
  all_goals simp only [chan_frame]

/-- the scripted size of one `recv` is at most what is available -/
theorem recv_le {l : List Nat} {avail n : Nat} {chunks : List Nat} {again : Bool}
    (h : (match l with
      | [] => (avail, [], false)
      | c :: r => if c == 0 then (0, r, true) else (min c avail, r, false)) = (n, chunks, again)) : n ≤ avail := by
  split at h
  · cases h; exact Nat.le_refl _
  · split at h <;> cases h
    · exact Nat.zero_le _
    · exact Nat.min_le_right _ _

/-- `Calls c c'`: procedure `c` may call `c'`.  Only what some invariant needs is recorded: the tail loop of
    `ares_close_connection` is entered from `ares_close_connection` alone, and the two read procedures call each other
    on the connection they were started on and are called by nothing else. -/
def Calls (c : Call) : Call → Prop
  | .closeLoop fd _ => (∃ st, c = .closeConn fd st) ∨ ∃ st, c = .closeLoop fd st
  | .processRead fd => c = .processRead fd
  | .readAnswers fd => c = .processRead fd ∨ c = .readAnswers fd
  | _ => True

/-- `Prim c s s'`: procedure `c` performs, somewhere in its body, the primitive update `s ↦ s'`.  An update that only one
    procedure performs names it, and a premise records what the procedure has checked before it. -/
inductive Prim : Call → St → St → Prop
  | emit {c s e} : Prim c s (s.emit e)
  /- `sendto` / `recvfrom` on the descriptor of a live connection -/
  | slog {c s fd call conn} (hc : s.conn? fd = some conn) (hio : call = "send" ∨ call = "recv") : Prim c s (s.slog fd call)
  | ofault {c s e} : Prim c s (s.ofault e)
  | mfault {c s e} : Prim c s (s.mfault e)
  | fault {c s call} : Prim c s (s.fault call).2
  | draw1 {c s} : Prim c s s.draw1.2
  | draw2 {c s} : Prim c s s.draw2.2
  | pop8 {rs k s} : Prim (.sendQuery rs k) s s.pop8
  | genQid {a1 a2 a3 a4 a5 a6} {s n} : Prim (.sendNolock a1 a2 a3 a4 a5 a6) s (genQid n s).2
  | modQuery {c s k f} (hf : QuietQuery f) : Prim c s (s.modQuery k f)
  | editQuery {c s k f} (hc : c.resends) (hf : KeepsQuery f) : Prim c s (s.modQuery k f)
  | modConn {c s fd f} (hf : KeepsConn f) : Prim c s (s.modConn fd f)
  | modServer {c s id f} (hf : KeepsServer f) : Prim c s (s.modServer id f)
  /- `ares_probe_failed_server` marks the server it is about to probe -/
  | setFlag {a b} {s id} : Prim (.probe a b) s (s.modServer id fun v => { v with probePending := true })
  | modSock {s fd f} (hf : KeepsSock f) : Prim (.processRead fd) s (s.modSock fd f)
  | modClient {c s id f} : Prim c s (s.modClient id f)
  /- `ares_conn_flush`, TCP: the virtual `sendto` takes the next scripted acceptance size off the connection's socket -/
  | tcpSend {s fd total acc v conn} (hc : s.conn? fd = some conn)
      (hv : tcpAccept ((s.sock? fd).getD default) total = (acc, v)) : Prim (.flush fd) s (s.setSock v)
  /- `read_conn_packets`: a datagram joins the in_buf of a UDP connection -/
  | recvUdp {s fd conn} {r : Reply} (hc : s.conn? fd = some conn) (ht : (!conn.tcp) = true) :
      Prim (.processRead fd) s (s.modConn fd fun c =>
        { c with inMsgs := c.inMsgs ++ [(c.inBytes + 2 + r.len, r)], inBytes := c.inBytes + 2 + r.len, connected := true })
  /- … or `n` bytes, at most what the peer has written, move from the socket to the in_buf of a TCP connection -/
  | recvTcp {s fd n chunks v} (hv : s.sock? fd = some v) (hn : n ≤ v.slen - v.spos) :
      Prim (.processRead fd) s ((s.modSock fd fun v => { v with chunks := chunks, spos := v.spos + n }).modConn fd
        fun c => { c with inBytes := c.inBytes + n, connected := true })
  /- `read_answers` takes the next complete message out of in_buf -/
  | consume {s fd conn v} {r : Reply} (hc : s.conn? fd = some conn) (hv : s.sock? fd = some v)
      (hnext : some r =
        if (!conn.tcp) = true then (conn.inMsgs.head?).map (·.2) else nextTcpFrame v.stream v.spos conn.inBytes) :
      Prim (.readAnswers fd) s
        (s.modConn fd fun c => { c with inMsgs := c.inMsgs.drop 1, inBytes := c.inBytes - (2 + r.len) })
  | incFailures {c s id tcp} : Prim c s (s.incFailures id tcp)
  | setGood {fd r s id tcp} : Prim (.processAnswer fd r) s (s.setGood id tcp)
  | metricsRecord {a1 a2 a3 a4 s q srv st rec} : Prim (.endQuery a1 a2 a3 a4) s (s.metricsRecord q srv st rec)
  /- outside the opening and the release of a connection, read interest is always announced -/
  | notify {s fd w} : Prim (.flush fd) s (s.notify fd true w)
  | removeFromConn {c s k} : Prim c s (s.removeFromConn k)
  | detach {c s k} (hc : c.releases) : Prim c s (s.detach k)
  | freeQuery {c s k} (hc : c.releases) : Prim c s (s.freeQuery k)
  | cacheExpire {a1 a2 a3 a4 a5 a6 s} : Prim (.sendNolock a1 a2 a3 a4 a5 a6) s s.cacheExpire
  /- `process_answer` caches only a reply it has just accepted -/
  | cacheInsert {fd' s q r} (h : ∃ fd key, (fd, key, r) ∈ s.accepted) : Prim (.processAnswer fd' r) s (s.cacheInsert q r)
  | userCallback {react s tok st n dg} : Prim (.userCb tok react st n dg) s (s.userCallback tok st n dg)
  | advanceOut {s fuel fd n} : Prim (.flush fd) s (advanceOut fuel fd s n)
  /- `ares_send_nolock`: the new query enters the three indexes, under the next key -/
  | addQuery {a1 a2 a3 a4 a5 a6} {s : St} {q : Query} {qid key : Nat} (hq : q.qid = qid) (hk : q.key = key)
      (hd : q.deadline = .none) (hc : q.conn = none) (hn : key = s.nextKey) :
      Prim (.sendNolock a1 a2 a3 a4 a5 a6) s
        { s with lastQid := qid, nextKey := key + 1, qs := s.qs ++ [q], all := s.all ++ [key],
                 byQid := s.byQid ++ [(qid, key)] }
  /- `ares_send_query` has chosen `srv` in state `sPre`; the entry records the choice and the ranking it was made from -/
  | pick {sPre s : St} {reqSrv : Option Nat} {key : Nat} {srv : Server} (h : sqChoose reqSrv sPre = (some srv, s)) :
      Prim (.sendQuery reqSrv key) s { s with picks := s.picks ++
        [(key, srv.id, reqSrv.isSome, sPre.sortedServers.map fun v => (v.id, v.failures))] }
  /- `ares_open_connection` when no connection can be reused: descriptor, socket, connection and server link -/
  | openConn {rs k s q srv} : Prim (.sendQuery rs k) s (sqOpen s q srv none).2
  /- `ares_conn_query_write`: the frame joins the out queue and the write is logged -/
  | enqueue {rs k} {s : St} {fd key : Nat} {frame : OutFrame} (hk : frame.key = key) :
      Prim (.sendQuery rs k) s { (s.modConn fd fun c => { c with out := c.out ++ [frame] }) with
               writeLog := (s.modConn fd fun c => { c with out := c.out ++ [frame] }).writeLog ++ [key] }
  | pendWrite {rs k} {s : St} : Prim (.sendQuery rs k) s { s with notifyPending := true }
  | sqCommit {rs k} {s q key fd dl} : Prim (.sendQuery rs k) s (sqCommit s q key fd dl)
  /- `ares_conn_flush`, UDP: the head of the out queue has gone out and is recorded as a transmission -/
  | udpSent {s : St} {fd : Nat} {c : Conn} {f : OutFrame} {rest : List OutFrame} {tcp w : Bool}
      (hc : s.conn? fd = some c) (ho : c.out = f :: rest) :
      Prim (.flush fd) s (((s.recordTx fd tcp f).notify fd true w).modConn fd fun c => { c with out := rest })
  /- `ares_close_connection` takes the connection out of its server's list -/
  | resetConn {s : St} {fd : Nat} {st : Status} :
      Prim (.closeConn fd st) s
        (s.modConn fd fun c => { c with unlinked := true, out := [], outOff := 0, inBytes := 0, inMsgs := [] })
  /- … and, once the connection's queries have been requeued, closes the socket and releases it -/
  | closeFinal {s : St} {fd : Nat} {st : Status} {conn : Conn} (hc : s.conn? fd = some conn) :
      Prim (.closeLoop fd st) s (closeFinal s fd)
  | deferRequeue {c} {s : St} {e} (hc : c.resends) : Prim c s { s with requeueArr := s.requeueArr ++ [e] }
  | popRequeue {s : St} {e rest} (h : s.requeueArr = e :: rest) : Prim .flushRequeue s { s with requeueArr := rest }
  /- `process_answer` records a response that has passed its checks (in the state `s0` in which it arrived) -/
  | accept {s0 s : St} {fd key : Nat} {r : Reply} (h0 : s.cfg = s0.cfg) (hk : acceptKey s0 fd r = some key) :
      Prim (.processAnswer fd r) s { s with accepted := s.accepted ++ [(fd, key, r)] }
  | nextReaction {l} {s : St} {i e} (h : s.reactions.find? (·.1 == i) = some e) : Prim (.reactions l) s { s with reactSeq := s.reactSeq + 1 }
  /- the token of a request started by a reaction is `10000 +` the counter read before `nextReaction` moved it -/
  | expectTok {l} {s : St} {tok : Nat} (ht : tok + 1 = 10000 + s.reactSeq) :
      Prim (.reactions l) s { s with pendingToks := s.pendingToks ++ [tok] }
  | addClient {a1 a2 a3 a4 a5} {s : St} {cl : Client} : Prim (.clientStart a1 a2 a3 a4 a5) s { s with clients := s.clients ++ [cl], nextClient := s.nextClient + 1 }
  | dropClient {acts} {s : St} {id : Nat} : Prim (.runActs id acts) s { s with clients := s.clients.filter (·.id != id) }
  | pushWalk {s : St} : Prim .cancel s { s with listCopy := s.all :: s.listCopy, all := [] }
  | popWalk {s : St} : Prim .cancel s { s with listCopy := s.listCopy.drop 1 }
  | destroying {s : St} : Prim .destroy s { s with destroying := true }
  | destroyed {s : St} : Prim .destroy s { s with destroyed := true, destroying := false, alive := false }

inductive Reach (go : Call → St → St × Ret) (c : Call) (s : St) : St → Prop
  | refl : Reach go c s s
  | step {s1 s2} (p : Prim c s1 s2) (h : Reach go c s s1) : Reach go c s s2
  | call {s1} (c') (hc : Calls c c') (h : Reach go c s s1) : Reach go c s (go c' s1).1

/-- the connection looked up at the head of the body is still there: only fault, event and socket bookkeeping has
    happened since -/
macro "conn_live" : tactic => `(tactic| first
  | assumption
  | (have := fault_live (by assumption) (by assumption); exact this))

/-- The last update of the state in the goal `Reach go c s0 (…)` is a primitive one.  `apply Reach.step Prim.x` and not
    `refine Reach.step ?_ Prim.x`: in the contexts `body_paths` leaves, elaborating against the expected type is slow.
    A walk mostly pays for alternatives that fail, so they stand in the order of how often the update occurs; the first
    group matches syntactically (`with_reducible`), the constructors after it have premises to discharge
    from the context (`‹_›` / `assumption` pick the equation the path split has left there: `sqChoose … = (some srv, s)`,
    `s.requeueArr = e :: rest`, `acceptKey … = some key`, …), `pick` mentions `let` variables of the body that have to be
    unfolded. -/
macro "reach_prim" : tactic => `(tactic| first
  | with_reducible (first
    | exact Reach.refl
    | apply Reach.step Prim.emit | apply Reach.step Prim.mfault | apply Reach.step Prim.notify
    | apply Reach.step Prim.fault
    | (apply Reach.step (Prim.modConn ?hf)
       case hf => exact ⟨fun _ => rfl, fun _ => rfl, fun _ => rfl, fun _ => rfl, fun _ => rfl, fun _ => rfl, fun _ => rfl,
         fun _ => rfl⟩)
    | (apply Reach.step (Prim.modQuery ?hf)
       case hf => exact ⟨⟨fun _ => rfl, fun _ => rfl, fun _ => rfl⟩, fun _ => rfl, fun _ => rfl, fun _ => rfl, fun _ => rfl,
         fun _ => rfl, fun _ => rfl, fun _ => rfl⟩)
    | apply Reach.step Prim.setFlag
    | (apply Reach.step (Prim.modServer ?hf)
       case hf => exact ⟨fun _ => rfl, fun _ => by
         dsimp only; first | exact Or.inl rfl | (split <;> first | exact Or.inl rfl | exact Or.inr rfl),
         by first | exact fun _ h => h | exact fun _ h => nomatch h⟩)
    | apply Reach.step Prim.incFailures | apply Reach.step Prim.removeFromConn
    | (apply Reach.step (Prim.modSock ?hf); case hf => exact ⟨fun _ => rfl, fun _ => rfl, fun _ => rfl, fun _ => rfl⟩)
    | apply Reach.step Prim.ofault | apply Reach.step Prim.draw1
    | apply Reach.step Prim.draw2 | apply Reach.step Prim.pop8 | apply Reach.step Prim.genQid
    | apply Reach.step Prim.setGood | apply Reach.step Prim.metricsRecord
    | apply Reach.step Prim.cacheExpire
    | apply Reach.step Prim.userCallback | apply Reach.step Prim.advanceOut
    | apply Reach.step Prim.sqCommit | apply Reach.step Prim.modClient
    | (apply Reach.step (Prim.enqueue ?hk); case hk => rfl)
    | (apply Reach.step (Prim.udpSent (c := ?c) ?hc ?ho)
       case hc => (rw [fault_conn? (by assumption)]; assumption)
       case ho => assumption)
    | apply Reach.step Prim.resetConn
    | apply Reach.step Prim.pendWrite
    | apply Reach.step (Prim.popRequeue ‹_›) | apply Reach.step (Prim.nextReaction ‹_›)
    | apply Reach.step Prim.addClient | apply Reach.step Prim.dropClient
    | apply Reach.step Prim.pushWalk | apply Reach.step Prim.popWalk | apply Reach.step Prim.destroying
    | apply Reach.step Prim.destroyed)
  | ((with_reducible apply Reach.step (Prim.slog (conn := ?c) ?hc ?hio))
     case hio => first | exact .inl rfl | exact .inr rfl
     case hc => conn_live)
  | (with_reducible apply Reach.step (Prim.editQuery ?hc ?hf)
     case hc => exact trivial
     case hf => exact ⟨fun _ => rfl, fun _ => rfl, fun _ => rfl⟩)
  | ((with_reducible apply Reach.step (Prim.deferRequeue ?hc)); case hc => exact trivial)
  | ((with_reducible apply Reach.step (Prim.detach ?hc)); case hc => exact trivial)
  | ((with_reducible apply Reach.step (Prim.freeQuery ?hc)); case hc => exact trivial)
  | ((with_reducible apply Reach.step (Prim.accept ?h0 (by assumption)))
     case h0 => rfl)
  | ((with_reducible apply Reach.step (Prim.tcpSend (conn := ?c) ?hc (by assumption)))
     case hc => conn_live)
  | ((with_reducible apply Reach.step (Prim.recvUdp (conn := ?c) ?hc ?ht))
     case hc => conn_live
     case ht => assumption)
  | ((with_reducible apply Reach.step (Prim.recvTcp (v := ?v) ?hv ?hn))
     case hv => (have := fault_sock (by assumption) (by assumption); exact this)
     case hn => exact recv_le (by assumption))
  | ((with_reducible apply Reach.step (Prim.consume (conn := ?c) (v := ?v) ?hc ?hv ?hnext))
     case hc => assumption
     case hv => assumption
     case hnext => assumption)
  | (with_reducible apply Reach.step (Prim.addQuery ?h1 ?h2 ?h3 ?h4 ?h5)
     case h1 => rfl
     case h2 => rfl
     case h3 => rfl
     case h4 => rfl
     case h5 => first | rfl | exact (draws_nextKey _ _ _).symm)
  | ((with_reducible apply Reach.step (Prim.expectTok ?ht)); case ht => rfl)
  | apply Reach.step (Prim.pick ‹_›)
  | (with_reducible apply Reach.step (Prim.cacheInsert ?h)
     case h => exact ⟨_, _, List.mem_append_right _ (List.mem_singleton_self _)⟩))

/-- One step backwards from the goal `Reach go c s0 t`, by the form of `t`: a state of the context for which the walk
    has a hypothesis (`assumption`; tried first, it ends the path); the result of a call (`Reach.call`; `hc : Calls c c'`
    is `True` for an unrestricted callee and otherwise one of the equations / disjuncts of `Calls`, which hold by
    `rfl`); a component of a pair that `split` has destructured (`pair_fst`, `pair_snd`); a `let` variable
    (`unfold_state_let`); an update (`reach_prim`; after the cheap forms, because its failure is dear); a `match` or `if`
    on the state that `body_paths` has left (`split`, last: it multiplies goals). -/
macro "reach_step" : tactic => `(tactic| first
  | assumption
  | (with_reducible apply Reach.call
     case hc => first | exact trivial | rfl | exact .inl ⟨_, rfl⟩ | exact .inr ⟨_, rfl⟩ | exact .inl rfl | exact .inr rfl)
  | (with_reducible apply pair_fst; assumption)
  | (with_reducible apply pair_snd; assumption)
  | unfold_state_let
  | reach_prim
  | split)

/-- every path of the unfolded body, each walked backwards from its last update to the hypothesis -/
macro "reach_walk" : tactic => `(tactic| (body_paths; all_goals (repeat' reach_step)))

section
variable {go : Call → St → St × Ret} {s0 : St}

theorem sqChoose_reach {c : Call} (a1 : Option Nat) (s : St) (h : Reach go c s0 s) :
    Reach go c s0 (sqChoose a1 s).2 := by
  unfold sqChoose; reach_walk

theorem sqOpen_reach {rs : Option Nat} {k : Nat} (s : St) (a1 : Query) (a2 : Server) (a3 : Option Nat)
    (h : Reach go (.sendQuery rs k) s0 s) : Reach go (.sendQuery rs k) s0 (sqOpen s a1 a2 a3).2 :=
  match a3 with
  | some _ => h
  | none => .step .openConn h

theorem sqEnqueue_reach {rs : Option Nat} {k : Nat} (s : St) (a1 : Query) (a2 : Server) (a3 a4 : Nat)
    (h : Reach go (.sendQuery rs k) s0 s) : Reach go (.sendQuery rs k) s0 (sqEnqueue s a1 a2 a3 a4) := by
  unfold sqEnqueue; reach_walk

theorem sqFlush_reach {rs : Option Nat} {k : Nat} (s : St) (a1 : Nat) (h : Reach go (.sendQuery rs k) s0 s) :
    Reach go (.sendQuery rs k) s0 (sqFlush go a1 s).2 := by
  unfold sqFlush; reach_walk

theorem sqDeadline_reach {c : Call} (s : St) (a1 : Server) (a2 : Nat) (h : Reach go c s0 s) :
    Reach go c s0 (sqDeadline s a1 a2).2 := by
  unfold sqDeadline; reach_walk

theorem sqAfter_reach {rs : Option Nat} {k : Nat} (a1 : Query) (a2 : Server) (a3 a4 : Nat) (a5 : Bool) (a6 : Status) (s : St)
    (h : Reach go (.sendQuery rs k) s0 s) : Reach go (.sendQuery rs k) s0 (sqAfter go a1 a2 a3 a4 a5 a6 s).1 := by
  unfold sqAfter; body_paths
  all_goals (repeat' (first | reach_step | with_reducible apply sqDeadline_reach))

theorem sendQueryBlocks_reach (a1 : Option Nat) (a2 : Nat) (s : St) (h : Reach go (.sendQuery a1 a2) s0 s) :
    Reach go (.sendQuery a1 a2) s0 (sendQueryBlocks go a1 a2 s).1 := by
  unfold sendQueryBlocks; body_paths
  all_goals repeat'
    first
      | reach_step
      | with_reducible apply sqChoose_reach
      | with_reducible apply sqOpen_reach
      | with_reducible apply sqEnqueue_reach
      | with_reducible apply sqFlush_reach
      | with_reducible apply sqAfter_reach

/-- the random draws of `ares_apply_dns0x20`, as one step of the walk (so that its four cases are not met on every path) -/
theorem draws_reach {c : Call} (b : Bool) (n : Nat) (s : St) (h : Reach go c s0 s) :
    Reach go c s0 (if b = true then (if (n == 1) = true then s.draw1.2 else if (n == 2) = true then s.draw2.2 else s)
      else s) := by
  reach_walk

theorem bodySendNolock_reach (a1 : Option Nat) (a2 a3 : Bool) (a4 : ReqSpec) (a5 : Owner) (a6 : List Nat) (s : St) :
    Reach go (.sendNolock a1 a2 a3 a4 a5 a6) s (bodySendNolock go a1 a2 a3 a4 a5 a6 s).1 := by
  unfold bodySendNolock; body_paths
  all_goals repeat' (first | with_reducible apply draws_reach | reach_step)

theorem bodyProbe_reach (a1 a2 : Nat) (s : St) :
    Reach go (.probe a1 a2) s (bodyProbe go a1 a2 s).1 := by
  unfold bodyProbe; reach_walk

theorem bodyFlush_reach (a1 : Nat) (s : St) :
    Reach go (.flush a1) s (bodyFlush go a1 s).1 := by
  unfold bodyFlush; reach_walk

theorem bodyRequeue_reach (a1 : Nat) (a2 : Status) (a3 : Bool) (a4 : Option Reply) (a5 : Bool) (s : St) :
    Reach go (.requeue a1 a2 a3 a4 a5) s (bodyRequeue go a1 a2 a3 a4 a5 s).1 := by
  unfold bodyRequeue; reach_walk

theorem bodyEndQuery_reach (a1 : Option Nat) (a2 : Nat) (a3 : Status) (a4 : Option Reply) (s : St) :
    Reach go (.endQuery a1 a2 a3 a4) s (bodyEndQuery go a1 a2 a3 a4 s).1 := by
  unfold bodyEndQuery; reach_walk

theorem bodyCallback_reach (a1 : Owner) (a2 : List Nat) (a3 : Status) (a4 : Nat) (a5 : Option Reply) (s : St) :
    Reach go (.callback a1 a2 a3 a4 a5) s (bodyCallback go a1 a2 a3 a4 a5 s).1 := by
  unfold bodyCallback; reach_walk

theorem bodyUserCb_reach (a1 : Nat) (a2 : List Nat) (a3 : Status) (a4 : Nat) (a5 : String) (s : St) :
    Reach go (.userCb a1 a2 a3 a4 a5) s (bodyUserCb go a1 a2 a3 a4 a5 s).1 := by
  unfold bodyUserCb; reach_walk

theorem bodyReactions_reach (a1 : List Nat) (s : St) :
    Reach go (.reactions a1) s (bodyReactions go a1 s).1 := by
  unfold bodyReactions; reach_walk

theorem bodyConnError_reach (a1 : Nat) (a2 : Bool) (a3 : Status) (s : St) :
    Reach go (.connError a1 a2 a3) s (bodyConnError go a1 a2 a3 s).1 := by
  unfold bodyConnError; reach_walk

theorem bodyCloseConn_reach (a1 : Nat) (a2 : Status) (s : St) :
    Reach go (.closeConn a1 a2) s (bodyCloseConn go a1 a2 s).1 := by
  unfold bodyCloseConn; body_paths
  · repeat' reach_step
  · exact .call _ (.inl ⟨_, rfl⟩) (.step .resetConn (.step (.modServer ⟨fun _ => rfl, fun _ => by
      dsimp only; split <;> first | exact .inl rfl | exact .inr rfl, fun _ h => h⟩) .refl))

theorem bodyProcessWrite_reach (a1 : Nat) (s : St) :
    Reach go (.processWrite a1) s (bodyProcessWrite go a1 s).1 := by
  unfold bodyProcessWrite; reach_walk

theorem bodyProcessRead_reach (a1 : Nat) (s : St) :
    Reach go (.processRead a1) s (bodyProcessRead go a1 s).1 := by
  unfold bodyProcessRead; reach_walk

theorem bodyReadAnswers_reach (a1 : Nat) (s : St) :
    Reach go (.readAnswers a1) s (bodyReadAnswers go a1 s).1 := by
  unfold bodyReadAnswers; reach_walk

theorem bodyFlushRequeue_reach  (s : St) :
    Reach go .flushRequeue s (bodyFlushRequeue go  s).1 := by
  unfold bodyFlushRequeue; reach_walk

theorem paDeliver_reach {s1 : St} {fd key : Nat} {r : Reply} (c : Conn) (q : Query) (hk : acceptKey s1 fd r = some key)
    (h : Reach go (.processAnswer fd r) s0 (paPre s1 c key q r)) :
    Reach go (.processAnswer fd r) s0 (paDeliver go fd r c key q (paPre s1 c key q r)).1 := by
  unfold paDeliver; reach_walk

theorem bodyProcessAnswer_reach (a1 : Nat) (a2 : Reply) (s : St) :
    Reach go (.processAnswer a1 a2) s (bodyProcessAnswer go a1 a2 s).1 := by
  have hpre : ∀ c key q, Reach go (.processAnswer a1 a2) s (paPre s c key q a2) := fun c key q =>
    .step (.editQuery trivial ⟨fun _ => rfl, fun _ => rfl, fun _ => rfl⟩)
      (.step (.modServer ⟨fun _ => rfl, fun _ => .inl rfl, fun _ h => h⟩) .refl)
  cases hk : acceptKey s a1 a2 with
  | some key =>
    obtain ⟨c, q, _, _, _, heq⟩ := bodyProcessAnswer_accept hk
    rw [heq]; exact paDeliver_reach c q hk (hpre c key q)
  | none =>
    rcases bodyProcessAnswer_reject hk with ⟨_, h'⟩ | ⟨e, h'⟩ | ⟨c, key, q, _, _, _, h'⟩ <;> rw [h']
    · exact .refl
    · exact .step .mfault .refl
    · show Reach go _ s (if _ then _ else _)
      split
      · exact .call _ trivial (hpre c key q)
      · exact hpre c key q

theorem bodyProcessTimeouts_reach  (s : St) :
    Reach go .processTimeouts s (bodyProcessTimeouts go  s).1 := by
  unfold bodyProcessTimeouts; reach_walk

theorem bodyCleanupConns_reach (a1 : List Nat) (s : St) :
    Reach go (.cleanupConns a1) s (bodyCleanupConns go a1 s).1 := by
  unfold bodyCleanupConns; reach_walk

theorem bodyClientStart_reach (a1 : String) (a2 : Nat) (a3 : List Nat) (a4 : ReqSpec) (a5 : Nat) (s : St) :
    Reach go (.clientStart a1 a2 a3 a4 a5) s (bodyClientStart go a1 a2 a3 a4 a5 s).1 := by
  unfold bodyClientStart; reach_walk

theorem bodyRunActs_reach (a1 : Nat) (a2 : List ClientAct) (s : St) :
    Reach go (.runActs a1 a2) s (bodyRunActs go a1 a2 s).1 := by
  unfold bodyRunActs; reach_walk

theorem bodyCancel_reach  (s : St) :
    Reach go .cancel s (bodyCancel go  s).1 := by
  unfold bodyCancel; reach_walk

theorem bodyCancelLoop_reach (a1 : Status) (a2 : Bool) (s : St) :
    Reach go (.cancelLoop a1 a2) s (bodyCancelLoop go a1 a2 s).1 := by
  unfold bodyCancelLoop; reach_walk

theorem bodyCloseLoop_reach (a1 : Nat) (a2 : Status) (s : St) :
    Reach go (.closeLoop a1 a2) s (bodyCloseLoop go a1 a2 s).1 := by
  unfold bodyCloseLoop; body_paths
  all_goals first | exact .step (.closeFinal ‹_›) .refl | repeat' reach_step

theorem bodyDestroy_reach (s : St) :
    Reach go .destroy s (bodyDestroy go s).1 := by
  unfold bodyDestroy; body_paths
  -- the fold over the connections to close: `Reach go s0` is itself a predicate every `closeConn` call keeps
  all_goals (repeat' (first | reach_step | (with_reducible apply foldl_inv; intro _ _ _)))

theorem bodySendQuery_reach (a1 : Option Nat) (a2 : Nat) (s : St) :
    Reach go (.sendQuery a1 a2) s (bodySendQuery go a1 a2 s).1 := by
  rw [bodySendQuery_eq]; exact sendQueryBlocks_reach a1 a2 s .refl

theorem execBody_reach (c : Call) (s : St) : Reach go c s (execBody go c s).1 :=
  match c with
  | .sendNolock a1 a2 a3 a4 a5 a6 => bodySendNolock_reach a1 a2 a3 a4 a5 a6 s
  | .sendQuery a1 a2 => bodySendQuery_reach a1 a2 s
  | .probe a1 a2 => bodyProbe_reach a1 a2 s
  | .flush a1 => bodyFlush_reach a1 s
  | .requeue a1 a2 a3 a4 a5 => bodyRequeue_reach a1 a2 a3 a4 a5 s
  | .endQuery a1 a2 a3 a4 => bodyEndQuery_reach a1 a2 a3 a4 s
  | .callback a1 a2 a3 a4 a5 => bodyCallback_reach a1 a2 a3 a4 a5 s
  | .userCb a1 a2 a3 a4 a5 => bodyUserCb_reach a1 a2 a3 a4 a5 s
  | .reactions a1 => bodyReactions_reach a1 s
  | .connError a1 a2 a3 => bodyConnError_reach a1 a2 a3 s
  | .closeConn a1 a2 => bodyCloseConn_reach a1 a2 s
  | .closeLoop a1 a2 => bodyCloseLoop_reach a1 a2 s
  | .processWrite a1 => bodyProcessWrite_reach a1 s
  | .processRead a1 => bodyProcessRead_reach a1 s
  | .readAnswers a1 => bodyReadAnswers_reach a1 s
  | .flushRequeue => bodyFlushRequeue_reach s
  | .processAnswer a1 a2 => bodyProcessAnswer_reach a1 a2 s
  | .processTimeouts => bodyProcessTimeouts_reach s
  | .cleanupConns a1 => bodyCleanupConns_reach a1 s
  | .clientStart a1 a2 a3 a4 a5 => bodyClientStart_reach a1 a2 a3 a4 a5 s
  | .runActs a1 a2 => bodyRunActs_reach a1 a2 s
  | .cancel => bodyCancel_reach s
  | .cancelLoop a1 a2 => bodyCancelLoop_reach a1 a2 s
  | .destroy => bodyDestroy_reach s

theorem Reach.invariant {I : St → Prop} {c : Call} (hp : ∀ {s s'}, Prim c s s' → I s → I s')
    (hgo : ∀ c' s, Calls c c' → I s → I (go c' s).1) {s : St} (hr : Reach go c s0 s) (h0 : I s0) : I s := by
  induction hr with
  | refl => exact h0
  | step p _ ih => exact hp p ih
  | call c' hc _ ih => exact hgo c' _ hc ih

theorem execBody_invariant {I : St → Prop} (c : Call) (hp : ∀ {s s'}, Prim c s s' → I s → I s') (hgo : GoInv I go)
    (s : St) (h : I s) : I (execBody go c s).1 :=
  (execBody_reach c s).invariant hp (fun c' s _ => hgo c' s) h

end

theorem exec_invariant {I : St → Prop} (hp : ∀ {c s s'}, Prim c s s' → I s → I s') (hoof : ∀ s, I s → I s.oof.1)
    (fuel : Nat) (c : Call) (s : St) (h : I s) : I (exec fuel c s).1 :=
  exec_induct (P := fun _ s r => I s → I r.1) (fun _ s => hoof s) (fun _ hgo c => execBody_invariant c hp hgo) fuel c s h

theorem exec_invariant_on {I : St → Prop} {ok : Call → Prop} (hp : ∀ {c s s'}, ok c → Prim c s s' → I s → I s')
    (hcl : ∀ {c c'}, ok c → Calls c c' → ok c') (hoof : ∀ s, I s → I s.oof.1)
    (fuel : Nat) (c : Call) (s : St) (hc : ok c) (h : I s) : I (exec fuel c s).1 :=
  exec_induct (P := fun c s r => ok c → I s → I r.1) (fun _ s _ => hoof s)
    (fun _ hgo c s hc => (execBody_reach c s).invariant (hp hc) fun c' s h' => hgo c' s (hcl hc h')) fuel c s hc h

theorem closeFinal_shape (s : St) (fd : Nat) :
    closeFinal s fd =
      { s with ev := (closeFinal s fd).ev, notifyLog := (closeFinal s fd).notifyLog, conns := (closeFinal s fd).conns,
               socks := (closeFinal s fd).socks, sockLog := (closeFinal s fd).sockLog } := by
  unfold closeFinal
  rw [St.notify_eq]; rfl

theorem sqCommit_shape (s : St) (q : Query) (key fd : Nat) (dl : Deadline) :
    sqCommit s q key fd dl =
      { s with byTimeout := (sqCommit s q key fd dl).byTimeout, conns := (sqCommit s q key fd dl).conns,
               qs := (sqCommit s q key fd dl).qs, pendingOrder := (sqCommit s q key fd dl).pendingOrder } := by
  unfold sqCommit
  cases q.conn <;> rfl

namespace Prim
variable {c : Call} {s s' : St}

theorem untouched (p : Prim c s s') :
    s'.cfg = s.cfg ∧ s'.now = s.now ∧ s'.outOfFuel = s.outOfFuel ∧ s'.reactions = s.reactions := by
  cases p
  case closeFinal => rw [closeFinal_shape]; exact ⟨rfl, rfl, rfl, rfl⟩
  case sqCommit => rw [sqCommit_shape]; exact ⟨rfl, rfl, rfl, rfl⟩
  case openConn => rw [sqOpen_shape]; exact ⟨rfl, rfl, rfl, rfl⟩
  all_goals simp only [chan_frame, and_self]

theorem outOfFuel_eq (p : Prim c s s') : s'.outOfFuel = s.outOfFuel := p.untouched.2.2.1

/-- only a configured reaction moves the counter of requests started by reactions -/
theorem reactSeq_eq (p : Prim c s s') (h : s.reactions = []) : s'.reactSeq = s.reactSeq := by
  cases p
  case closeFinal => rw [closeFinal_shape]
  case sqCommit => rw [sqCommit_shape]
  case openConn => rw [sqOpen_shape]
  case nextReaction hf => rw [h] at hf; cases hf
  all_goals simp only [chan_frame]

/-- server entries are rewritten in place: the list of ids never changes -/
theorem serverIds_eq (p : Prim c s s') : s'.servers.map (·.id) = s.servers.map (·.id) := by
  cases p
  case closeFinal => rw [closeFinal_shape]
  case sqCommit => rw [sqCommit_shape]
  case openConn => exact sqOpen_ids ..
  case modServer hf => exact modServer_ids _ _ _ hf.id
  case setFlag => exact modServer_ids _ _ _ fun _ => rfl
  case incFailures => exact incFailures_ids ..
  case setGood => exact setGood_ids ..
  case metricsRecord => exact metricsRecord_ids ..
  all_goals simp only [chan_frame]

theorem modelFaults_le (p : Prim c s s') : s.modelFaults.length ≤ s'.modelFaults.length := by
  cases p
  case closeFinal => rw [closeFinal_shape]; exact Nat.le_refl _
  case sqCommit => rw [sqCommit_shape]; exact Nat.le_refl _
  case openConn => rw [sqOpen_shape]; exact Nat.le_refl _
  case mfault => simp [St.mfault]
  all_goals simp only [chan_frame, Nat.le_refl]

end Prim

theorem execBody_outOfFuel {go : Call → St → St × Ret} (hgo : ∀ c s, s.outOfFuel = true → (go c s).1.outOfFuel = true)
    (c : Call) (s : St) (h : s.outOfFuel = true) : (execBody go c s).1.outOfFuel = true :=
  execBody_invariant (I := fun s => s.outOfFuel = true) c (fun p h => p.outOfFuel_eq.trans h) hgo s h

theorem exec_outOfFuel (fuel : Nat) (c : Call) (s : St) (h : s.outOfFuel = true) :
    (exec fuel c s).1.outOfFuel = true :=
  exec_invariant (I := fun s => s.outOfFuel = true) (fun p h => p.outOfFuel_eq.trans h) (fun _ _ => rfl) fuel c s h

/-- what no procedure changes: the configuration is `c0`, the clock `n0`, the list of server ids `ids0` -/
def Frame (c0 : Cfg) (n0 : Nat) (ids0 : List Nat) (s : St) : Prop :=
  s.cfg = c0 ∧ s.now = n0 ∧ s.servers.map (·.id) = ids0

namespace Frame
variable {c0 : Cfg} {n0 : Nat} {ids0 : List Nat}

theorem congr_ids {s s' : St} (h0 : s'.cfg = s.cfg) (h1 : s'.now = s.now)
    (h2 : s'.servers.map (·.id) = s.servers.map (·.id))
    (h : Frame c0 n0 ids0 s) : Frame c0 n0 ids0 s' := by
  unfold Frame at *; rw [h0, h1, h2]; exact h

theorem setServer {s : St} (v : Server) (h : Frame c0 n0 ids0 s) : Frame c0 n0 ids0 (s.setServer v) :=
  congr_ids (s := s) rfl rfl (setServer_ids s v) h

end Frame

theorem Frame.prim {c0 : Cfg} {n0 : Nat} {ids0 : List Nat} {c : Call} {s s' : St} (p : Prim c s s') (h : Frame c0 n0 ids0 s) :
    Frame c0 n0 ids0 s' :=
  Frame.congr_ids p.untouched.1 p.untouched.2.1 p.serverIds_eq h

/-- configuration, clock and server identities never change within a procedure -/
theorem exec_frame {c0 : Cfg} {n0 : Nat} {ids0 : List Nat} (fuel : Nat) (c : Call) (s : St) (h : Frame c0 n0 ids0 s) :
    Frame c0 n0 ids0 (exec fuel c s).1 :=
  exec_invariant Frame.prim (fun _ h => h) fuel c s h

/-- without configured reactions, a run starts no request from a callback reaction -/
theorem exec_reactSeq (fuel : Nat) (c : Call) (s : St) (h : s.reactions = []) :
    (exec fuel c s).1.reactions = [] ∧ (exec fuel c s).1.reactSeq = s.reactSeq :=
  exec_invariant (I := fun x => x.reactions = [] ∧ x.reactSeq = s.reactSeq)
    (fun p hx => ⟨p.untouched.2.2.2.trans hx.1, (p.reactSeq_eq hx.1).trans hx.2⟩) (fun _ hx => hx) fuel c s ⟨h, rfl⟩

theorem exec_modelFaults_mono (fuel : Nat) (c : Call) (s : St) :
    s.modelFaults.length ≤ (exec fuel c s).1.modelFaults.length :=
  exec_invariant (I := fun x => s.modelFaults.length ≤ x.modelFaults.length)
    (fun p h => Nat.le_trans h p.modelFaults_le) (fun _ h => h) fuel c s (Nat.le_refl _)

end Cares.Chan
