import CaresLemmas.ChanWfSk
import CaresLemmas.IteLemmas
import CaresLemmas.ChanFrame
/-!
# C01 — frame lemmas: which helpers of `Chan.Core` leave the skeleton alone
-/
namespace Cares.Chan

@[simp] theorem sk_emit (s : St) (e : String) : (s.emit e).sk = s.sk := rfl
@[simp] theorem sk_slog (s : St) (fd : Nat) (c : String) : (s.slog fd c).sk = s.sk := rfl
@[simp] theorem sk_ofault (s : St) (e : String) : (s.ofault e).sk = s.sk := rfl
theorem sk_mfault (s : St) (e : String) : (s.mfault e).sk = { s.sk with faults := s.sk.faults ++ [e] } := rfl
@[simp] theorem sk_oof (s : St) : s.oof.1.sk = s.sk := rfl

@[simp] theorem sk_set_ev (s : St) (x) : ({ s with ev := x } : St).sk = s.sk := rfl
@[simp] theorem sk_set_obs (s : St) (x) : ({ s with obs := x } : St).sk = s.sk := rfl
@[simp] theorem sk_set_faults (s : St) (x) : ({ s with faults := x } : St).sk = s.sk := rfl
@[simp] theorem sk_set_cache (s : St) (x) : ({ s with cache := x } : St).sk = s.sk := rfl
@[simp] theorem sk_set_picks (s : St) (x) : ({ s with picks := x } : St).sk = s.sk := rfl
@[simp] theorem sk_set_writeLog (s : St) (x) : ({ s with writeLog := x } : St).sk = s.sk := rfl
@[simp] theorem sk_set_notifyLog (s : St) (x) : ({ s with notifyLog := x } : St).sk = s.sk := rfl
@[simp] theorem sk_set_accepted (s : St) (x) : ({ s with accepted := x } : St).sk = s.sk := rfl
@[simp] theorem sk_set_requeueArr (s : St) (x) : ({ s with requeueArr := x } : St).sk = s.sk := rfl
@[simp] theorem sk_set_notifyPending (s : St) (x) : ({ s with notifyPending := x } : St).sk = s.sk := rfl
@[simp] theorem sk_set_txs (s : St) (x) : ({ s with txs := x } : St).sk = s.sk := rfl
@[simp] theorem sk_set_destroying (s : St) (x) : ({ s with destroying := x } : St).sk = s.sk := rfl
@[simp] theorem sk_set_pendingWl (s : St) (x) : ({ s with pendingWl := x } : St).sk = s.sk := rfl

@[simp] theorem sk_fault (s : St) (c : String) : (s.fault c).2.sk = s.sk := rfl
@[simp] theorem sk_draw1 (s : St) : s.draw1.2.sk = s.sk := by rw [St.draw1snd_eq]; rfl
@[simp] theorem sk_draw2 (s : St) : s.draw2.2.sk = s.sk := by rw [St.draw2snd_eq]; rfl
@[simp] theorem sk_pop8 (s : St) : s.pop8.sk = s.sk := by rw [St.pop8_eq]; rfl
@[simp] theorem sk_cacheExpire (s : St) : s.cacheExpire.sk = s.sk := rfl
@[simp] theorem sk_cacheInsert (s : St) (q : Query) (r : Reply) : (s.cacheInsert q r).sk = s.sk := by
  rw [St.cacheInsert_eq]; rfl

@[simp] theorem sk_genQid (n : Nat) (s : St) : (genQid n s).2.sk = s.sk := by rw [genQid_eq]; rfl

@[simp] theorem sk_notify (s : St) (fd : Nat) (r w : Bool) : (s.notify fd r w).sk = s.sk := by
  unfold St.notify
  split
  · rfl
  · simp only
    rw [sk_modConn_same]
    · split <;> rfl
    · intro; rfl

@[simp] theorem sk_metricsRecord (s : St) (q : Query) (srv : Option Nat) (st : Status) (rec : Option Reply) :
    (s.metricsRecord q srv st rec).sk = s.sk := by
  unfold St.metricsRecord
  split
  · split
    · rfl
    · rw [sk_modServer_same]; intro; rfl
  · rfl

@[simp] theorem sk_recordTx (s : St) (fd : Nat) (tcp : Bool) (f : OutFrame) : (s.recordTx fd tcp f).sk = s.sk := by
  unfold St.recordTx
  simp only [sk_emit]
  rw [sk_modQuery_same]
  · rfl
  · intro q; split <;> rfl

@[simp] theorem sk_advanceOut (n fd : Nat) (s : St) (m : Nat) : (advanceOut n fd s m).sk = s.sk := by
  induction n generalizing s m with
  | zero => rfl
  | succ n ih =>
    unfold advanceOut
    split
    · rfl
    · split
      · rfl
      · simp only
        split
        · split
          · rw [sk_recordTx, sk_modConn_same]; intro; rfl
          · rw [ih, sk_recordTx, sk_modConn_same]; intro; rfl
        · rw [sk_modConn_same]; intro; rfl

theorem sk_setServer_same (s : St) (v v' : Server) (hn : (s.servers.map (·.id)).Nodup)
    (hv : s.server? v'.id = some v) (hsk : v'.sk = v.sk) : (s.setServer v').sk = s.sk := by
  unfold St.setServer St.sk
  simp only [Sk.mk.injEq, true_and, and_true]
  refine map_if_keep _ fun x hx h => ?_
  have hv' := List.find?_some hv
  have : x = v := inj_of_nodup_map hn hx (List.mem_of_find?_eq_some hv) (by
    simp only [beq_iff_eq] at h hv'; omega)
  rw [this, hsk]

theorem sk_incFailures (s : St) (id : Nat) (tcp : Bool) (hn : (s.servers.map (·.id)).Nodup) :
    (s.incFailures id tcp).sk = s.sk := by
  unfold St.incFailures
  split
  · rfl
  · rename_i v hv
    rw [sk_emit]
    have hid : v.id = id := find?_key_eq hv
    exact sk_setServer_same s v _ hn (by simpa [hid] using hv) rfl

theorem sk_setGood (s : St) (id : Nat) (tcp : Bool) (hn : (s.servers.map (·.id)).Nodup) :
    (s.setGood id tcp).sk = s.sk := by
  unfold St.setGood
  split
  · rfl
  · rename_i v hv
    rw [sk_emit]
    have hid : v.id = id := find?_key_eq hv
    exact sk_setServer_same s v _ hn (by simpa [hid] using hv) rfl

theorem sk_userCallback (s : St) (tok : Nat) (st : Status) (t : Nat) (dg : String) :
    (s.userCallback tok st t dg).sk =
      { s.sk with pendingToks := s.sk.pendingToks.erase tok, doneToks := s.sk.doneToks ++ [tok] } := by
  unfold St.userCallback
  simp only [sk_emit]
  split <;> split <;> rfl

end Cares.Chan
