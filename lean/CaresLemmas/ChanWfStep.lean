import CaresLemmas.ChanWfOps
/-!
# C01 — generic facts about the two-state relations (`ProgS`, `StepT`, `StepS`), the debt invariant (`DebtOk`,
`bump`) and the hole parameter of `WfS`

`StepT xf xi xt d a a'` has three exceptions, each the one thing the procedure in hand may break: `xf` is the
descriptor of the unlinked connection it releases (field `unl`; `exFd`: only `closeLoop fd` has one), `xi` the
compound request it acts for and may therefore give sub-requests (field `orphan`; `exId`), `xt` the token of a
callback in flight between the `detach` of its query and the callback itself (`ProgS.done6`, so named as the sixth
field of `ProgS`).  `StepS` is `StepT` with `xt = none`, the form `Good` asks for; the `drop_*` lemmas remove an
exception once it has been made good.

`keysLt`, `ownKeep` and `done6` carry the premise `∀ p ∈ a.qKO, p.1 < a.nextKey`.  It is `WfQP.lt` of the first
state, read off `qKO`.  Composing two steps needs it (a key of the first state is not one the second step
allocates), and `keysLt` hands it on to the second state, so that `ProgS.trans` asks nothing of the state in the
middle.
-/
namespace Cares.Chan

theorem LcSub.refl (l : List (List Nat)) : LcSub l l := by
  induction l with
  | nil => exact LcSub.nil
  | cons x r ih => exact LcSub.cons (fun _ h => h) ih

theorem LcSub.trans {a b c : List (List Nat)} (h1 : LcSub b a) (h2 : LcSub c b) : LcSub c a := by
  induction h2 generalizing a with
  | nil => cases h1; exact LcSub.nil
  | cons hx _ ih =>
    cases h1 with
    | cons hy ht => exact LcSub.cons (fun k hk => hy k (hx k hk)) (ih ht)

theorem LcSub.length {a b : List (List Nat)} (h : LcSub a b) : a.length = b.length := by
  induction h with
  | nil => rfl
  | cons _ _ ih => simp [ih]

theorem ProgS.refl (xt) (a : Sk) : ProgS xt a a where
  doneMono := fun _ h => h
  lcRel := LcSub.refl _
  allNew := fun _ h => Or.inl h
  keysLt := fun h => h
  ownKeep := fun _ _ hp _ => hp
  done6 := fun _ _ _ h hn => absurd h hn

/-- `hk` and `hi` are `keyMono` of the first step and `idxNew` of the second (`StepT.trans`) -/
theorem ProgS.trans {xt} {a b c : Sk} (h1 : ProgS xt a b) (h2 : ProgS xt b c) (hk : a.nextKey ≤ b.nextKey)
    (hi : ∀ x ∈ c.idx, x ∈ b.idx ∨ b.nextKey ≤ x) : ProgS xt a c where
  doneMono := fun t h => h2.doneMono t (h1.doneMono t h)
  lcRel := h1.lcRel.trans h2.lcRel
  allNew := fun k h => by
    rcases h2.allNew k h with h | h
    · exact h1.allNew k h
    · exact Or.inr (Nat.le_trans hk h)
  keysLt := fun h => h2.keysLt (h1.keysLt h)
  ownKeep := fun hl p hp hpi => by
    rcases hi _ hpi with h | h
    · exact h2.ownKeep (h1.keysLt hl) p (h1.ownKeep hl p hp h) hpi
    · have := hl p hp; omega
  done6 := fun hl p hp hpi hn tok ho => by
    by_cases hb : p.1 ∈ b.idx
    · exact h2.done6 (h1.keysLt hl) p (h1.ownKeep hl p hp hb) hb hn tok ho
    · rcases h1.done6 hl p hp hpi hb tok ho with h | h
      · exact Or.inl (h2.doneMono tok h)
      · exact Or.inr h

theorem ProgS.weaken {xt} {a b : Sk} (h : ProgS none a b) : ProgS xt a b where
  doneMono := h.doneMono
  lcRel := h.lcRel
  allNew := h.allNew
  keysLt := h.keysLt
  ownKeep := h.ownKeep
  done6 := fun hl p hp hpi hn tok ho => by
    rcases h.done6 hl p hp hpi hn tok ho with h' | h'
    · exact Or.inl h'
    · cases h'

/-- a step that leaves the request bookkeeping alone -/
theorem ProgS.of_same {xt} {a b : Sk} (hd : ∀ t ∈ a.doneToks, t ∈ b.doneToks) (hl : b.listCopy = a.listCopy)
    (ha : b.all = a.all) (hnk : b.nextKey = a.nextKey) (hq : b.qKO = a.qKO) (hi : b.idx = a.idx) : ProgS xt a b where
  doneMono := hd
  lcRel := by rw [hl]; exact LcSub.refl _
  allNew := fun k h => Or.inl (ha ▸ h)
  keysLt := fun h => by rw [hq, hnk]; exact h
  ownKeep := fun _ p hp _ => by rw [hq]; exact hp
  done6 := fun _ p _ hpi hn => absurd (hi ▸ hpi) hn

theorem StepS.refl (xf xi d) (a : Sk) : StepS xf xi d a a where
  faults := rfl
  kMono := Nat.le_refl _
  keyMono := Nat.le_refl _
  idxNew := fun _ h => Or.inl h
  unl := fun _ q h _ => ⟨q, h, fun _ hk => hk⟩
  orphan := fun _ _ _ h => h
  debtAlive := fun _ h _ => h
  prog := ProgS.refl _ _

theorem StepT.trans {xf xi xt d} {a b c : Sk} (h1 : StepT xf xi xt d a b) (h2 : StepT xf xi xt d b c) :
    StepT xf xi xt d a c where
  faults := h2.faults.trans h1.faults
  kMono := Nat.le_trans h1.kMono h2.kMono
  keyMono := Nat.le_trans h1.keyMono h2.keyMono
  idxNew := fun x hx => by
    rcases h2.idxNew x hx with h | h
    · exact h1.idxNew x h
    · exact Or.inr (Nat.le_trans h1.keyMono h)
  unl := fun fd q h hx => by
    obtain ⟨q1, hq1, s1⟩ := h1.unl fd q h hx
    obtain ⟨q2, hq2, s2⟩ := h2.unl fd q1 hq1 hx
    exact ⟨q2, hq2, fun k hk => s1 k (s2 k hk)⟩
  orphan := fun id hid hx hn =>
    h2.orphan id (Nat.lt_of_lt_of_le hid h1.kMono) hx (h1.orphan id hid hx hn)
  debtAlive := fun id ha hd => h2.debtAlive id (h1.debtAlive id ha hd) hd
  prog := h1.prog.trans h2.prog h1.keyMono h2.idxNew

theorem StepS.trans {xf xi d} {a b c : Sk} (h1 : StepS xf xi d a b) (h2 : StepS xf xi d b c) :
    StepS xf xi d a c := StepT.trans h1 h2

/-- exceptions may be added, the debt may be lowered -/
theorem StepT.weaken {xf xi xt d xf' xi' xt' d'} {a b : Sk} (h : StepT xf xi xt d a b)
    (hf : xf = none ∨ xf = xf') (hi : xi = none ∨ xi = xi') (ht : xt = none ∨ xt = xt') (hd : ∀ id, d' id ≤ d id) :
    StepT xf' xi' xt' d' a b where
  faults := h.faults
  kMono := h.kMono
  keyMono := h.keyMono
  idxNew := h.idxNew
  unl := fun fd q hm hx => h.unl fd q hm (by
    rcases hf with hf | hf
    · rw [hf]; exact fun hh => by cases hh
    · rw [hf]; exact hx)
  orphan := fun id hid hx hn => h.orphan id hid (by
    rcases hi with hi | hi
    · rw [hi]; exact fun hh => by cases hh
    · rw [hi]; exact hx) hn
  debtAlive := fun id ha hpos => h.debtAlive id ha (Nat.lt_of_lt_of_le hpos (hd id))
  prog := by
    rcases ht with ht | ht
    · subst ht; exact h.prog.weaken
    · subst ht; exact h.prog

theorem StepS.weaken {xf xi d xf' xi' d'} {a b : Sk} (h : StepS xf xi d a b)
    (hf : xf = none ∨ xf = xf') (hi : xi = none ∨ xi = xi') (hd : ∀ id, d' id ≤ d id) :
    StepS xf' xi' d' a b := StepT.weaken h hf hi (Or.inl rfl) hd

theorem StepS.weaken' {xf xi d} {a b : Sk} (h : StepS none none d a b) : StepS xf xi d a b :=
  h.weaken (Or.inl rfl) (Or.inl rfl) (fun _ => Nat.le_refl _)

theorem StepS.toT {xf xi xt d} {a b : Sk} (h : StepS xf xi d a b) : StepT xf xi xt d a b :=
  StepT.weaken h (Or.inr rfl) (Or.inr rfl) (Or.inl rfl) (fun _ => Nat.le_refl _)

/-- a step that leaves the ownership projections alone only has to account for the connection lists -/
theorem StepS.of_same {xf xi d} {a b : Sk} (hf : b.faults = a.faults) (hk : b.nextClient = a.nextClient)
    (hnk : b.nextKey = a.nextKey) (hq : b.qKO = a.qKO) (hi : b.idx = a.idx) (hc : b.clients = a.clients)
    (hp : b.pendingToks = a.pendingToks)
    (hu : ∀ fd q, (fd, true, q) ∈ a.cFUQ → some fd ≠ xf → ∃ q', (fd, true, q') ∈ b.cFUQ ∧ ∀ k ∈ q', k ∈ q)
    (hd : b.doneToks = a.doneToks := by rfl) (hl : b.listCopy = a.listCopy := by rfl)
    (ha : b.all = a.all := by rfl) : StepS xf xi d a b where
  faults := hf
  kMono := by rw [hk]; exact Nat.le_refl _
  keyMono := by rw [hnk]; exact Nat.le_refl _
  idxNew := fun x hx => Or.inl (hi ▸ hx)
  unl := hu
  orphan := fun id _ _ hn => by unfold Sk.NoSub at *; rw [hq, hi]; exact hn
  debtAlive := fun id ha _ => by unfold Sk.Active at *; rw [hc, hp]; exact ha
  prog := ProgS.of_same (fun t h => hd ▸ h) hl ha hnk hq hi

/-! ### exceptions that are not there can be dropped -/

/-- the token of the callback that is in flight once a query of the application has been unlinked -/
def ownerTok : Owner → Option Nat
  | .user tok => some tok
  | _ => none

/-- the callback of a compound request's sub-request is an exception of `orphan` only for a compound request
    that has a sub-request in the first place -/
theorem StepT.drop_xi {xf xt d} {a b : Sk} {id : Nat} (h : StepT xf (some id) xt d a b) (hno : ¬ a.NoSub id) :
    StepT xf none xt d a b where
  faults := h.faults
  kMono := h.kMono
  keyMono := h.keyMono
  idxNew := h.idxNew
  unl := h.unl
  debtAlive := h.debtAlive
  prog := h.prog
  orphan := fun i hi _ hn => by
    by_cases he : i = id
    · exact absurd (he ▸ hn) hno
    · exact h.orphan i hi (fun hh => he (Option.some.inj hh)) hn

def ownerId : Owner → Option Nat
  | .client id => some id
  | _ => none

theorem exId_callback (o : Owner) (r st t rec) : exId (.callback o r st t rec) = ownerId o := by cases o <;> rfl
theorem exId_sendNolock (a b c e o r) : exId (.sendNolock a b c e o r) = ownerId o := by cases o <;> rfl

/-- a step made on behalf of the owner of a linked query `k`, after which the owner's callback has been made, is
    an ordinary step -/
theorem StepS.drop_owner {xf d} {a b : Sk} {k : Nat} {e : QSk} (hq : a.q? k = some e)
    (hk : k ∈ a.idx) (h : StepT xf (ownerId e.owner) (ownerTok e.owner) d a b)
    (hdone : ∀ tok, e.owner = .user tok → tok ∈ b.doneToks) : StepS xf none d a b := by
  cases ho : e.owner with
  | client id =>
    rw [ho] at h
    refine StepT.drop_xi h (fun hn => ?_)
    exact hn (k, e.owner) (Sk.q?_mem_proj hq).2.1 hk ho
  | probe => rw [ho] at h; exact h
  | user tok =>
    rw [ho] at h
    have hp := h.prog
    exact ⟨h.faults, h.kMono, h.keyMono, h.idxNew, h.unl, h.orphan, h.debtAlive,
      ⟨hp.doneMono, hp.lcRel, hp.allNew, hp.keysLt, hp.ownKeep, fun hl p hpm hpi hn tok' ho' => by
        rcases hp.done6 hl p hpm hpi hn tok' ho' with h' | h'
        · exact Or.inl h'
        · have : tok' = tok := Option.some.inj h'
          exact Or.inl (this ▸ hdone tok ho)⟩⟩

/-- the procedure acts for a compound request that did not exist at entry: no exception is visible -/
theorem StepS.drop_xi_fresh {xf d} {a b : Sk} {id : Nat} (h : StepS xf (some id) d a b) (hf : a.nextClient ≤ id) :
    StepS xf none d a b :=
  ⟨h.faults, h.kMono, h.keyMono, h.idxNew, h.unl,
    fun i hi _ hn => h.orphan i hi (fun he => by have := Option.some.inj he; omega) hn, h.debtAlive, h.prog⟩

/-- closing a connection that was linked at the start is, seen from the start, an ordinary step -/
theorem StepS.drop_xf {xi d} {a a2 b : Sk} {fd : Nat} (h1 : StepS none xi d a a2) (h2 : StepS (some fd) xi d a2 b)
    (hl : ∀ q, (fd, true, q) ∉ a.cFUQ) : StepS none xi d a b := by
  have h := (h1.weaken (xf' := some fd) (Or.inl rfl) (Or.inr rfl) (fun _ => Nat.le_refl _)).trans h2
  exact ⟨h.faults, h.kMono, h.keyMono, h.idxNew,
    fun fd' q hm _ => h.unl fd' q hm (fun he => hl q (by rw [← Option.some.inj he]; exact hm)),
    h.orphan, h.debtAlive, h.prog⟩

theorem DebtOk.congr {x d} {a b : Sk} (h : DebtOk x d a) (hk : b.nextClient = a.nextClient)
    (hq : b.qKO = a.qKO) (hi : b.idx = a.idx) (hc : b.clients = a.clients) (hp : b.pendingToks = a.pendingToks) :
    DebtOk x d b where
  fresh := by rw [hk]; exact h.fresh
  cnt := by unfold Sk.subs; rw [hc, hp, hq, hi]; exact h.cnt

theorem bump_zero (d : Nat → Nat) (id : Nat) : bump d id 0 = d := by
  funext i; unfold bump; split <;> rfl
theorem bump_self (d : Nat → Nat) (id n : Nat) : bump d id n id = d id + n := by simp [bump]
theorem bump_ne (d : Nat → Nat) {id i : Nat} (n : Nat) (h : i ≠ id) : bump d id n i = d i := by simp [bump, h]
theorem le_bump (d : Nat → Nat) (id n i : Nat) : d i ≤ bump d id n i := by
  unfold bump; split <;> omega
theorem bump_bump (d : Nat → Nat) (id m n : Nat) : bump (bump d id m) id n = bump d id (m + n) := by
  funext i; unfold bump; split <;> omega

/-- the invariant without a hole is the invariant with any hole: how a caller that has `Wf` meets the precondition
    `WfS _ (some key)` of `requeue` / `endQuery` -/
theorem WfS.weaken_hole {a : Sk} {hole : Option Nat} (h : WfS a none) : WfS a hole :=
  ⟨h.q, h.i, h.t, ⟨h.c.nodup, h.c.lt, h.c.sock, h.c.qNodup, h.c.cq, fun p hp fd hfd => by
    obtain ⟨c, hc, h1, h2⟩ := h.c.qc p hp fd hfd
    exact ⟨c, hc, h1, h2.imp_right (fun hh => by cases hh)⟩⟩, h.s, h.k, h.tok⟩

end Cares.Chan
