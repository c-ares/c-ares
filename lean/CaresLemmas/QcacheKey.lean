import CaresModel.Proto.Qcache
import CaresLemmas.ListLemmas
/-!
# Lemmas about the cache key (`ares_qcache_calc_key`): separators, case folding, decimal rendering (helpers for C08)
-/
namespace Cares.Proto.Qcache
open Cares.Generated.Proto

/-- one pass over the table: `|` stands at its own index and nowhere else -/
theorem tolower_bar_table : (LIBC_TOLOWER.zipIdx.all fun p => decide (p.1 = bar ↔ p.2 = bar)) = true := by
  decide +kernel
theorem lower_digit_table : (List.range 10).all (fun i => decide (lower (48 + i) = 48 + i)) = true := by decide +kernel
theorem lower_eq_bar (c : Nat) : lower c = bar ↔ c = bar := by
  unfold lower
  rw [List.getD_eq_getElem?_getD]
  cases h : LIBC_TOLOWER[c]? with
  | none => exact Iff.rfl
  | some v =>
    exact of_decide_eq_true (List.all_eq_true.mp tolower_bar_table (v, c) (List.mem_zipIdx_iff_getElem?.mpr h))

theorem tolower_len : LIBC_TOLOWER.length = 256 := by decide +kernel

theorem lower_big (c : Nat) (h : 256 ≤ c) : lower c = c := by
  unfold lower
  rw [List.getD_eq_getElem?_getD, List.getElem?_eq_none (by rw [tolower_len]; exact h)]
  rfl

theorem lower_digit (i : Nat) (h : i < 10) : lower (48 + i) = 48 + i :=
  of_decide_eq_true (List.all_eq_true.mp lower_digit_table i (List.mem_range.mpr h))

theorem lowerAll_append (a b : Chars) : lowerAll (a ++ b) = lowerAll a ++ lowerAll b := by simp [lowerAll]
theorem lowerAll_cons (a : Nat) (b : Chars) : lowerAll (a :: b) = lower a :: lowerAll b := by simp [lowerAll]
theorem lower_bar : lower bar = bar := (lower_eq_bar bar).mpr rfl

theorem bar_mem_lowerAll (s : Chars) : bar ∈ lowerAll s ↔ bar ∈ s := by
  simp only [lowerAll, List.mem_map]
  constructor
  · rintro ⟨c, hc, h⟩; rw [(lower_eq_bar c).mp h] at hc; exact hc
  · intro h; exact ⟨bar, h, lower_bar⟩

/-- splitting at the first separator is unique -/
theorem split_bar (x y r s : Chars) (hx : bar ∉ x) (hy : bar ∉ y) (h : x ++ bar :: r = y ++ bar :: s) :
    x = y ∧ r = s := by
  induction x generalizing y with
  | nil =>
    cases y with
    | nil => cases h; exact ⟨rfl, rfl⟩
    | cons b y' => cases h; exact absurd List.mem_cons_self hy
  | cons a x' ih =>
    cases y with
    | nil => cases h; exact absurd List.mem_cons_self hx
    | cons b y' =>
      injection h with h1 h2
      obtain ⟨e1, e2⟩ := ih y' (fun hm => hx (List.mem_cons_of_mem _ hm)) (fun hm => hy (List.mem_cons_of_mem _ hm)) h2
      exact ⟨by rw [h1, e1], e2⟩

theorem div10_lt {n : Nat} (h : ¬ n < 10) : n / 10 < n :=
  Nat.div_lt_self (Nat.lt_of_lt_of_le (by decide) (Nat.le_of_not_lt h)) (by decide)

/-- with enough fuel the rendering does not depend on the fuel -/
theorem decAux_fuel : ∀ (f1 f2 n : Nat), n < f1 → n < f2 → decAux f1 n = decAux f2 n
  | 0, _, _, h, _ => absurd h (Nat.not_lt_zero _)
  | _, 0, _, _, h => absurd h (Nat.not_lt_zero _)
  | f1 + 1, f2 + 1, n, h1, h2 => by
    rw [decAux, decAux]
    split
    · rfl
    next h =>
      have hd := div10_lt h
      rw [decAux_fuel f1 f2 (n / 10) (Nat.lt_of_lt_of_le hd (Nat.le_of_lt_succ h1))
        (Nat.lt_of_lt_of_le hd (Nat.le_of_lt_succ h2))]

theorem decChars_eq (n : Nat) : decChars n = if n < 10 then [48 + n] else decChars (n / 10) ++ [48 + n % 10] := by
  rw [decChars, decAux]
  split
  · rfl
  next h => rw [decAux_fuel n (n / 10 + 1) (n / 10) (div10_lt h) (Nat.lt_succ_self _)]; rfl

theorem decChars_digits (n : Nat) : ∀ c ∈ decChars n, 48 ≤ c ∧ c ≤ 57 := by
  induction n using Nat.strongRecOn with
  | ind n ih =>
    intro c hc
    rw [decChars_eq] at hc
    split at hc
    · rw [List.mem_singleton] at hc; omega
    next h =>
      rw [List.mem_append, List.mem_singleton] at hc
      rcases hc with hc | hc
      · exact ih (n / 10) (div10_lt h) c hc
      · omega

theorem bar_not_mem_dec (n : Nat) : bar ∉ decChars n := by
  intro h; have := decChars_digits n bar h; simp [bar] at this

theorem lowerAll_dec (n : Nat) : lowerAll (decChars n) = decChars n := by
  have h := decChars_digits n
  generalize decChars n = l at h
  induction l with
  | nil => rfl
  | cons a l ih =>
    rw [lowerAll_cons, ih (fun c hc => h c (List.mem_cons_of_mem _ hc))]
    have := h a List.mem_cons_self
    have e : a = 48 + (a - 48) := by omega
    rw [e, lower_digit _ (by omega)]

theorem decChars_value (n : Nat) : (decChars n).foldl (fun a c => 10 * a + (c - 48)) 0 = n := by
  induction n using Nat.strongRecOn with
  | ind n ih =>
    rw [decChars_eq]
    split
    · exact (Nat.zero_add _).trans (Nat.add_sub_cancel_left ..)
    next h =>
      rw [List.foldl_append, ih (n / 10) (div10_lt h)]
      exact (congrArg _ (Nat.add_sub_cancel_left ..)).trans (Nat.div_add_mod n 10)

theorem decChars_inj (a b : Nat) (h : decChars a = decChars b) : a = b := by
  rw [← decChars_value a, h, decChars_value]

/-- what the key retains of a question: type, class, and the name folded to lower case without one trailing dot -/
def qnorm (q : Question) : Nat × Nat × Chars := (q.qtype, q.qclass, lowerAll (stripDot q.name))

/-- the property's notion of "the same request" -/
def sameCacheClass (a b : Req) : Prop :=
  a.opcode = b.opcode ∧ a.rd = b.rd ∧ a.cd = b.cd ∧ a.questions.map qnorm = b.questions.map qnorm

def nkey : List (Nat × Nat × Chars) → Chars
  | [] => []
  | (t, c, n) :: r => bar :: (decChars t ++ bar :: (decChars c ++ bar :: (n ++ nkey r)))

theorem lowerAll_questionsKey (qs : List Question) : lowerAll (questionsKey true qs) = nkey (qs.map qnorm) := by
  induction qs with
  | nil => rfl
  | cons q qs ih =>
    simp only [questionsKey, questionKey, typeChars, classChars, ↓reduceIte, List.map_cons, qnorm, nkey]
    simp only [List.cons_append, lowerAll_cons, lowerAll_append, lower_bar, lowerAll_dec, ih, List.append_assoc]

def opPart (r : Req) : Chars := lowerAll (strChars (opcodeStr r.opcode))
def flagPart (r : Req) : Chars := lowerAll (flagChars r.rd r.cd)

theorem lowerAll_calcKey (r : Req) :
    lowerAll (calcKeyWith true r) = opPart r ++ bar :: (flagPart r ++ nkey (r.questions.map qnorm)) := by
  simp only [calcKeyWith, lowerAll_append, lowerAll_cons, lower_bar, lowerAll_questionsKey, opPart, flagPart,
    List.cons_append, List.append_assoc]

theorem opcode_names :
    (OPCODE_VALID.map (fun a => lowerAll (strChars (opcodeStr a)))).Nodup ∧
      ∀ n ∈ OPCODE_VALID.map (fun a => lowerAll (strChars (opcodeStr a))), bar ∉ n := by
  decide +kernel
theorem flag_table : [false, true].all (fun a => [false, true].all (fun b => [false, true].all (fun c =>
    [false, true].all (fun d => decide (lowerAll (flagChars a b) = lowerAll (flagChars c d) → a = c ∧ b = d))))) = true := by
  decide +kernel

theorem flag_nobar : ∀ (a b : Bool), bar ∉ lowerAll (flagChars a b) := by decide +kernel

theorem flag_inj (a b c d : Bool) (h : lowerAll (flagChars a b) = lowerAll (flagChars c d)) : a = c ∧ b = d := by
  have hb (x : Bool) : x ∈ [false, true] := by cases x <;> simp
  have h1 := List.all_eq_true.mp flag_table a (hb a)
  have h2 := List.all_eq_true.mp h1 b (hb b)
  have h3 := List.all_eq_true.mp h2 c (hb c)
  exact of_decide_eq_true (List.all_eq_true.mp h3 d (hb d)) h

/-- a request as the library can put it on the wire and get an answer for: one question (`ares_dns_parse` refuses
    responses with QDCOUNT ≠ 1), a name without `|` (`ares_dns_write` validates question names against the host name
    character set, which has no `|`), an opcode the record API accepts -/
def WireReq (r : Req) : Prop :=
  (∃ q, r.questions = [q] ∧ bar ∉ q.name) ∧ r.opcode ∈ OPCODE_VALID

/-- any request record built with the public API -/
def ApiReq (r : Req) : Prop := r.opcode ∈ OPCODE_VALID

theorem stripDot_nobar (n : Chars) (h : bar ∉ n) : bar ∉ stripDot n := by
  unfold stripDot; split
  · intro hm; exact h ((List.dropLast_sublist n).subset hm)
  · exact h

theorem sameCacheClass_of_key_eq (a b : Req) (ha : WireReq a) (hb : ApiReq b)
    (h : lowerAll (calcKeyWith true a) = lowerAll (calcKeyWith true b)) : sameCacheClass a b := by
  obtain ⟨⟨qa, hqa, hna⟩, hoa⟩ := ha
  rw [lowerAll_calcKey, lowerAll_calcKey] at h
  have hba : bar ∉ opPart a := opcode_names.2 _ (List.mem_map_of_mem hoa)
  have hbb : bar ∉ opPart b := opcode_names.2 _ (List.mem_map_of_mem hb)
  obtain ⟨h1, h2⟩ := split_bar _ _ _ _ hba hbb h
  have hop : a.opcode = b.opcode := inj_of_nodup_map opcode_names.1 hoa hb h1
  rw [hqa] at h2
  simp only [List.map_cons, List.map_nil, qnorm, nkey, List.append_nil] at h2
  -- the other request has at least one question
  cases hqb : b.questions with
  | nil =>
    rw [hqb] at h2
    simp only [List.map_nil, nkey, List.append_nil] at h2
    exact absurd (by unfold flagPart at h2; rw [← h2]; simp) (flag_nobar b.rd b.cd)
  | cons qb rest =>
    rw [hqb] at h2
    simp only [List.map_cons, qnorm, nkey] at h2
    obtain ⟨f1, f2⟩ := split_bar _ _ _ _ (flag_nobar _ _) (flag_nobar _ _) h2
    obtain ⟨hrd, hcd⟩ := flag_inj _ _ _ _ f1
    obtain ⟨t1, t2⟩ := split_bar _ _ _ _ (bar_not_mem_dec _) (bar_not_mem_dec _) f2
    obtain ⟨c1, c2⟩ := split_bar _ _ _ _ (bar_not_mem_dec _) (bar_not_mem_dec _) t2
    have hnb : bar ∉ lowerAll (stripDot qa.name) := by
      rw [bar_mem_lowerAll]; exact stripDot_nobar _ hna
    cases rest with
    | nil =>
      simp only [List.map_nil, nkey, List.append_nil] at c2
      refine ⟨hop, hrd, hcd, ?_⟩
      rw [hqa, hqb]
      simp only [List.map_cons, List.map_nil, qnorm, decChars_inj _ _ t1, decChars_inj _ _ c1, c2]
    | cons q2 rest2 =>
      exfalso
      apply hnb
      rw [c2]
      simp [nkey]
end Cares.Proto.Qcache
