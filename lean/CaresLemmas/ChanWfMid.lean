import CaresLemmas.ClientCausalDefs
import CaresLemmas.ChanWfFree
/-!
# C01 and C12c — intermediate states of a body, and the joint guarantee of an instrumented procedure

C01's contract (`Pre` / `Good`, `ChanWfDefs`) and C12c's log invariant (`LG`, `ClientCausalDefs`) are proved together, by
one walk through each instrumented body `bodyXxxC` (the model's body plus the log of client events; `execC_fst`): the
preconditions of the sub-calls and the invariant of the intermediate states are derived once and serve both.
`GoodL cid d c s L x`: the procedure `c`, entered in `s` with the log `L` so far, has returned `x`; unless fuel ran out,
`x.1` satisfies `Good` and `LG` holds of the extended log.  `Mid` / `MidL` describe an intermediate state of a body
(without / with the log so far); the lemmas below run a sub-call from one (`MidL.call`), end the body with a tail call
(`MidLO.tailL`, `GoodL.tail`) or without one (`MidL.ret`).

In the body files a hypothesis `hc` that nothing introduces by name is the condition of the `if` that the preceding
`ite_split` (`ChanTactics`) has just cased on.
-/
namespace Cares.Chan

theorem Wf.of_sk_eq {s s' : St} (h : s'.sk = s.sk) (hw : Wf s) : Wf s' := by
  unfold Wf; rw [h]; exact hw

/-- an intermediate state of a body: invariant, debt and an ordinary step from the entry state -/
structure Mid (d : Nat → Nat) (s s' : St) : Prop where
  wf : Wf s'
  debt : DebtOk none d s'.sk
  step : StepS none none d s.sk s'.sk

theorem Mid.refl {d s} (hw : Wf s) (hd : DebtOk none d s.sk) : Mid d s s := ⟨hw, hd, StepS.refl _ _ _ _⟩

theorem Mid.of_sk_eq {d s s'} (hw : Wf s) (hd : DebtOk none d s.sk) (h : s'.sk = s.sk) : Mid d s s' :=
  ⟨Wf.of_sk_eq h hw, by rw [h]; exact hd, by rw [h]; exact StepS.refl _ _ _ _⟩

theorem Good.toMid {d c s r} (hg : Good d c s r) (hf : exFd c = none) (hi : exId c = none) : Mid d s r.1 :=
  ⟨hg.wf, hg.debt, by have := hg.step; rwa [hf, hi] at this⟩

theorem Mid.trans {d s s1 s2} (h1 : Mid d s s1) (h2 : Mid d s1 s2) : Mid d s s2 :=
  ⟨h2.wf, h2.debt, h1.step.trans h2.step⟩

theorem Mid.sk_eq {d s s1 s2} (h1 : Mid d s s1) (h : s2.sk = s1.sk) : Mid d s s2 :=
  ⟨Wf.of_sk_eq h h1.wf, by rw [h]; exact h1.debt, by rw [h]; exact h1.step⟩

def MidO (d : Nat → Nat) (s s' : St) : Prop := s'.outOfFuel = true ∨ Mid d s s'

theorem MidO.good {d c s s'} {ret : Ret} (hm : MidO d s s') (hp : Post s (s', ret) c) : GoodO d c s (s', ret) := by
  rcases hm with hoof | hm
  · exact Or.inl hoof
  · exact Or.inr ⟨hm.wf, hm.debt, hm.step.weaken', hp⟩

variable {cid : Nat}

/-- an intermediate state of a body with the log so far -/
structure MidL (cid : Nat) (d : Nat → Nat) (s : St) (L : CLog) (s' : St) : Prop where
  mid : Mid d s s'
  lg : LG cid L 0 s'

def MidLO (cid : Nat) (d : Nat → Nat) (s : St) (L : CLog) (s' : St) : Prop := s'.outOfFuel = true ∨ MidL cid d s L s'

theorem MidL.sk_eq {d s L s1 s2} (h : MidL cid d s L s1) (he : s2.sk = s1.sk) : MidL cid d s L s2 :=
  ⟨h.mid.sk_eq he, h.lg.sk_eq he⟩

theorem MidL.call {goC : GoC} (h : GoGood cid goC) {d s L s1} (hm : MidL cid d s L s1) (c' : Call) (hpre : Pre d s1 c')
    (hx : xtra cid c' = 0) (hf : exFd c' = none) (hi : exId c' = none) :
    MidLO cid d s (L ++ (goC c' s1).2) (goC c' s1).1.1 := by
  rcases h.call hpre (by rw [hx]; exact hm.lg) with hoof | ⟨hg, hL⟩
  · exact Or.inl hoof
  · exact Or.inr ⟨hm.mid.trans (hg.toMid hf hi), hL⟩

theorem MidLO.done {d s L s'} {ret : Ret} (hm : MidLO cid d s L s') : LGO cid L ((s', ret), []) := by
  rcases hm with hoof | hm
  · exact Or.inl hoof
  · exact Or.inr (by rw [List.append_nil]; exact hm.lg)

theorem MidLO.bind {d s L L' s1 s2} (hm : MidLO cid d s L s1) (ho : s1.outOfFuel = true → s2.outOfFuel = true)
    (f : MidL cid d s L s1 → MidLO cid d s L' s2) : MidLO cid d s L' s2 := by
  rcases hm with hoof | hm
  · exact Or.inl (ho hoof)
  · exact f hm

theorem MidL.refl {d s L} (hw : Wf s) (hd : DebtOk none d s.sk) (hL : LG cid L 0 s) : MidL cid d s L s :=
  ⟨Mid.refl hw hd, hL⟩

def GoodL (cid : Nat) (d : Nat → Nat) (c : Call) (s : St) (L : CLog) (x : (St × Ret) × CLog) : Prop :=
  x.1.1.outOfFuel = true ∨ (Good d c s x.1 ∧ LG cid (L ++ x.2) 0 x.1.1)

theorem GoodL.seq {d c s L l1 l2} {r : St × Ret} (h : GoodL cid d c s (L ++ l1) (r, l2)) :
    GoodL cid d c s L (r, l1 ++ l2) :=
  h.imp id fun ⟨hg, hl⟩ => ⟨hg, by rw [← List.append_assoc]; exact hl⟩

theorem GoodL.log_eq {d c s L L' l l'} {r : St × Ret} (h : GoodL cid d c s L (r, l)) (e : L ++ l = L' ++ l') :
    GoodL cid d c s L' (r, l') :=
  h.imp id fun ⟨hg, hl⟩ => ⟨hg, e ▸ hl⟩

theorem MidLO.ret {d c s L s'} {ret : Ret} (hm : MidLO cid d s L s') (hp : Post s (s', ret) c) :
    GoodL cid d c s L ((s', ret), []) :=
  hm.imp id fun hm => ⟨⟨hm.mid.wf, hm.mid.debt, hm.mid.step.weaken', hp⟩, by rw [List.append_nil]; exact hm.lg⟩

theorem MidL.ret {d c s L s'} {ret : Ret} (hm : MidL cid d s L s') (hp : Post s (s', ret) c) :
    GoodL cid d c s L ((s', ret), []) :=
  MidLO.ret (Or.inr hm) hp

/-- the result of a sub-call `c'` made from `s1` is the result of the procedure `c`, possibly with another status.
    `hf`, `hi`: the step of `c'` may use no exception that `c` does not have (`exFd`: the connection a `closeLoop`
    releases, `exId`: the compound request a call may give sub-requests to): none, or the one of `c` -/
theorem GoodL.tail {d c c' s s1 L} {x : (St × Ret) × CLog} {ret : Ret} (hg : GoodL cid d c' s1 L x)
    (hs : StepS (exFd c) (exId c) d s.sk s1.sk)
    (hf : exFd c' = none ∨ exFd c' = exFd c) (hi : exId c' = none ∨ exId c' = exId c)
    (hp : Good d c' s1 x.1 → Post s (x.1.1, ret) c) : GoodL cid d c s L ((x.1.1, ret), x.2) :=
  hg.imp id fun ⟨hg, hl⟩ =>
    ⟨⟨hg.wf, hg.debt, hs.trans (hg.step.weaken hf hi (fun _ => Nat.le_refl _)), hp hg⟩, hl⟩

theorem GoodL.tail' {d c c' s s1 L} {x : (St × Ret) × CLog} (hg : GoodL cid d c' s1 L x)
    (hs : StepS (exFd c) (exId c) d s.sk s1.sk)
    (hf : exFd c' = none ∨ exFd c' = exFd c) (hi : exId c' = none ∨ exId c' = exId c)
    (hp : Good d c' s1 x.1 → Post s x.1 c) : GoodL cid d c s L x :=
  hg.tail (ret := x.1.2) hs hf hi hp

theorem GoGood.callL {goC : GoC} (h : GoGood cid goC) {d c s L} (hp : Pre d s c) (hL : LG cid L (xtra cid c) s) :
    GoodL cid d c s L (goC c s) :=
  h.call hp hL

theorem MidLO.tailL {goC : GoC} (h : GoGood cid goC) {d c c' s L s1} (hm : MidLO cid d s L s1)
    (hpre : MidL cid d s L s1 → Pre d s1 c') (hx : xtra cid c' = 0)
    (hf : exFd c' = none ∨ exFd c' = exFd c) (hi : exId c' = none ∨ exId c' = exId c)
    (hp : ∀ r, Post s r c) : GoodL cid d c s L (goC c' s1) := by
  rcases hm with hoof | hm
  · exact Or.inl (h.oof hoof)
  · exact (h.callL (hpre hm) (by rw [hx]; exact hm.lg)).tail (ret := (goC c' s1).1.2) hm.mid.step.weaken' hf hi
      (fun _ => hp _)

/-- some log satisfies the log invariant in any state: `Good` alone is `GoodL` for that log -/
theorem LG.exists (s : St) (k : Nat) : ∃ L, LG cid L k s := by
  have key : ∀ n a b, causalFrom cid a b (List.replicate n (.act cid (.send default))) = true ∧
      ncOf cid (List.replicate n (CItem.act cid (.send default))) = 0 ∧
      nsOf cid (List.replicate n (CItem.act cid (.send default))) = n := by
    intro n
    induction n with
    | zero => intro a b; exact ⟨rfl, rfl, rfl⟩
    | succ n ih =>
      intro a b
      obtain ⟨h1, h2, h3⟩ := ih (a + 0) (b + 1)
      refine ⟨?_, ?_, ?_⟩
      · simp only [List.replicate_succ, causalFrom, ev1, sent1, ↓reduceIte, sentOfAct, List.isEmpty_nil,
          Bool.true_or, Bool.true_and, List.length_nil, List.length_cons]
        exact h1
      · simp only [List.replicate_succ, ncOf, evsOf, List.flatMap_cons, ev1, List.nil_append] at h2 ⊢
        exact h2
      · simp only [List.replicate_succ, nsOf, sentOf, List.flatMap_cons, sent1, ↓reduceIte, sentOfAct,
          List.length_append, List.length_cons, List.length_nil] at h3 ⊢
        omega
  obtain ⟨h1, h2, h3⟩ := key (s.sk.subs cid + k) 0 0
  exact ⟨_, h1, by rw [h2, h3]; omega⟩

end Cares.Chan
