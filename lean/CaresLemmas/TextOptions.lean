import CaresModel.Options
/-! Helper lemmas for C16: user-supplied settings survive `ares_sysconfig_apply`; options saved from a
    freshly initialised channel reproduce it (`save_init_fixpoint'`). -/
namespace Cares.Text

/-- the settings guarded by an option bit (what "the application supplied explicitly" covers in
    `ares_sysconfig_apply`) agree between two channels -/
def guardedEq (a b : Chan) : Prop :=
  a.optmask = b.optmask ∧
  (a.optmask.servers = true → b.servers = a.servers) ∧
  (a.optmask.domains = true → b.domains = a.domains) ∧
  (a.optmask.lookups = true → b.lookups = a.lookups) ∧
  (a.optmask.sortlist = true → b.sortlist = a.sortlist) ∧
  (a.optmask.ndots = true → b.ndots = a.ndots) ∧
  (a.optmask.tries = true → b.tries = a.tries) ∧
  (a.optmask.timeoutms = true → b.timeout = a.timeout) ∧
  ((a.optmask.rotate = true ∨ a.optmask.norotate = true) → b.rotate = a.rotate) ∧
  (a.optmask.flags = true → b.flags = a.flags)

theorem guardedEq_refl (a : Chan) : guardedEq a a := by
  unfold guardedEq; simp

theorem guardedEq_trans (a b c : Chan) (h1 : guardedEq a b) (h2 : guardedEq b c) : guardedEq a c := by
  unfold guardedEq at *
  obtain ⟨m1, a1, a2, a3, a4, a5, a6, a7, a8, a9⟩ := h1
  obtain ⟨m2, b1, b2, b3, b4, b5, b6, b7, b8, b9⟩ := h2
  rw [← m1] at b1 b2 b3 b4 b5 b6 b7 b8 b9
  exact ⟨m1.trans m2, fun h => (b1 h).trans (a1 h), fun h => (b2 h).trans (a2 h), fun h => (b3 h).trans (a3 h),
    fun h => (b4 h).trans (a4 h), fun h => (b5 h).trans (a5 h), fun h => (b6 h).trans (a6 h),
    fun h => (b7 h).trans (a7 h), fun h => (b8 h).trans (a8 h), fun h => (b9 h).trans (a9 h)⟩

theorem sysconfigApply_guarded (c : Chan) (s : SysConfig) : guardedEq c (sysconfigApply c s) := by
  unfold guardedEq sysconfigApply sysconfigApplyG
  refine ⟨rfl, ?_, ?_, ?_, ?_, ?_, ?_, ?_, ?_, ?_⟩
  · intro h; simp only [h]; cases s.sconfig <;> simp
  · intro h; simp only [h]; cases s.domains <;> simp
  · intro h; simp only [h]; cases s.lookups <;> simp
  · intro h; simp [h]
  · intro h; simp [h]
  · intro h; simp [h]
  · intro h; simp [h]
  · intro h; rcases h with h | h <;> simp [h]
  · intro h; simp [h]

theorem reinit_guarded (c : Chan) (e : SysEnv) : guardedEq c (reinit c e) := by
  unfold reinit initBySysconfig
  split
  · exact guardedEq_refl c
  · exact sysconfigApply_guarded c _

theorem reinits_guarded (c : Chan) (es : List SysEnv) : guardedEq c (es.foldl reinit c) := by
  induction es generalizing c with
  | nil => exact guardedEq_refl c
  | cons e es ih => exact guardedEq_trans _ _ _ (reinit_guarded c e) (ih (reinit c e))

structure Options.WF (o : Options) : Prop where
  flagsR : -2147483648 ≤ o.flags ∧ o.flags < 2147483648
  timeoutR : o.timeout < 2147483648
  triesR : o.tries < 2147483648
  ndotsR : o.ndots < 2147483648
  maxtimeoutR : o.maxtimeout < 2147483648
  ednspszR : o.ednspsz < 2147483648
  udpMaxQueriesR : o.udpMaxQueries < 2147483648
  nservers : o.nservers > 0 → o.servers ≠ []
  ndomains : o.ndomains > 0 → o.ndomains = o.domains.length
  nsort : o.nsort > 0 → o.nsort = o.sortlist.length

/-- system configuration and defaults applied to a channel prepared by `ares_init_by_options` -/
def finish (a : Chan) (e : SysEnv) : Chan := applyDefaults (initBySysconfig a e) e

theorem initBySysconfig_cases (a : Chan) (e : SysEnv) :
    initBySysconfig a e = a ∨ ∃ s, initBySysconfig a e = sysconfigApply a s := by
  unfold initBySysconfig
  cases readSysconfig e a.resolvPath with
  | none => left; rfl
  | some s => right; exact ⟨s, rfl⟩

/-- the settings of `a` that neither the system configuration nor the defaults write -/
structure Untouched (a b : Chan) : Prop where
  optmask : b.optmask = a.optmask
  maxtimeout : b.maxtimeout = a.maxtimeout
  udpPort : b.udpPort = a.udpPort
  tcpPort : b.tcpPort = a.tcpPort
  sndbuf : b.sndbuf = a.sndbuf
  rcvbuf : b.rcvbuf = a.rcvbuf
  resolvPath : b.resolvPath = a.resolvPath
  hostsPath : b.hostsPath = a.hostsPath
  udpMaxQueries : b.udpMaxQueries = a.udpMaxQueries
  qcacheMaxTtl : b.qcacheMaxTtl = a.qcacheMaxTtl

theorem finish_untouched (a : Chan) (e : SysEnv) : Untouched a (finish a e) := by
  unfold finish
  rcases initBySysconfig_cases a e with h | ⟨s, h⟩ <;> rw [h] <;>
    exact ⟨rfl, rfl, rfl, rfl, rfl, rfl, rfl, rfl, rfl, rfl⟩

/-- fields `ares_sysconfig_apply` never writes but `init_by_defaults` may -/
theorem initBySysconfig_untouched (a : Chan) (e : SysEnv) :
    (initBySysconfig a e).ednspsz = a.ednspsz ∧ (initBySysconfig a e).retryChance = a.retryChance ∧
    (initBySysconfig a e).retryDelay = a.retryDelay := by
  rcases initBySysconfig_cases a e with h | ⟨s, h⟩
  · rw [h]; exact ⟨rfl, rfl, rfl⟩
  · rw [h]; exact ⟨rfl, rfl, rfl⟩

/-- what `init_by_defaults` keeps: every field that is already set -/
theorem applyDefaults_keeps (b : Chan) (e : SysEnv) :
    (b.optmask.flags = true → (applyDefaults b e).flags = b.flags) ∧
    (b.timeout ≠ 0 → (applyDefaults b e).timeout = b.timeout) ∧
    (b.tries ≠ 0 → (applyDefaults b e).tries = b.tries) ∧
    (applyDefaults b e).ndots = b.ndots ∧
    (b.ednspsz ≠ 0 → (applyDefaults b e).ednspsz = b.ednspsz) ∧
    (b.lookups.isSome = true → (applyDefaults b e).lookups = b.lookups) ∧
    (applyDefaults b e).sortlist = b.sortlist ∧
    (b.servers ≠ [] → (applyDefaults b e).servers = b.servers) ∧
    (b.optmask.serverFailover = true →
      (applyDefaults b e).retryChance = b.retryChance ∧ (applyDefaults b e).retryDelay = b.retryDelay) := by
  unfold applyDefaults defaultFlags
  refine ⟨fun h => by simp [h], fun h => if_neg h, fun h => if_neg h, rfl, fun h => if_neg h, fun h => ?_, rfl,
    fun h => ?_, fun h => by simp [h]⟩
  · cases hl : b.lookups <;> simp_all
  · cases hl : b.servers <;> simp_all

theorem finish_masked (a : Chan) (e : SysEnv) :
    let b := finish a e
    (a.optmask.flags = true → b.flags = a.flags) ∧
    (a.optmask.timeoutms = true → a.timeout ≠ 0 → b.timeout = a.timeout) ∧
    (a.optmask.tries = true → a.tries ≠ 0 → b.tries = a.tries) ∧
    (a.optmask.ndots = true → b.ndots = a.ndots) ∧
    (a.optmask.ednspsz = true → a.ednspsz ≠ 0 → b.ednspsz = a.ednspsz) ∧
    (a.optmask.lookups = true → a.lookups.isSome = true → b.lookups = a.lookups) ∧
    (a.optmask.sortlist = true → b.sortlist = a.sortlist) ∧
    (a.optmask.servers = true → a.servers ≠ [] → b.servers = a.servers) ∧
    (a.optmask.serverFailover = true → b.retryChance = a.retryChance ∧ b.retryDelay = a.retryDelay) := by
  obtain ⟨hm, gsv, -, glo, gso, gnd, gtr, gto, -, gfl⟩ := reinit_guarded a e
  obtain ⟨ued, urc, urd⟩ := initBySysconfig_untouched a e
  obtain ⟨dfl, dto, dtr, dnd, ded, dlo, dso, dsv, dsf⟩ := applyDefaults_keeps (initBySysconfig a e) e
  exact ⟨fun h => (dfl (hm ▸ h)).trans (gfl h),
    fun h hz => (dto ((gto h).symm ▸ hz)).trans (gto h),
    fun h hz => (dtr ((gtr h).symm ▸ hz)).trans (gtr h),
    fun h => dnd.trans (gnd h),
    fun _ hz => (ded (ued.symm ▸ hz)).trans ued,
    fun h hz => (dlo ((glo h).symm ▸ hz)).trans (glo h),
    fun h => dso.trans (gso h),
    fun h hz => (dsv ((gsv h).symm ▸ hz)).trans (gsv h),
    fun h => ⟨(dsf (hm ▸ h)).1.trans urc, (dsf (hm ▸ h)).2.trans urd⟩⟩

/-- what `ares_init_by_options` stores in each field of the channel `a` it returns, given the channel `c` it started from
    (`nm` is the mask it leaves: `normMask o m`) -/
structure Applied (c : Chan) (o : Options) (m nm : Mask) (a : Chan) : Prop where
  optmask : a.optmask = nm
  flags : a.flags = (if m.flags then toU32 o.flags else c.flags)
  timeout : a.timeout = (if m.timeoutms then (if o.timeout > 0 then o.timeout.toNat else c.timeout)
                 else if m.timeout && o.timeout > 0 then secToMs o.timeout else c.timeout)
  tries : a.tries = (if nm.tries then o.tries.toNat else c.tries)
  ndots : a.ndots = (if nm.ndots then o.ndots.toNat else c.ndots)
  maxtimeout : a.maxtimeout = (if nm.maxtimeoutms then o.maxtimeout.toNat else c.maxtimeout)
  rotate : a.rotate = (if m.norotate then false else if m.rotate then true else c.rotate)
  udpPort : a.udpPort = (if m.udpPort then o.udpPort else c.udpPort)
  tcpPort : a.tcpPort = (if m.tcpPort then o.tcpPort else c.tcpPort)
  sndbuf : a.sndbuf = (if nm.sndbuf then o.sndbuf else c.sndbuf)
  rcvbuf : a.rcvbuf = (if nm.rcvbuf then o.rcvbuf else c.rcvbuf)
  ednspsz : a.ednspsz = (if nm.ednspsz then o.ednspsz.toNat else c.ednspsz)
  domains : a.domains = (if m.domains && o.ndomains > 0 then o.domains else c.domains)
  lookups : a.lookups = (if nm.lookups then o.lookups else c.lookups)
  sortlist : a.sortlist = (if m.sortlist && o.nsort > 0 then o.sortlist else c.sortlist)
  resolvPath : a.resolvPath = (if nm.resolvconf then o.resolvPath else c.resolvPath)
  hostsPath : a.hostsPath = (if nm.hostsFile then o.hostsPath else c.hostsPath)
  udpMaxQueries : a.udpMaxQueries = (if nm.udpMaxQueries then o.udpMaxQueries.toNat else c.udpMaxQueries)
  qcacheMaxTtl : a.qcacheMaxTtl = (if m.queryCache then o.qcacheMaxTtl else 3600)
  retryChance : a.retryChance = (if m.serverFailover then o.retryChance else c.retryChance)
  retryDelay : a.retryDelay = (if m.serverFailover then o.retryDelay else c.retryDelay)
  servers : a.servers = (if nm.servers then
      serversUpdate a.udpPort a.tcpPort (hasFlag a.flags flagPrimary) c.servers (o.servers.map v4Server) else c.servers)

theorem applyOptions_fields (c : Chan) (o : Options) (m : Mask) :
    Applied c o m (normMask o m) (applyOptions c o m) := by
  cases h : (normMask o m).servers with
  | false =>
    have ha : applyOptions c o m = _ := if_neg (by rw [h]; exact Bool.false_ne_true)
    rw [ha]
    exact ⟨rfl, rfl, rfl, rfl, rfl, rfl, rfl, rfl, rfl, rfl, rfl, rfl, rfl, rfl, rfl, rfl, rfl, rfl, rfl, rfl, rfl,
      by rw [h]; exact (if_neg Bool.false_ne_true).symm⟩
  | true =>
    have ha : applyOptions c o m = _ := if_pos h
    rw [ha]
    exact ⟨rfl, rfl, rfl, rfl, rfl, rfl, rfl, rfl, rfl, rfl, rfl, rfl, rfl, rfl, rfl, rfl, rfl, rfl, rfl, rfl, rfl,
      by rw [h]; exact (if_pos rfl).symm⟩

theorem applyOptions_timeout (c : Chan) (o : Options) (m : Mask) :
    (applyOptions c o m).timeout =
      if (normMask o m).timeoutms then (if m.timeoutms then o.timeout.toNat else secToMs o.timeout) else c.timeout := by
  rw [(applyOptions_fields c o m).timeout]
  show _ = if ((m.timeoutms || m.timeout) && decide (o.timeout > 0)) = true then _ else _
  cases m.timeoutms <;> cases m.timeout <;> by_cases h : o.timeout > 0 <;> simp [h]

theorem toInt32_small (n : Nat) (h : n < 2147483648) : toInt32 n = (n : Int) := by
  unfold toInt32
  have : n % 4294967296 = n := Nat.mod_eq_of_lt (by omega)
  simp only [this]
  simp [h]

theorem toU32_toInt32 (n : Nat) (h : n < 4294967296) : toU32 (toInt32 n) = n := by
  unfold toInt32 toU32
  have : n % 4294967296 = n := Nat.mod_eq_of_lt h
  simp only [this]
  split
  · have : ((n : Int) % 4294967296) = n := Int.emod_eq_of_lt (by omega) (by omega)
    rw [this]; simp
  · have : (((n : Int) - 4294967296) % 4294967296) = n := by
      rw [Int.sub_emod, Int.emod_self]
      simp only [Int.sub_zero]
      rw [Int.emod_emod_of_dvd _ (by decide)]
      exact Int.emod_eq_of_lt (by omega) (by omega)
    rw [this]; simp

theorem toU32_lt (i : Int) : toU32 i < 4294967296 := by
  unfold toU32
  have h1 : i % 4294967296 < 4294967296 := Int.emod_lt_of_pos _ (by decide)
  have h0 : 0 ≤ i % 4294967296 := Int.emod_nonneg _ (by decide)
  omega

theorem secToMs_bounds (t : Int) (h : t > 0) : 0 < secToMs t ∧ secToMs t < 2147483648 := by
  unfold secToMs
  have : (2147483647 / 1000 : Int) = 2147483 := by decide
  rw [this]
  split <;> omega

/-- saved value of a positive `int` option that was stored as `toNat` -/
theorem toInt32_toNat (i : Int) (h0 : 0 ≤ i) (h1 : i < 2147483648) : toInt32 i.toNat = i := by
  rw [toInt32_small _ (by omega)]; omega

theorem dedup_mem (u t : Nat) : ∀ (l seen : List SConfig) (x : SConfig), x ∈ dedupSConfig u t l seen → x ∈ l := by
  intro l
  induction l with
  | nil => intro seen x h; simp [dedupSConfig] at h
  | cons s r ih =>
    intro seen x h
    unfold dedupSConfig at h
    split at h
    · exact List.mem_cons_of_mem _ (ih _ _ h)
    · rcases List.mem_cons.mp h with h | h
      · simp [h]
      · exact List.mem_cons_of_mem _ (ih _ _ h)

/-- later elements are not the "same server" as earlier ones -/
def DistinctKeys (u t : Nat) (l : List SConfig) : Prop := l.Pairwise (fun a b => sameServer u t b a = false)

theorem dedup_spec (u t : Nat) : ∀ (l seen : List SConfig),
    DistinctKeys u t (dedupSConfig u t l seen) ∧
    ∀ x ∈ dedupSConfig u t l seen, seen.any (sameServer u t x) = false := by
  intro l
  induction l with
  | nil => intro seen; simp [dedupSConfig, DistinctKeys]
  | cons s r ih =>
    intro seen
    unfold dedupSConfig
    obtain ⟨ih1, ih2⟩ := ih (seen ++ [s])
    split
    · refine ⟨ih1, ?_⟩
      intro x hx
      have := ih2 x hx
      simp only [List.any_append, Bool.or_eq_false_iff] at this
      exact this.1
    · rename_i hs
      refine ⟨?_, ?_⟩
      · unfold DistinctKeys
        rw [List.pairwise_cons]
        refine ⟨?_, ih1⟩
        intro x hx
        have := ih2 x hx
        simp only [List.any_append, List.any_cons, List.any_nil, Bool.or_false, Bool.or_eq_false_iff] at this
        exact this.2
      · intro x hx
        rcases List.mem_cons.mp hx with h | h
        · subst h; simpa using hs
        · have := ih2 x h
          simp only [List.any_append, Bool.or_eq_false_iff] at this
          exact this.1

theorem dedup_id (u t : Nat) : ∀ (l seen : List SConfig), DistinctKeys u t l →
    (∀ x ∈ l, seen.any (sameServer u t x) = false) → dedupSConfig u t l seen = l := by
  intro l
  induction l with
  | nil => intro seen _ _; rfl
  | cons s r ih =>
    intro seen hd hs
    unfold dedupSConfig
    have h1 := hs s (by simp)
    simp only [h1, Bool.false_eq_true, ↓reduceIte, List.cons.injEq, true_and]
    unfold DistinctKeys at hd
    rw [List.pairwise_cons] at hd
    apply ih _ hd.2
    intro x hx
    simp only [List.any_append, List.any_cons, List.any_nil, Bool.or_false, Bool.or_eq_false_iff]
    exact ⟨hs x (List.mem_cons_of_mem _ hx), hd.1 x hx⟩

theorem distinct_take (u t : Nat) (l : List SConfig) (n : Nat) (h : DistinctKeys u t l) : DistinctKeys u t (l.take n) :=
  List.Pairwise.sublist (List.take_sublist n l) h

theorem dedup_ne_nil (u t : Nat) (s : SConfig) (r : List SConfig) : dedupSConfig u t (s :: r) [] ≠ [] := by
  unfold dedupSConfig; simp

/-- the servers `ares_servers_update` creates on an empty channel -/
def freshServer (u t : Nat) (s : SConfig) : Server :=
  { addr := s.addr, udp := effPort u s.udp, tcp := effPort t s.tcp, iface := s.iface, scope := s.scope }

theorem serversUpdate_nil_old (u t : Nat) (p : Bool) (l : List SConfig) :
    serversUpdate u t p [] l =
      (if p then ((dedupSConfig u t l []).map (freshServer u t)).take 1 else (dedupSConfig u t l []).map (freshServer u t)) := by
  unfold serversUpdate
  have : updateOne u t [] = freshServer u t := by
    funext s; simp [updateOne, freshServer]
  rw [this]

theorem v4_back (u t : Nat) (k : List SConfig) (hk : ∀ x ∈ k, ∃ o, x = v4Server o) :
    ((k.map (freshServer u t)).filterMap v4of).map v4Server = k := by
  induction k with
  | nil => rfl
  | cons x xs ih =>
    obtain ⟨o, ho⟩ := hk x (by simp)
    subst ho
    simp only [List.map_cons, List.filterMap_cons, freshServer, v4Server, v4of]
    simp only [List.map_cons, List.cons.injEq, true_and]
    exact ih (fun y hy => hk y (List.mem_cons_of_mem _ hy))

/-- saving the IPv4 addresses of a server list that came from `struct in_addr` options and applying them
    again reproduces the list -/
theorem serversUpdate_v4_fix (u t : Nat) (p : Bool) (l : List (List Nat)) :
    serversUpdate u t p [] (((serversUpdate u t p [] (l.map v4Server)).filterMap v4of).map v4Server) =
      serversUpdate u t p [] (l.map v4Server) := by
  rw [serversUpdate_nil_old u t p (l.map v4Server)]
  have hk : ∀ x ∈ dedupSConfig u t (l.map v4Server) [], ∃ o, x = v4Server o := by
    intro x hx
    have := dedup_mem u t _ _ x hx
    simp only [List.mem_map] at this
    obtain ⟨o, _, ho⟩ := this
    exact ⟨o, ho.symm⟩
  have hd := (dedup_spec u t (l.map v4Server) []).1
  generalize dedupSConfig u t (l.map v4Server) [] = K at hk hd
  cases p with
  | false =>
    simp only [Bool.false_eq_true, ↓reduceIte]
    rw [v4_back u t K hk, serversUpdate_nil_old]
    simp only [Bool.false_eq_true, ↓reduceIte]
    rw [dedup_id u t K [] hd (by simp)]
  | true =>
    simp only [↓reduceIte]
    rw [← List.map_take, v4_back u t (K.take 1) (fun x hx => hk x (List.mem_of_mem_take hx)), serversUpdate_nil_old]
    simp only [↓reduceIte]
    rw [dedup_id u t (K.take 1) [] (distinct_take u t K 1 hd) (by simp)]
    simp [List.take_take]

theorem serversUpdate_ne_nil (u t : Nat) (p : Bool) (old : List Server) (x : SConfig) (r : List SConfig) :
    serversUpdate u t p old (x :: r) ≠ [] := by
  unfold serversUpdate dedupSConfig
  simp only [List.any_nil, Bool.false_eq_true, ↓reduceIte, List.map_cons]
  split <;> simp

theorem serversUpdate_v4_all (u t : Nat) (p : Bool) (l : List (List Nat)) :
    ∀ s ∈ serversUpdate u t p [] (l.map v4Server), ∃ o, s.addr = .v4 o := by
  intro s hs
  rw [serversUpdate_nil_old] at hs
  have hm : ∀ x ∈ (dedupSConfig u t (l.map v4Server) []).map (freshServer u t), ∃ o, x.addr = .v4 o := by
    intro x hx
    simp only [List.mem_map] at hx
    obtain ⟨k, hk, rfl⟩ := hx
    have := dedup_mem u t _ _ k hk
    simp only [List.mem_map] at this
    obtain ⟨o, _, rfl⟩ := this
    exact ⟨o, rfl⟩
  split at hs
  · exact hm s (List.mem_of_mem_take hs)
  · exact hm s hs

theorem toNat_range {b : Bool} {i : Int} (h : (b && decide (i > 0)) = true) (hi : i < 2147483648) :
    0 < i.toNat ∧ i.toNat < 2147483648 := by
  have := of_decide_eq_true (Bool.and_eq_true_iff.mp h).2
  omega

/-- every value under a bit of the channel's mask is one `ares_init_by_options` accepts again -/
structure Chan.SaveOk (c : Chan) : Prop where
  timeoutBit : c.optmask.timeout = false
  cacheBit : c.optmask.queryCache = true
  flags : c.optmask.flags = true → c.flags < 4294967296
  timeout : c.optmask.timeoutms = true → 0 < c.timeout ∧ c.timeout < 2147483648
  tries : c.optmask.tries = true → 0 < c.tries ∧ c.tries < 2147483648
  ndots : c.optmask.ndots = true → c.ndots < 2147483648
  maxtimeout : c.optmask.maxtimeoutms = true → 0 < c.maxtimeout ∧ c.maxtimeout < 2147483648
  ednspsz : c.optmask.ednspsz = true → 0 < c.ednspsz ∧ c.ednspsz < 2147483648
  udpMaxQueries : c.optmask.udpMaxQueries = true → 0 < c.udpMaxQueries ∧ c.udpMaxQueries < 2147483648
  sndbuf : c.optmask.sndbuf = true → 0 < c.sndbuf
  rcvbuf : c.optmask.rcvbuf = true → 0 < c.rcvbuf
  lookups : c.optmask.lookups = true → c.lookups.isSome = true
  resolvPath : c.optmask.resolvconf = true → c.resolvPath.isSome = true
  hostsPath : c.optmask.hostsFile = true → c.hostsPath.isSome = true
  servers : c.optmask.servers = true → c.servers.filterMap v4of ≠ []

/-- the values `ares_init_by_options` stores under a bit it accepted are in the range of the C type -/
theorem applyOptions_saveOk (o : Options) (m : Mask) (hwf : o.WF) : (applyOptions {} o m).SaveOk := by
  have fs := applyOptions_fields {} o m
  have nb : ∀ {f : Mask → Bool}, f (applyOptions {} o m).optmask = true → f (normMask o m) = true := fun h => fs.optmask ▸ h
  refine
    { timeoutBit := by rw [fs.optmask]; rfl
      cacheBit := by rw [fs.optmask]; rfl
      flags := fun h => ?_, timeout := fun h => ?_, tries := fun h => ?_, ndots := fun h => ?_,
      maxtimeout := fun h => ?_, ednspsz := fun h => ?_, udpMaxQueries := fun h => ?_, sndbuf := fun h => ?_,
      rcvbuf := fun h => ?_, lookups := fun h => ?_, resolvPath := fun h => ?_, hostsPath := fun h => ?_,
      servers := fun h => ?_ }
  all_goals replace h := nb h
  · rw [fs.flags, if_pos (show m.flags = true from h)]; exact toU32_lt _
  · rw [applyOptions_timeout, if_pos h]
    have hpos : o.timeout > 0 := of_decide_eq_true (Bool.and_eq_true_iff.mp h).2
    cases m.timeoutms with
    | true => exact toNat_range (b := true) (decide_eq_true hpos) hwf.timeoutR
    | false => exact secToMs_bounds _ hpos
  · rw [fs.tries, if_pos h]; exact toNat_range h hwf.triesR
  · rw [fs.ndots, if_pos h]
    have := of_decide_eq_true (Bool.and_eq_true_iff.mp h).2
    have := hwf.ndotsR
    omega
  · rw [fs.maxtimeout, if_pos h]; exact toNat_range h hwf.maxtimeoutR
  · rw [fs.ednspsz, if_pos h]; exact toNat_range h hwf.ednspszR
  · rw [fs.udpMaxQueries, if_pos h]; exact toNat_range h hwf.udpMaxQueriesR
  · rw [fs.sndbuf, if_pos h]; exact of_decide_eq_true (Bool.and_eq_true_iff.mp h).2
  · rw [fs.rcvbuf, if_pos h]; exact of_decide_eq_true (Bool.and_eq_true_iff.mp h).2
  · rw [fs.lookups, if_pos h]; exact (Bool.and_eq_true_iff.mp h).2
  · rw [fs.resolvPath, if_pos h]; exact (Bool.and_eq_true_iff.mp h).2
  · rw [fs.hostsPath, if_pos h]; exact (Bool.and_eq_true_iff.mp h).2
  · rw [fs.servers, if_pos h]
    have hne := hwf.nservers (of_decide_eq_true (Bool.and_eq_true_iff.mp h).2)
    have hall := serversUpdate_v4_all (applyOptions {} o m).udpPort (applyOptions {} o m).tcpPort
      (hasFlag (applyOptions {} o m).flags flagPrimary) o.servers
    have hS : serversUpdate (applyOptions {} o m).udpPort (applyOptions {} o m).tcpPort
        (hasFlag (applyOptions {} o m).flags flagPrimary) ({} : Chan).servers (o.servers.map v4Server) ≠ [] := by
      cases hs : o.servers with
      | nil => exact absurd hs hne
      | cons x r => exact serversUpdate_ne_nil _ _ _ _ _ _
    generalize serversUpdate (applyOptions {} o m).udpPort (applyOptions {} o m).tcpPort
      (hasFlag (applyOptions {} o m).flags flagPrimary) ({} : Chan).servers (o.servers.map v4Server) = S at hall hS ⊢
    cases S with
    | nil => exact absurd rfl hS
    | cons y t =>
      obtain ⟨oy, hy⟩ := hall y List.mem_cons_self
      rw [List.filterMap_cons]
      simp [v4of, hy]

/-- what the rest of `ares_init_options` (system configuration, defaults: `finish`) leaves of the channel `a` in the channel
    `b`, under the bits of the mask `nm` -/
structure Kept (nm : Mask) (a b : Chan) : Prop where
  saveOk : b.SaveOk
  optmask : b.optmask = nm
  flags : nm.flags = true → b.flags = a.flags
  timeout : nm.timeoutms = true → b.timeout = a.timeout
  tries : nm.tries = true → b.tries = a.tries
  ndots : nm.ndots = true → b.ndots = a.ndots
  ednspsz : nm.ednspsz = true → b.ednspsz = a.ednspsz
  lookups : nm.lookups = true → b.lookups = a.lookups
  sortlist : nm.sortlist = true → b.sortlist = a.sortlist
  servers : nm.servers = true → b.servers = a.servers
  failover : nm.serverFailover = true → b.retryChance = a.retryChance ∧ b.retryDelay = a.retryDelay

/-- a freshly initialised channel keeps what `ares_init_by_options` stored under the mask (the settings neither the system
    configuration nor the defaults may write are in `finish_untouched`), so it is in range too -/
theorem init_facts (e : SysEnv) (o : Options) (m : Mask) (hwf : o.WF) :
    Kept (normMask o m) (applyOptions {} o m) (finish (applyOptions {} o m) e) := by
  let a := applyOptions {} o m
  let b := finish a e
  let nm := normMask o m
  show Kept nm a b
  have r := applyOptions_saveOk o m hwf
  have u := finish_untouched a e
  obtain ⟨kfl, kto, ktr, knd, ked, klo, kso, ksv, ksf⟩ := finish_masked a e
  have f0 : a.optmask = nm := (applyOptions_fields {} o m).optmask
  -- the side conditions of `finish_masked` (a value the defaults would replace) are excluded by the ranges of `a`
  have eto := fun h => kto h (Nat.ne_of_gt (r.timeout h).1)
  have etr := fun h => ktr h (Nat.ne_of_gt (r.tries h).1)
  have eed := fun h => ked h (Nat.ne_of_gt (r.ednspsz h).1)
  have elo := fun h => klo h (r.lookups h)
  have esv := fun h => ksv h (fun h0 => r.servers h (by rw [h0]; rfl))
  have ab : ∀ {f : Mask → Bool}, f b.optmask = true → f a.optmask = true := fun h => u.optmask ▸ h
  have on : ∀ {f : Mask → Bool}, f nm = true → f a.optmask = true := fun h => f0 ▸ h
  exact
    { saveOk :=
        { timeoutBit := u.optmask ▸ r.timeoutBit
          cacheBit := u.optmask ▸ r.cacheBit
          flags := fun h => by rw [kfl (ab h)]; exact r.flags (ab h)
          timeout := fun h => by rw [eto (ab h)]; exact r.timeout (ab h)
          tries := fun h => by rw [etr (ab h)]; exact r.tries (ab h)
          ndots := fun h => by rw [knd (ab h)]; exact r.ndots (ab h)
          maxtimeout := fun h => by rw [u.maxtimeout]; exact r.maxtimeout (ab h)
          ednspsz := fun h => by rw [eed (ab h)]; exact r.ednspsz (ab h)
          udpMaxQueries := fun h => by rw [u.udpMaxQueries]; exact r.udpMaxQueries (ab h)
          sndbuf := fun h => by rw [u.sndbuf]; exact r.sndbuf (ab h)
          rcvbuf := fun h => by rw [u.rcvbuf]; exact r.rcvbuf (ab h)
          lookups := fun h => by rw [elo (ab h)]; exact r.lookups (ab h)
          resolvPath := fun h => by rw [u.resolvPath]; exact r.resolvPath (ab h)
          hostsPath := fun h => by rw [u.hostsPath]; exact r.hostsPath (ab h)
          servers := fun h => by rw [esv (ab h)]; exact r.servers (ab h) }
      optmask := u.optmask.trans f0
      flags := fun h => kfl (on h), timeout := fun h => eto (on h), tries := fun h => etr (on h)
      ndots := fun h => knd (on h), ednspsz := fun h => eed (on h), lookups := fun h => elo (on h)
      sortlist := fun h => kso (on h), servers := fun h => esv (on h), failover := fun h => ksf (on h) }

/-! What `ares_save_options` stores for a channel value `v` under its mask bit `b`, read back by
    `ares_init_by_options`. -/

theorem saved_toNat {b : Bool} {v : Nat} (hb : b = true) (hv : v < 2147483648) :
    (if b then toInt32 v else 0).toNat = v := by
  rw [if_pos hb, toInt32_small v hv, Int.toNat_natCast]

theorem saved_pos {b : Bool} {v : Nat} (h : b = true → 0 < v ∧ v < 2147483648) :
    (b && decide ((if b then toInt32 v else 0) > 0)) = b := by
  cases b with
  | false => rfl
  | true =>
    obtain ⟨h0, hv⟩ := h rfl
    rw [if_pos rfl, toInt32_small v hv, Bool.true_and, decide_eq_true_eq]
    omega

theorem saved_buf {b : Bool} {v : Int} (hb : b = true) (hv : 0 < v) :
    (if b && decide (v > 0) then v else 0) = v := by
  rw [hb, Bool.true_and, if_pos (decide_eq_true hv)]

theorem saved_buf_pos {b : Bool} {v : Int} (h : b = true → 0 < v) :
    (b && decide ((if b && decide (v > 0) then v else 0) > 0)) = b := by
  cases b with
  | false => rfl
  | true => rw [saved_buf rfl (h rfl), Bool.true_and]; exact decide_eq_true (h rfl)

theorem saved_toU32 {b : Bool} {v : Nat} (hb : b = true) (hv : v < 4294967296) :
    toU32 (if b then toInt32 v else 0) = v := by
  rw [if_pos hb, toU32_toInt32 v hv]

theorem saved_isSome {α : Type} {b : Bool} {v : Option α} (h : b = true → v.isSome = true) :
    (b && (if b then v else none).isSome) = b := by
  cases b with
  | false => rfl
  | true => rw [if_pos rfl, h rfl]; rfl

/-- a list saved together with its length (`domains`/`ndomains`, `sortlist`/`nsort`) is read back whole -/
theorem saved_list {α : Type} {b : Bool} {l : List α} (hb : b = true) :
    (if decide ((if b then (l.length : Int) else 0) > 0) then (if b then l else []) else []) = l := by
  subst hb
  cases l with
  | nil => rfl
  | cons x r =>
    have : ((x :: r).length : Int) > 0 := by rw [List.length_cons]; omega
    rw [if_pos rfl, if_pos (decide_eq_true this), if_pos rfl]

theorem ite_and {α : Type} {b c : Bool} {x d : α} :
    (if b && c then x else d) = if b then (if c then x else d) else d := by
  cases b <;> rfl

/-- a field that both applications of `ares_init_by_options` set under the bit `b` -/
theorem field_fix {α : Type} {b : Bool} {x a n v d : α} (hx : x = if b then n else d) (ha : a = if b then v else d)
    (h : b = true → n = a) : x = a := by
  cases b with
  | false => rw [hx, ha]; rfl
  | true => rw [hx]; exact h rfl

/-- `ares_init_by_options` clears no bit of the mask `ares_save_options` returns -/
theorem normMask_savedOptions (c : Chan) (h : c.SaveOk) : normMask (savedOptions c) c.optmask = c.optmask := by
  apply Mask.ext
  case timeout => exact h.timeoutBit.symm
  case queryCache => exact h.cacheBit.symm
  case timeoutms =>
    show ((c.optmask.timeoutms || c.optmask.timeout) && _) = _
    rw [h.timeoutBit, Bool.or_false]
    exact saved_pos h.timeout
  case tries => exact saved_pos h.tries
  case ndots =>
    show (c.optmask.ndots && decide ((if c.optmask.ndots then toInt32 c.ndots else 0) ≥ 0)) = _
    cases hb : c.optmask.ndots with
    | false => rfl
    | true =>
      rw [if_pos rfl, toInt32_small _ (h.ndots hb), Bool.true_and, decide_eq_true_eq]
      omega
  case maxtimeoutms => exact saved_pos h.maxtimeout
  case ednspsz => exact saved_pos h.ednspsz
  case udpMaxQueries => exact saved_pos h.udpMaxQueries
  case sndbuf => exact saved_buf_pos h.sndbuf
  case rcvbuf => exact saved_buf_pos h.rcvbuf
  case lookups => exact saved_isSome h.lookups
  case resolvconf => exact saved_isSome h.resolvPath
  case hostsFile => exact saved_isSome h.hostsPath
  case servers =>
    show (c.optmask.servers && decide ((if c.optmask.servers then ((c.servers.filterMap v4of).length : Int) else 0) > 0)) = _
    cases hb : c.optmask.servers with
    | false => rfl
    | true =>
      rw [if_pos rfl, Bool.true_and, decide_eq_true_eq]
      have := List.length_pos_iff.mpr (h.servers hb)
      omega
  all_goals rfl

/-- `ares_init_by_options` on what `ares_save_options` returned: the channel's own value under every bit of
    its mask, the value of an empty channel elsewhere -/
theorem applyOptions_savedOptions (c : Chan) (h : c.SaveOk) :
    let n := applyOptions {} (savedOptions c) c.optmask
    let m := c.optmask
    let z : Chan := {}
    n.optmask = m ∧
    n.flags = (if m.flags then c.flags else z.flags) ∧
    n.timeout = (if m.timeoutms then c.timeout else z.timeout) ∧
    n.tries = (if m.tries then c.tries else z.tries) ∧
    n.ndots = (if m.ndots then c.ndots else z.ndots) ∧
    n.maxtimeout = (if m.maxtimeoutms then c.maxtimeout else z.maxtimeout) ∧
    n.rotate = (if m.norotate then false else if m.rotate then true else z.rotate) ∧
    n.udpPort = (if m.udpPort then c.udpPort else z.udpPort) ∧
    n.tcpPort = (if m.tcpPort then c.tcpPort else z.tcpPort) ∧
    n.sndbuf = (if m.sndbuf then c.sndbuf else z.sndbuf) ∧
    n.rcvbuf = (if m.rcvbuf then c.rcvbuf else z.rcvbuf) ∧
    n.ednspsz = (if m.ednspsz then c.ednspsz else z.ednspsz) ∧
    n.domains = (if m.domains then c.domains else z.domains) ∧
    n.lookups = (if m.lookups then c.lookups else z.lookups) ∧
    n.sortlist = (if m.sortlist then c.sortlist else z.sortlist) ∧
    n.resolvPath = (if m.resolvconf then c.resolvPath else z.resolvPath) ∧
    n.hostsPath = (if m.hostsFile then c.hostsPath else z.hostsPath) ∧
    n.udpMaxQueries = (if m.udpMaxQueries then c.udpMaxQueries else z.udpMaxQueries) ∧
    n.qcacheMaxTtl = c.qcacheMaxTtl ∧
    n.retryChance = (if m.serverFailover then c.retryChance else z.retryChance) ∧
    n.retryDelay = (if m.serverFailover then c.retryDelay else z.retryDelay) ∧
    n.servers = (if m.servers then
        serversUpdate n.udpPort n.tcpPort (hasFlag n.flags flagPrimary) [] ((c.servers.filterMap v4of).map v4Server)
      else z.servers) := by
  intro n m z
  have s := applyOptions_fields {} (savedOptions c) c.optmask
  have s2 := applyOptions_timeout {} (savedOptions c) c.optmask
  rw [normMask_savedOptions c h] at s s2
  have under : ∀ {α : Type} {b : Bool} {x y d : α}, (b = true → x = y) → (if b then x else d) = if b then y else d :=
    fun {_ b _ _ _} hxy => by cases b with
      | false => rfl
      | true => exact hxy rfl
  exact ⟨s.optmask,
    s.flags.trans (under fun hb => saved_toU32 hb (h.flags hb)),
    s2.trans (under fun hb => (if_pos hb).trans (saved_toNat hb (h.timeout hb).2)),
    s.tries.trans (under fun hb => saved_toNat hb (h.tries hb).2),
    s.ndots.trans (under fun hb => saved_toNat hb (h.ndots hb)),
    s.maxtimeout.trans (under fun hb => saved_toNat hb (h.maxtimeout hb).2),
    s.rotate,
    s.udpPort.trans (under fun hb => if_pos hb),
    s.tcpPort.trans (under fun hb => if_pos hb),
    s.sndbuf.trans (under fun hb => saved_buf hb (h.sndbuf hb)),
    s.rcvbuf.trans (under fun hb => saved_buf hb (h.rcvbuf hb)),
    s.ednspsz.trans (under fun hb => saved_toNat hb (h.ednspsz hb).2),
    s.domains.trans (ite_and.trans (under fun hb => saved_list hb)),
    s.lookups.trans (under fun hb => if_pos hb),
    s.sortlist.trans (ite_and.trans (under fun hb => saved_list hb)),
    s.resolvPath.trans (under fun hb => if_pos hb),
    s.hostsPath.trans (under fun hb => if_pos hb),
    s.udpMaxQueries.trans (under fun hb => saved_toNat hb (h.udpMaxQueries hb).2),
    s.qcacheMaxTtl.trans ((if_pos h.cacheBit).trans (if_pos h.cacheBit)),
    s.retryChance.trans (under fun hb => if_pos hb),
    s.retryDelay.trans (under fun hb => if_pos hb),
    s.servers.trans (under fun hb => congrArg _ (congrArg _ (if_pos hb)))⟩

/-- re-applying the saved options gives the same pre-sysconfig channel, except that a search list the
    defaults derived from the host name is now supplied explicitly -/
theorem applyOptions_saved (e : SysEnv) (o : Options) (m : Mask) (hwf : o.WF) :
    applyOptions {} (savedOptions (finish (applyOptions {} o m) e)) (normMask o m) =
      { applyOptions {} o m with
        domains := if (normMask o m).domains then (finish (applyOptions {} o m) e).domains
          else (applyOptions {} o m).domains } := by
  have g := init_facts e o m hwf
  have u := finish_untouched (applyOptions {} o m) e
  have f := applyOptions_fields {} o m
  have f2 := applyOptions_timeout {} o m
  have s := applyOptions_savedOptions _ g.saveOk
  rw [g.optmask] at s
  obtain ⟨s0, s1, s2, s3, s4, s5, s6, s7, s8, s9, s10, s11, s12, s13, s14, s15, s16, s17, s18, s19, s20, s21⟩ := s
  -- flags and ports first: the server list depends on them
  have eflags := field_fix s1 f.flags g.flags
  have eudp := field_fix s7 f.udpPort fun _ => u.udpPort
  have etcp := field_fix s8 f.tcpPort fun _ => u.tcpPort
  apply Chan.ext
  case flags => exact eflags
  case udpPort => exact eudp
  case tcpPort => exact etcp
  case optmask => exact s0.trans f.optmask.symm
  case timeout => exact field_fix s2 f2 g.timeout
  case tries => exact field_fix s3 f.tries g.tries
  case ndots => exact field_fix s4 f.ndots g.ndots
  case maxtimeout => exact field_fix s5 f.maxtimeout fun _ => u.maxtimeout
  case rotate => exact s6.trans f.rotate.symm
  case sndbuf => exact field_fix s9 f.sndbuf fun _ => u.sndbuf
  case rcvbuf => exact field_fix s10 f.rcvbuf fun _ => u.rcvbuf
  case ednspsz => exact field_fix s11 f.ednspsz g.ednspsz
  case domains =>
    rw [s12, f.domains, show (normMask o m).domains = m.domains from rfl]
    cases m.domains <;> rfl
  case lookups => exact field_fix s13 f.lookups g.lookups
  case sortlist => exact field_fix s14 (f.sortlist.trans ite_and) g.sortlist
  case resolvPath => exact field_fix s15 f.resolvPath fun _ => u.resolvPath
  case hostsPath => exact field_fix s16 f.hostsPath fun _ => u.hostsPath
  case udpMaxQueries => exact field_fix s17 f.udpMaxQueries fun _ => u.udpMaxQueries
  case qcacheMaxTtl => exact s18.trans u.qcacheMaxTtl
  case retryChance => exact field_fix s19 f.retryChance fun h => (g.failover h).1
  case retryDelay => exact field_fix s20 f.retryDelay fun h => (g.failover h).2
  case servers =>
    refine field_fix s21 f.servers fun h => ?_
    show _ = (applyOptions {} o m).servers
    rw [eflags, eudp, etcp, g.servers h, f.servers, if_pos h]
    exact serversUpdate_v4_fix _ _ _ _

/-- `init_by_defaults` on the search list -/
def defaultDomains (h : Option Bytes) (d : List Bytes) : List Bytes :=
  if d.isEmpty then (match h with
    | some x => [x]
    | none => d) else d

theorem defaultDomains_idem (h : Option Bytes) (d : List Bytes) :
    defaultDomains h (defaultDomains h d) = defaultDomains h d := by
  unfold defaultDomains
  cases d <;> cases h <;> simp

theorem applyDefaults_domains (c : Chan) (e : SysEnv) : (applyDefaults c e).domains = defaultDomains e.hostDomain c.domains := by
  unfold applyDefaults defaultDomains
  rfl

/-- a search list the application supplied passes through `ares_init_by_sysconfig` unchanged, and no other
    field depends on it -/
theorem initBySysconfig_setDomains (a : Chan) (e : SysEnv) (d : List Bytes) (hm : a.optmask.domains = true) :
    initBySysconfig { a with domains := d } e = { initBySysconfig a e with domains := d } := by
  unfold initBySysconfig
  show (match readSysconfig e a.resolvPath with
    | none => { a with domains := d }
    | some s => sysconfigApply { a with domains := d } s) = _
  cases readSysconfig e a.resolvPath with
  | none => rfl
  | some s =>
    show sysconfigApply { a with domains := d } s = { sysconfigApply a s with domains := d }
    unfold sysconfigApply sysconfigApplyG
    simp only [hm]
    cases s.domains <;> rfl

theorem applyDefaults_setDomains (b : Chan) (e : SysEnv) (d : List Bytes) :
    applyDefaults { b with domains := d } e = { applyDefaults b e with domains := defaultDomains e.hostDomain d } :=
  rfl

/-- supplying the search list the defaults would derive anyway changes nothing -/
theorem finish_domains (a : Chan) (e : SysEnv) (hm : a.optmask.domains = true) :
    finish { a with domains := (finish a e).domains } e = finish a e ∧
    defaultsFail (initBySysconfig { a with domains := (finish a e).domains } e) = defaultsFail (initBySysconfig a e) := by
  rw [initBySysconfig_setDomains a e _ hm]
  refine ⟨?_, rfl⟩
  unfold finish
  rw [initBySysconfig_setDomains a e _ hm, applyDefaults_setDomains, applyDefaults_domains, defaultDomains_idem,
    ← applyDefaults_domains]

/-- `ares_save_options` succeeds on every channel `ares_init_options` returns -/
theorem finish_configCheck (a : Chan) (e : SysEnv) (h : defaultsFail (initBySysconfig a e) = false) :
    configCheck (finish a e) = true := by
  unfold finish at *
  generalize initBySysconfig a e = b at h ⊢
  unfold defaultsFail at h
  unfold configCheck applyDefaults
  simp only [Bool.and_eq_true, Bool.not_eq_eq_eq_not, Bool.not_true, bne_iff_ne, ne_eq]
  refine ⟨⟨⟨?_, ?_⟩, ?_⟩, ?_⟩
  · cases b.lookups <;> simp
  · cases hs : b.servers with
    | nil =>
      simp only [List.isEmpty_nil, ↓reduceIte]
      have := serversUpdate_ne_nil b.udpPort b.tcpPort (hasFlag (defaultFlags b) flagPrimary) [] (v4Server [127, 0, 0, 1]) []
      cases hx : serversUpdate b.udpPort b.tcpPort (hasFlag (defaultFlags b) flagPrimary) [] [v4Server [127, 0, 0, 1]] with
      | nil => exact absurd hx this
      | cons _ _ => rfl
    | cons _ _ => rfl
  · split <;> omega
  · split <;> omega

theorem initOptions_some (e : SysEnv) (o : Options) (m : Mask) :
    initOptions e (some o) m =
      if defaultsFail (initBySysconfig (applyOptions {} o m) e) then .error .enoserver
      else .ok (finish (applyOptions {} o m) e) := by
  unfold initOptions initByOptions initByDefaults finish
  rfl

/-- Options saved from a freshly initialised channel and used to initialise a new one (under the same
    system configuration) give exactly the same channel. -/
theorem save_init_fixpoint' (e : SysEnv) (o : Options) (m : Mask) (ch : Chan) (hwf : o.WF)
    (h : initOptions e (some o) m = .ok ch) :
    ∃ o' m', saveOptions ch = .ok (o', m') ∧ initOptions e (some o') m' = .ok ch := by
  rw [initOptions_some] at h
  split at h
  · simp at h
  · rename_i hnf
    have hnf' : defaultsFail (initBySysconfig (applyOptions {} o m) e) = false := by simpa using hnf
    cases h
    have hcc := finish_configCheck _ e hnf'
    have hmask : (finish (applyOptions {} o m) e).optmask = normMask o m := (init_facts e o m hwf).optmask
    refine ⟨savedOptions (finish (applyOptions {} o m) e), normMask o m, ?_, ?_⟩
    · unfold saveOptions
      simp [hcc, hmask]
    · rw [initOptions_some, applyOptions_saved e o m hwf]
      have hA : (applyOptions {} o m).optmask = normMask o m := (applyOptions_fields {} o m).optmask
      cases hd : (normMask o m).domains with
      | true =>
        simp only [↓reduceIte]
        obtain ⟨k1, k2⟩ := finish_domains (applyOptions {} o m) e (by rw [hA]; exact hd)
        rw [k2, k1]
        simp [hnf']
      | false => simp [hnf']

end Cares.Text
