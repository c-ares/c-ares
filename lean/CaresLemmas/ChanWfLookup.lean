import CaresLemmas.ChanWfConn
/-!
# C01 — lookups in the state against the skeleton

What `query?` / `conn?` / `sock?` / `client?` return for a key, descriptor or id that the skeleton knows (a linked key,
a live connection, an active compound request), and the skeleton's view of what they returned.
-/
namespace Cares.Chan

theorem query?_of_idx {s : St} {hole} {k : Nat} (hw : WfS s.sk hole) (hk : k ∈ s.sk.idx) :
    ∃ q, s.query? k = some q ∧ s.sk.q? k = some q.sk := by
  obtain ⟨e, he⟩ := hw.live_of_idx hk
  rw [sk_q?] at he
  cases hq : s.query? k with
  | none => rw [hq] at he; cases he
  | some q => exact ⟨q, rfl, by rw [sk_q?, hq]; rfl⟩

theorem key_lt_of_idx {a : Sk} {hole} {k : Nat} (hw : WfS a hole) (hk : k ∈ a.idx) : k < a.nextKey := by
  obtain ⟨e, he⟩ := hw.live_of_idx hk
  exact hw.q.lt k (Sk.q?_mem_proj he).2.2.2

theorem query?_sk {s : St} {k : Nat} {q : Query} (h : s.query? k = some q) :
    q.key = k ∧ q.sk ∈ s.sk.qs ∧ (k, q.conn) ∈ s.sk.qKC := by
  have h1 : q.key = k := find?_key_eq h
  have h2 : q.sk ∈ s.sk.qs := List.mem_map.mpr ⟨q, List.mem_of_find?_eq_some h, rfl⟩
  exact ⟨h1, h2, List.mem_map.mpr ⟨q.sk, h2, by rw [← h1]; rfl⟩⟩

theorem mem_qKO_of_mem {s : St} {q : Query} (h : q ∈ s.qs) : (q.key, q.owner) ∈ s.sk.qKO :=
  List.mem_map.mpr ⟨q.sk, List.mem_map.mpr ⟨q, h, rfl⟩, rfl⟩

theorem WfS.keysLt {a : Sk} {hole} (h : WfS a hole) : ∀ p ∈ a.qKO, p.1 < a.nextKey := by
  intro p hp
  obtain ⟨e, he, rfl⟩ := List.mem_map.mp hp
  exact h.q.lt e.key (List.mem_map.mpr ⟨e, he, rfl⟩)

theorem cFQ_of_cFUQ {a : Sk} {fd : Nat} {u : Bool} {q : List Nat} (h : (fd, u, q) ∈ a.cFUQ) : (fd, q) ∈ a.cFQ := by
  obtain ⟨c, hc, he⟩ := List.mem_map.mp h
  simp only [Prod.mk.injEq] at he
  exact List.mem_map.mpr ⟨c, hc, by simp [he.1, he.2.2]⟩

theorem conn?_sk {s : St} {fd : Nat} {c : Conn} (h : s.conn? fd = some c) : c.fd = fd ∧ c.sk ∈ s.sk.conns :=
  ⟨find?_key_eq h, List.mem_map.mpr ⟨c, List.mem_of_find?_eq_some h, rfl⟩⟩

theorem conn?_of_live {s : St} {fd : Nat} (h : s.sk.liveConn fd) : ∃ c, s.conn? fd = some c := by
  obtain ⟨x, hx, hfd⟩ := List.mem_map.mp h
  obtain ⟨c0, hc0, rfl⟩ := mem_cFQ.mp hx
  obtain ⟨c1, hc1, rfl⟩ := List.mem_map.mp hc0
  exact Option.isSome_iff_exists.mp (List.find?_isSome.mpr ⟨c1, hc1, beq_iff_eq.mpr hfd⟩)

theorem live_of_hasConn {a : Sk} {fd : Nat} {u : Bool} (h : a.hasConn fd u) : a.liveConn fd := by
  obtain ⟨q, hq⟩ := h
  obtain ⟨c, hc, he⟩ := mem_cFUQ.mp hq
  simp only [Prod.mk.injEq] at he
  exact List.mem_map.mpr ⟨(c.fd, c.queries), mem_cFQ.mpr ⟨c, hc, rfl⟩, he.1.symm⟩

theorem live_of_conn? {s : St} {fd : Nat} {c : Conn} (h : s.conn? fd = some c) : s.sk.liveConn fd := by
  obtain ⟨h1, h2⟩ := conn?_sk h
  exact List.mem_map.mpr ⟨(c.sk.fd, c.sk.queries), mem_cFQ.mpr ⟨c.sk, h2, rfl⟩, h1⟩

theorem hasConn_of_conn? {s : St} {fd : Nat} {c : Conn} (h : s.conn? fd = some c) :
    s.sk.hasConn fd c.unlinked := by
  obtain ⟨h1, h2⟩ := conn?_sk h
  exact ⟨c.queries, mem_cFUQ.mpr ⟨c.sk, h2, by rw [← h1]; rfl⟩⟩

theorem unlinked_of_hasConn {s : St} {hole} {fd : Nat} {u : Bool} {c : Conn} (hw : WfS s.sk hole)
    (hh : s.sk.hasConn fd u) (h : s.conn? fd = some c) : c.unlinked = u := by
  obtain ⟨q, hq⟩ := hh
  obtain ⟨c1, hc1, he⟩ := mem_cFUQ.mp hq
  simp only [Prod.mk.injEq] at he
  obtain ⟨h1, h2⟩ := conn?_sk h
  have := hw.conn_unique hc1 h2 (by rw [← he.1]; exact h1.symm)
  rw [this] at he
  exact he.2.1.symm

theorem server_ids_nodup {s : St} {hole} (hw : WfS s.sk hole) : (s.servers.map (·.id)).Nodup := by
  have := hw.s.nodup
  have e : s.sk.servers.map (·.id) = s.servers.map (·.id) := by unfold St.sk; simp only [List.map_map]; rfl
  rwa [e] at this

theorem not_unlinked_of_hasConn {a : Sk} {hole} {fd : Nat} (hw : WfS a hole) (hh : a.hasConn fd false) :
    ∀ q, (fd, true, q) ∉ a.cFUQ := by
  intro q hm
  obtain ⟨q', hq'⟩ := hh
  obtain ⟨c1, hc1, he1⟩ := mem_cFUQ.mp hm
  obtain ⟨c2, hc2, he2⟩ := mem_cFUQ.mp hq'
  simp only [Prod.mk.injEq] at he1 he2
  have := hw.conn_unique hc1 hc2 (by rw [← he1.1, ← he2.1])
  rw [this] at he1
  rw [← he1.2.1] at he2
  exact absurd he2.2.1 (by simp)

theorem hasConn_of_cF4 {a : Sk} {fd v : Nat} {u t : Bool} (h : (fd, u, v, t) ∈ a.cF4) : a.hasConn fd u := by
  obtain ⟨c, hc, he⟩ := mem_cF4.mp h
  simp only [Prod.mk.injEq] at he
  exact ⟨c.queries, mem_cFUQ.mpr ⟨c, hc, by rw [he.1, he.2.1]⟩⟩

theorem cFQ_of_hasConn {a : Sk} {fd : Nat} {u : Bool} (h : a.hasConn fd u) : ∃ l, (fd, l) ∈ a.cFQ := by
  obtain ⟨q, hq⟩ := h
  exact ⟨q, cFQ_of_cFUQ hq⟩

theorem sock?_of_conn {s : St} {hole} {fd : Nat} {c : Conn} (hw : WfS s.sk hole) (hc : s.conn? fd = some c) :
    ∃ v, s.sock? fd = some v := by
  obtain ⟨hcfd, hcm⟩ := conn?_sk hc
  have := hw.c.sock (c.sk.fd, c.sk.queries) (mem_cFQ.mpr ⟨c.sk, hcm, rfl⟩)
  obtain ⟨v, hv, hvfd⟩ := List.mem_map.mp this
  exact Option.isSome_iff_exists.mp (List.find?_isSome.mpr ⟨v, hv, beq_iff_eq.mpr (hvfd.trans hcfd)⟩)

theorem client_ids (s : St) : s.sk.clients.map (·.id) = s.clients.map (·.id) := by
  unfold St.sk; simp only [List.map_map]; rfl

theorem client?_of_active {s : St} {id : Nat} (hw : Wf s) (h : s.sk.Active id) :
    ∃ c0, s.client? id = some c0 ∧ c0.id = id ∧ c0.sk ∈ s.sk.clients ∧ c0.tok ∈ s.sk.pendingToks ∧
      ∀ x ∈ s.clients, x.id = id → x = c0 := by
  obtain ⟨e, he, hid, hp⟩ := h
  obtain ⟨c1, hc1, rfl⟩ := List.mem_map.mp he
  have hn : (s.clients.map (·.id)).Nodup := by rw [← client_ids]; exact hw.k.nodup
  have hid : c1.id = id := hid
  exact ⟨c1, hid ▸ find?_of_nodup_map hn hc1, hid, he, hp, fun x hx hxi => inj_of_nodup_map hn hx hc1 (hxi.trans hid.symm)⟩

end Cares.Chan
