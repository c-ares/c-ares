import CaresModel.Dns.Parse
import CaresLemmas.IteLemmas
/-!
# Bounds discipline of the reader (helper lemmas for C02)

`SafeAt bs m off`: running the reader step `m` at cursor `off` does not fault, and if it succeeds
the cursor did not move backwards and is still inside `[0, data_len]`.  `Post bs m off Q` says in addition that
`Q` holds of the value and the new cursor; one walk over each decoder with the strongest `Q` of interest
(`DnsShape.lean`) gives both its safety and the shape of what it returns.
-/
namespace Cares.Dns
open Cares.Generated

/-- no modelled memory fault; on success the cursor is monotone and stays within the buffer -/
def SafeAt {α : Type} (bs : Bytes) (m : P α) (off : Nat) : Prop :=
  match m off with
  | .ok _ off' => off ≤ off' ∧ off' ≤ bs.size
  | .err _ => True
  | .fault _ => False

theorem SafeAt.of_ok {α : Type} {bs : Bytes} {m : P α} {off off' : Nat} {a : α}
    (h : m off = .ok a off') (h1 : off ≤ off') (h2 : off' ≤ bs.size) : SafeAt bs m off := by
  simp [SafeAt, h, h1, h2]

theorem SafeAt.of_err {α : Type} {bs : Bytes} {m : P α} {off : Nat} {e : Status}
    (h : m off = .err e) : SafeAt bs m off := by
  simp [SafeAt, h]

theorem SafeAt.ok {α : Type} {bs : Bytes} {m : P α} {off off' : Nat} {a : α}
    (hs : SafeAt bs m off) (h : m off = .ok a off') : off ≤ off' ∧ off' ≤ bs.size := by
  simpa [SafeAt, h] using hs

theorem SafeAt.not_fault {α : Type} {bs : Bytes} {m : P α} {off : Nat} {k : FaultKind}
    (hs : SafeAt bs m off) : m off ≠ .fault k := by
  intro h
  simp [SafeAt, h] at hs

/-- no modelled fault; on success the cursor did not move back, is still inside the buffer, and `Q` holds of the
    value and the new cursor -/
def Post {α : Type} (bs : Bytes) (m : P α) (off : Nat) (Q : α → Nat → Prop) : Prop :=
  match m off with
  | .ok a off' => off ≤ off' ∧ off' ≤ bs.size ∧ Q a off'
  | .err _ => True
  | .fault _ => False

section
variable {α β : Type} {bs : Bytes} {off : Nat}

theorem Post.safe {m : P α} {Q : α → Nat → Prop} (h : Post bs m off Q) : SafeAt bs m off := by
  unfold Post at h; unfold SafeAt
  split <;> simp_all

theorem Post.ok {m : P α} {Q : α → Nat → Prop} {a : α} {off' : Nat} (h : Post bs m off Q) (hr : m off = .ok a off') :
    off ≤ off' ∧ off' ≤ bs.size ∧ Q a off' := by
  simpa [Post, hr] using h

theorem Post.mono {m : P α} {Q R : α → Nat → Prop} (h : Post bs m off Q)
    (hqr : ∀ a off', off ≤ off' → off' ≤ bs.size → Q a off' → R a off') : Post bs m off R := by
  unfold Post at *
  split <;> simp_all

theorem Post.pure {Q : α → Nat → Prop} (a : α) (h : off ≤ bs.size) (hq : Q a off) :
    Post bs (Pure.pure a : P α) off Q := by
  simp [Post, h, hq]

theorem Post.fail {Q : α → Nat → Prop} (e : Status) : Post bs (P.fail e : P α) off Q := by
  simp [Post]

theorem Post.bind {m : P α} {f : α → P β} {Q : α → Nat → Prop} {R : β → Nat → Prop} (hm : Post bs m off Q)
    (hf : ∀ a off', m off = .ok a off' → off ≤ off' → off' ≤ bs.size → Q a off' → Post bs (f a) off' R) :
    Post bs (m >>= f) off R := by
  cases h : m off with
  | ok a off' =>
    obtain ⟨h1, h2, hq⟩ := hm.ok h
    have := hf a off' h h1 h2 hq
    unfold Post at this ⊢
    rw [P.bind_ok h]
    split <;> simp_all
    omega
  | err e => unfold Post; rw [P.bind_err h]; trivial
  | fault k => simp [Post, h] at hm

theorem Post.ite {c : Prop} [Decidable c] {m1 m2 : P α} {Q : α → Nat → Prop}
    (h1 : c → Post bs m1 off Q) (h2 : ¬ c → Post bs m2 off Q) : Post bs (if c then m1 else m2) off Q :=
  ite_of (P := fun m => Post bs m off Q) h1 h2

theorem Post.map {m : P α} {f : α → β} {Q : α → Nat → Prop} {R : β → Nat → Prop} (hm : Post bs m off Q)
    (hqr : ∀ a off', Q a off' → R (f a) off') : Post bs (m >>= fun a => Pure.pure (f a)) off R :=
  hm.bind fun a off' _ _ hle hq => Post.pure _ hle (hqr a off' hq)
end

section prim
variable {bs : Bytes} {off : Nat}

theorem Post.of_safe {α : Type} {m : P α} (h : SafeAt bs m off) : Post bs m off fun _ _ => True := by
  unfold SafeAt at h; unfold Post
  split <;> simp_all

theorem Post.bind_bufLen {β : Type} {f : Nat → P β} {R : β → Nat → Prop} (h : off ≤ bs.size)
    (hf : Post bs (f (bs.size - off)) off R) : Post bs (bufLen bs >>= f) off R := by
  unfold Post
  rw [P.bind_ok (bufLen_eq h)]
  exact hf

theorem Post.bind_rawSlice {β : Type} {len : Nat} {f : BStr → P β} {R : β → Nat → Prop} (hl : off + len ≤ bs.size)
    (hf : Post bs (f (slice bs off len)) off R) : Post bs (rawSlice bs len >>= f) off R := by
  unfold Post
  rw [P.bind_ok (rawSlice_eq hl)]
  exact hf

theorem safe_consume (len : Nat) (h : off ≤ bs.size) : SafeAt bs (consume bs len) off := by
  unfold SafeAt
  rw [consume_eq h]
  by_cases hc : off + len ≤ bs.size <;> simp [hc]

theorem safe_fetchByte (h : off ≤ bs.size) : SafeAt bs (fetchByte bs) off := by
  unfold SafeAt
  rw [fetchByte_eq h]
  by_cases hc : off < bs.size <;> simp [hc]; omega

theorem safe_subChecked {a b : Nat} (hab : b ≤ a) (h : off ≤ bs.size) : SafeAt bs (subChecked a b) off := by
  simp [SafeAt, subChecked, hab, h]

end prim

/-- outcome of the decompression loop started (as a whole) at `pos0`: no fault; on success the
    cursor ends strictly after `pos0` and inside the buffer -/
def NameOk (bs : Bytes) (pos0 : Nat) (r : Res BStr) : Prop :=
  match r with
  | .ok _ off' => pos0 < off' ∧ off' ≤ bs.size
  | .err _ => True
  | .fault _ => False

theorem safe_fetchLabel {bs : Bytes} {off : Nat} (isHost : Bool) (len : Nat) (h : off ≤ bs.size) :
    SafeAt bs (fetchLabel bs isHost len) off := by
  unfold SafeAt
  rw [fetchLabel_eq h]
  by_cases hc : len ≠ 0 ∧ off + len ≤ bs.size
  · rw [if_pos hc]
    by_cases hh : isHost = true ∧ (!List.all (slice bs off len) fun c => isHostnameCh c.toNat) = true
    · rw [if_pos hh]; trivial
    · rw [if_neg hh]; simp only; omega
  · rw [if_neg hc]; trivial

/-- `save` is `save_offset`: 0 until the first pointer is followed, from then on the position right behind that
    pointer, where the cursor is put back at the end.  So after a jump the result is `save`, which lies behind
    `pos0` (`hs1`); before any jump the loop has only moved forward from `pos0` (`hs0`) and the result is behind
    the zero octet.  The cases of `fun_induction` are the leaves of `nameLoop` in source order. -/
theorem nameLoop_safe (bs : Bytes) (isHost : Bool) (pos0 : Nat) (pos ls save : Nat) (acc : BStr) (iters : Nat)
    (jumps : List (Nat × Nat × Nat))
    (hpos : pos ≤ bs.size) (hs1 : save ≠ 0 → pos0 < save ∧ save ≤ bs.size) (hs0 : save = 0 → pos0 ≤ pos) :
    NameOk bs pos0 (nameLoop bs isHost pos ls save acc iters jumps).out := by
  fun_induction nameLoop bs isHost pos ls save acc iters jumps
  all_goals (try trivial)
  case case2 =>  -- fault reading the length octet
    rename_i h
    exact ((safe_fetchByte hpos).not_fault h).elim
  case case4 =>  -- fault reading the second octet of a pointer
    rename_i h1 _ _ h2
    have e1 := fetchByte_ok h1
    exact ((safe_fetchByte (by omega)).not_fault h2).elim
  case case7 =>  -- the pointer is followed
    rename_i pos ls save acc iters jumps ls' c pos1 h1 hc c2 pos2 h2 offset hge save' hsz ih
    have e1 := fetchByte_ok h1
    have e2 := fetchByte_ok h2
    have hsv : (save = 0 ∧ save' = pos2) ∨ (save ≠ 0 ∧ save' = save) := by
      by_cases hz : save = 0
      · left; exact ⟨hz, by simp [save', hz]⟩
      · right; exact ⟨hz, by simp [save', hz]⟩
    apply ih (by omega)
    · intro _
      rcases hsv with ⟨_, hv⟩ | ⟨hz, hv⟩
      · omega
      · rw [hv]; exact hs1 hz
    · intro h0
      rcases hsv with ⟨_, hv⟩ | ⟨hz, hv⟩ <;> omega
  case case9 =>  -- the zero octet: success
    rename_i h1 _ _
    have e1 := fetchByte_ok h1
    simp only [NameOk]
    split
    · exact hs1 ‹_›
    · have := hs0 (by omega); omega
  case case11 =>  -- fault reading a label
    rename_i h1 _ _ _ _ h3
    have e1 := fetchByte_ok h1
    exact ((safe_fetchLabel isHost _ (by omega)).not_fault h3).elim
  case case12 =>  -- a label was read
    rename_i h1 _ _ _ _ _ _ h3 ih
    have e1 := fetchByte_ok h1
    have e3 := fetchLabel_ok h3
    apply ih (by omega) hs1
    intro h0
    have := hs0 h0
    omega

theorem subChecked_ok {a b v off off' : Nat} (h : subChecked a b off = .ok v off') :
    off' = off ∧ v = a - b ∧ b ≤ a := by
  unfold subChecked at h
  split at h
  · injection h with h1 h2; omega
  · simp at h

theorem safe_parseName {bs : Bytes} {off : Nat} (isHost : Bool) (h : off ≤ bs.size) :
    SafeAt bs (parseName bs isHost) off := by
  have := nameLoop_safe bs isHost off off off 0 [] 0 [] h (by simp) (by simp)
  unfold SafeAt parseName parseNameRun
  unfold NameOk at this
  cases hr : (nameLoop bs isHost off off 0 [] 0 []).out with
  | ok a off' => rw [hr] at this; simp only at this ⊢; omega
  | err e => cases e <;> simp
  | fault k => rw [hr] at this; exact this.elim

theorem safe_rrRemainingLen {bs : Bytes} {off : Nat} (origLen rdlength : Nat) (h : off ≤ bs.size)
    (ho : bs.size - off ≤ origLen) : SafeAt bs (rrRemainingLen bs origLen rdlength) off := by
  unfold rrRemainingLen
  refine Post.safe (Q := fun _ _ => True)
    (Post.bind_bufLen h ((Post.of_safe (safe_subChecked ho h)).bind fun used off' _ _ hle _ => ?_))
  exact Post.ite (fun _ => Post.pure _ hle trivial) (fun _ => Post.pure _ hle trivial)

theorem rrRemainingLen_ok {bs : Bytes} {off off' v : Nat} {origLen rdlength : Nat} (h : off ≤ bs.size)
    (hr : rrRemainingLen bs origLen rdlength off = .ok v off') : off' = off := by
  unfold rrRemainingLen at hr
  rw [P.bind_ok (bufLen_eq h)] at hr
  cases hs : subChecked origLen (bs.size - off) off with
  | ok u o2 =>
    rw [P.bind_ok hs] at hr
    have := (subChecked_ok hs).1
    split at hr <;> (simp only [P.pure_apply] at hr; injection hr with _ h2; omega)
  | err e => rw [P.bind_err hs] at hr; simp at hr
  | fault k => rw [P.bind_fault hs] at hr; simp at hr

theorem safe_fetchStrDup {bs : Bytes} {off : Nat} (len : Nat) (h : off ≤ bs.size) :
    SafeAt bs (fetchStrDup bs len) off := by
  unfold fetchStrDup
  refine Post.safe (Q := fun _ _ => True) (Post.bind_bufLen h (Post.ite (fun _ => Post.fail _) fun hc => ?_))
  refine Post.bind_rawSlice (by omega) (Post.ite (fun _ => Post.fail _) fun _ => ?_)
  exact (Post.of_safe (safe_consume len h)).map fun _ _ _ => trivial

theorem bufLen_sub_eq {bs : Bytes} {origLen pos : Nat} (h : pos ≤ bs.size) (ho : bs.size - pos ≤ origLen) :
    (bufLen bs >>= subChecked origLen) pos = .ok (origLen - (bs.size - pos)) pos := by
  rw [P.bind_ok (bufLen_eq h)]
  simp [subChecked, ho]

theorem consumeIgnore_eq {bs : Bytes} {off n : Nat} (h : off ≤ bs.size) :
    consumeIgnore bs n off = .ok () (if off + n ≤ bs.size then off + n else off) := by
  unfold consumeIgnore
  rw [consume_eq h]
  by_cases hc : off + n ≤ bs.size
  · rw [if_pos hc, if_pos hc]
  · rw [if_neg hc, if_neg hc]

theorem safe_consumeIgnore {bs : Bytes} {off : Nat} (n : Nat) (h : off ≤ bs.size) :
    SafeAt bs (consumeIgnore bs n) off := by
  unfold SafeAt
  rw [consumeIgnore_eq h]
  show _ ≤ _ ∧ _ ≤ _
  split <;> omega

end Cares.Dns
