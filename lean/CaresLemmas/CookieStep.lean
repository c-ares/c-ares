import CaresModel.Proto.Cookie
/-!
# Case lemmas for `ares_cookie_apply` / `ares_cookie_validate` (helpers for C17)

`CookieSt.Wf` (client cookie has 8 bytes, server cookie at most 32, no server cookie outside SUPPORTED) is kept by every
stage of `ares_cookie_apply`.  The result of `validateWith` is given class by class of (request cookie, response cookie,
rcode) as equations (`validate_*`) and, all classes together, as the relation `VCase`; `applyCore` is the state machine of
`ares_cookie_apply` once a cookie is to be attached.

To go through the classes: `have h := validateWith_case …; generalize validateWith … = o at h ⊢; cases h` (`cases` on the
term itself fails on the index).  The `noServer` row by the state the response meets is `noServerOut_ck_verdict`; for a
call as a whole it is the last two disjuncts of `validate_classes` (`CookieTrace.lean`).
-/
namespace Cares.Proto.Cookie
open Cares.Generated.Proto

structure CookieSt.Wf (c : CookieSt) : Prop where
  client_len : c.client.length = COOKIE_CLIENT_LEN
  server_len : c.server.length ≤ COOKIE_SERVER_MAX
  nosup_server : c.state ≠ .supported → c.server = []

theorem wf_cleared : CookieSt.cleared.Wf := ⟨by simp [CookieSt.cleared, zeroClient], by simp [CookieSt.cleared], by simp [CookieSt.cleared]⟩

theorem wf_regress (isSet) (c : CookieSt) (now) (h : c.Wf) : (regress isSet c now).Wf := by
  unfold regress; split
  · exact wf_cleared
  · exact h

theorem wf_relearn (c : CookieSt) (h : c.Wf) : (relearn c).Wf := by
  unfold relearn; split
  · exact wf_cleared
  · exact h

theorem wf_generate_clear (c : CookieSt) (conn now) (fresh : Bytes) (hf : fresh.length = COOKIE_CLIENT_LEN) :
    (generate (clearServer c) conn now fresh).Wf :=
  ⟨by simp [generate, hf], by simp [generate, clearServer], by simp [generate, clearServer]⟩

theorem wf_genInitial (c : CookieSt) (conn now) (fresh : Bytes) (h : c.Wf) (hf : fresh.length = COOKIE_CLIENT_LEN) :
    (genInitial c conn now fresh).Wf := by
  unfold genInitial; split
  · rename_i hi
    have hs : c.server = [] := h.nosup_server (by rw [hi]; decide)
    exact ⟨by simp [generate, hf], by simp [generate, hs], by simp [generate, hs]⟩
  · exact h

theorem wf_genIp (c : CookieSt) (conn now) (fresh : Bytes) (h : c.Wf) (hf : fresh.length = COOKIE_CLIENT_LEN) :
    (genIp c conn now fresh).Wf := by
  unfold genIp; split
  · exact wf_generate_clear c conn now fresh hf
  · exact h

theorem wf_genRotate (c : CookieSt) (conn now) (fresh : Bytes) (h : c.Wf) (hf : fresh.length = COOKIE_CLIENT_LEN) :
    (genRotate c conn now fresh).Wf := by
  unfold genRotate; split
  · exact wf_generate_clear c conn now fresh hf
  · exact h

/-- the state after `ares_cookie_apply` on a UDP request with OPT when the quiet period is not in force -/
def applyCore (isSet : TimeVal → Bool) (c : CookieSt) (conn : Conn) (now : TimeVal) (fresh : Bytes) : CookieSt :=
  genRotate (genIp (genInitial (relearn (regress isSet c now)) conn now fresh) conn now fresh) conn now fresh

theorem wf_applyCore (isSet) (c : CookieSt) (conn now) (fresh : Bytes) (h : c.Wf) (hf : fresh.length = COOKIE_CLIENT_LEN) :
    (applyCore isSet c conn now fresh).Wf :=
  wf_genRotate _ _ _ _ (wf_genIp _ _ _ _ (wf_genInitial _ _ _ _ (wf_relearn _ (wf_regress _ _ _ h)) hf) hf) hf

/-- what a response with a server cookie teaches: the server supports cookies; its cookie is saved if the client
    cookie has not been rotated since the request was sent -/
def learn (c : CookieSt) (rq r : Bytes) : CookieSt :=
  let c' := { c with state := .supported, unsupportedTs := .zero }
  if c'.client == rq.take COOKIE_CLIENT_LEN then { c' with server := r.drop 8 } else c'

/-- … but only while a client cookie is in use (or always, on a tree that still learns in a cleared state) -/
def learnG (c : CookieSt) (rq r : Bytes) : CookieSt :=
  if learnsWhenCleared || c.state = .generated || c.state = .supported then learn c rq r else c

def bump (q : QState) : QState :=
  { cookieTry := q.cookieTry + 1, usingTcp := q.usingTcp || decide (q.cookieTry + 1 ≥ COOKIE_RESEND_MAX) }

def oobOf (rq : Bytes) (resp : Option Bytes) : Bool := decide (rq.length < 8) && resp.isSome

theorem validate_badlen (isSet c q reqCookie) (r : Bytes) (rcode now) (h : r.length < 8 ∨ 40 < r.length) :
    validateWith isSet c q reqCookie (some r) rcode now = ⟨c, q, .drop, false, false⟩ := by
  unfold validateWith
  have : (decide (r.length < 8) || decide (r.length > 40)) = true := by
    rcases h with h | h <;> simp [h]
  simp [this]

theorem validate_noreq (isSet c q) (resp : Option Bytes) (rcode now)
    (h : ∀ r, resp = some r → 8 ≤ r.length ∧ r.length ≤ 40) :
    validateWith isSet c q none resp rcode now = ⟨c, q, .accept, false, false⟩ := by
  unfold validateWith
  cases resp with
  | none => simp
  | some r =>
    simp [Nat.not_lt.mpr (h r rfl).1, Nat.not_lt.mpr (h r rfl).2]

theorem validate_badclient (isSet c q) (rq r : Bytes) (rcode now) (h1 : 8 ≤ r.length) (h2 : r.length ≤ 40)
    (hp : rq.take 8 ≠ r.take 8) :
    validateWith isSet c q (some rq) (some r) rcode now = ⟨c, q, .drop, false, oobOf rq (some r)⟩ := by
  unfold validateWith
  simp [Nat.not_lt.mpr h1, Nat.not_lt.mpr h2, hp, oobOf]

theorem validate_server_badcookie (isSet c q) (rq r : Bytes) (now) (h1 : 8 < r.length) (h2 : r.length ≤ 40)
    (hp : rq.take 8 = r.take 8) :
    validateWith isSet c q (some rq) (some r) RCODE_BADCOOKIE now =
      ⟨learnG c rq r, bump q, .drop, true, oobOf rq (some r)⟩ := by
  unfold validateWith
  simp [Nat.not_lt.mpr (Nat.le_of_lt h1), Nat.not_lt.mpr h2, hp, oobOf, h1, learn, learnG, bump]

theorem validate_server_ok (isSet c q) (rq r : Bytes) (rcode now) (h1 : 8 < r.length) (h2 : r.length ≤ 40)
    (hp : rq.take 8 = r.take 8) (hr : rcode ≠ RCODE_BADCOOKIE) :
    validateWith isSet c q (some rq) (some r) rcode now =
      ⟨learnG c rq r, q, .accept, false, oobOf rq (some r)⟩ := by
  unfold validateWith
  simp [Nat.not_lt.mpr (Nat.le_of_lt h1), Nat.not_lt.mpr h2, hp, oobOf, h1, learn, learnG, hr]

/-- a response that carries no server cookie for a request that carried a cookie -/
def NoServer (rq : Bytes) (resp : Option Bytes) : Prop :=
  resp = none ∨ ∃ r, resp = some r ∧ r.length = 8 ∧ rq.take 8 = r.take 8

theorem validate_noserver_badcookie_none (isSet c q) (rq : Bytes) (now) :
    validateWith isSet c q (some rq) none RCODE_BADCOOKIE now = ⟨c, q, .drop, false, false⟩ := by
  unfold validateWith; simp

theorem validate_noserver_badcookie_some (isSet c q) (rq r : Bytes) (now) (h : r.length = 8) (hp : rq.take 8 = r.take 8) :
    validateWith isSet c q (some rq) (some r) RCODE_BADCOOKIE now = ⟨c, bump q, .drop, true, oobOf rq (some r)⟩ := by
  unfold validateWith; simp [h, hp, bump, oobOf]

/-- the verdict on a response without server cookie, by state -/
def noServerOut (isSet : TimeVal → Bool) (c : CookieSt) (q : QState) (now : TimeVal) (oob : Bool) : ValidateOut :=
  if c.state = .supported then
    ⟨if !isSet c.unsupportedTs then { c with unsupportedTs := now } else c, q, .drop, false, oob⟩
  else if c.state = .generated then
    ⟨{ CookieSt.cleared with state := .unsupported, unsupportedTs := now }, q, .accept, false, oob⟩
  else ⟨c, q, .accept, false, oob⟩

/-- only the per-server state and the verdict depend on the state the response meets -/
theorem noServerOut_rest (isSet c q now oob) :
    (noServerOut isSet c q now oob).q = q ∧ (noServerOut isSet c q now oob).requeue = false ∧
      (noServerOut isSet c q now oob).oob = oob := by
  unfold noServerOut
  split
  · exact ⟨rfl, rfl, rfl⟩
  split <;> exact ⟨rfl, rfl, rfl⟩

/-- … and these two do, by state -/
theorem noServerOut_ck_verdict (isSet c q now oob) :
    (noServerOut isSet c q now oob).ck =
        (if c.state = .supported then (if !isSet c.unsupportedTs then { c with unsupportedTs := now } else c)
         else if c.state = .generated then { CookieSt.cleared with state := .unsupported, unsupportedTs := now } else c) ∧
      (noServerOut isSet c q now oob).verdict = if c.state = .supported then .drop else .accept := by
  unfold noServerOut
  split
  · exact ⟨rfl, rfl⟩
  split <;> exact ⟨rfl, rfl⟩

theorem validate_noserver (isSet c q) (rq : Bytes) (resp : Option Bytes) (rcode now) (h : NoServer rq resp)
    (hr : rcode ≠ RCODE_BADCOOKIE) :
    validateWith isSet c q (some rq) resp rcode now = noServerOut isSet c q now (oobOf rq resp) := by
  unfold validateWith noServerOut
  rcases h with h | ⟨r, h, hl, hp⟩
  · subst h; simp [hr, oobOf]
  · subst h; simp [hl, hp, hr, oobOf]

theorem resp_classes (rq : Bytes) (resp : Option Bytes) :
    (∃ r, resp = some r ∧ (r.length < 8 ∨ 40 < r.length)) ∨
    (∃ r, resp = some r ∧ 8 ≤ r.length ∧ r.length ≤ 40 ∧ rq.take 8 ≠ r.take 8) ∨
    (∃ r, resp = some r ∧ 8 < r.length ∧ r.length ≤ 40 ∧ rq.take 8 = r.take 8) ∨
    NoServer rq resp := by
  cases resp with
  | none => right; right; right; left; rfl
  | some r =>
    by_cases h1 : r.length < 8 ∨ 40 < r.length
    · left; exact ⟨r, rfl, h1⟩
    · by_cases hp : rq.take 8 = r.take 8
      · by_cases h8 : r.length = 8
        · right; right; right; right; exact ⟨r, rfl, h8, hp⟩
        · right; right; left; exact ⟨r, rfl, by omega, by omega, hp⟩
      · right; left; exact ⟨r, rfl, by omega, by omega, hp⟩

/-- `ares_cookie_validate` as a table: the class of (request cookie, response cookie, rcode) and the whole result in
    that class.  Every fact about one call of `validateWith` is a case analysis over this relation. -/
inductive VCase (isSet : TimeVal → Bool) (c : CookieSt) (q : QState) (now : TimeVal) :
    Option Bytes → Option Bytes → Nat → ValidateOut → Prop
  | badlen (rq r rcode) (hb : r.length < 8 ∨ 40 < r.length) :
      VCase isSet c q now rq (some r) rcode ⟨c, q, .drop, false, false⟩
  | noreq (resp rcode) (h : ∀ r, resp = some r → 8 ≤ r.length ∧ r.length ≤ 40) :
      VCase isSet c q now none resp rcode ⟨c, q, .accept, false, false⟩
  | badclient (rq r rcode) (h1 : 8 ≤ r.length) (h2 : r.length ≤ 40) (hp : rq.take 8 ≠ r.take 8) :
      VCase isSet c q now (some rq) (some r) rcode ⟨c, q, .drop, false, oobOf rq (some r)⟩
  | serverBad (rq r) (h1 : 8 < r.length) (h2 : r.length ≤ 40) (hp : rq.take 8 = r.take 8) :
      VCase isSet c q now (some rq) (some r) RCODE_BADCOOKIE ⟨learnG c rq r, bump q, .drop, true, oobOf rq (some r)⟩
  | serverOk (rq r rcode) (h1 : 8 < r.length) (h2 : r.length ≤ 40) (hp : rq.take 8 = r.take 8)
      (hr : rcode ≠ RCODE_BADCOOKIE) :
      VCase isSet c q now (some rq) (some r) rcode ⟨learnG c rq r, q, .accept, false, oobOf rq (some r)⟩
  | bareBadNone (rq) : VCase isSet c q now (some rq) none RCODE_BADCOOKIE ⟨c, q, .drop, false, false⟩
  | bareBad (rq r) (h8 : r.length = 8) (hp : rq.take 8 = r.take 8) :
      VCase isSet c q now (some rq) (some r) RCODE_BADCOOKIE ⟨c, bump q, .drop, true, oobOf rq (some r)⟩
  | noServer (rq resp rcode) (hn : NoServer rq resp) (hr : rcode ≠ RCODE_BADCOOKIE) :
      VCase isSet c q now (some rq) resp rcode (noServerOut isSet c q now (oobOf rq resp))

theorem validateWith_case (isSet) (c : CookieSt) (q : QState) (rq resp : Option Bytes) (rcode : Nat) (now : TimeVal) :
    VCase isSet c q now rq resp rcode (validateWith isSet c q rq resp rcode now) := by
  cases rq with
  | none =>
    by_cases hb : ∃ r, resp = some r ∧ (r.length < 8 ∨ 40 < r.length)
    · obtain ⟨r, rfl, hb⟩ := hb
      rw [validate_badlen _ _ _ _ _ _ _ hb]; exact .badlen _ _ _ hb
    · have h : ∀ r, resp = some r → 8 ≤ r.length ∧ r.length ≤ 40 := fun r hr =>
        Classical.byContradiction fun h1 => hb ⟨r, hr, by omega⟩
      rw [validate_noreq _ _ _ _ _ _ h]; exact .noreq _ _ h
  | some rq =>
    rcases resp_classes rq resp with ⟨r, rfl, hb⟩ | ⟨r, rfl, h1, h2, hp⟩ | ⟨r, rfl, h1, h2, hp⟩ | hn
    · rw [validate_badlen _ _ _ _ _ _ _ hb]; exact .badlen _ _ _ hb
    · rw [validate_badclient _ _ _ _ _ _ _ h1 h2 hp]; exact .badclient _ _ _ h1 h2 hp
    · by_cases hr : rcode = RCODE_BADCOOKIE
      · subst hr; rw [validate_server_badcookie _ _ _ _ _ _ h1 h2 hp]; exact .serverBad _ _ h1 h2 hp
      · rw [validate_server_ok _ _ _ _ _ _ _ h1 h2 hp hr]; exact .serverOk _ _ _ h1 h2 hp hr
    · by_cases hr : rcode = RCODE_BADCOOKIE
      · subst hr
        rcases hn with rfl | ⟨r, rfl, h8, hp⟩
        · rw [validate_noserver_badcookie_none]; exact .bareBadNone _
        · rw [validate_noserver_badcookie_some _ _ _ _ _ _ h8 hp]; exact .bareBad _ _ h8 hp
      · rw [validate_noserver _ _ _ _ _ _ _ hn hr]; exact .noServer _ _ _ hn hr

theorem regress_eq_or (isSet) (c : CookieSt) (now) :
    regress isSet c now = c ∨ (regress isSet c now = CookieSt.cleared ∧ c.state = .supported ∧
      isSet c.unsupportedTs = true ∧ expired c.unsupportedTs now COOKIE_REGRESSION_TIMEOUT_MS = true) := by
  unfold regress
  split
  · rename_i h
    right
    simp only [Bool.and_eq_true, decide_eq_true_eq] at h
    exact ⟨rfl, h.1.1, h.1.2, h.2⟩
  · left; rfl

theorem quiet_regress (isSet) (c : CookieSt) (now) (h : quiet (regress isSet c now) now = true) :
    regress isSet c now = c := by
  rcases regress_eq_or isSet c now with h1 | ⟨h1, _⟩
  · exact h1
  · rw [h1] at h; simp [quiet, CookieSt.cleared] at h

theorem quiet_state (c : CookieSt) (now) (h : quiet c now = true) : c.state = .unsupported := by
  simp only [quiet, Bool.and_eq_true, decide_eq_true_eq] at h; exact h.1

theorem genIp_state (c : CookieSt) (conn now fresh) : (genIp c conn now fresh).state = c.state := by
  unfold genIp; split <;> simp [generate, clearServer]

theorem genIp_uts (c : CookieSt) (conn now fresh) : (genIp c conn now fresh).unsupportedTs = c.unsupportedTs := by
  unfold genIp; split <;> simp [generate, clearServer]

theorem genRotate_state (c : CookieSt) (conn now fresh) : (genRotate c conn now fresh).state = c.state := by
  unfold genRotate; split <;> simp [generate, clearServer]

theorem genRotate_uts (c : CookieSt) (conn now fresh) : (genRotate c conn now fresh).unsupportedTs = c.unsupportedTs := by
  unfold genRotate; split <;> simp [generate, clearServer]

theorem genInitial_sup (c : CookieSt) (conn now fresh) (h : (genInitial c conn now fresh).state = .supported) :
    genInitial c conn now fresh = c := by
  unfold genInitial at h ⊢
  split
  · rename_i hi; simp [hi, generate] at h
  · rfl

theorem relearn_sup (c : CookieSt) (h : (relearn c).state = .supported) : relearn c = c := by
  unfold relearn at h ⊢
  split
  · rename_i hu; simp [hu, CookieSt.cleared] at h
  · rfl

/-- `ares_cookie_apply` leaves the server in the SUPPORTED state only if it was there and no regression reset was due;
    the `unsupported_ts` time stamp is then untouched -/
theorem applyCore_sup (isSet) (c : CookieSt) (conn now) (fresh : Bytes)
    (h : (applyCore isSet c conn now fresh).state = .supported) :
    c.state = .supported ∧ (applyCore isSet c conn now fresh).unsupportedTs = c.unsupportedTs ∧
    regress isSet c now = c := by
  unfold applyCore at h ⊢
  rw [genRotate_state, genIp_state] at h
  have h3 := genInitial_sup _ _ _ _ h
  rw [h3] at h
  have h2 := relearn_sup _ h
  rw [h2] at h
  rw [genRotate_uts, genIp_uts, h3, h2]
  rcases regress_eq_or isSet c now with h1 | ⟨h1, _⟩
  · rw [h1] at h ⊢; exact ⟨h, rfl, rfl⟩
  · rw [h1] at h; simp [CookieSt.cleared] at h

theorem wf_learn (c : CookieSt) (rq r : Bytes) (h : c.Wf) (hr : r.length ≤ 40) : (learn c rq r).Wf := by
  unfold learn
  simp only []
  split
  · exact ⟨h.client_len, by simp [COOKIE_SERVER_MAX]; omega, by simp⟩
  · exact ⟨h.client_len, h.server_len, by simp⟩

theorem learn_state (c : CookieSt) (rq r : Bytes) : (learn c rq r).state = .supported := by
  unfold learn; simp only []; split <;> rfl

theorem learn_uts (c : CookieSt) (rq r : Bytes) : (learn c rq r).unsupportedTs = .zero := by
  unfold learn; simp only []; split <;> rfl

theorem learn_client (c : CookieSt) (rq r : Bytes) : (learn c rq r).client = c.client := by
  unfold learn; simp only []; split <;> rfl

theorem learnG_cases (c : CookieSt) (rq r : Bytes) :
    learnG c rq r = learn c rq r ∨ (learnG c rq r = c ∧ c.state ≠ .generated ∧ c.state ≠ .supported) := by
  unfold learnG
  split
  · left; rfl
  · rename_i h
    right
    simp only [Bool.or_eq_true, decide_eq_true_eq, not_or] at h
    exact ⟨rfl, h.1.2, h.2⟩

theorem learnG_inUse (c : CookieSt) (rq r : Bytes) (h : c.state = .generated ∨ c.state = .supported) :
    learnG c rq r = learn c rq r := by
  unfold learnG
  rcases h with h | h <;> simp [h]

theorem wf_learnG (c : CookieSt) (rq r : Bytes) (h : c.Wf) (hr : r.length ≤ 40) : (learnG c rq r).Wf := by
  rcases learnG_cases c rq r with h1 | ⟨h1, _⟩
  · rw [h1]; exact wf_learn c rq r h hr
  · rw [h1]; exact h

theorem genIp_client (c : CookieSt) (conn now) (fresh : Bytes) :
    (genIp c conn now fresh).client = fresh ∨ genIp c conn now fresh = c := by
  unfold genIp; split
  · left; rfl
  · right; rfl

theorem genRotate_client (c : CookieSt) (conn now) (fresh : Bytes) :
    (genRotate c conn now fresh).client = fresh ∨ genRotate c conn now fresh = c := by
  unfold genRotate; split
  · left; rfl
  · right; rfl

/-- after `ares_cookie_apply` attached a cookie, the client cookie is either the freshly drawn one or the one that was
    already in use -/
theorem applyCore_client (isSet) (c : CookieSt) (conn now) (fresh : Bytes) :
    (applyCore isSet c conn now fresh).client = fresh ∨
    ((c.state = .generated ∨ c.state = .supported) ∧ (applyCore isSet c conn now fresh).client = c.client) := by
  unfold applyCore
  generalize hc2 : relearn (regress isSet c now) = c2
  have h5 := genRotate_client (genIp (genInitial c2 conn now fresh) conn now fresh) conn now fresh
  have h4 := genIp_client (genInitial c2 conn now fresh) conn now fresh
  rcases h5 with h5 | h5
  · left; exact h5
  · rw [h5]
    rcases h4 with h4 | h4
    · left; exact h4
    · rw [h4]
      by_cases hi : c2.state = .initial
      · left; simp [genInitial, hi, generate]
      · right
        have h3 : genInitial c2 conn now fresh = c2 := by simp [genInitial, hi]
        rw [h3]
        -- no reset happened
        have h1 : regress isSet c now = c := by
          rcases regress_eq_or isSet c now with h | ⟨h, _⟩
          · exact h
          · exfalso; apply hi; rw [← hc2, h]; simp [relearn, CookieSt.cleared]
        rw [h1] at hc2
        have hu : c.state ≠ .unsupported := by
          intro hu; apply hi; rw [← hc2]; simp [relearn, hu, CookieSt.cleared]
        have h2 : c2 = c := by rw [← hc2]; simp [relearn, hu]
        rw [h2] at hi ⊢
        refine ⟨?_, rfl⟩
        cases hs : c.state with
        | initial => exact absurd hs hi
        | generated => exact Or.inl rfl
        | supported => exact Or.inr rfl
        | unsupported => exact absurd hs hu

theorem relearn_not_unsupported (c : CookieSt) : (relearn c).state ≠ .unsupported := by
  unfold relearn; split
  · simp [CookieSt.cleared]
  · assumption

theorem applyCore_inUse (isSet) (c : CookieSt) (conn now) (fresh : Bytes) :
    (applyCore isSet c conn now fresh).state = .generated ∨ (applyCore isSet c conn now fresh).state = .supported := by
  unfold applyCore
  rw [genRotate_state, genIp_state]
  have hnu := relearn_not_unsupported (regress isSet c now)
  generalize relearn (regress isSet c now) = c2 at hnu
  unfold genInitial
  split
  · left; rfl
  · rename_i hi
    cases hs : c2.state with
    | initial => exact absurd hs hi
    | generated => exact Or.inl rfl
    | supported => exact Or.inr rfl
    | unsupported => exact absurd hs hnu

end Cares.Proto.Cookie
