import CaresLemmas.DnsRfcRR
/-!
# Whole message: operational parser vs. RFC reference (helper lemmas for C04)

The top level is `parse_ok_iff` (acceptance).  A statement about rejection takes `parse_no_fault` (`DnsShape.lean`) with
it: what is not accepted and cannot fault is an error.
-/
namespace Cares.Dns
open Cares.Generated

/-- the `ares_dns_flags_t` bits are distinct, so OR-ing them adds them -/
theorem flags_or_eq_add : ∀ qr aa tc rd ra ad cd : Bool,
    (if qr then Flag.qr else 0) ||| (if aa then Flag.aa else 0) ||| (if tc then Flag.tc else 0) |||
      (if rd then Flag.rd else 0) ||| (if ra then Flag.ra else 0) ||| (if ad then Flag.ad else 0) |||
      (if cd then Flag.cd else 0) =
    (if qr then Flag.qr else 0) + (if aa then Flag.aa else 0) + (if tc then Flag.tc else 0) +
      (if rd then Flag.rd else 0) + (if ra then Flag.ra else 0) + (if ad then Flag.ad else 0) +
      (if cd then Flag.cd else 0) := by decide

/-- the masks of `ares_dns_parse_header` on the 16-bit flag word pick the bits that RFC 1035 §4.1.1 numbers by
    division/modulo on the two flag octets -/
theorem headerFlags_eq (m : Rfc.Msg) {w f1 f2 : Nat} (hw : w = f1 * 256 + f2) (h1 : f1 < 256) (h2 : f2 < 256)
    (qr : m.qr = decide (f1 / 128 = 1)) (aa : m.aa = decide (f1 / 4 % 2 = 1)) (tc : m.tc = decide (f1 / 2 % 2 = 1))
    (rd : m.rd = decide (f1 % 2 = 1)) (ra : m.ra = decide (f2 / 128 = 1)) (ad : m.ad = decide (f2 / 32 % 2 = 1))
    (cd : m.cd = decide (f2 / 16 % 2 = 1)) : headerFlags w = Rfc.flagBits m := by
  subst hw
  have c15 : (f1 * 256 + f2) &&& 0x8000 ≠ 0 ↔ f1 / 128 = 1 := (and_two_pow_ne_zero _ 15).trans (by omega)
  have c10 : (f1 * 256 + f2) &&& 0x400 ≠ 0 ↔ f1 / 4 % 2 = 1 := (and_two_pow_ne_zero _ 10).trans (by omega)
  have c9 : (f1 * 256 + f2) &&& 0x200 ≠ 0 ↔ f1 / 2 % 2 = 1 := (and_two_pow_ne_zero _ 9).trans (by omega)
  have c8 : (f1 * 256 + f2) &&& 0x100 ≠ 0 ↔ f1 % 2 = 1 := (and_two_pow_ne_zero _ 8).trans (by omega)
  have c7 : (f1 * 256 + f2) &&& 0x80 ≠ 0 ↔ f2 / 128 = 1 := (and_two_pow_ne_zero _ 7).trans (by omega)
  have c5 : (f1 * 256 + f2) &&& 0x20 ≠ 0 ↔ f2 / 32 % 2 = 1 := (and_two_pow_ne_zero _ 5).trans (by omega)
  have c4 : (f1 * 256 + f2) &&& 0x10 ≠ 0 ↔ f2 / 16 % 2 = 1 := (and_two_pow_ne_zero _ 4).trans (by omega)
  unfold headerFlags Rfc.flagBits
  rw [qr, aa, tc, rd, ra, ad, cd, ← flags_or_eq_add]
  simp only [c15, c10, c9, c8, c7, c5, c4, decide_eq_true_eq]

/-- OPCODE and the 4-bit RCODE of the flag word, by division/modulo on the two flag octets -/
theorem opcode_rcode_eq {w f1 f2 : Nat} (hw : w = f1 * 256 + f2) (h2 : f2 < 256) :
    (w >>> 11) &&& 0xf = f1 / 8 % 16 ∧ w &&& 0xf = f2 % 16 := by
  subst hw
  have e : ∀ x, x &&& 0xf = x % 16 := fun x => Nat.and_two_pow_sub_one_eq_mod x 4
  rw [e, e, Nat.shiftRight_eq_div_pow]
  omega

/-- extended-rcode bits contributed by a list of RRs, as `ares_dns_parse_rr_opt` ORs them in -/
def hiList (ms : List Rfc.RR) : Nat := ms.foldr (fun m acc => optHi m.type m.ttl ||| acc) 0

theorem Res.toOpt_seq {α β : Type} {bs : Bytes} {m : P α} {f : α → P β} {d : Option (α × Nat)}
    {g : α → Nat → Option (β × Nat)} {p : Nat} (hs : SafeAt bs m p) (hm : (m p).toOpt = d)
    (hf : ∀ a p1, p1 ≤ bs.size → (f a p1).toOpt = g a p1) :
    ((m >>= f) p).toOpt = d.bind fun r => g r.1 r.2 := by
  subst hm
  rw [Res.toOpt_bind]
  cases h : m p with
  | ok a p1 => exact hf a p1 (hs.ok h).2
  | err e => rfl
  | fault k => rfl

/-- the RRs the reference decodes from `p` on as the record API shows them, with their extended-RCODE bits -/
def rrsAt (bs : Bytes) (n p : Nat) : Option ((List RR × Nat) × Nat) :=
  (Rfc.decodeRRs bs n p).bind fun r =>
    (if r.1.all Rfc.RR.supported = true then (Rfc.rrsToRec r.1).map (·, hiList r.1) else none).map (·, r.2)

theorem rrsAt_succ (bs : Bytes) (n p : Nat) :
    rrsAt bs (n + 1) p = (rrAt bs p).bind fun r =>
      (rrsAt bs n r.2).bind fun s => some ((r.1.1 :: s.1.1, r.1.2 ||| s.1.2), s.2) := by
  simp only [rrsAt, rrAt, Rfc.decodeRRs]
  cases Rfc.decodeRR bs p with
  | none => rfl
  | some r =>
    obtain ⟨m, p1⟩ := r
    cases hd : Rfc.decodeRRs bs n p1 with
    | none => cases hs : m.supported <;> cases ht : m.toRec <;> simp [hd, hs, ht]
    | some r2 =>
      cases hs : m.supported with
      | false => simp [hd, hs]
      | true =>
        cases ht : m.toRec with
        | none => simp [hd, hs, ht, Rfc.rrsToRec]
        | some rr =>
          cases hss : r2.1.all Rfc.RR.supported with
          | false => simp [-List.all_eq_true, hd, hs, ht, hss]
          | true => cases hts : Rfc.rrsToRec r2.1 <;> simp [-List.all_eq_true, hd, hs, ht, hss, hts, Rfc.rrsToRec, hiList]

theorem parseRRs_toOpt {bs : Bytes} {sect : Sect} (n : Nat) {p : Nat} (hp : p ≤ bs.size) :
    (parseRRs bs 0 sect n p).toOpt = rrsAt bs n p := by
  induction n generalizing p with
  | zero => rfl
  | succ n ih =>
    rw [rrsAt_succ]
    exact Res.toOpt_seq (post_parseRR 0 sect hp).safe (parseRR_toOpt hp) fun a p1 h1 =>
      Res.toOpt_seq (post_parseRRs 0 sect n h1).safe (ih h1) fun b p2 _ => rfl

theorem Res.toOpt_eq_some {α : Type} {r : Res α} {a : α} {p : Nat} : r.toOpt = some (a, p) ↔ r = .ok a p := by
  cases r <;> simp [Res.toOpt]

theorem rrsToRec_isSome {bs : Bytes} (n : Nat) : ∀ {p p' : Nat} {ms : List Rfc.RR},
    Rfc.decodeRRs bs n p = some (ms, p') → ms.all Rfc.RR.supported = true → (Rfc.rrsToRec ms).isSome = true := by
  induction n with
  | zero => intro p p' ms h _; cases h; rfl
  | succ n ih =>
    intro p p' ms h hs
    simp only [Rfc.decodeRRs] at h
    cases hd : Rfc.decodeRR bs p with
    | none => simp [hd] at h
    | some r =>
      cases hds : Rfc.decodeRRs bs n r.2 with
      | none => simp [hd, hds] at h
      | some r2 =>
        simp only [hd, hds, Option.some.injEq, Prod.mk.injEq] at h
        obtain ⟨rfl, _⟩ := h
        simp only [List.all_cons, Bool.and_eq_true] at hs
        obtain ⟨x, hx⟩ := Option.isSome_iff_exists.1 (decodeRR_toRec_isSome hd hs.1)
        obtain ⟨xs, hxs⟩ := Option.isSome_iff_exists.1 (ih hds hs.2)
        simp [Rfc.rrsToRec, hx, hxs]

/-- a section: the parser accepts exactly the RRs the reference decodes and c-ares supports, and shows them -/
theorem parseRRs_ok_iff {bs : Bytes} {sect : Sect} {n p p' hi : Nat} {rrs : List RR} (hp : p ≤ bs.size) :
    parseRRs bs 0 sect n p = .ok (rrs, hi) p' ↔
      ∃ ms, Rfc.decodeRRs bs n p = some (ms, p') ∧ ms.all Rfc.RR.supported = true ∧
        Rfc.rrsToRec ms = some rrs ∧ hi = hiList ms := by
  rw [← Res.toOpt_eq_some, parseRRs_toOpt n hp, rrsAt]
  cases Rfc.decodeRRs bs n p with
  | none => simp
  | some r =>
    obtain ⟨ms, q⟩ := r
    constructor
    · intro h
      cases hs : ms.all Rfc.RR.supported with
      | false => simp [-List.all_eq_true, hs] at h
      | true =>
        cases ht : Rfc.rrsToRec ms with
        | none => simp [-List.all_eq_true, hs, ht] at h
        | some xs =>
          simp only [Option.bind_some, hs, ht, if_true, Option.map_some, Option.some.injEq, Prod.mk.injEq] at h
          obtain ⟨⟨rfl, rfl⟩, rfl⟩ := h
          exact ⟨ms, rfl, hs, ht, rfl⟩
    · rintro ⟨ms', h1, hs, ht, rfl⟩
      cases h1
      simp [-List.all_eq_true, hs, ht]

/-- extended RCODE octet of a list of RRs, as `Rfc.Msg.extRcode` computes it -/
def extList (ms : List Rfc.RR) : Nat :=
  (ms.filter (·.type = Rfc.typeOPT)).foldl (fun acc rr => acc ||| rr.ttl / 16777216) 0

theorem foldl_or_init (l : List Rfc.RR) (a : Nat) :
    l.foldl (fun acc rr => acc ||| rr.ttl / 16777216) a =
      a ||| l.foldl (fun acc rr => acc ||| rr.ttl / 16777216) 0 := by
  induction l generalizing a with
  | nil => simp
  | cons x l ih =>
    simp only [List.foldl_cons]
    rw [ih (a ||| x.ttl / 16777216), ih (0 ||| x.ttl / 16777216), Nat.zero_or, Nat.or_assoc]

theorem extList_cons (m : Rfc.RR) (ms : List Rfc.RR) :
    extList (m :: ms) = (if m.type = 41 then m.ttl / 16777216 else 0) ||| extList ms := by
  unfold extList
  by_cases h : m.type = 41
  · simp only [List.filter_cons, Rfc.typeOPT, h, decide_true, ↓reduceIte, List.foldl_cons, Nat.zero_or]
    rw [foldl_or_init]
  · simp only [List.filter_cons, Rfc.typeOPT, h, decide_false, Bool.false_eq_true, ↓reduceIte, Nat.zero_or]

theorem hiList_eq (ms : List Rfc.RR) : hiList ms = extList ms * 16 := by
  induction ms with
  | nil => rfl
  | cons m ms ih =>
    rw [extList_cons, or_mul16, ← ih]
    simp only [hiList, List.foldr_cons, optHi]
    by_cases h : m.type = 41 <;> simp [h]

theorem hiList_append (a b : List Rfc.RR) : hiList (a ++ b) = hiList a ||| hiList b := by
  induction a with
  | nil => simp [hiList]
  | cons m a ih =>
    simp only [List.cons_append, hiList, List.foldr_cons] at ih ⊢
    rw [ih, Nat.or_assoc]

/-- the 12-bit RCODE as the parser accumulates it: the header's four bits OR-ed with each section's OPT bits -/
theorem fullRcode_eq (m : Rfc.Msg) (h : m.rcode < 16) :
    m.fullRcode = m.rcode ||| hiList m.answers ||| hiList m.authority ||| hiList m.additional := by
  rw [Nat.or_assoc, Nat.or_assoc, ← hiList_append, ← hiList_append, ← List.append_assoc, hiList_eq,
    rcode_or _ _ h]
  rfl

theorem toRec_eq (m : Rfc.Msg) {an ns ar : List RR} (t1 : Rfc.rrsToRec m.answers = some an)
    (t2 : Rfc.rrsToRec m.authority = some ns) (t3 : Rfc.rrsToRec m.additional = some ar) :
    m.toRec = some { id := m.id, flags := Rfc.flagBits m, opcode := m.opcode,
                     rcode := if rcodeValid m.fullRcode = true then m.fullRcode else 2,
                     qd := m.questions.map Rfc.Question.toRec, an := an, ns := ns, ar := ar } := by
  unfold Rfc.Msg.toRec
  rw [t1, t2, t3]

/-- the classes `ares_dns_record_query_add` accepts -/
def qclassOk (c : Nat) : Bool := c = 1 || c = 3 || c = 4 || c = 254 || c = 255

theorem supported_iff (bs : Bytes) (m : Rfc.Msg) :
    Rfc.supported bs m = true ↔
      bs.size ≤ 65535 ∧ opcodeValid m.opcode = true ∧ m.questions.length = 1 ∧
        m.questions.all (fun q => qclassOk q.qclass) = true ∧ m.answers.all Rfc.RR.supported = true ∧
        m.authority.all Rfc.RR.supported = true ∧ m.additional.all Rfc.RR.supported = true := by
  unfold Rfc.supported Rfc.Msg.rrs qclassOk
  simp only [List.all_append, Bool.and_eq_true, decide_eq_true_eq, and_assoc]

/-- the header `ares_dns_parse_header` reads from the first 12 octets -/
def headerAt (bs : Bytes) (h12 : 12 ≤ bs.size) : Header :=
  { id := be16At bs 0 (by omega), flags := headerFlags (be16At bs 2 (by omega)),
    opcode := (be16At bs 2 (by omega) >>> 11) &&& 0xf, rawRcode := be16At bs 2 (by omega) &&& 0xf,
    qdcount := be16At bs 4 (by omega), ancount := be16At bs 6 (by omega),
    nscount := be16At bs 8 (by omega), arcount := be16At bs 10 (by omega) }

theorem parseHeader_eq {bs : Bytes} (h12 : 12 ≤ bs.size) :
    parseHeader bs 0 =
      if opcodeValid (headerAt bs h12).opcode = true then .ok (headerAt bs h12) 12 else .err .eformerr := by
  unfold parseHeader
  have f : ∀ (o : Nat) (h : o + 2 ≤ bs.size), fetchBe16 bs o = .ok (be16At bs o h) (o + 2) := by
    intro o h; rw [fetchBe16_eq (by omega), dif_pos h]
  rw [P.bind_ok (f 0 (by omega)), P.bind_ok (f 2 (by omega)), P.bind_ok (f 4 (by omega)),
    P.bind_ok (f 6 (by omega)), P.bind_ok (f 8 (by omega)), P.bind_ok (f 10 (by omega))]
  have hr0 : rcodeValid 0 = true := by decide
  have e : opcodeValid ((be16At bs 2 (by omega) >>> 11) &&& 0xf) = opcodeValid (headerAt bs h12).opcode := rfl
  by_cases hop : opcodeValid (headerAt bs h12).opcode = true
  · rw [if_pos hop, if_neg (by simp [e, hop, hr0])]; rfl
  · rw [if_neg hop, if_pos (by simp [e, hop])]; rfl

theorem parseHeader_short {bs : Bytes} (h12 : ¬ 12 ≤ bs.size) : ∃ e, parseHeader bs 0 = .err e := by
  have hs := (post_parseHeader (bs := bs) (off := 0) (Nat.zero_le _)).safe
  cases hr : parseHeader bs 0 with
  | err e => exact ⟨e, rfl⟩
  | fault k => exact (hs.not_fault hr).elim
  | ok hd o =>
    exfalso
    unfold parseHeader at hr
    obtain ⟨_, o1, g1, hr⟩ := P.bind_eq_ok hr
    obtain ⟨_, o2, g2, hr⟩ := P.bind_eq_ok hr
    obtain ⟨_, o3, g3, hr⟩ := P.bind_eq_ok hr
    obtain ⟨_, o4, g4, hr⟩ := P.bind_eq_ok hr
    obtain ⟨_, o5, g5, hr⟩ := P.bind_eq_ok hr
    obtain ⟨_, o6, g6, hr⟩ := P.bind_eq_ok hr
    have e1 := fetchBe16_ok g1
    have e2 := fetchBe16_ok g2
    have e3 := fetchBe16_ok g3
    have e4 := fetchBe16_ok g4
    have e5 := fetchBe16_ok g5
    have e6 := fetchBe16_ok g6
    omega

theorem classValid_query (c t : Nat) (ht : t < 65536) : classValid c t true = qclassOk c := by
  have h1 : t ≠ 65536 := by omega
  by_cases h24 : t = 24
  · subst h24
    simp [classValid, qclassOk, List.contains_eq_mem, List.mem_cons, Bool.or_assoc]
  · simp [classValid, qclassOk, List.contains_eq_mem, List.mem_cons, Bool.or_assoc, h24, h1]

theorem recTypeValid_query (t : Nat) (ht : t < 65536) : recTypeValid t true = true := by
  have h1 : t ≠ 65536 := by omega
  simp [recTypeValid, recTypeInvalidQuery, h1]

/-- the question: `ares_dns_parse_qd` accepts what the reference decodes when the class is one
    `ares_dns_record_query_add` takes, and shows the name in presentation form -/
theorem parseQd_ok_iff {bs : Bytes} {p p' : Nat} {q : Question} (hp : p ≤ bs.size) :
    parseQd bs p = .ok q p' ↔
      ∃ rq, Rfc.decodeQuestion bs p = some (rq, p') ∧ rq.toRec = q ∧ qclassOk rq.qclass = true := by
  have hname := parseName_eq_rfc bs p hp
  unfold parseQd Rfc.decodeQuestion
  cases hn : Rfc.name bs p with
  | none => rw [hn] at hname; rw [P.bind_err hname]; simp
  | some r =>
    obtain ⟨labels, q1⟩ := r
    rw [hn] at hname
    have hq := (name_next_le hp hn).2
    rw [P.bind_ok hname]
    simp only [u16At_eq]
    by_cases h2 : q1 + 2 ≤ bs.size
    · rw [P.bind_ok (by rw [fetchBe16_eq hq, dif_pos h2]), dif_pos h2]
      by_cases h4 : q1 + 2 + 2 ≤ bs.size
      · rw [P.bind_ok (by rw [fetchBe16_eq h2, dif_pos h4]), dif_pos h4]
        simp only [recTypeValid_query _ (be16At_lt _), classValid_query _ _ (be16At_lt _)]
        cases hc : qclassOk (be16At bs (q1 + 2) h4) <;> simp [Rfc.Question.toRec, hc]
        constructor
        · rintro ⟨rfl, rfl⟩; exact ⟨_, ⟨rfl, rfl⟩, rfl, hc⟩
        · rintro ⟨_, ⟨rfl, rfl⟩, rfl, _⟩; exact ⟨rfl, rfl⟩
      · rw [P.bind_err (by rw [fetchBe16_eq h2, dif_neg h4]), dif_neg h4]; simp
    · rw [P.bind_err (by rw [fetchBe16_eq hq, dif_neg h2]), dif_neg h2]; simp

/-- the message the reference decoder builds from the header octets and the decoded sections -/
def refMsg (bs : Bytes) (h12 : 12 ≤ bs.size) (qs : List Rfc.Question) (an ns ar : List Rfc.RR) : Rfc.Msg :=
  let f1 := (bs[2]'(by omega)).toNat
  let f2 := (bs[3]'(by omega)).toNat
  { id := be16At bs 0 (by omega), qr := f1 / 128 = 1, opcode := f1 / 8 % 16, aa := f1 / 4 % 2 = 1,
    tc := f1 / 2 % 2 = 1, rd := f1 % 2 = 1, ra := f2 / 128 = 1, z := f2 / 64 % 2 = 1, ad := f2 / 32 % 2 = 1,
    cd := f2 / 16 % 2 = 1, rcode := f2 % 16, questions := qs, answers := an, authority := ns, additional := ar }

theorem decode_eq {bs : Bytes} (h12 : 12 ≤ bs.size) :
    Rfc.decode bs =
      match Rfc.decodeQuestions bs (be16At bs 4 (by omega)) 12 with
      | none => none
      | some (qs, p1) =>
        match Rfc.decodeRRs bs (be16At bs 6 (by omega)) p1 with
        | none => none
        | some (an, p2) =>
          match Rfc.decodeRRs bs (be16At bs 8 (by omega)) p2 with
          | none => none
          | some (ns, p3) =>
            match Rfc.decodeRRs bs (be16At bs 10 (by omega)) p3 with
            | none => none
            | some (ar, _) => some (refMsg bs h12 qs an ns ar) := by
  unfold Rfc.decode
  simp only [u16At_eq, byteAt_eq]
  rw [dif_pos (by omega), dif_pos (by omega), dif_pos (by omega), dif_pos (by omega), dif_pos (by omega),
    dif_pos (by omega), dif_pos (by omega)]
  rfl

theorem decode_short {bs : Bytes} (h12 : ¬ 12 ≤ bs.size) : Rfc.decode bs = none := by
  unfold Rfc.decode
  rw [u16At_eq bs 10, dif_neg (by omega)]
  split
  · rename_i h; cases h
  · rfl

theorem decode_eq_some_iff {bs : Bytes} (h12 : 12 ≤ bs.size) (m : Rfc.Msg) :
    Rfc.decode bs = some m ↔
      ∃ qs p1 an p2 ns p3 ar p4, Rfc.decodeQuestions bs (headerAt bs h12).qdcount 12 = some (qs, p1) ∧
        Rfc.decodeRRs bs (headerAt bs h12).ancount p1 = some (an, p2) ∧
        Rfc.decodeRRs bs (headerAt bs h12).nscount p2 = some (ns, p3) ∧
        Rfc.decodeRRs bs (headerAt bs h12).arcount p3 = some (ar, p4) ∧ m = refMsg bs h12 qs an ns ar := by
  rw [decode_eq h12]
  constructor
  · intro h
    split at h
    · cases h
    · rename_i qs p1 hq
      split at h
      · cases h
      · rename_i an p2 h1
        split at h
        · cases h
        · rename_i ns p3 h2
          split at h
          · cases h
          · rename_i ar p4 h3
            injection h with h
            exact ⟨qs, p1, an, p2, ns, p3, ar, p4, hq, h1, h2, h3, h.symm⟩
  · rintro ⟨qs, p1, an, p2, ns, p3, ar, p4, hq, h1, h2, h3, rfl⟩
    simp only [headerAt] at hq h1 h2 h3
    rw [hq]
    simp only [h1, h2, h3]

/-- flag bits, OPCODE and RCODE: what `ares_dns_parse_header` extracts with masks and shifts is what the
    reference decoder extracts by division/modulo -/
theorem headerAt_refMsg {bs : Bytes} (h12 : 12 ≤ bs.size) (qs : List Rfc.Question) (an ns ar : List Rfc.RR) :
    (headerAt bs h12).flags = Rfc.flagBits (refMsg bs h12 qs an ns ar) ∧
      (headerAt bs h12).opcode = (refMsg bs h12 qs an ns ar).opcode ∧
      (headerAt bs h12).rawRcode = (refMsg bs h12 qs an ns ar).rcode := by
  have hw : be16At bs 2 (by omega) = bs[2].toNat * 256 + bs[3].toNat := be16At_eq _
  exact ⟨headerFlags_eq _ hw bs[2].toNat_lt bs[3].toNat_lt rfl rfl rfl rfl rfl rfl rfl,
    opcode_rcode_eq hw bs[3].toNat_lt⟩

/-- the record `parseMsg` assembles from the header and the sections is the API's view of `refMsg` -/
theorem refMsg_toRec {bs : Bytes} (h12 : 12 ≤ bs.size) (qs : List Rfc.Question) {man mns mar : List Rfc.RR}
    {an ns ar : List RR} (t1 : Rfc.rrsToRec man = some an) (t2 : Rfc.rrsToRec mns = some ns)
    (t3 : Rfc.rrsToRec mar = some ar) :
    (refMsg bs h12 qs man mns mar).toRec =
      some { id := (headerAt bs h12).id, flags := (headerAt bs h12).flags, opcode := (headerAt bs h12).opcode,
             rcode := if rcodeValid ((headerAt bs h12).rawRcode ||| hiList man ||| hiList mns ||| hiList mar) = true
               then (headerAt bs h12).rawRcode ||| hiList man ||| hiList mns ||| hiList mar else 2,
             qd := qs.map Rfc.Question.toRec, an := an, ns := ns, ar := ar } := by
  obtain ⟨hf, ho, hr⟩ := headerAt_refMsg h12 qs man mns mar
  have h16 : (refMsg bs h12 qs man mns mar).rcode < 16 := Nat.mod_lt _ (by decide)
  rw [toRec_eq _ t1 t2 t3, fullRcode_eq _ h16, hf, ho, hr]
  rfl

theorem decodeQuestions_length {bs : Bytes} (n : Nat) :
    ∀ {p p' : Nat} {qs : List Rfc.Question}, Rfc.decodeQuestions bs n p = some (qs, p') → qs.length = n := by
  induction n with
  | zero =>
    intro p p' qs h
    simp only [Rfc.decodeQuestions, Option.some.injEq, Prod.mk.injEq] at h
    rw [← h.1]; rfl
  | succ n ih =>
    intro p p' qs h
    simp only [Rfc.decodeQuestions] at h
    split at h
    · split at h
      · rename_i h2
        simp only [Option.some.injEq, Prod.mk.injEq] at h
        rw [← h.1, List.length_cons, ih h2]
      · cases h
    · cases h

theorem decode_toRec_isSome {bs : Bytes} {m : Rfc.Msg} (hd : Rfc.decode bs = some m)
    (hs : Rfc.supported bs m = true) : m.toRec.isSome = true := by
  by_cases h12 : 12 ≤ bs.size
  · obtain ⟨qs, p1, man, p2, mns, p3, mar, p4, -, hd1, hd2, hd3, rfl⟩ := (decode_eq_some_iff h12 m).1 hd
    obtain ⟨-, -, -, -, hs1, hs2, hs3⟩ := (supported_iff bs _).1 hs
    obtain ⟨an, t1⟩ := Option.isSome_iff_exists.1 (rrsToRec_isSome _ hd1 hs1)
    obtain ⟨ns, t2⟩ := Option.isSome_iff_exists.1 (rrsToRec_isSome _ hd2 hs2)
    obtain ⟨ar, t3⟩ := Option.isSome_iff_exists.1 (rrsToRec_isSome _ hd3 hs3)
    rw [toRec_eq _ t1 t2 t3]
    rfl
  · rw [decode_short h12] at hd
    cases hd

theorem toRec_sections {m : Rfc.Msg} {r : Rec} (h : m.toRec = some r) :
    Rfc.rrsToRec m.answers = some r.an ∧ Rfc.rrsToRec m.authority = some r.ns ∧
      Rfc.rrsToRec m.additional = some r.ar := by
  unfold Rfc.Msg.toRec at h
  split at h
  · rename_i an ns ar h1 h2 h3
    cases h
    exact ⟨h1, h2, h3⟩
  · cases h

/-- **the parser accepts exactly the messages the reference decodes and c-ares supports, and returns the record
    that presents the decoded message** -/
theorem parse_ok_iff (bs : Bytes) (r : Rec) :
    parse bs 0 = .ok r ↔ ∃ m, Rfc.decode bs = some m ∧ Rfc.supported bs m = true ∧ m.toRec = some r := by
  by_cases h12 : 12 ≤ bs.size
  · have hparse : parse bs 0 = .ok r ↔ bs.size ≤ 65535 ∧ ∃ o, parseMsg bs 0 0 = .ok r o :=
      parse_eq_ok.trans (and_iff_right (by omega))
    rw [hparse]
    constructor
    · rintro ⟨hsz, o, hr⟩
      unfold parseMsg at hr
      obtain ⟨hd, o1, g1, hr⟩ := P.bind_eq_ok hr
      rw [parseHeader_eq h12] at g1
      split at g1
      · rename_i hop
        cases g1
        split at hr
        · simp at hr
        · split at hr
          · simp at hr
          · rename_i hq0 hq1
            have hqd : (headerAt bs h12).qdcount = 1 := by omega
            obtain ⟨q, o2, g2, hr⟩ := P.bind_eq_ok hr
            obtain ⟨rq, dq, rfl, cq⟩ := (parseQd_ok_iff h12).1 g2
            have bq := ((post_parseQd h12).safe.ok g2).2
            obtain ⟨⟨an, hi1⟩, o3, g3, hr⟩ := P.bind_eq_ok hr
            obtain ⟨man, d1, s1, t1, rfl⟩ := (parseRRs_ok_iff bq).1 g3
            have b1 := ((post_parseRRs 0 .answer _ bq).safe.ok g3).2
            obtain ⟨⟨ns, hi2⟩, o4, g4, hr⟩ := P.bind_eq_ok hr
            obtain ⟨mns, d2, s2, t2, rfl⟩ := (parseRRs_ok_iff b1).1 g4
            have b2 := ((post_parseRRs 0 .authority _ b1).safe.ok g4).2
            obtain ⟨⟨ar, hi3⟩, o5, g5, hr⟩ := P.bind_eq_ok hr
            obtain ⟨mar, d3, s3, t3, rfl⟩ := (parseRRs_ok_iff b2).1 g5
            cases hr
            have hdq : Rfc.decodeQuestions bs (headerAt bs h12).qdcount 12 = some ([rq], o2) := by
              rw [hqd]
              simp only [Rfc.decodeQuestions, dq]
            refine ⟨refMsg bs h12 [rq] man mns mar, ?_, ?_, refMsg_toRec h12 [rq] t1 t2 t3⟩
            · exact (decode_eq_some_iff h12 _).2 ⟨_, _, _, _, _, _, _, _, hdq, d1, d2, d3, rfl⟩
            · rw [supported_iff]
              refine ⟨hsz, ?_, rfl, ?_, s1, s2, s3⟩
              · rw [← (headerAt_refMsg h12 _ _ _ _).2.1]; exact hop
              · simp only [refMsg, List.all_cons, List.all_nil, Bool.and_true]; exact cq
      · simp at g1
    · rintro ⟨m, hd, hs, ht⟩
      obtain ⟨qs, p1, man, p2, mns, p3, mar, p4, hdq, hd1, hd2, hd3, rfl⟩ := (decode_eq_some_iff h12 m).1 hd
      obtain ⟨hsz, hop, hql, hqc, hs1, hs2, hs3⟩ := (supported_iff bs _).1 hs
      obtain ⟨t1, t2, t3⟩ := toRec_sections ht
      rw [← (headerAt_refMsg h12 _ _ _ _).2.1] at hop
      have hqd : (headerAt bs h12).qdcount = 1 := (decodeQuestions_length _ hdq).symm.trans hql
      rw [hqd] at hdq
      simp only [Rfc.decodeQuestions] at hdq
      cases hq1 : Rfc.decodeQuestion bs 12 with
      | none => rw [hq1] at hdq; simp at hdq
      | some y =>
        obtain ⟨rq, pq⟩ := y
        rw [hq1] at hdq
        cases hdq
        have hc : qclassOk rq.qclass = true := by
          simpa only [refMsg, List.all_cons, List.all_nil, Bool.and_true] using hqc
        have gq := (parseQd_ok_iff h12).2 ⟨rq, hq1, rfl, hc⟩
        have bq := ((post_parseQd h12).safe.ok gq).2
        have g3 := (parseRRs_ok_iff (sect := .answer) bq).2 ⟨man, hd1, hs1, t1, rfl⟩
        have b1 := ((post_parseRRs 0 .answer _ bq).safe.ok g3).2
        have g4 := (parseRRs_ok_iff (sect := .authority) b1).2 ⟨mns, hd2, hs2, t2, rfl⟩
        have b2 := ((post_parseRRs 0 .authority _ b1).safe.ok g4).2
        have g5 := (parseRRs_ok_iff (sect := .additional) b2).2 ⟨mar, hd3, hs3, t3, rfl⟩
        refine ⟨hsz, p4, ?_⟩
        unfold parseMsg
        rw [P.bind_ok (by rw [parseHeader_eq h12, if_pos hop])]
        simp only
        rw [if_neg (by omega), if_neg (by omega), P.bind_ok gq, P.bind_ok g3]
        simp only
        rw [P.bind_ok g4]
        simp only
        rw [P.bind_ok g5]
        simp only [P.pure_apply]
        have := (refMsg_toRec h12 [rq] t1 t2 t3).symm.trans ht
        simp only [Option.some.injEq] at this
        rw [← this]
        rfl
  · constructor
    · intro h
      obtain ⟨e, he⟩ := parseHeader_short h12
      obtain ⟨_, _, o, hr⟩ := parse_eq_ok.1 h
      unfold parseMsg at hr
      rw [P.bind_err he] at hr
      cases hr
    · rintro ⟨m, hd, _⟩
      rw [decode_short h12] at hd
      cases hd

end Cares.Dns
