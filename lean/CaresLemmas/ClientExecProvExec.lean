import CaresLemmas.ClientExecProv
import CaresLemmas.ClientExecReplayExec
/-!
# Provenance of the replies handed to `clientOnCb`, continued: one more client event, the cache hit, every procedure
-/
namespace Cares.Chan

/-- one more client event, carrying (if any) a response that comes from `base` -/
theorem PVv.snoc {base L acc cache} (h : PVv base L acc cache) (i : CItem)
    (hi : ∀ r, i.rec? = some r → FromAcc base r) : PVv base (L ++ [i]) acc cache := by
  refine ⟨h.1, h.2.1, fun id st t r qa qb hm => ?_⟩
  rcases List.mem_append.mp hm with hm | hm
  · exact h.2.2 id st t r qa qb hm
  · exact (hi r (List.mem_singleton.mp hm ▸ rfl)).mono h.1

section
variable {goC : GoC} (hgo : GoPV goC)
include hgo

/-- a cache hit: the entry's record is an accepted response -/
theorem sendNolock_hit_PV (o : Owner) (re : List Nat) (sp : ReqSpec) (s : St) (e : CacheEntry) (L : CLog) (base)
    (h : Prov base L s) (he : s.cacheExpire.cacheFetch sp.name sp.qtype sp.qclass sp.rd = some e) :
    Keeps (PVk base) L (goC (.callback o re .ok 0
      (some { e.reply with ttls := e.reply.ttls.map (· - (s.cacheExpire.nowSec - e.insert)) })) s.cacheExpire) := by
  have h1 : PVv s.accepted L s.accepted s.cacheExpire.cache := (PVv.expire h).rebase fun _ hx => hx
  have h2 := hgo (.callback o re .ok 0
      (some { e.reply with ttls := e.reply.ttls.map (· - (s.cacheExpire.nowSec - e.insert)) }))
    s.cacheExpire L s.accepted h1 (by
    intro r hr
    simp only [Call.rec?, Option.some.injEq] at hr
    obtain ⟨e0, hm, hr0, _⟩ := cacheFetch_mem he
    obtain ⟨fd, key, hk⟩ := h.2.1 e0 hm
    exact .inr ⟨fd, key, e.reply, _, hr0 ▸ hk, hr.symm⟩)
  exact h2.rebase fun x hx => h2.1 x (h.1 x hx)

theorem execCBody_PV : GoPV (execCBody goC) := fun c s L base h hrec =>
  execCBody_ev (P := fun _ => PVk base) (R := FromAcc base) (fun c s L _ hr h => hgo c s L base h hr)
    (fun i hi _ h => h.snoc i hi) (fun _ _ _ h' => PVv.expire h')
    (fun _ _ L s' e o re sp h' he => sendNolock_hit_PV hgo o re sp s' e L base h' he)
    (fun _ _ fd r c key q s' L' h' => paDeliverC_PV hgo fd r c key q s' L' base h') c s L [] hrec h

end

theorem execC_PV : ∀ fuel, GoPV (execC fuel)
  | 0 => fun _ _ _ _ h _ => by simpa only [execC, List.append_nil, Prov, chan_frame] using h
  | fuel + 1 => execCBody_PV (execC_PV fuel)

/-- **Provenance of the replies handed to `clientOnCb`, one procedure.**  If every cache entry's record is an accepted
    response and the call carries no response of its own (every top-level call), then afterwards every reply a
    completion callback of a compound request was invoked with is an accepted response or the aged copy of a cached
    accepted response; `accepted` only grows and the cache invariant is kept. -/
theorem exec_cb_provenance (fuel : Nat) (call : Call) (s : St) (hc : CacheProv s) (hr : call.rec? = none) :
    (∀ e ∈ s.accepted, e ∈ (exec fuel call s).1.accepted) ∧ CacheProv (exec fuel call s).1 ∧
    CbsFrom (exec fuel call s).1.accepted (execC fuel call s).2 := by
  have h := execC_PV fuel call s [] s.accepted ⟨fun _ h => h, hc, fun _ _ _ _ _ _ h => nomatch h⟩
    (fun r hr' => by rw [hr] at hr'; cases hr')
  rw [execC_fst, List.nil_append] at h
  exact h

end Cares.Chan
