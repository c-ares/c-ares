import CaresLemmas.ChanPolicyProbeCount
import CaresLemmas.ChanPolicyProbe
/-!
# C09 — `one_probe_per_send`: budgets of `sendQuery`, `probe`, `sendNolock`, reactions, and the run theorem
-/
namespace Cares.Chan

/-- what one `ares_send_query` may create: a probe query — only when no server is requested and the query has not
    been tried yet -/
def sqBudget (rs : Option Nat) (key : Nat) (s : St) : Nat :=
  if rs.isNone && ((s.query? key).map (·.tryCount == 0)).getD false then 1 else 0

/-- what one `ares_send_nolock` may create: the request itself and, unless a server is requested (as for a probe
    itself), one probe -/
def snBudget (rs : Option Nat) : Nat := if rs.isSome then 1 else 2

/-- what is known about the calls a body makes: each spends at most its budget -/
structure GoB (N r0 : Nat) (go : Call → St → St × Ret) : Prop where
  zero : ∀ a, GoZ N r0 a go
  sendQuery : ∀ a rs key s, K N r0 (a + sqBudget rs key s) s → K N r0 a (go (.sendQuery rs key) s).1
  probe : ∀ a x y s, K N r0 (a + 1) s → K N r0 a (go (.probe x y) s).1
  sendNolock : ∀ a rs nc nr spec owner react s, K N r0 (a + snBudget rs) s →
    K N r0 a (go (.sendNolock rs nc nr spec owner react) s).1

section
variable {N r0 a : Nat} {go : Call → St → St × Ret}

/-- `ares_requeue_query` counting a try spends nothing: the query is re-sent with `try_count > 0` or ended -/
theorem bodyRequeue_b (hgo : GoB N r0 go) (key : Nat) (st : Status) (rec : Option Reply) (deferred : Bool) (s : St)
    (h : K N r0 a s) : K N r0 a (bodyRequeue go key st true rec deferred s).1 := by
  unfold bodyRequeue
  split
  · exact K.mfault h
  · rename_i q0 hq
    dsimp only
    generalize hs' : St.modQuery (St.removeFromConn s key) key _ = s'
    have hK : K N r0 a s' := by
      rw [← hs']
      repeat' (k_step (hgo.zero a))
    have hq2 : ∃ q1, s'.query? key = some q1 ∧ 0 < q1.tryCount := by
      rw [← hs', query?_requeued hq]
      exact ⟨_, rfl, Nat.succ_pos _⟩
    obtain ⟨q1, hq1, hpos⟩ := hq2
    rw [hq1]
    simp only [Option.getD_some]
    split
    · split
      · exact K.congr (s := s') rfl rfl rfl hK
      · have hb : sqBudget none key s' = 0 := by
          unfold sqBudget; rw [hq1]
          have : (q1.tryCount == 0) = false := by
            rw [beq_eq_false_iff_ne]; omega
          simp [this]
        apply hgo.sendQuery a none key s'
        rw [hb]; exact hK
    · exact hgo.zero a _ _ ⟨rfl, K.modQuery hK⟩

/-- `ares_probe_failed_server` spends at most one: the probe -/
theorem bodyProbe_b (hgo : GoB N r0 go) (x y : Nat) (s : St) (h : K N r0 (a + 1) s) :
    K N r0 a (bodyProbe go x y s).1 := by
  unfold bodyProbe
  chan_paths
  all_goals first
    | (apply K.drop (b := 1); (repeat' (k_step (hgo.zero (a + 1)))); done)
    | ((with_reducible apply pair_fst; assumption); apply hgo.sendNolock a (some _)
       (repeat' (k_step (hgo.zero (a + 1)))); done)

/-- `go` as `ares_send_query` with the probe lottery switched off sees it: the lottery is a no-op, every other call
    it makes is free -/
def freeNoProbe (go : Call → St → St × Ret) : Call → St → St × Ret
  | .probe _ _, s => (s, .ok)
  | c, s => freeOnly go c s

/-- without the lottery `ares_send_query` spends nothing -/
theorem bodySendQuery_noProbe_z (hz : GoZ N r0 a go) (rs : Option Nat) (key : Nat) (s : St) (h : K N r0 a s) :
    K N r0 a (bodySendQuery (noProbe go) rs key s).1 := by
  -- the calls of `ares_send_query` are free or the lottery; block by block, because `rfl` on the whole body is slow to check
  have e : execBody (freeNoProbe go) (.sendQuery rs key) s = bodySendQuery (noProbe go) rs key s := by
    have h1 : ∀ a b c d, freeNoProbe go (.endQuery a b c d) = noProbe go (.endQuery a b c d) := fun _ _ _ _ => rfl
    have h2 : ∀ k st rec d, freeNoProbe go (.requeue k st true rec d) = noProbe go (.requeue k st true rec d) :=
      fun _ _ _ _ => rfl
    have h3 : sqFlush (freeNoProbe go) = sqFlush (noProbe go) := rfl
    have h4 : sqAfter (freeNoProbe go) = sqAfter (noProbe go) := rfl
    show bodySendQuery (freeNoProbe go) rs key s = _
    rw [bodySendQuery_eq, bodySendQuery_eq]
    unfold sendQueryBlocks
    simp only [h1, h2, h3, h4]
  have hgo : GoInv (K N r0 a) (freeNoProbe go) := by
    intro c s h
    unfold freeNoProbe
    split
    · exact h
    · exact hz.freeOnly c s h
  rw [← e]
  exact execBody_invariant (.sendQuery rs key) (K.prim rfl) hgo s h

/-- `ares_send_query` spends at most `sqBudget`: it is the body without lottery, followed by at most one call of the
    lottery, and that only for an untried query without a requested server (`bodySendQuery_once`) -/
theorem bodySendQuery_b (hgo : GoB N r0 go) (rs : Option Nat) (key : Nat) (s : St)
    (h : K N r0 (a + sqBudget rs key s) s) : K N r0 a (bodySendQuery go rs key s).1 := by
  rcases bodySendQuery_once go rs key s with e | ⟨hrs, ⟨q, hq, ht⟩, _, srvId, e⟩
  · rw [e]; exact K.drop (bodySendQuery_noProbe_z (hgo.zero _) rs key s h)
  · rw [e]
    have hb : sqBudget rs key s = 1 := by simp [sqBudget, hrs, hq, ht]
    rw [hb] at h
    exact hgo.probe a srvId key _ (bodySendQuery_noProbe_z (hgo.zero _) rs key s h)

theorem sqBudget_le (rs : Option Nat) (key : Nat) (s : St) : 1 + sqBudget rs key s ≤ snBudget rs := by
  unfold sqBudget snBudget
  cases rs <;> simp <;> split <;> omega

/-- the new query costs one -/
theorem K.snCreate {s : St} (qid : Nat) (noretry : Bool) (spec : ReqSpec) (owner : Owner) (react : List Nat)
    (h : K N r0 (a + 1) s) : K N r0 a (snCreate s qid noretry spec owner react) := by
  obtain ⟨o, f, q, _, _, _, _, e⟩ := snCreate_shape s qid noretry spec owner react
  rw [e]
  exact ⟨h.1, by show s.nextKey + 1 + a + 2 * r0 ≤ N + 2 * s.reactSeq; have := h.2; omega⟩

/-- `ares_send_nolock` spends one for the request and at most one more -/
theorem bodySendNolock_b (hgo : GoB N r0 go) (rs : Option Nat) (nc nr : Bool) (spec : ReqSpec) (owner : Owner)
    (react : List Nat) (s : St) (h : K N r0 (a + snBudget rs) s) :
    K N r0 a (bodySendNolock go rs nc nr spec owner react s).1 := by
  rw [bodySendNolock_stages]
  have h0 : K N r0 (a + snBudget rs) (genQid 70000 s).2 :=
    genQid_elim (P := K N r0 (a + snBudget rs)) fun _ _ => K.congr (s := s) rfl rfl rfl h
  generalize genQid 70000 s = p at h0
  have h1 : K N r0 (a + snBudget rs) (if nc = true then p.2 else p.2.cacheExpire) := by
    split
    · exact h0
    · exact K.cacheExpire h0
  dsimp only
  generalize (if nc = true then p.2 else p.2.cacheExpire) = s1 at h1
  -- the early failures: the owner's callback spends nothing
  have cb : ∀ st rec (s' : St), K N r0 (a + snBudget rs) s' → K N r0 a (go (.callback owner react st 0 rec) s').1 :=
    fun st rec s' h' => K.drop (hgo.zero _ _ _ ⟨rfl, h'⟩)
  ite_split
  · exact cb _ _ _ h0
  · split
    · exact cb _ _ _ h1
    · ite_split
      · exact cb _ _ _ h1
      · refine hgo.sendQuery a rs _ _ (K.le ?_ (K.snCreate (a := a + (snBudget rs - 1)) p.1 nr spec owner react
          (K.le (by unfold snBudget; split <;> omega) h1)))
        have := sqBudget_le rs s1.nextKey (snCreate s1 p.1 nr spec owner react)
        omega

/-- the reaction list of a user callback: a `send` reaction pays for its request with the two units the increment of
    `reactSeq` provides; a `cancel` reaction spends nothing -/
theorem bodyReactions_b (hgo : GoB N r0 go) (l : List Nat) (s : St) (h : K N r0 a s) :
    K N r0 a (bodyReactions go l s).1 := by
  have hz := hgo.zero a
  unfold bodyReactions
  split
  · exact h
  · split
    · exact h
    · refine hz _ _ ⟨rfl, ?_⟩
      split
      · exact h
      · split
        · exact hz _ _ ⟨rfl, K.emit h⟩
        · split
          · extract_lets tok sA sB sC
            have hs : K N r0 (a + snBudget none) sC := by
              refine ⟨h.1, ?_⟩
              have := h.2
              show s.nextKey + (a + 2) + 2 * r0 ≤ N + 2 * (s.reactSeq + 1)
              omega
            split
            rename_i s' st heq
            apply K.emit
            exact pair_fst heq (hgo.sendNolock a none _ _ _ _ _ _ hs)
          · exact h

end

/-- the statement proved by induction over the fuel: budget per call -/
def CountSpec (N r0 : Nat) (c : Call) (s : St) (r : St × Ret) : Prop :=
  match c with
  | .sendQuery rs key => ∀ a, K N r0 (a + sqBudget rs key s) s → K N r0 a r.1
  | .probe _ _ => ∀ a, K N r0 (a + 1) s → K N r0 a r.1
  | .sendNolock rs _ _ _ _ _ => ∀ a, K N r0 (a + snBudget rs) s → K N r0 a r.1
  | c => ∀ a, PreZ N r0 a c s → K N r0 a r.1

theorem GoB.ofSpec {N r0 : Nat} {go : Call → St → St × Ret} (h : ∀ c s, CountSpec N r0 c s (go c s)) :
    GoB N r0 go where
  zero := by
    intro a c s hp
    have := h c s
    cases c <;> first | exact this a hp | exact Bool.noConfusion hp.1
  sendQuery := fun a rs key s hk => h (.sendQuery rs key) s a hk
  probe := fun a x y s hk => h (.probe x y) s a hk
  sendNolock := fun a rs nc nr spec owner react s hk => h (.sendNolock rs nc nr spec owner react) s a hk

theorem execBody_count {N r0 : Nat} {go : Call → St → St × Ret} (hgo : ∀ c s, CountSpec N r0 c s (go c s))
    (c : Call) (s : St) : CountSpec N r0 c s (execBody go c s) := by
  have hb := GoB.ofSpec hgo
  cases c
  case sendNolock rs nc nr spec owner react => exact fun a hk => bodySendNolock_b hb rs nc nr spec owner react s hk
  case sendQuery rs key => exact fun a hk => bodySendQuery_b hb rs key s hk
  case probe x y => exact fun a hk => bodyProbe_b hb x y s hk
  case requeue key st inc rec d =>
    intro a ⟨hi, hk⟩
    obtain rfl : inc = true := hi
    exact bodyRequeue_b hb key st rec d s hk
  case callback a1 a2 a3 a4 a5 => exact fun a hp => bodyCallback_z (hb.zero a) a1 a2 a3 a4 a5 s hp.2
  case reactions l => exact fun a hp => bodyReactions_b hb l s hp.2
  all_goals first
    | exact fun a hp => Bool.noConfusion hp.1
    | exact fun a hp => execBody_keeps_z (hb.zero a) _ rfl s rfl hp.2

theorem exec_count (N r0 : Nat) (fuel : Nat) (c : Call) (s : St) : CountSpec N r0 c s (exec fuel c s) := by
  refine exec_induct (P := CountSpec N r0) ?_ (fun go hgo c s => execBody_count hgo c s) fuel c s
  intro c s
  cases c
  case sendNolock => exact fun a hk => K.oof (K.drop hk)
  case sendQuery => exact fun a hk => K.oof (K.drop hk)
  case probe => exact fun a hk => K.oof (K.drop hk)
  all_goals exact fun a hp => K.oof hp.2

/-- the run of one `ares_send_nolock` on a channel without compound requests: at most `snBudget` queries, plus two
    for every request a callback reaction started meanwhile -/
theorem exec_sendNolock_count (fuel : Nat) (rs : Option Nat) (nc nr : Bool) (spec : ReqSpec) (owner : Owner)
    (react : List Nat) (s : St) (hc : s.clients = []) :
    let r := (exec fuel (.sendNolock rs nc nr spec owner react) s).1
    r.clients = [] ∧ r.nextKey + 2 * s.reactSeq ≤ s.nextKey + snBudget rs + 2 * r.reactSeq := by
  have h := exec_count (s.nextKey + snBudget rs) s.reactSeq fuel (.sendNolock rs nc nr spec owner react) s 0
    ⟨hc, by omega⟩
  exact ⟨h.1, by have := h.2; omega⟩

end Cares.Chan
