import CaresLemmas.ChanPolicyProbeFlagExec
/-!
# C09 — `probe_pending` over whole runs: the invariant without ghost parameters, and `ares_cancel`

`ProbeInv s`: every stored query has a key below the allocation counter, and a server is flagged `probe_pending` only
if a query owned by `probe <its id>` is stored.  `exec_probeInv`: every completed run of every procedure keeps it
(a probe's own `ares_send_nolock` and callback may be entered with the flag of *their* server set and no query yet /
any more).  `exec_cancel_probes`: after a completed `ares_cancel` every flagged server has a probe query that was
created during the cancel.

A fact about a run that needs a ghost (a released key in `Z`, the owners `O0` of the old keys) enters with
`PXv.ofProbeInv` at the ghosts `gh0 s`, sets the component it needs by giving the nine clauses again (the others are the
same by definition: `hpop` in `exec_cancel_probes`), runs `(goP_exec fuel).inv` and leaves through `PXo.live`;
`exec_probeInv` is this route with `gh0 s` as it is, and keeps `ProbeInv` and the growth of `nextKey` only.
-/
namespace Cares.Chan

/-- a server is marked as being probed only while a probe query for it exists (`H`: the server id exempted) -/
def ProbeInvH (H : Option Nat) (s : St) : Prop :=
  (∀ q ∈ s.qs, q.key < s.nextKey) ∧
  ∀ v ∈ s.servers, v.probePending = true → some v.id = H ∨ ∃ k q, s.query? k = some q ∧ q.owner = .probe v.id

def ProbeInv (s : St) : Prop := ProbeInvH none s

theorem owner?_isSome_iff (s : St) (k : Nat) : ((pview s).owner? k).isSome ↔ ∃ q, s.query? k = some q := by
  rw [owner?_pview]
  cases s.query? k with
  | none => simp
  | some q => simp

theorem owner?_eq_some_iff (s : St) (k : Nat) (o : Owner) :
    (pview s).owner? k = some o ↔ ∃ q, s.query? k = some q ∧ q.owner = o := by
  rw [owner?_pview]
  cases s.query? k with
  | none => simp
  | some q => simp

/-- the ghost parameters of a top-level call: nothing doomed, nothing condemned, nothing released -/
def gh0 (s : St) : Gh :=
  { D := [], m := s.listCopy.length, C := [], n := 0, Z := [], K0 := s.nextKey,
    O0 := fun k => (s.query? k).map (·.owner), L := s.modelFaults.length }

theorem PXv.ofProbeInv {H : Option Nat} {s : St} (h : ProbeInvH H s) : PXv (gh0 s) H (pview s) := by
  have hkeys : ∀ k, ((pview s).owner? k).isSome → k < s.nextKey := by
    intro k hk
    obtain ⟨q, hq⟩ := (owner?_isSome_iff s k).1 hk
    have := h.1 q (query?_mem hq)
    rw [query?_key hq] at this; exact this
  refine ⟨hkeys, ⟨Nat.le_refl _, fun k o _ hko => ?_⟩, (fun e he => nomatch he), ?_, rfl, (fun hc => absurd rfl hc),
    (fun k hk => nomatch hk), (fun k hk => nomatch hk), Nat.le_refl _⟩
  · rw [owner?_pview] at hko; exact hko
  · intro v hv hp
    rcases h.2 v hv hp with hh | ⟨k, q, hq, ho⟩
    · exact Or.inl hh
    · exact Or.inr ⟨k, (owner?_eq_some_iff s k _).2 ⟨q, hq, ho⟩⟩

theorem ProbeInv.ofPXv {g : Gh} {s : St} (h : PXv g none (pview s)) : ProbeInv s := by
  refine ⟨fun q hq => ?_, fun v hv hp => ?_⟩
  · refine h.keys q.key ?_
    rw [owner?_pview]
    have : (s.query? q.key).isSome := by
      unfold St.query?
      rw [List.find?_isSome]
      exact ⟨q, hq, by simp⟩
    cases hx : s.query? q.key with
    | none => rw [hx] at this; cases this
    | some x => rfl
  · rcases h.flag v hv hp with hh | ⟨k, hk⟩
    · cases hh
    · obtain ⟨q, hq, ho⟩ := (owner?_eq_some_iff s k _).1 hk
      exact Or.inr ⟨k, q, hq, ho⟩

/-- **every completed run keeps `ProbeInv`.**  A call other than a probe's own `ares_send_nolock` / callback needs the
    plain invariant (`preHole c = none`); those two may be entered with the flag of the probed server set and no
    query for it — and leave with the invariant restored: the query now exists, or the callback has reset the flag. -/
theorem exec_probeInv (fuel : Nat) (c : Call) (s : St) (h : ProbeInvH (preHole c) s)
    (hf : (exec fuel c s).1.outOfFuel = false) :
    ProbeInv (exec fuel c s).1 ∧ s.nextKey ≤ (exec fuel c s).1.nextKey := by
  have hx := ((goP_exec fuel).inv (gh0 s) c s (Or.inr (PXv.ofProbeInv h))).live hf
  exact ⟨ProbeInv.ofPXv hx, hx.base.1⟩

theorem reverse_cons_getElem?_length {α : Type} (a : α) (l : List α) : (a :: l).reverse[l.length]? = some a := by
  rw [List.reverse_cons, List.getElem?_append_right (by rw [List.length_reverse]; exact Nat.le_refl _)]
  simp

/-- what the cancel theorem needs of the start state besides `ProbeInv`: the keys linked in `all` have been allocated,
    and every stored probe query is linked in `all` (both follow from C01's invariant `Wf`: the stored queries are
    exactly the linked ones, and between API calls they are all in `all`) -/
structure CancelPre (s : St) : Prop where
  inv : ProbeInv s
  allocated : ∀ k ∈ s.all, k < s.nextKey
  linked : ∀ k q pid, s.query? k = some q → q.owner = .probe pid → k ∈ s.all

/-- after a completed `ares_cancel` that raised no model fault: the invariant holds, every query that was linked in
    `all` is gone, and a server that is (still or again) flagged has a probe query that was created *during* the cancel
    — by a request that a completion callback started -/
theorem exec_cancel_probes (fuel : Nat) (s : St) (hp : CancelPre s)
    (hf : (exec fuel .cancel s).1.outOfFuel = false)
    (hm : (exec fuel .cancel s).1.modelFaults = s.modelFaults) :
    ProbeInv (exec fuel .cancel s).1 ∧ s.nextKey ≤ (exec fuel .cancel s).1.nextKey ∧
    (∀ k ∈ s.all, (exec fuel .cancel s).1.query? k = none) ∧
    ∀ v ∈ (exec fuel .cancel s).1.servers, v.probePending = true →
      ∃ k q, s.nextKey ≤ k ∧ (exec fuel .cancel s).1.query? k = some q ∧ q.owner = .probe v.id := by
  cases fuel with
  | zero => have : true = false := hf; cases this
  | succ n =>
    have hgo := goP_exec n
    -- the walk, under the parameters "the list pushed now is condemned"
    let g1 : Gh := { gh0 s with m := s.listCopy.length + 1, C := s.all, n := s.listCopy.length }
    have h0 : PXv (gh0 s) none (pview s) := PXv.ofProbeInv hp.inv
    -- a final state with the invariant under parameters that say "the keys of `all` are released"
    suffices hx : PXv { gh0 s with Z := s.all } none (pview (exec (n + 1) .cancel s).1) by
      refine ⟨ProbeInv.ofPXv hx, hx.base.1, fun k hk => ?_, fun v hv hpv => ?_⟩
      · have := (hx.gone k hk).2
        rw [owner?_pview] at this
        cases hq : (exec (n + 1) .cancel s).1.query? k with
        | none => rfl
        | some q => rw [hq] at this; cases this
      · rcases hx.flag v hv hpv with hh | ⟨k, hk⟩
        · cases hh
        · obtain ⟨q, hq, ho⟩ := (owner?_eq_some_iff _ k _).1 hk
          refine ⟨k, q, ?_, hq, ho⟩
          -- an old key with that owner was linked in `all`, hence released
          apply Nat.le_of_not_lt
          intro hlt
          have hb := hx.base.2 k _ hlt hk
          have hb' : (s.query? k).map (·.owner) = some (.probe v.id) := hb
          cases hq0 : s.query? k with
          | none => rw [hq0] at hb'; cases hb'
          | some q0 =>
            rw [hq0] at hb'
            have ho0 : q0.owner = .probe v.id := by simpa using hb'
            have hin := hp.linked k q0 v.id hq0 ho0
            have := (hx.gone k hin).2
            rw [hk] at this; cases this
    have hrun : (exec (n + 1) .cancel s).1 = (bodyCancel (exec n) s).1 := rfl
    rw [hrun] at hf hm ⊢
    unfold bodyCancel at hf hm ⊢
    dsimp only at hf hm ⊢
    split at hf
    · -- nothing linked: only the clean-up of the connections runs
      rename_i hall
      rw [if_pos hall] at hm ⊢
      have hnil : s.all = [] := by simpa using hall
      have hz : PXv { gh0 s with Z := s.all } none (pview s) := by
        rw [hnil]; exact h0
      exact (hgo.inv _ (.cleanupConns ((s.sortedServers.map (·.conns)).flatten)) s (Or.inr hz)).live hf
    · rename_i hall
      rw [if_neg hall] at hm ⊢
      have h1 : PXv g1 none (pview ({ s with listCopy := s.all :: s.listCopy, all := [] } : St)) := by
        have hpush := PXv.push (g := gh0 s) (H := none) (p := pview s) s.all h0
        refine ⟨hpush.keys, hpush.base, hpush.doom, hpush.flag, hpush.depth, fun _ => Nat.lt_succ_self _, ?_,
          hpush.gone, hpush.mf⟩
        intro k hk
        refine ⟨hp.allocated k hk, fun _ => Or.inr ⟨s.all, ?_, hk⟩⟩
        exact reverse_cons_getElem?_length s.all s.listCopy
      generalize ({ s with listCopy := s.all :: s.listCopy, all := [] } : St) = s1 at h1 hf hm ⊢
      have hr1 := hgo.inv g1 (.cancelLoop .cancelled false) s1 (Or.inr h1)
      have ht1 := hgo.top g1 .cancelled s1 (Or.inr h1)
      generalize (exec n (.cancelLoop .cancelled false) s1).1 = r1 at hr1 ht1 hf hm ⊢
      -- out of fuel in the walk would be out of fuel at the end
      have hoof1 : r1.outOfFuel = false := by
        cases ho : r1.outOfFuel with
        | false => rfl
        | true =>
          have := hgo.oof (.cleanupConns (({ r1 with listCopy := r1.listCopy.drop 1 } : St).sortedServers.map
            (·.conns)).flatten) ({ r1 with listCopy := r1.listCopy.drop 1 } : St) ho
          rw [this] at hf; cases hf
      have hx1 : PXv g1 none (pview r1) := hr1.live hoof1
      -- no fault was raised in the walk (a run never removes model faults): the list on top was exhausted
      have hmf : ¬ g1.L < r1.modelFaults.length := by
        have h2 : r1.modelFaults.length ≤ s.modelFaults.length := by
          rw [← hm]
          exact exec_modelFaults_mono n (.cleanupConns _) ({ r1 with listCopy := r1.listCopy.drop 1 } : St)
        exact Nat.not_lt.2 h2
      have hhead : HeadEmpty r1 := by
        rcases ht1 with ho | hh | hh
        · rw [ho] at hoof1; cases hoof1
        · exact hh
        · exact absurd hh hmf
      -- so every condemned key has been released
      have hgone : ∀ k ∈ s.all, k < r1.nextKey ∧ (pview r1).owner? k = none := by
        intro k hk
        obtain ⟨hlt, hc⟩ := hx1.cond k hk
        refine ⟨hlt, ?_⟩
        cases hs : (pview r1).owner? k with
        | none => rfl
        | some o =>
          exfalso
          rcases hc (by rw [hs]; rfl) with hd | ⟨l, hl, hkl⟩
          · cases hd
          · -- the list at position `length` of a stack of height `length + 1` is its head
            have hlen : r1.listCopy.length = s.listCopy.length + 1 := hx1.depth
            cases hlc : r1.listCopy with
            | nil => rw [hlc] at hlen; cases hlen
            | cons a r =>
              rw [hlc] at hlen
              have hr : r.length = s.listCopy.length := by simpa using hlen
              have hl' : (a :: r).reverse[s.listCopy.length]? = some l := by rw [← hlc]; exact hl
              rw [← hr, reverse_cons_getElem?_length] at hl'
              have ha : a = [] := hhead a (by rw [hlc]; rfl)
              cases hl'
              rw [ha] at hkl; cases hkl
      -- the popped state, under the parameters that remember the released keys
      have hpop : PXv { gh0 s with Z := s.all } none (pview ({ r1 with listCopy := r1.listCopy.drop 1 } : St)) := by
        have := PXv.pop (g := gh0 s) (g' := { gh0 s with m := (gh0 s).m + 1 }) (H := none) (p := pview r1) rfl
          ⟨hx1.keys, hx1.base, hx1.doom, hx1.flag, hx1.depth, (fun hc => absurd rfl hc), (fun k hk => nomatch hk),
            hx1.gone, hx1.mf⟩ (fun hc => absurd rfl hc)
        exact ⟨this.keys, this.base, this.doom, this.flag, this.depth, this.lt, this.cond, hgone, this.mf⟩
      exact (hgo.inv _ (.cleanupConns (({ r1 with listCopy := r1.listCopy.drop 1 } : St).sortedServers.map
          (·.conns)).flatten) ({ r1 with listCopy := r1.listCopy.drop 1 } : St) (Or.inr hpop)).live hf

/-- `ares_send_nolock` for a probe when no query can be created — no server configured, or the request does not
    serialise (the model's stand-in for every early `goto done` of the C function, out-of-memory included): the
    owner's callback runs on the spot, and for a probe that is `server_probe_cb`: the flag of the probed server is
    reset.  Closed form, any fuel ≥ 2. -/
theorem exec_sendNolock_probe_early (fuel : Nat) (srv : Option Nat) (nocache noretry : Bool) (spec : ReqSpec)
    (pid : Nat) (react : List Nat) (s : St) :
    ((genQid 70000 s).2.servers.isEmpty = true →
      exec (fuel + 2) (.sendNolock srv nocache noretry spec (.probe pid) react) s =
        (releaseProbe pid (genQid 70000 s).2, .noserver)) ∧
    ((genQid 70000 s).2.servers.isEmpty = false → nocache = true → nameTextLen spec.name > 255 →
      exec (fuel + 2) (.sendNolock srv nocache noretry spec (.probe pid) react) s =
        (releaseProbe pid (genQid 70000 s).2, .formerr)) := by
  have hcb : ∀ st (s' : St), exec (fuel + 1) (.callback (.probe pid) react st 0 none) s' = (releaseProbe pid s', .ok) :=
    fun st s' => exec_callback_probe fuel pid react st 0 none s'
  constructor
  · intro he
    show bodySendNolock (exec (fuel + 1)) srv nocache noretry spec (.probe pid) react s = _
    unfold bodySendNolock
    generalize genQid 70000 s = p at he ⊢
    obtain ⟨qid, s0⟩ := p
    simp only [he, ↓reduceIte, hcb]
  · intro he hnc hlen
    subst hnc
    show bodySendNolock (exec (fuel + 1)) srv true noretry spec (.probe pid) react s = _
    unfold bodySendNolock
    generalize genQid 70000 s = p at he ⊢
    obtain ⟨qid, s0⟩ := p
    simp only [he, Bool.false_eq_true, ↓reduceIte, hlen, hcb]

end Cares.Chan
