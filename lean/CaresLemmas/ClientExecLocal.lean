import CaresLemmas.ClientExecReplay
import CaresLemmas.ClientExecFold
/-!
# The view of one compound request: projection of the replay machine

`lproj cid r` keeps of a replay state the record of `cid` and `cid`'s frames.  `rstep_other`: events of other compound
requests do not change the view (what the events of `cid` do to it is part of `FoldInv.step`, ClientExecEvents).
-/
namespace Cares.Chan

/-- the compound request an event belongs to -/
def CItem.who : CItem → Nat
  | .start id .. => id | .cb id .. => id | .act id _ => id | .slot id .. => id
  | .lost id => id | .rel id => id | .ret id => id

def CItem.isStart : CItem → Bool
  | .start .. => true
  | _ => false

structure LSt where
  cur : Option Client
  stack : List (Option (List ClientAct))

def lproj (cid : Nat) (r : RSt) : LSt :=
  ⟨r.clients.find? (·.id == cid), (r.stack.filter (·.1 == cid)).map (·.2)⟩

def afterActL (a : ClientAct) (rest : List ClientAct) : List (Option (List ClientAct)) :=
  match a with
  | .finish _ _ _ => [none, some []]
  | _ => [some rest]


/-- the record of `cid` after the record of `i` has been rewritten; `f` need keep the id of that record only (a
    completion replaces it by `clientOnCb` of the record found) -/
theorem find?_modC (l : List Client) (i : Nat) (f : Client → Client) (hf : ∀ c, c.id = i → (f c).id = i)
    (cid : Nat) : (modC l i f).find? (·.id == cid) =
      if cid = i then (l.find? (·.id == cid)).map f else l.find? (·.id == cid) := by
  unfold modC
  split
  · rename_i e; subst e; exact find?_update_self (key := Client.id) hf l
  · exact find?_update_ne (key := Client.id) hf l ‹_›

theorem setSlot_id (slot qid : Nat) (c : Client) : (setSlot slot qid c).id = c.id := by
  unfold setSlot; split <;> rfl


theorem afterAct_other (id cid : Nat) (a : ClientAct) (rest : List ClientAct) (h : id ≠ cid) :
    (afterAct id a rest).filter (·.1 == cid) = [] := by
  have : (id == cid) = false := by simp [h]
  unfold afterAct; split <;> simp [this]

theorem afterAct_mine (cid : Nat) (a : ClientAct) (rest : List ClientAct) :
    ((afterAct cid a rest).filter (·.1 == cid)).map (·.2) = afterActL a rest := by
  unfold afterAct afterActL; split <;> simp

theorem rstep_other (cfg : Cfg) (cid : Nat) (r r' : RSt) (i : CItem) (h : rstep cfg r i = some r') (hw : i.who ≠ cid) :
    lproj cid r' = lproj cid r := by
  have hne : ∀ id, id ≠ cid → (id == cid) = false := fun id h => by simp [h]
  cases RStep.of h with
  | start k tok re sp f =>
    replace hw : r.next ≠ cid := hw
    simp only [lproj, List.find?_append, List.find?_singleton, (clientStart_ok cfg _ k tok re sp f).id, hne _ hw,
      Bool.false_eq_true, ↓reduceIte, Option.or_none, List.filter_cons]
  | @cb _ id c st t rec hc =>
    replace hw : id ≠ cid := hw
    have hcid : c.id = id := by simpa using List.find?_some hc
    simp only [lproj, List.filter_cons, hne _ hw, Bool.false_eq_true, ↓reduceIte]
    rw [find?_modC _ _ _ (fun x _ => by rw [clientOnCb_id, hcid]), if_neg fun e => hw e.symm]
  | @act cl nx id =>
    replace hw : id ≠ cid := hw
    simp only [lproj, List.filter_append, afterAct_other _ _ _ _ hw, List.nil_append, List.filter_cons, hne _ hw,
      Bool.false_eq_true, ↓reduceIte]
  | slot id slot qid =>
    replace hw : id ≠ cid := hw
    simp only [lproj]
    rw [find?_modC _ _ _ (fun c hc => by rw [setSlot_id, hc]), if_neg fun e => hw e.symm]
  | @lost cl nx id =>
    replace hw : id ≠ cid := hw
    simp only [lproj, List.filter_cons, hne _ hw, Bool.false_eq_true, ↓reduceIte]
  | @rel cl nx id =>
    replace hw : id ≠ cid := hw
    simp only [lproj, List.filter_cons, hne _ hw, Bool.false_eq_true, ↓reduceIte]
    rw [find?_remove (key := Client.id), if_neg fun e => hw e.symm]
  | @ret cl nx id =>
    replace hw : id ≠ cid := hw
    simp only [lproj, List.filter_cons, hne _ hw, Bool.false_eq_true, ↓reduceIte]

theorem lproj_stack_cons {cid : Nat} {r : RSt} {x : Option (List ClientAct)} {σ} (h : r.stack = (cid, x) :: σ) :
    (lproj cid r).stack = x :: (σ.filter (·.1 == cid)).map (·.2) := by
  simp only [lproj, h, List.filter_cons, beq_self_eq_true, ↓reduceIte, List.map_cons]

end Cares.Chan
