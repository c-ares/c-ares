import CaresLemmas.ChanWfLookup
/-!
# C01 — creating a query (`ares_send_nolock`)
-/
namespace Cares.Chan

/-- a fresh query, linked into `all_queries` and the qid table, not yet on a connection -/
def Sk.addQuery (a : Sk) (qid : Nat) (owner : Owner) : Sk :=
  { a with nextKey := a.nextKey + 1, qs := a.qs ++ [⟨a.nextKey, qid, owner, none⟩],
           all := a.all ++ [a.nextKey], byQid := a.byQid ++ [(qid, a.nextKey)] }

section
variable {a : Sk} {qid : Nat} {owner : Owner}

theorem addQuery_qK : (a.addQuery qid owner).qK = a.qK ++ [a.nextKey] := by simp [Sk.addQuery, Sk.qK]
theorem addQuery_qKQ : (a.addQuery qid owner).qKQ = a.qKQ ++ [(a.nextKey, qid)] := by simp [Sk.addQuery, Sk.qKQ]
theorem addQuery_qKC : (a.addQuery qid owner).qKC = a.qKC ++ [(a.nextKey, none)] := by simp [Sk.addQuery, Sk.qKC]
theorem addQuery_qKO : (a.addQuery qid owner).qKO = a.qKO ++ [(a.nextKey, owner)] := by simp [Sk.addQuery, Sk.qKO]
theorem addQuery_idx : (a.addQuery qid owner).idx = a.idx ++ [a.nextKey] := by simp [Sk.addQuery, Sk.idx]

theorem wf_addQuery (h : WfS a none) (hof : a.OwnerFree owner) : WfS (a.addQuery qid owner) none := by
  have hfresh : a.nextKey ∉ a.idx := fun hm => by have := key_lt_of_idx h hm; omega
  refine ⟨?_, ?_, ?_, ?_, h.s, h.k, ?_⟩
  · rw [addQuery_qK]
    refine ⟨?_, ?_⟩
    · rw [List.nodup_append]
      refine ⟨h.q.nodup, by simp, fun x hx y hy => ?_⟩
      rw [List.mem_singleton.mp hy]
      have := h.q.lt x hx; omega
    · intro k hk
      show k < a.nextKey + 1
      rcases List.mem_append.mp hk with hk | hk
      · have := h.q.lt k hk; omega
      · rw [List.mem_singleton.mp hk]; omega
  · rw [addQuery_qKQ]
    show WfIP _ (a.byQid ++ [(qid, a.nextKey)]) (a.all ++ [a.nextKey]) a.listCopy
    have hi := h.i
    refine ⟨?_, ?_, ?_, ?_, ?_, ?_⟩
    · intro p hp
      rcases List.mem_append.mp hp with hp | hp
      · exact List.mem_append.mpr (Or.inl (hi.qidLive p hp))
      · rw [List.mem_singleton.mp hp]; exact List.mem_append.mpr (Or.inr (List.mem_singleton.mpr rfl))
    · rw [List.nodup_append]
      refine ⟨hi.allNodup, by simp, fun x hx y hy => ?_⟩
      rw [List.mem_singleton.mp hy]
      exact fun he => hfresh (he ▸ hi.allIdx x hx)
    · intro k hk
      rw [List.map_append]
      rcases List.mem_append.mp hk with hk | hk
      · exact List.mem_append.mpr (Or.inl (hi.allIdx k hk))
      · rw [List.mem_singleton.mp hk]; exact List.mem_append.mpr (Or.inr (by simp))
    · intro l hl
      obtain ⟨h1, h2⟩ := hi.lcOk l hl
      exact ⟨h1, fun k hk => by rw [List.map_append]; exact List.mem_append.mpr (Or.inl (h2 k hk))⟩
    · -- the fresh key is in none of the lists
      have hnf : a.nextKey ∉ a.listCopy.flatten := by
        intro hm
        obtain ⟨l, hl, hkl⟩ := List.mem_flatten.mp hm
        exact hfresh ((hi.lcOk l hl).2 _ hkl)
      have hna : a.nextKey ∉ a.all := fun hm => hfresh (hi.allIdx _ hm)
      have hd := hi.disj
      rw [List.nodup_append] at hd ⊢
      obtain ⟨d1, d2, d3⟩ := hd
      refine ⟨?_, d2, ?_⟩
      · rw [List.nodup_append]
        exact ⟨d1, by simp, fun x hx y hy => by rw [List.mem_singleton.mp hy]; exact fun he => hna (he ▸ hx)⟩
      · intro x hx y hy
        rcases List.mem_append.mp hx with hx | hx
        · exact d3 x hx y hy
        · rw [List.mem_singleton.mp hx]; exact fun he => hnf (he ▸ hy)
    · intro k hk
      rw [List.map_append] at hk
      rcases List.mem_append.mp hk with hk | hk
      · rcases hi.nl k hk with h' | h'
        · exact Or.inl (List.mem_append.mpr (Or.inl h'))
        · exact Or.inr h'
      · simp only [List.map_cons, List.map_nil, List.mem_singleton] at hk
        exact Or.inl (List.mem_append.mpr (Or.inr (List.mem_singleton.mpr hk)))
  · rw [addQuery_qKC, addQuery_idx]
    have ht := h.t
    refine ⟨ht.btNodup, fun k hk => ?_, ht.poNodup, fun k hk => ?_⟩
    · obtain ⟨h1, fd, h2⟩ := ht.btOk k hk
      exact ⟨List.mem_append.mpr (Or.inl h1), fd, List.mem_append.mpr (Or.inl h2)⟩
    · obtain ⟨h1, ⟨fd, h2⟩, h3⟩ := ht.poOk k hk
      exact ⟨List.mem_append.mpr (Or.inl h1), ⟨fd, List.mem_append.mpr (Or.inl h2)⟩, h3⟩
  · rw [addQuery_qKC, addQuery_idx]
    have hc := h.c
    refine ⟨hc.nodup, hc.lt, hc.sock, hc.qNodup, fun c hcm k hk => ?_, fun p hp fd hfd => ?_⟩
    · obtain ⟨h1, h2⟩ := hc.cq c hcm k hk
      exact ⟨List.mem_append.mpr (Or.inl h1), List.mem_append.mpr (Or.inl h2)⟩
    · rcases List.mem_append.mp hp with hp | hp
      · exact hc.qc p hp fd hfd
      · rw [List.mem_singleton.mp hp] at hfd; cases hfd
  · rw [addQuery_qKO, addQuery_idx]
    have ht := h.tok
    -- an old entry is linked after iff it was linked before
    have old : ∀ p ∈ a.qKO, p.1 ∈ a.idx ++ [a.nextKey] → p.1 ∈ a.idx := by
      intro p hp hpi
      rcases List.mem_append.mp hpi with hpi | hpi
      · exact hpi
      · have := h.keysLt _ hp; rw [List.mem_singleton.mp hpi] at this; omega
    refine ⟨ht.pN, ht.dN, ht.disj, ht.pB, ht.dB, ?_, ?_, ht.tK, ht.tKU⟩
    · intro p hp hpi tok ho
      rcases List.mem_append.mp hp with hp | hp
      · obtain ⟨a1, a2, a3⟩ := ht.tQ p hp (old p hp hpi) tok ho
        refine ⟨a1, fun p' hp' hpi' ho' => ?_, a3⟩
        rcases List.mem_append.mp hp' with hp' | hp'
        · exact a2 p' hp' (old p' hp' hpi') ho'
        · exfalso
          rw [List.mem_singleton.mp hp'] at ho'
          simp only at ho'
          rw [ho'] at hof
          exact hof.2.1 p hp (old p hp hpi) ho
      · rw [List.mem_singleton.mp hp] at ho ⊢
        simp only at ho
        rw [ho] at hof
        refine ⟨hof.1, fun p' hp' hpi' ho' => ?_, hof.2.2⟩
        rcases List.mem_append.mp hp' with hp' | hp'
        · exact absurd ho' (hof.2.1 p' hp' (old p' hp' hpi'))
        · rw [List.mem_singleton.mp hp']
    · intro p hp hpi id ho
      rcases List.mem_append.mp hp with hp | hp
      · exact ht.tC p hp (old p hp hpi) id ho
      · rw [List.mem_singleton.mp hp] at ho
        simp only at ho
        rw [ho] at hof
        exact hof

theorem subs_addQuery (h : WfS a none) (id : Nat) :
    (a.addQuery qid owner).subs id = a.subs id + (if owner = .client id then 1 else 0) := by
  unfold Sk.subs subsP
  rw [addQuery_qKO, addQuery_idx, List.countP_append]
  congr 1
  · apply List.countP_congr
    intro p hp
    have hlt := h.keysLt _ hp
    have : (p.1 ∈ a.idx ++ [a.nextKey]) = (p.1 ∈ a.idx) := by
      apply propext
      rw [List.mem_append, List.mem_singleton]
      constructor
      · rintro (h1 | h1)
        · exact h1
        · omega
      · exact Or.inl
    simp only [this]
  · simp [List.countP_cons]

theorem debt_addQuery {d} (h : WfS a none) (hof : a.OwnerFree owner) (hd : a.DebtFor d owner) :
    DebtOk none d (a.addQuery qid owner) := by
  cases owner with
  | probe =>
    refine ⟨hd.fresh, fun c hc hp hx => ?_⟩
    rw [subs_addQuery h]; simpa using hd.cnt c hc hp hx
  | user tok =>
    refine ⟨hd.fresh, fun c hc hp hx => ?_⟩
    rw [subs_addQuery h]; simpa using hd.cnt c hc hp hx
  | client id =>
    obtain ⟨c0, hc0, hid0, _⟩ := hof
    have hlt := h.k.lt c0 hc0
    have hd' : DebtOk none (bump d id 1) a := hd
    refine ⟨fun i hi => ?_, fun c hc hp hx => ?_⟩
    · have := hd'.fresh i hi
      rwa [bump_ne _ _ (by show i ≠ id; change a.nextClient ≤ i at hi; omega)] at this
    · rw [subs_addQuery h]
      have := hd'.cnt c hc hp hx
      by_cases hci : c.id = id
      · rw [hci, bump_self] at this; rw [hci]; simp; omega
      · rw [bump_ne _ _ hci] at this
        have : Owner.client id ≠ Owner.client c.id := fun hh => hci (by injection hh with hh; exact hh.symm)
        simp [this]; omega

theorem step_addQuery {d} (h : WfS a none) : StepS none (ownerId owner) d a (a.addQuery qid owner) where
  faults := rfl
  kMono := Nat.le_refl _
  keyMono := Nat.le_succ _
  idxNew := fun x hx => by
    rw [addQuery_idx] at hx
    rcases List.mem_append.mp hx with hx | hx
    · exact Or.inl hx
    · rw [List.mem_singleton.mp hx]; exact Or.inr (Nat.le_refl _)
  unl := fun _ q hm _ => ⟨q, hm, fun _ hx => hx⟩
  orphan := fun id _ hx hn => by
    unfold Sk.NoSub
    rw [addQuery_qKO, addQuery_idx]
    intro p hp hpi ho
    rcases List.mem_append.mp hp with hp | hp
    · rcases List.mem_append.mp hpi with hpi | hpi
      · exact hn p hp hpi ho
      · have := h.keysLt _ hp
        rw [List.mem_singleton.mp hpi] at this; omega
    · rw [List.mem_singleton.mp hp] at ho
      simp only at ho
      rw [ho] at hx
      exact hx rfl
  debtAlive := fun _ ha _ => ha
  prog := {
    doneMono := fun _ h => h
    lcRel := LcSub.refl _
    allNew := fun k hk => by
      rcases List.mem_append.mp hk with hk | hk
      · exact Or.inl hk
      · rw [List.mem_singleton.mp hk]; exact Or.inr (Nat.le_refl _)
    keysLt := fun hl p hp => by
      rw [addQuery_qKO] at hp
      show p.1 < a.nextKey + 1
      rcases List.mem_append.mp hp with hp | hp
      · have := hl p hp; omega
      · rw [List.mem_singleton.mp hp]; exact Nat.lt_succ_self _
    ownKeep := fun _ p hp _ => by rw [addQuery_qKO]; exact List.mem_append.mpr (Or.inl hp)
    done6 := fun _ p _ hpi hn => absurd (by rw [addQuery_idx]; exact List.mem_append.mpr (Or.inl hpi)) hn }

theorem idx_addQuery : (a.addQuery qid owner).Idx a.nextKey := by
  unfold Sk.Idx; rw [addQuery_idx]; exact List.mem_append.mpr (Or.inr (List.mem_singleton.mpr rfl))

end

end Cares.Chan
