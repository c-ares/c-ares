import CaresLemmas.ClientExecKeep
/-!
# Provenance of the replies handed to `clientOnCb` (link to C05's `accepted` log)

Every reply with which a completion callback of a compound request is invoked (`.cb … (some r) …` in the log of
`execC`) is an accepted response — `(fd, key, r) ∈ accepted` — or a cache entry's record, itself an accepted response,
with its TTLs reduced by the time spent in the cache (`FromAcc`).  Proved by induction over `execC`, along the lines
of C05's `cache_provenance` (`exec_CacheProv`) and `*_hand_on_only_*`.
-/
namespace Cares.Chan

/-- `r` is an accepted response, or the aged copy of a cached one that is an accepted response -/
def FromAcc (acc : List (Nat × Nat × Reply)) (r : Reply) : Prop :=
  (∃ fd key, (fd, key, r) ∈ acc) ∨
  (∃ fd key r0 dec, (fd, key, r0) ∈ acc ∧ r = { r0 with ttls := r0.ttls.map (· - dec) })

theorem FromAcc.mono {acc acc' : List (Nat × Nat × Reply)} {r : Reply} (h : FromAcc acc r)
    (hs : ∀ e ∈ acc, e ∈ acc') : FromAcc acc' r := by
  rcases h with ⟨fd, key, h⟩ | ⟨fd, key, r0, dec, h, e⟩
  · exact .inl ⟨fd, key, hs _ h⟩
  · exact .inr ⟨fd, key, r0, dec, hs _ h, e⟩

/-- the replies of the completion callbacks in a log all come from `acc` -/
def CbsFrom (acc : List (Nat × Nat × Reply)) (L : CLog) : Prop :=
  ∀ id st t r qa qb, CItem.cb id st t (some r) qa qb ∈ L → FromAcc acc r

theorem CbsFrom.mono {acc acc' : List (Nat × Nat × Reply)} {L : CLog} (h : CbsFrom acc L)
    (hs : ∀ e ∈ acc, e ∈ acc') : CbsFrom acc' L :=
  fun id st t r qa qb hm => (h id st t r qa qb hm).mono hs

/-- the responses of `base` are still accepted, the cache holds accepted responses, and every response the log hands to
    a compound request comes from them (on fields, on a state, on the view: as `RPv` / `RP` / `RPk`) -/
def PVv (base : List (Nat × Nat × Reply)) (L : CLog) (acc : List (Nat × Nat × Reply)) (cache : List CacheEntry) : Prop :=
  (∀ e ∈ base, e ∈ acc) ∧ CacheProvF cache acc ∧ CbsFrom acc L

abbrev Prov (base : List (Nat × Nat × Reply)) (L : CLog) (s : St) : Prop := PVv base L s.accepted s.cache

/-- the specification of the recursive calls: a call that carries a response carries one that comes from `base` -/
abbrev GoPV (goC : GoC) : Prop :=
  ∀ c s L base, Prov base L s → (∀ r, c.rec? = some r → FromAcc base r) → Prov base (L ++ (goC c s).2) (goC c s).1.1

theorem PVv.rebase {base base' : List (Nat × Nat × Reply)} {L acc cache} (h : PVv base L acc cache)
    (hb : ∀ x ∈ base', x ∈ acc) : PVv base' L acc cache := ⟨hb, h.2.1, h.2.2⟩

theorem PVv.append {base L acc cache} (h : PVv base L acc cache) (x : Nat × Nat × Reply) :
    PVv base L (acc ++ [x]) cache :=
  ⟨fun e he => List.mem_append_left _ (h.1 e he), CacheProvF_append h.2.1 _,
    h.2.2.mono fun _ he => List.mem_append_left _ he⟩

theorem PVv.expire {base L} {s : St} (h : PVv base L s.accepted s.cache) : PVv base L s.accepted s.cacheExpire.cache :=
  ⟨h.1, CacheProvF_expire s _ h.2.1, h.2.2⟩

theorem PVv.insert {base L acc} (s : St) (h : PVv base L acc s.cache) (q : Query) (r : Reply)
    (hr : ∃ fd key, (fd, key, r) ∈ acc) : PVv base L acc (s.cacheInsert q r).cache :=
  ⟨h.1, CacheProvF_insert s q r _ h.2.1 hr, h.2.2⟩

/-- `Prov` as an invariant of the log and the view of the state -/
abbrev PVk (base : List (Nat × Nat × Reply)) : CLog → CView → Prop := fun L v => PVv base L v.accepted v.cache

section
variable {goC : GoC} (hgo : GoPV goC)
include hgo

/-- `paDeliver`: the response just recorded as accepted is the only one handed on -/
theorem paDeliverC_PV (fd : Nat) (r : Reply) (c : Conn) (key : Nat) (q : Query) (s : St) (L : CLog) (base)
    (h : Prov base L s) : Keeps (PVk base) L (paDeliverC goC fd r c key q s) := by
  have h1 : PVv (s.accepted ++ [(fd, key, r)]) L (s.accepted ++ [(fd, key, r)]) s.cache :=
    (PVv.append h (fd, key, r)).rebase fun _ he => he
  have hk : GoKeeps (PVk (s.accepted ++ [(fd, key, r)])) (FromAcc _) goC := fun c s L _ hr h => hgo c s L _ h hr
  have hr : ∀ r', some r = some r' → FromAcc (s.accepted ++ [(fd, key, r)]) r' := by
    intro r' e; cases e; exact .inl ⟨fd, key, by simp⟩
  have back : Keeps (PVk (s.accepted ++ [(fd, key, r)])) L (paDeliverC goC fd r c key q s) →
      Keeps (PVk base) L (paDeliverC goC fd r c key q s) :=
    fun h' => h'.rebase fun e he => h'.1 e (List.mem_append_left _ (h.1 e he))
  apply back
  unfold paDeliverC
  refine .ite (.ret ?_) (.ite (.ret ?_) (.ite (hk _ _ _ rfl hr ?_) (hk _ _ _ rfl hr ?_)))
  · simpa only [St.cview, chan_frame] using h1
  · simpa only [St.cview, chan_frame] using h1
  · simpa only [St.cview, chan_frame] using h1
  · simp only [St.cview, chan_frame]
    refine PVv.insert _ ?_ _ r ⟨fd, key, by simp⟩
    simpa only [chan_frame] using h1

end

end Cares.Chan
