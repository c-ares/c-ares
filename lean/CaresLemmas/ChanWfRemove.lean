import CaresLemmas.ChanWfStep
/-!
# C01 — `removeFromConn` on the skeleton: which projections it leaves alone, what it does to the others, and that
it keeps the invariant (`wf_rfc`), is a step (`step_rfc`) and keeps the debt (`debt_rfc`)
-/
namespace Cares.Chan

section same
variable (a : Sk) (k : Nat)

theorem rfc_none (h : a.q? k = none) : a.removeFromConn k = a := by
  unfold Sk.removeFromConn; rw [h]

theorem rfc_qs_proj {β} (π : QSk → β) (hπ : ∀ e : QSk, π { e with conn := none } = π e) :
    (a.removeFromConn k).qs.map π = a.qs.map π := by
  cases hq : a.q? k with
  | none => rw [rfc_none a k hq]
  | some e =>
    rw [Sk.removeFromConn_eq a k e hq]
    simp only
    rw [proj_modQ _ _ _ π hπ]
    cases e.conn <;> rfl

theorem rfc_conns_proj {β} (π : CSk → β) (hπ : ∀ (c : CSk) q, π { c with queries := q } = π c) :
    (a.removeFromConn k).conns.map π = a.conns.map π := by
  cases hq : a.q? k with
  | none => rw [rfc_none a k hq]
  | some e =>
    rw [Sk.removeFromConn_eq a k e hq]
    simp only [Sk.modQ]
    cases e.conn with
    | none => rfl
    | some fd => exact proj_modC _ _ _ π (fun c => hπ c _)

@[simp] theorem rfc_qK : (a.removeFromConn k).qK = a.qK := rfc_qs_proj a k _ (fun _ => rfl)
@[simp] theorem rfc_qKQ : (a.removeFromConn k).qKQ = a.qKQ := rfc_qs_proj a k _ (fun _ => rfl)
@[simp] theorem rfc_qKO : (a.removeFromConn k).qKO = a.qKO := rfc_qs_proj a k _ (fun _ => rfl)
@[simp] theorem rfc_cF4 : (a.removeFromConn k).cF4 = a.cF4 := rfc_conns_proj a k _ (fun _ _ => rfl)

@[simp] theorem rfc_other :
    (a.removeFromConn k).byQid = a.byQid ∧ (a.removeFromConn k).all = a.all ∧
    (a.removeFromConn k).listCopy = a.listCopy ∧ (a.removeFromConn k).servers = a.servers ∧
    (a.removeFromConn k).clients = a.clients ∧ (a.removeFromConn k).socks = a.socks ∧
    (a.removeFromConn k).nextKey = a.nextKey ∧ (a.removeFromConn k).nextFd = a.nextFd ∧
    (a.removeFromConn k).nextClient = a.nextClient ∧ (a.removeFromConn k).reactSeq = a.reactSeq ∧
    (a.removeFromConn k).pendingToks = a.pendingToks ∧ (a.removeFromConn k).doneToks = a.doneToks ∧
    (a.removeFromConn k).faults = a.faults := by
  cases hq : a.q? k with
  | none => rw [rfc_none a k hq]; simp
  | some e =>
    rw [Sk.removeFromConn_eq a k e hq]
    cases e.conn <;> simp [Sk.modQ, Sk.modC]

@[simp] theorem rfc_idx : (a.removeFromConn k).idx = a.idx := by unfold Sk.idx; rw [(rfc_other a k).1]

end same

theorem pair_unique {α β} (f : α → Nat) (g : α → β) (l : List α) (hn : (l.map f).Nodup) {k : Nat} {x y : β}
    (hx : (k, x) ∈ l.map fun e => (f e, g e)) (hy : (k, y) ∈ l.map fun e => (f e, g e)) : x = y := by
  simp only [List.mem_map, Prod.mk.injEq] at hx hy
  obtain ⟨e1, h1, k1, rfl⟩ := hx
  obtain ⟨e2, h2, k2, rfl⟩ := hy
  rw [inj_of_nodup_map hn h1 h2 (by omega)]

theorem Sk.qKC_unique {a : Sk} (hn : a.qK.Nodup) {k : Nat} {x y : Option Nat}
    (hx : (k, x) ∈ a.qKC) (hy : (k, y) ∈ a.qKC) : x = y :=
  pair_unique (fun e : QSk => e.key) (fun e : QSk => e.conn) a.qs hn hx hy
theorem Sk.qKO_unique {a : Sk} (hn : a.qK.Nodup) {k : Nat} {x y : Owner}
    (hx : (k, x) ∈ a.qKO) (hy : (k, y) ∈ a.qKO) : x = y :=
  pair_unique (fun e : QSk => e.key) (fun e : QSk => e.owner) a.qs hn hx hy
theorem Sk.qKQ_unique {a : Sk} (hn : a.qK.Nodup) {k : Nat} {x y : Nat}
    (hx : (k, x) ∈ a.qKQ) (hy : (k, y) ∈ a.qKQ) : x = y :=
  pair_unique (fun e : QSk => e.key) (fun e : QSk => e.qid) a.qs hn hx hy
theorem Sk.cFQ_unique {a : Sk} (hn : (a.cFQ.map (·.1)).Nodup) {k : Nat} {x y : List Nat}
    (hx : (k, x) ∈ a.cFQ) (hy : (k, y) ∈ a.cFQ) : x = y := by
  refine pair_unique (fun c : CSk => c.fd) (fun c : CSk => c.queries) a.conns ?_ hx hy
  have : a.cFQ.map (·.1) = a.conns.map fun c => c.fd := by
    unfold Sk.cFQ; rw [List.map_map]; rfl
  rwa [this] at hn

theorem WfS.live_of_idx {a : Sk} {hole} (h : WfS a hole) {k : Nat} (hk : k ∈ a.idx) : ∃ e, a.q? k = some e := by
  obtain ⟨p, hp, rfl⟩ := List.mem_map.mp hk
  have := h.i.qidLive p hp
  obtain ⟨e, he, hpe⟩ := List.mem_map.mp this
  have hq := Sk.q?_of_mem (a := a) h.q.nodup he
  simp only [Prod.mk.injEq] at hpe
  rw [hpe.1] at hq
  exact ⟨e, hq⟩

def mapAt {β} (l : List (Nat × β)) (fd? : Option Nat) (g : β → β) : List (Nat × β) :=
  match fd? with
  | some fd => l.map fun c => if c.1 == fd then (c.1, g c.2) else c
  | none => l

abbrev cfqErase (l : List (Nat × List Nat)) (fd? : Option Nat) (k : Nat) := mapAt l fd? (·.erase k)
abbrev cfuqErase (l : List (Nat × Bool × List Nat)) (fd? : Option Nat) (k : Nat) :=
  mapAt l fd? fun p => (p.1, p.2.erase k)

theorem mem_mapAt {β} {l : List (Nat × β)} {fd? : Option Nat} {g : β → β} {c : Nat × β} :
    c ∈ mapAt l fd? g ↔ (c ∈ l ∧ some c.1 ≠ fd?) ∨ (some c.1 = fd? ∧ ∃ b, (c.1, b) ∈ l ∧ c.2 = g b) := by
  cases fd? with
  | none => simp [mapAt]
  | some fd =>
    simp only [mapAt, List.mem_map, beq_iff_eq, Option.some.injEq]
    constructor
    · rintro ⟨q, hq, rfl⟩
      by_cases h : q.1 = fd
      · right; simp only [h, ↓reduceIte, true_and]; exact ⟨q.2, by rw [← h]; exact hq, rfl⟩
      · left; simp [h, hq]
    · rintro (⟨h1, h2⟩ | ⟨h1, q, hq, h2⟩)
      · exact ⟨c, h1, by rw [if_neg (fun hh => h2 (congrArg some hh))]⟩
      · refine ⟨(c.1, q), hq, ?_⟩
        simp only [h1, ↓reduceIte]; rw [← h2, ← h1]

theorem mapAt_fst {β} (l : List (Nat × β)) (fd? : Option Nat) (g : β → β) : (mapAt l fd? g).map (·.1) = l.map (·.1) := by
  cases fd? with
  | none => rfl
  | some fd => exact map_if_keep _ fun _ _ _ => rfl

theorem mem_map_ifkey {β} {l : List (Nat × β)} {k : Nat} {v : β} {p : Nat × β} :
    p ∈ (l.map fun p => if p.1 == k then (p.1, v) else p) ↔
      (p ∈ l ∧ p.1 ≠ k) ∨ (p.2 = v ∧ p.1 = k ∧ ∃ w, (k, w) ∈ l) := by
  simp only [List.mem_map, beq_iff_eq]
  constructor
  · rintro ⟨q, hq, rfl⟩
    by_cases h : q.1 = k
    · right; simp only [h, ↓reduceIte, true_and]; exact ⟨q.2, by rw [← h]; exact hq⟩
    · left; simp [h, hq]
  · rintro (⟨h1, h2⟩ | ⟨h1, h2, w, hw⟩)
    · exact ⟨p, h1, by simp [h2]⟩
    · refine ⟨(k, w), hw, ?_⟩
      simp only [↓reduceIte]; rw [← h1, ← h2]

section spec
variable {a : Sk} {k : Nat} {e : QSk}

theorem rfc_qKC (hq : a.q? k = some e) :
    (a.removeFromConn k).qKC = a.qKC.map fun p => if p.1 == k then (p.1, none) else p := by
  rw [Sk.removeFromConn_eq a k e hq]
  show (Sk.modQ _ k fun e => { e with conn := none }).qKC = _
  rw [qKC_modQ_conn]
  cases e.conn <;> rfl

theorem rfc_bt (hq : a.q? k = some e) : (a.removeFromConn k).byTimeout = a.byTimeout.erase k := by
  rw [Sk.removeFromConn_eq a k e hq]
theorem rfc_po (hq : a.q? k = some e) : (a.removeFromConn k).pendingOrder = a.pendingOrder.erase k := by
  rw [Sk.removeFromConn_eq a k e hq]

theorem rfc_cFQ (hq : a.q? k = some e) : (a.removeFromConn k).cFQ = cfqErase a.cFQ e.conn k := by
  rw [Sk.removeFromConn_eq a k e hq]
  cases e.conn with
  | none => rfl
  | some fd => exact cFQ_modC_queries a fd (·.erase k)

theorem rfc_cFUQ (hq : a.q? k = some e) : (a.removeFromConn k).cFUQ = cfuqErase a.cFUQ e.conn k := by
  rw [Sk.removeFromConn_eq a k e hq]
  cases e.conn with
  | none => rfl
  | some fd => exact cFUQ_modC_queries a fd (·.erase k)

end spec

/-- erasing `k` from the list of one connection leaves `k` as the (only) query that may name a connection without
    being listed by it -/
theorem WfCP.eraseAt {qKC : List (Nat × Option Nat)} {idx : List Nat} {cFQ : List (Nat × List Nat)} {nextFd socks hole}
    (hc : WfCP qKC idx cFQ nextFd socks hole) (fd? : Option Nat) (k : Nat) (hh : hole = none ∨ hole = some k) :
    WfCP qKC idx (cfqErase cFQ fd? k) nextFd socks (some k) := by
  -- every new entry comes from an old one with the same descriptor and a sub-list
  have key : ∀ c' ∈ cfqErase cFQ fd? k, ∃ c ∈ cFQ, c'.1 = c.1 ∧ (∀ x ∈ c'.2, x ∈ c.2) ∧ c'.2.Nodup := by
    intro c' hc'
    rcases mem_mapAt.mp hc' with ⟨h1, _⟩ | ⟨_, q, hq', h2⟩
    · exact ⟨c', h1, rfl, fun _ hx => hx, hc.qNodup _ h1⟩
    · exact ⟨(c'.1, q), hq', rfl, fun x hx => by rw [h2] at hx; exact List.mem_of_mem_erase hx,
        by rw [h2]; exact (hc.qNodup _ hq').erase k⟩
  -- every old entry has an image that keeps all keys but `k`
  have img : ∀ c ∈ cFQ, ∃ c' ∈ cfqErase cFQ fd? k, c'.1 = c.1 ∧ (∀ x ∈ c.2, x ≠ k → x ∈ c'.2) := by
    intro c hcm
    by_cases hcf : some c.1 = fd?
    · exact ⟨(c.1, c.2.erase k), mem_mapAt.mpr (Or.inr ⟨hcf, c.2, hcm, rfl⟩), rfl,
        fun x hx hne => (List.mem_erase_of_ne hne).mpr hx⟩
    · exact ⟨c, mem_mapAt.mpr (Or.inl ⟨hcm, hcf⟩), rfl, fun _ hx _ => hx⟩
  constructor
  · rw [mapAt_fst]; exact hc.nodup
  · intro c' hc'; obtain ⟨c, hcm, h1, _⟩ := key c' hc'; rw [h1]; exact hc.lt c hcm
  · intro c' hc'; obtain ⟨c, hcm, h1, _⟩ := key c' hc'; rw [h1]; exact hc.sock c hcm
  · intro c' hc'; obtain ⟨c, hcm, h1, _, h3⟩ := key c' hc'; exact h3
  · intro c' hc' x hx
    obtain ⟨c, hcm, h1, h2, _⟩ := key c' hc'
    rw [h1]; exact hc.cq c hcm x (h2 x hx)
  · intro p hp fd' hfd'
    obtain ⟨c, hcm, hcfd, hor⟩ := hc.qc p hp fd' hfd'
    obtain ⟨c', hc', e1, e2⟩ := img c hcm
    refine ⟨c', hc', by rw [e1, hcfd], ?_⟩
    by_cases hpk : p.1 = k
    · exact Or.inr (by rw [hpk])
    · refine Or.inl (e2 _ (hor.resolve_right fun hhole => ?_) hpk)
      rcases hh with hh | hh <;> rw [hh] at hhole <;> cases hhole
      exact hpk rfl

/-- once no connection lists `k`, clearing its connection pointer closes the hole -/
theorem WfCP.closeHole {qKC : List (Nat × Option Nat)} {idx : List Nat} {cFQ : List (Nat × List Nat)} {nextFd socks}
    {k : Nat} (hc : WfCP qKC idx cFQ nextFd socks (some k)) (hnl : ∀ c ∈ cFQ, k ∉ c.2) :
    WfCP (qKC.map fun p => if p.1 == k then (p.1, none) else p) idx cFQ nextFd socks none := by
  refine ⟨hc.nodup, hc.lt, hc.sock, hc.qNodup, fun c hcm x hx => ?_, fun p' hp' fd' hfd' => ?_⟩
  · obtain ⟨hi, hm⟩ := hc.cq c hcm x hx
    exact ⟨hi, mem_map_ifkey.mpr (Or.inl ⟨hm, fun hxk => hnl c hcm (hxk ▸ hx)⟩)⟩
  · rcases mem_map_ifkey.mp hp' with ⟨h1, h2⟩ | ⟨h1, _⟩
    · obtain ⟨c, hcm, hcfd, hor⟩ := hc.qc p' h1 fd' hfd'
      exact ⟨c, hcm, hcfd, hor.imp_right fun hh => absurd (Option.some.inj hh).symm h2⟩
    · rw [h1] at hfd'; cases hfd'

/-- the by-timeout group when `k` leaves both lists; the other queries keep their connection -/
theorem WfTP.erase {qKC qKC' : List (Nat × Option Nat)} {idx idx' bt po : List Nat} (ht : WfTP qKC idx bt po) (k : Nat)
    (hq : ∀ p ∈ qKC, p.1 ≠ k → p ∈ qKC') (hi : ∀ x ∈ idx, x ≠ k → x ∈ idx') :
    WfTP qKC' idx' (bt.erase k) (po.erase k) := by
  constructor
  · exact ht.btNodup.erase k
  · intro k' hk'
    have := (List.Nodup.mem_erase_iff ht.btNodup).mp hk'
    obtain ⟨h1, fd, h2⟩ := ht.btOk k' this.2
    exact ⟨hi _ h1 this.1, fd, hq _ h2 this.1⟩
  · exact ht.poNodup.erase k
  · intro k' hk'
    have := (List.Nodup.mem_erase_iff ht.poNodup).mp hk'
    obtain ⟨h1, ⟨fd, h2⟩, h3⟩ := ht.poOk k' this.2
    exact ⟨hi _ h1 this.1, ⟨fd, hq _ h2 this.1⟩, fun hm => h3 (List.mem_of_mem_erase hm)⟩

theorem wfT_rfc {a : Sk} {hole} {k : Nat} {e : QSk} (h : WfS a hole) (hq : a.q? k = some e) :
    WfTP (a.removeFromConn k).qKC (a.removeFromConn k).idx (a.removeFromConn k).byTimeout
      (a.removeFromConn k).pendingOrder := by
  rw [rfc_qKC hq, rfc_bt hq, rfc_po hq, rfc_idx]
  exact h.t.erase k (fun p hp hne => mem_map_ifkey.mpr (Or.inl ⟨hp, hne⟩)) fun _ hx _ => hx

theorem rfc_not_listed {a : Sk} {hole} {k : Nat} {e : QSk} (h : WfS a hole) (hq : a.q? k = some e) :
    ∀ c ∈ (a.removeFromConn k).cFQ, k ∉ c.2 := by
  rw [rfc_cFQ hq]
  have hc := h.c
  have hkc := (Sk.q?_mem_proj hq).1
  intro c hcm hk
  rcases mem_mapAt.mp hcm with ⟨h1, h2⟩ | ⟨h1, q, hq', h2⟩
  · have := (hc.cq c h1 k hk).2
    exact h2 (Sk.qKC_unique h.q.nodup this hkc)
  · rw [h2] at hk
    exact (List.Nodup.mem_erase_iff (hc.qNodup _ hq')).mp hk |>.1 rfl

theorem wfC_rfc {a : Sk} {hole} {k : Nat} {e : QSk} (h : WfS a hole) (hh : hole = none ∨ hole = some k)
    (hq : a.q? k = some e) :
    WfCP (a.removeFromConn k).qKC (a.removeFromConn k).idx (a.removeFromConn k).cFQ
      (a.removeFromConn k).nextFd (a.removeFromConn k).socks none := by
  have hnl := rfc_not_listed h hq
  rw [rfc_cFQ hq] at hnl ⊢
  rw [rfc_qKC hq, rfc_idx]; simp only [rfc_other]
  exact (h.c.eraseAt e.conn k hh).closeHole hnl

theorem wf_rfc {a : Sk} {hole} {k : Nat} {e : QSk} (h : WfS a hole) (hh : hole = none ∨ hole = some k)
    (hq : a.q? k = some e) : WfS (a.removeFromConn k) none where
  q := by simpa using h.q
  i := by simpa using h.i
  t := wfT_rfc h hq
  c := wfC_rfc h hh hq
  s := by simpa using h.s
  k := by simpa using h.k
  tok := by simpa using h.tok

theorem step_rfc {xf xi d} {a : Sk} {k : Nat} {e : QSk} (hq : a.q? k = some e) :
    StepS xf xi d a (a.removeFromConn k) := by
  refine StepS.of_same (by simp) (by simp) (by simp) (by simp) (by simp) (by simp) (by simp) ?_ (by simp) (by simp)
    (by simp)
  intro fd q hm _
  rw [rfc_cFUQ hq]
  by_cases hcf : some fd = e.conn
  · exact ⟨q.erase k, mem_mapAt.mpr (Or.inr ⟨hcf, (true, q), hm, rfl⟩), fun x hx => List.mem_of_mem_erase hx⟩
  · exact ⟨q, mem_mapAt.mpr (Or.inl ⟨hm, hcf⟩), fun _ hx => hx⟩

theorem debt_rfc {x d} {a : Sk} (k : Nat) (h : DebtOk x d a) : DebtOk x d (a.removeFromConn k) :=
  h.congr (by simp) (by simp) (by simp) (by simp) (by simp)

end Cares.Chan
