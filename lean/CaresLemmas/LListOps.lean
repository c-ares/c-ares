import CaresLemmas.LListBasic
/-! Helper lemmas for the pointer-level `ares_llist` model: attach (head, tail, before) and detach on one
    well-formed list. -/
namespace Cares.Dsa.LHeap

/-- the node record a member at index `i` of the sequence `l` of list `L` must have -/
def lnk (l : List Nat) (L i : Nat) : LNode :=
  { prev := if i = 0 then none else l[i - 1]?, next := l[i + 1]?, parent := some L }

theorem Repr.link' {h : LHeap} {L : Nat} {l : List Nat} (r : Repr h L l) (i : Nat) (hi : i < l.length) :
    h.nodes l[i] = some (lnk l L i) := r.link i l[i] (List.getElem?_eq_getElem hi)

theorem getLast?_eq_none_iff' (l : List Nat) : l.getLast? = none ↔ l = [] := List.getLast?_eq_none_iff

theorem getElem?_eq_some_getElem_iff {l : List Nat} (hn : l.Nodup) (m k : Nat) (hm : m < l.length) :
    l[k]? = some l[m] ↔ k = m := by
  rw [← List.getElem?_eq_getElem hm]
  exact ⟨fun e => ((List.getElem?_inj hm hn).1 e.symm).symm, fun e => e ▸ rfl⟩

theorem getLast?_eq_some_getElem_iff {l : List Nat} (hn : l.Nodup) (m : Nat) (hm : m < l.length) :
    l.getLast? = some l[m] ↔ m + 1 = l.length := by
  rw [List.getLast?_eq_getElem?, getElem?_eq_some_getElem_iff hn m _ hm]; omega

theorem lnk_next_eq_iff {l : List Nat} (hn : l.Nodup) (L j m : Nat) (hm : m < l.length) :
    (lnk l L j).next = some l[m] ↔ m = j + 1 := by
  show l[j + 1]? = some l[m] ↔ _
  rw [getElem?_eq_some_getElem_iff hn m _ hm]; exact eq_comm

theorem lnk_prev_eq_iff {l : List Nat} (hn : l.Nodup) (L j m : Nat) (hm : m < l.length) :
    (lnk l L j).prev = some l[m] ↔ m + 1 = j := by
  cases j with
  | zero => exact ⟨fun e => (by cases e), fun e => absurd e (Nat.succ_ne_zero m)⟩
  | succ j' =>
    show (if j' + 1 = 0 then none else l[j' + 1 - 1]?) = some l[m] ↔ _
    rw [if_neg (Nat.succ_ne_zero j'), Nat.add_sub_cancel, getElem?_eq_some_getElem_iff hn m _ hm,
      Nat.add_right_cancel_iff]
    exact eq_comm

theorem lnk_eraseIdx_lt (l : List Nat) (L : Nat) {i j : Nat} (h : i < j) :
    lnk (l.eraseIdx j) L i =
      { prev := (lnk l L i).prev, next := if i + 1 = j then (lnk l L j).next else (lnk l L i).next,
        parent := some L } := by
  unfold lnk
  congr 1
  · cases i with
    | zero => rfl
    | succ i' =>
      rw [if_neg (Nat.succ_ne_zero i'), if_neg (Nat.succ_ne_zero i'), Nat.add_sub_cancel, List.getElem?_eraseIdx,
        if_pos (Nat.lt_of_succ_lt h)]
  · rw [List.getElem?_eraseIdx]
    by_cases e : i + 1 = j
    · rw [if_pos e, if_neg (by rw [e]; exact Nat.lt_irrefl j), e]
    · rw [if_neg e, if_pos (Nat.lt_of_le_of_ne h e)]

theorem lnk_eraseIdx_ge (l : List Nat) (L : Nat) {i j : Nat} (h : j ≤ i) :
    lnk (l.eraseIdx j) L i =
      { prev := if i = j then (lnk l L j).prev else (lnk l L (i + 1)).prev, next := (lnk l L (i + 1)).next,
        parent := some L } := by
  unfold lnk
  congr 1
  · cases i with
    | zero =>
      rw [if_pos (Nat.le_zero.1 h).symm, if_pos (Nat.le_zero.1 h)]; rfl
    | succ i' =>
      rw [if_neg (Nat.succ_ne_zero i'), if_neg (Nat.succ_ne_zero (i' + 1)), Nat.add_sub_cancel, Nat.add_sub_cancel,
        List.getElem?_eraseIdx]
      by_cases e : i' + 1 = j
      · rw [if_pos e, if_pos (by rw [← e]; exact Nat.lt_succ_self i'), if_neg (by rw [← e]; exact Nat.succ_ne_zero i'),
          ← e, Nat.add_sub_cancel]
      · rw [if_neg e, if_neg (by omega)]
  · rw [List.getElem?_eraseIdx, if_neg (Nat.not_lt.2 (Nat.le_succ_of_le h))]

theorem lnk_insertIdx_lt (l : List Nat) (L n : Nat) {i j : Nat} (hj : j ≤ l.length) (h : i < j) :
    lnk (l.insertIdx j n) L i =
      { prev := (lnk l L i).prev, next := if i + 1 = j then some n else (lnk l L i).next, parent := some L } := by
  unfold lnk
  congr 1
  · cases i with
    | zero => rfl
    | succ i' =>
      rw [if_neg (Nat.succ_ne_zero i'), if_neg (Nat.succ_ne_zero i'), Nat.add_sub_cancel,
        List.getElem?_insertIdx_of_lt (Nat.lt_of_succ_lt h)]
  · by_cases e : i + 1 = j
    · rw [if_pos e, e, List.getElem?_insertIdx_self, if_pos hj]
    · rw [if_neg e, List.getElem?_insertIdx_of_lt (Nat.lt_of_le_of_ne h e)]

theorem lnk_insertIdx_self (l : List Nat) (L n j : Nat) :
    lnk (l.insertIdx j n) L j = { prev := (lnk l L j).prev, next := l[j]?, parent := some L } := by
  unfold lnk
  congr 1
  · cases j with
    | zero => rfl
    | succ j' =>
      rw [if_neg (Nat.succ_ne_zero j'), if_neg (Nat.succ_ne_zero j'), Nat.add_sub_cancel,
        List.getElem?_insertIdx_of_lt (Nat.lt_succ_self j')]
  · rw [List.getElem?_insertIdx_of_gt (Nat.lt_add_one j), Nat.add_sub_cancel]

theorem lnk_insertIdx_gt (l : List Nat) (L n : Nat) {m j : Nat} (hj : j ≤ l.length) (h : j ≤ m) :
    lnk (l.insertIdx j n) L (m + 1) =
      { prev := if m = j then some n else (lnk l L m).prev, next := (lnk l L m).next, parent := some L } := by
  unfold lnk
  congr 1
  · rw [if_neg (Nat.succ_ne_zero m), Nat.add_sub_cancel]
    by_cases e : m = j
    · rw [if_pos e, e, List.getElem?_insertIdx_self, if_pos hj]
    · have hlt : j < m := Nat.lt_of_le_of_ne h (Ne.symm e)
      rw [if_neg e, if_neg (Nat.ne_zero_of_lt hlt), List.getElem?_insertIdx_of_gt hlt]
  · rw [List.getElem?_insertIdx_of_gt (Nat.lt_add_one_of_le (Nat.le_add_right_of_le h)), Nat.add_sub_cancel]

theorem insertIdx_nodup (l : List Nat) (j n : Nat) (hn : l.Nodup) (hnl : n ∉ l) (hj : j ≤ l.length) :
    (l.insertIdx j n).Nodup := by
  have hp : (l.insertIdx j n).Perm (n :: l) := List.perm_insertIdx n l hj
  exact hp.nodup_iff.2 (List.nodup_cons.2 ⟨hnl, hn⟩)

/-- the three ways of attaching a node (head, tail, before) produce a heap of this shape: `n` has the neighbours of
    position `j`, its two neighbours point at it, the header's ends move if `j` is an end; such a heap stands for the
    sequence with `n` put in at `j` -/
theorem repr_insertIdx {h h' : LHeap} {L : Nat} {l : List Nat} (r : Repr h L l) (j n : Nat) (hj : j ≤ l.length)
    (hnl : n ∉ l)
    (hhdr : h'.lists L = some { head := if j = 0 then some n else l.head?,
                                tail := if j = l.length then some n else l.getLast?, cnt := l.length + 1 })
    (hn : h'.nodes n = some { prev := (lnk l L j).prev, next := l[j]?, parent := some L })
    (hnodes : ∀ m (hm : m < l.length), h'.nodes l[m] =
      some { prev := if m = j then some n else (lnk l L m).prev,
             next := if m + 1 = j then some n else (lnk l L m).next, parent := some L }) :
    Repr h' L (l.insertIdx j n) := by
  have hlen : (l.insertIdx j n).length = l.length + 1 := by rw [List.length_insertIdx, if_pos hj]
  refine ⟨?_, insertIdx_nodup l j n r.nodup hnl hj, ?_⟩
  · rw [hhdr, hlen]
    congr 2
    · rw [List.head?_eq_getElem?, List.head?_eq_getElem?, List.getElem?_insertIdx]
      by_cases h0 : j = 0
      · subst h0; rw [if_pos rfl, if_neg (Nat.lt_irrefl 0), if_pos rfl, if_pos hj]
      · rw [if_neg h0, if_pos (Nat.pos_of_ne_zero h0)]
    · rw [List.getLast?_eq_getElem?, List.getLast?_eq_getElem?, hlen, Nat.add_sub_cancel]
      by_cases hl : j = l.length
      · rw [if_pos hl, hl, List.getElem?_insertIdx_self, if_pos (Nat.le_refl _)]
      · rw [if_neg hl, List.getElem?_insertIdx_of_gt (Nat.lt_of_le_of_ne hj hl)]
  · intro i x hx
    show _ = some (lnk (l.insertIdx j n) L i)
    by_cases hij : i < j
    · rw [List.getElem?_insertIdx_of_lt hij] at hx
      obtain ⟨hi, rfl⟩ := List.getElem?_eq_some_iff.1 hx
      rw [hnodes i hi, if_neg (Nat.ne_of_lt hij), lnk_insertIdx_lt l L n hj hij]
    by_cases hie : i = j
    · subst hie
      rw [List.getElem?_insertIdx_self, if_pos hj] at hx; cases hx
      rw [hn, lnk_insertIdx_self]
    · have hji : j < i := Nat.lt_of_le_of_ne (Nat.le_of_not_lt hij) (Ne.symm hie)
      obtain ⟨m, rfl⟩ := Nat.exists_eq_add_one_of_ne_zero (Nat.ne_zero_of_lt hji)
      have hjm : j ≤ m := Nat.le_of_lt_succ hji
      rw [List.getElem?_insertIdx_of_gt (Nat.lt_add_one_of_le hjm), Nat.add_sub_cancel] at hx
      obtain ⟨hm, rfl⟩ := List.getElem?_eq_some_iff.1 hx
      rw [hnodes m hm, if_neg (Nat.ne_of_gt (Nat.lt_succ_of_le hjm)), lnk_insertIdx_gt l L n hj hjm]

theorem lnk_prev_mem {l : List Nat} {L j y : Nat} (e : (lnk l L j).prev = some y) : y ∈ l := by
  simp only [lnk] at e
  split at e
  · cases e
  · exact List.mem_of_getElem? e

/-- the pointer updates of ares_llist_attach_at for position `j` of the sequence `l`; an update through a NULL pointer
    (no predecessor, no successor) does nothing -/
def linkAt (h : LHeap) (L : Nat) (l : List Nat) (j n : Nat) : LHeap :=
  (((h.setNode n (some { prev := (lnk l L j).prev, next := l[j]?, parent := some L })).setPrev l[j]? (some n)).setNext
      (lnk l L j).prev (some n)).setList L
    (some { head := if j = 0 then some n else l.head?, tail := if j = l.length then some n else l.getLast?,
            cnt := l.length + 1 })

theorem linkAt_spec (h : LHeap) (L : Nat) (l : List Nat) (j n : Nat) (r : Repr h L l) (hj : j ≤ l.length)
    (hnl : n ∉ l) :
    Repr (linkAt h L l j n) L (l.insertIdx j n) ∧ (∀ L', L' ≠ L → (linkAt h L l j n).lists L' = h.lists L') ∧
      (∀ y, y ≠ n → y ∉ l → (linkAt h L l j n).nodes y = h.nodes y) := by
  unfold linkAt
  refine ⟨repr_insertIdx r j n hj hnl ?_ ?_ ?_, fun L' hL => by simp [hL], ?_⟩
  · rw [setList_lists, if_pos rfl]
  · rw [setList_nodes, setNext_nodes, setPrev_nodes, setNode_nodes, if_pos rfl,
      if_neg (fun e => hnl (lnk_prev_mem e)), if_neg (fun e => hnl (List.mem_of_getElem? e))]
  · intro m hm
    have hne : l[m] ≠ n := fun e => hnl (e ▸ List.getElem_mem hm)
    rw [setList_nodes, setNext_nodes, setPrev_nodes, setNode_nodes, if_neg hne, r.link' m hm]
    have c1 : l[j]? = some l[m] ↔ j = m := getElem?_eq_some_getElem_iff r.nodup m j hm
    have c2 : (lnk l L j).prev = some l[m] ↔ m + 1 = j := lnk_prev_eq_iff r.nodup L j m hm
    by_cases e1 : m = j
    · have e2 : ¬ m + 1 = j := by rw [e1]; exact Nat.succ_ne_self j
      rw [if_neg (fun hh => e2 (c2.1 hh)), if_pos (c1.2 e1.symm), if_pos e1, if_neg e2]; rfl
    · rw [if_neg (fun hh => e1 (c1.1 hh).symm), if_neg e1]
      by_cases e2 : m + 1 = j
      · rw [if_pos (c2.2 e2), if_pos e2]; rfl
      · rw [if_neg (fun hh => e2 (c2.1 hh)), if_neg e2]; rfl
  · intro y hy hyl
    rw [setList_nodes, setNext_nodes, setPrev_nodes, setNode_nodes, if_neg hy,
      if_neg (fun e => hyl (lnk_prev_mem e)), if_neg (fun e => hyl (List.mem_of_getElem? e))]

theorem attachAt_head_eq (lp : Bool) (h : LHeap) (L : Nat) (l : List Nat) (a : Option Nat) (n : Nat) (nd0 : LNode)
    (r : Repr h L l) (hn : h.nodes n = some nd0) : attachAt lp h L .head a n = linkAt h L l 0 n := by
  unfold attachAt linkAt
  rw [r.hdr, hn]
  cases l <;> simp [lnk, setNext]

theorem attachAt_tail_eq (lp : Bool) (h : LHeap) (L : Nat) (l : List Nat) (a : Option Nat) (n : Nat) (nd0 : LNode)
    (r : Repr h L l) (hn : h.nodes n = some nd0) : attachAt lp h L .tail a n = linkAt h L l l.length n := by
  unfold attachAt linkAt
  rw [r.hdr, hn]
  cases l <;> simp [lnk, setPrev, List.getLast?_eq_getElem?]

theorem detach_eq (h : LHeap) (L : Nat) (l : List Nat) (j : Nat) (r : Repr h L l) (hj : j < l.length) :
    detach h l[j] =
      ((((h.setNext (lnk l L j).prev (lnk l L j).next).setPrev (lnk l L j).next (lnk l L j).prev).setNode l[j]
          (some { lnk l L j with parent := none })).setList L
        (some { head := if l.head? = some l[j] then (lnk l L j).next else l.head?,
                tail := if l.getLast? = some l[j] then (lnk l L j).prev else l.getLast?, cnt := l.length - 1 })) := by
  have hnode := r.link' j hj
  have hjp : ∀ (k : Nat), l[k]? = some l[j] ↔ k = j := fun k => getElem?_eq_some_getElem_iff r.nodup j k hj
  have hself : ((h.setNext (lnk l L j).prev (lnk l L j).next).setPrev (lnk l L j).next (lnk l L j).prev).nodes l[j] =
      some (lnk l L j) := by
    rw [setPrev_nodes, setNext_nodes]
    have h1 : ¬ (lnk l L j).next = some l[j] := fun e =>
      Nat.ne_of_lt (Nat.lt_succ_self j) ((lnk_next_eq_iff r.nodup L j j hj).1 e)
    have h2 : ¬ (lnk l L j).prev = some l[j] := fun e =>
      Nat.ne_of_gt (Nat.lt_succ_self j) ((lnk_prev_eq_iff r.nodup L j j hj).1 e)
    rw [if_neg h1, if_neg h2]; exact hnode
  unfold detach
  rw [hnode]
  simp only [lnk, Option.bind_some, r.hdr]
  simp only [lnk] at hself
  rw [hself]

theorem eraseIdx_head? (l : List Nat) (j : Nat) (hj : j < l.length) :
    (l.eraseIdx j).head? = if j = 0 then l[1]? else l[0]? := by
  rw [List.head?_eq_getElem?, List.getElem?_eraseIdx]
  by_cases h0 : j = 0
  · subst h0; simp
  · rw [if_pos (Nat.pos_of_ne_zero h0), if_neg h0]

theorem eraseIdx_getLast? (l : List Nat) (j : Nat) (hj : j < l.length) :
    (l.eraseIdx j).getLast? = if j + 1 = l.length then (if j = 0 then none else l[j - 1]?) else l.getLast? := by
  rw [List.eraseIdx_eq_take_drop_succ, List.getLast?_append, List.getLast?_drop, List.getLast?_take]
  by_cases hl : j + 1 = l.length
  · rw [if_pos hl, if_pos (Nat.le_of_eq hl.symm), Option.none_or]
    cases j with
    | zero => rfl
    | succ j' =>
      rw [if_neg (Nat.succ_ne_zero j'), if_neg (Nat.succ_ne_zero j'), Nat.add_sub_cancel,
        List.getElem?_eq_getElem (Nat.lt_of_succ_lt hj), Option.some_or]
  · rw [if_neg hl, if_neg (Nat.not_le.2 (Nat.lt_of_le_of_ne hj hl))]
    obtain ⟨x, hx⟩ : ∃ x, l.getLast? = some x := by
      rw [List.getLast?_eq_getElem?]
      exact ⟨_, List.getElem?_eq_getElem (Nat.sub_lt (Nat.zero_lt_of_lt hj) Nat.one_pos)⟩
    rw [hx, Option.some_or]
theorem detach_spec (h : LHeap) (L : Nat) (l : List Nat) (j : Nat) (r : Repr h L l) (hj : j < l.length) :
    Repr (detach h l[j]) L (l.eraseIdx j) ∧
      (∀ L', L' ≠ L → (detach h l[j]).lists L' = h.lists L') ∧
      (∀ y, y ∉ l → (detach h l[j]).nodes y = h.nodes y) ∧
      (detach h l[j]).nodes l[j] = some { lnk l L j with parent := none } := by
  have e := detach_eq h L l j r hj
  -- every other node of the list after the operation, by its old index
  have hnodes : ∀ m (hm : m < l.length), m ≠ j → (detach h l[j]).nodes l[m] =
      some { prev := if m = j + 1 then (lnk l L j).prev else (lnk l L m).prev,
             next := if m + 1 = j then (lnk l L j).next else (lnk l L m).next, parent := some L } := by
    intro m hm hmj
    have hne : l[m] ≠ l[j] := fun e => hmj ((List.getElem_inj r.nodup).mp e)
    rw [e, setList_nodes, setNode_nodes, if_neg hne, setPrev_nodes, setNext_nodes, r.link' m hm]
    have c1 := lnk_next_eq_iff r.nodup L j m hm
    have c2 := lnk_prev_eq_iff r.nodup L j m hm
    by_cases e1 : m = j + 1
    · have e2 : ¬ m + 1 = j := by omega
      rw [if_pos (c1.2 e1), if_neg (fun hh => e2 (c2.1 hh)), if_pos e1, if_neg e2]; rfl
    · rw [if_neg (fun hh => e1 (c1.1 hh)), if_neg e1]
      by_cases e2 : m + 1 = j
      · rw [if_pos (c2.2 e2), if_pos e2]; rfl
      · rw [if_neg (fun hh => e2 (c2.1 hh)), if_neg e2]; rfl
  refine ⟨⟨?_, ?_, ?_⟩, ?_, ?_, ?_⟩
  · rw [e]
    simp only [setList_lists, ↓reduceIte, List.length_eraseIdx, hj]
    rw [eraseIdx_head? l j hj, eraseIdx_getLast? l j hj]
    congr 2
    · rw [List.head?_eq_getElem?]
      by_cases h0 : j = 0
      · subst h0
        rw [if_pos (List.getElem?_eq_getElem hj), if_pos rfl]; rfl
      · rw [if_neg (fun e => h0 ((getElem?_eq_some_getElem_iff r.nodup j 0 hj).1 e).symm), if_neg h0]
    · by_cases hl : j + 1 = l.length
      · rw [if_pos ((getLast?_eq_some_getElem_iff r.nodup j hj).2 hl), if_pos hl]; rfl
      · rw [if_neg (fun e => hl ((getLast?_eq_some_getElem_iff r.nodup j hj).1 e)), if_neg hl]
  · exact r.nodup.sublist (List.eraseIdx_sublist _ _)
  · intro i x hx
    rw [List.getElem?_eraseIdx] at hx
    by_cases hij : i < j
    · rw [if_pos hij] at hx
      obtain ⟨hi, rfl⟩ := List.getElem?_eq_some_iff.1 hx
      rw [hnodes i hi (Nat.ne_of_lt hij), if_neg (Nat.ne_of_lt (Nat.lt_succ_of_lt hij)), ← lnk, lnk_eraseIdx_lt l L hij]
    · rw [if_neg hij] at hx
      have hji : j ≤ i := Nat.le_of_not_lt hij
      obtain ⟨hi, rfl⟩ := List.getElem?_eq_some_iff.1 hx
      rw [hnodes (i + 1) hi (by omega),
        if_neg (Nat.ne_of_gt (Nat.lt_succ_of_lt (Nat.lt_succ_of_le hji))), ← lnk, lnk_eraseIdx_ge l L hji]
      simp only [Nat.add_right_cancel_iff]
  · intro L' hL; rw [e]; simp [hL]
  · intro y hy
    have hne : y ≠ l[j] := fun e => hy (e ▸ List.getElem_mem hj)
    rw [e, setList_nodes, setNode_nodes, if_neg hne, setPrev_nodes, setNext_nodes]
    have c1 : ¬ (lnk l L j).next = some y := by
      simp only [lnk]; intro e; exact hy (List.mem_of_getElem? e)
    have c2 : ¬ (lnk l L j).prev = some y := fun e => hy (lnk_prev_mem e)
    rw [if_neg c1, if_neg c2]
  · rw [e, setList_nodes, setNode_nodes, if_pos rfl]

theorem attachAt_before_eq (h : LHeap) (L : Nat) (l : List Nat) (j n : Nat) (nd0 : LNode)
    (r : Repr h L l) (hj : j < l.length) (hj0 : 0 < j) (hn : h.nodes n = some nd0) :
    attachAt true h L .before (some l[j]) n = linkAt h L l j n := by
  have hhead : ¬ (some l[j] = l.head?) := by
    rw [List.head?_eq_getElem?]; intro e
    exact Nat.ne_of_lt hj0 ((getElem?_eq_some_getElem_iff r.nodup j 0 hj).1 e.symm)
  have hpos : 0 < l.length := Nat.lt_of_le_of_lt (Nat.zero_le j) hj
  have hh0 : l.head? ≠ none := by
    rw [List.head?_eq_getElem?, List.getElem?_eq_getElem hpos]; exact Option.some_ne_none _
  have hl0 : l.getLast? ≠ none := by
    rw [List.getLast?_eq_getElem?, List.getElem?_eq_getElem (Nat.sub_lt hpos Nat.one_pos)]; exact Option.some_ne_none _
  unfold attachAt linkAt
  rw [r.hdr, hn]
  simp only [hhead, false_or, reduceCtorEq, and_false, ↓reduceIte, Option.bind_some, r.link' j hj, lnk,
    Nat.ne_of_gt hj0, Nat.ne_of_lt hj, hh0, hl0, List.getElem?_eq_getElem hj]

end Cares.Dsa.LHeap
