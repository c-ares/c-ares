import Lean.Meta.Tactic.Simp.RegisterCommand
/-! simp set of the frame lemmas of the helpers of `Chan.Core` (`(helper s).field = s.field`; `ChanFrame`, `ChanStages`) -/
register_simp_attr chan_frame
