import CaresLemmas.ChanWfFrame
import CaresLemmas.ChanWfOof
/-!
# C01 — the well-formedness invariant of the channel model, preconditions of the procedures, and the
two-state relation every procedure satisfies

Everything is stated over the skeleton `St.sk` (see `ChanWfSk`).
-/
namespace Cares.Chan

/-! ### projections of the skeleton the groups of the invariant read -/

def Sk.qK (a : Sk) : List Nat := a.qs.map (·.key)
def Sk.qKQ (a : Sk) : List (Nat × Nat) := a.qs.map fun e => (e.key, e.qid)
def Sk.qKC (a : Sk) : List (Nat × Option Nat) := a.qs.map fun e => (e.key, e.conn)
def Sk.qKO (a : Sk) : List (Nat × Owner) := a.qs.map fun e => (e.key, e.owner)
/-- keys linked into the qid table (`queries_by_qid`): these queries can still be reached by the library,
    hence can still get a completion callback -/
def Sk.idx (a : Sk) : List Nat := a.byQid.map (·.2)
def Sk.cFQ (a : Sk) : List (Nat × List Nat) := a.conns.map fun c => (c.fd, c.queries)
def Sk.cF4 (a : Sk) : List (Nat × Bool × Nat × Bool) := a.conns.map fun c => (c.fd, c.unlinked, c.srv, c.tcp)
def Sk.cFUQ (a : Sk) : List (Nat × Bool × List Nat) := a.conns.map fun c => (c.fd, c.unlinked, c.queries)

/-- queries: keys are distinct and below the allocation counter -/
structure WfQP (qK : List Nat) (nextKey : Nat) : Prop where
  nodup : qK.Nodup
  lt : ∀ k ∈ qK, k < nextKey

/-- the qid table refers to live queries; `all` and the lists being walked refer to linked queries -/
structure WfIP (qKQ byQid : List (Nat × Nat)) (all : List Nat) (lc : List (List Nat)) : Prop where
  qidLive : ∀ p ∈ byQid, (p.2, p.1) ∈ qKQ
  allNodup : all.Nodup
  allIdx : ∀ k ∈ all, k ∈ byQid.map (·.2)
  lcOk : ∀ l ∈ lc, l.Nodup ∧ ∀ k ∈ l, k ∈ byQid.map (·.2)
  /-- a key is in at most one of `all_queries` and the lists being walked -/
  disj : (all ++ lc.flatten).Nodup
  /-- every linked query is in `all_queries` or in a list being walked by `ares_cancel` / `ares_destroy` -/
  nl : ∀ k ∈ byQid.map (·.2), k ∈ all ∨ ∃ l ∈ lc, k ∈ l

/-- the by-timeout index (and the keys waiting to enter it) refer to linked queries that have a connection -/
structure WfTP (qKC : List (Nat × Option Nat)) (idx bt po : List Nat) : Prop where
  btNodup : bt.Nodup
  btOk : ∀ k ∈ bt, k ∈ idx ∧ ∃ fd, (k, some fd) ∈ qKC
  poNodup : po.Nodup
  poOk : ∀ k ∈ po, k ∈ idx ∧ (∃ fd, (k, some fd) ∈ qKC) ∧ k ∉ bt

/-- connections: descriptors distinct, below the counter, backed by a virtual socket; a connection's list
    holds linked queries that point back to it; a query's connection exists and lists it.
    `hole = some k`: query `k` has just left its connection's list and is about to be requeued or ended
    (the transient state inside `process_answer`). -/
structure WfCP (qKC : List (Nat × Option Nat)) (idx : List Nat) (cFQ : List (Nat × List Nat)) (nextFd : Nat)
    (socks : List Nat) (hole : Option Nat) : Prop where
  nodup : (cFQ.map (·.1)).Nodup
  lt : ∀ c ∈ cFQ, c.1 < nextFd
  sock : ∀ c ∈ cFQ, c.1 ∈ socks
  qNodup : ∀ c ∈ cFQ, c.2.Nodup
  cq : ∀ c ∈ cFQ, ∀ k ∈ c.2, k ∈ idx ∧ (k, some c.1) ∈ qKC
  qc : ∀ p ∈ qKC, ∀ fd, p.2 = some fd → ∃ c ∈ cFQ, c.1 = fd ∧ (p.1 ∈ c.2 ∨ hole = some p.1)

/-- servers: ids distinct; a server's connection list / TCP connection are live, linked connections of it -/
structure WfSP (servers : List SSk) (cF4 : List (Nat × Bool × Nat × Bool)) : Prop where
  nodup : (servers.map (·.id)).Nodup
  connsNodup : ∀ v ∈ servers, v.conns.Nodup
  conns : ∀ v ∈ servers, ∀ fd ∈ v.conns, ∃ t, (fd, false, v.id, t) ∈ cF4
  tcp : ∀ v ∈ servers, ∀ fd, v.tcpConn = some fd → (fd, false, v.id, true) ∈ cF4
  /-- a connection that has not been unlinked is on its server's list -/
  linked : ∀ fd srv t, (fd, false, srv, t) ∈ cF4 → ∃ v ∈ servers, v.id = srv ∧ fd ∈ v.conns

structure WfKP (cl : List KSk) (nextClient : Nat) : Prop where
  nodup : (cl.map (·.id)).Nodup
  lt : ∀ c ∈ cl, c.id < nextClient

/-- number of sub-requests of the compound request `id` that can still complete (linked queries it owns) -/
def subsP (qKO : List (Nat × Owner)) (idx : List Nat) (id : Nat) : Nat :=
  qKO.countP fun p => decide (p.1 ∈ idx) && decide (p.2 = Owner.client id)

/-- the compound request `id` has no sub-request that could still complete -/
def NoSubP (qKO : List (Nat × Owner)) (idx : List Nat) (id : Nat) : Prop :=
  ∀ p ∈ qKO, p.1 ∈ idx → p.2 ≠ .client id

/-- token accounting: callbacks made / still owed are duplicate-free and disjoint; every linked query owned by
    the application has its token pending and is the only holder of it; every linked sub-request of a
    compound request has a live compound request whose token is pending -/
structure WfTokP (qKO : List (Nat × Owner)) (idx : List Nat) (cl : List KSk) (pend done : List Nat)
    (rs : Nat) : Prop where
  pN : pend.Nodup
  dN : done.Nodup
  disj : ∀ t ∈ pend, t ∉ done
  pB : ∀ t ∈ pend, t < 10000 + rs
  dB : ∀ t ∈ done, t < 10000 + rs
  tQ : ∀ p ∈ qKO, p.1 ∈ idx → ∀ tok, p.2 = .user tok →
    tok ∈ pend ∧ (∀ p' ∈ qKO, p'.1 ∈ idx → p'.2 = .user tok → p'.1 = p.1) ∧ (∀ c ∈ cl, c.tok ≠ tok)
  tC : ∀ p ∈ qKO, p.1 ∈ idx → ∀ id, p.2 = .client id → ∃ c ∈ cl, c.id = id ∧ c.tok ∈ pend
  tK : ∀ c ∈ cl, c.tok ∈ pend ∨ c.tok ∈ done
  tKU : ∀ c ∈ cl, ∀ c' ∈ cl, c.tok = c'.tok → c.tok ∈ pend → c.id = c'.id

/-- the index / ownership / token invariant -/
structure WfS (a : Sk) (hole : Option Nat) : Prop where
  q : WfQP a.qK a.nextKey
  i : WfIP a.qKQ a.byQid a.all a.listCopy
  t : WfTP a.qKC a.idx a.byTimeout a.pendingOrder
  c : WfCP a.qKC a.idx a.cFQ a.nextFd a.socks hole
  s : WfSP a.servers a.cF4
  k : WfKP a.clients a.nextClient
  tok : WfTokP a.qKO a.idx a.clients a.pendingToks a.doneToks a.reactSeq

def Wf (s : St) : Prop := WfS s.sk none

def Sk.Idx (a : Sk) (k : Nat) : Prop := k ∈ a.idx
def Sk.NoSub (a : Sk) (id : Nat) : Prop := NoSubP a.qKO a.idx id
def Sk.subs (a : Sk) (id : Nat) : Nat := subsP a.qKO a.idx id
/-- the compound request `id` is live and its user callback is still owed -/
def Sk.Active (a : Sk) (id : Nat) : Prop := ∃ c ∈ a.clients, c.id = id ∧ c.tok ∈ a.pendingToks

/-! ### ghost debt

`d id` = number of sub-requests the frames *below* the current procedure on the C stack are still going to
start for the compound request `id` (the not-yet-executed `.send` actions of the `runActs` frames in
progress).  It is a ghost parameter of the precondition / postcondition pair: every body lemma holds for
every `d`.  `DebtOk x d a`: each active compound request (other than `x`) waits for exactly its linked
sub-requests plus that debt. -/

def bump (d : Nat → Nat) (id n : Nat) : Nat → Nat := fun i => if i = id then d i + n else d i

structure DebtOk (x : Option Nat) (d : Nat → Nat) (a : Sk) : Prop where
  fresh : ∀ id, a.nextClient ≤ id → d id = 0
  cnt : ∀ c ∈ a.clients, c.tok ∈ a.pendingToks → some c.id ≠ x → c.out = a.subs c.id + d c.id

/-- the caller holds a completion callback that has not been invoked and that no live object will invoke -/
def Sk.OwnerFree (a : Sk) : Owner → Prop
  | .probe _ => True
  | .user tok => tok ∈ a.pendingToks ∧ (∀ p ∈ a.qKO, p.1 ∈ a.idx → p.2 ≠ .user tok) ∧
      (∀ c ∈ a.clients, c.tok ≠ tok)
  | .client id => a.Active id

/-- `.send` / `.sendSlot` actions that `runActs` will execute (those before the first `.finish`) -/
def sends : List ClientAct → Nat
  | [] => 0
  | .send _ :: r => sends r + 1
  | .sendSlot _ _ :: r => sends r + 1
  | .noRetry _ :: r => sends r
  | .finish _ _ _ :: _ => 0

def hasFinish : List ClientAct → Bool
  | [] => false
  | .finish _ _ _ :: _ => true
  | _ :: r => hasFinish r

/-- owner-specific part of the debt invariant: the callback / request about to be handed over counts as one
    outstanding sub-request of its compound request -/
def Sk.DebtFor (a : Sk) (d : Nat → Nat) : Owner → Prop
  | .client id => DebtOk none (bump d id 1) a
  | _ => DebtOk none d a

def Sk.hasConn (a : Sk) (fd : Nat) (unl : Bool) : Prop := ∃ q, (fd, unl, q) ∈ a.cFUQ
def Sk.liveConn (a : Sk) (fd : Nat) : Prop := fd ∈ a.cFQ.map (·.1)

/-- precondition of each procedure (what its callers establish) -/
def Pre (d : Nat → Nat) (s : St) : Call → Prop
  | .sendNolock _ _ _ _ owner _ => Wf s ∧ s.sk.OwnerFree owner ∧ s.sk.DebtFor d owner
  | .sendQuery _ key => Wf s ∧ s.sk.Idx key ∧ DebtOk none d s.sk
  | .requeue key _ _ _ _ => WfS s.sk (some key) ∧ s.sk.Idx key ∧ DebtOk none d s.sk
  | .endQuery _ key _ _ => WfS s.sk (some key) ∧ s.sk.Idx key ∧ DebtOk none d s.sk
  | .callback owner _ _ _ _ => Wf s ∧ s.sk.OwnerFree owner ∧ s.sk.DebtFor d owner
  | .userCb tok _ _ _ _ => Wf s ∧
      (∃ x, DebtOk x d s.sk ∧ ∀ c ∈ s.sk.clients, some c.id = x → c.tok = tok) ∧ tok ∈ s.sk.pendingToks ∧
      (∀ p ∈ s.sk.qKO, p.1 ∈ s.sk.idx → p.2 ≠ .user tok) ∧
      (∀ c ∈ s.sk.clients, c.tok = tok → s.sk.NoSub c.id ∧ d c.id = 0)
  | .closeConn fd _ => Wf s ∧ s.sk.hasConn fd false ∧ DebtOk none d s.sk
  | .connError fd _ _ => Wf s ∧ s.sk.hasConn fd false ∧ DebtOk none d s.sk
  | .closeLoop fd _ => Wf s ∧ s.sk.hasConn fd true ∧ DebtOk none d s.sk
  | .flush fd => Wf s ∧ s.sk.liveConn fd ∧ DebtOk none d s.sk
  | .readAnswers fd => Wf s ∧ s.sk.liveConn fd ∧ DebtOk none d s.sk
  | .processAnswer fd _ => Wf s ∧ s.sk.liveConn fd ∧ DebtOk none d s.sk
  | .clientStart _ tok _ _ _ => Wf s ∧ s.sk.OwnerFree (.user tok) ∧ DebtOk none d s.sk
  | .runActs id acts => Wf s ∧
      (if hasFinish acts then
        s.sk.Active id ∧ sends acts = 0 ∧ s.sk.NoSub id ∧ d id = 0 ∧ DebtOk (some id) d s.sk
       else DebtOk none (bump d id (sends acts)) s.sk ∧ (0 < sends acts → s.sk.Active id))
  /- `ares_destroy` is never called by another procedure; it is treated separately (`ChanWfDestroy`) -/
  | .destroy => False
  | _ => Wf s ∧ DebtOk none d s.sk

def exFd : Call → Option Nat
  | .closeLoop fd _ => some fd
  | _ => none

def exId : Call → Option Nat
  | .sendNolock _ _ _ _ (.client id) _ => some id
  | .callback (.client id) _ _ _ _ => some id
  | .runActs id _ => some id
  | _ => none

/-- level by level, the lists of the first stack are included in those of the second -/
inductive LcSub : List (List Nat) → List (List Nat) → Prop
  | nil : LcSub [] []
  | cons {l' l : List Nat} {t' t : List (List Nat)} : (∀ k ∈ l', k ∈ l) → LcSub t' t → LcSub (l' :: t') (l :: t)

/-- progress of the requests between two states; `xt` is the token of a callback that is in flight (its query has
    been unlinked, the callback has not run yet) -/
structure ProgS (xt : Option Nat) (a a' : Sk) : Prop where
  /-- callbacks made stay made -/
  doneMono : ∀ t ∈ a.doneToks, t ∈ a'.doneToks
  /-- the lists being walked by `ares_cancel` / `ares_destroy` frames only lose keys -/
  lcRel : LcSub a'.listCopy a.listCopy
  allNew : ∀ k ∈ a'.all, k ∈ a.all ∨ a.nextKey ≤ k
  keysLt : (∀ p ∈ a.qKO, p.1 < a.nextKey) → ∀ p ∈ a'.qKO, p.1 < a'.nextKey
  /-- a query that is still linked is the same query (keys are not reused, owners do not change) -/
  ownKeep : (∀ p ∈ a.qKO, p.1 < a.nextKey) → ∀ p ∈ a.qKO, p.1 ∈ a'.idx → p ∈ a'.qKO
  /-- a request of the application that is no longer linked has had its callback -/
  done6 : (∀ p ∈ a.qKO, p.1 < a.nextKey) → ∀ p ∈ a.qKO, p.1 ∈ a.idx → p.1 ∉ a'.idx →
    ∀ tok, p.2 = .user tok → tok ∈ a'.doneToks ∨ some tok = xt

/-- what every procedure guarantees about the pair (state before, state after) -/
structure StepT (xf xi xt : Option Nat) (d : Nat → Nat) (a a' : Sk) : Prop where
  /-- no safety fault is recorded -/
  faults : a'.faults = a.faults
  kMono : a.nextClient ≤ a'.nextClient
  keyMono : a.nextKey ≤ a'.nextKey
  /-- only new queries get linked -/
  idxNew : ∀ x ∈ a'.idx, x ∈ a.idx ∨ a.nextKey ≤ x
  /-- a connection that is being closed by an outer frame stays in the store, and nothing is added to it -/
  unl : ∀ fd q, (fd, true, q) ∈ a.cFUQ → some fd ≠ xf → ∃ q', (fd, true, q') ∈ a'.cFUQ ∧ ∀ k ∈ q', k ∈ q
  /-- a compound request without sub-requests gets none (unless the procedure acts for it) -/
  orphan : ∀ id, id < a.nextClient → some id ≠ xi → a.NoSub id → a'.NoSub id
  /-- a compound request for which an outer frame will still start sub-requests is not completed -/
  debtAlive : ∀ id, a.Active id → 0 < d id → a'.Active id
  prog : ProgS xt a a'

/-- the relation with no callback in flight -/
abbrev StepS (xf xi : Option Nat) (d : Nat → Nat) (a a' : Sk) : Prop := StepT xf xi none d a a'

/-- the walk of `ares_cancel` (`fromAll = false`) / `ares_destroy` has nothing left to do -/
def cancelHead (s : St) (fromAll : Bool) : Option Nat :=
  if fromAll then s.all.head? else (s.listCopy.head?).bind (·.head?)

/-- call-specific postconditions -/
def Post (s : St) (r : St × Ret) : Call → Prop
  | .flush _ => r.1.sk = s.sk
  | .requeue key _ _ _ _ =>
      ∀ fd q, (fd, true, q) ∈ s.sk.cFUQ → ∀ q', (fd, q') ∈ r.1.sk.cFQ → key ∉ q'
  | .userCb tok _ _ _ _ => tok ∈ r.1.sk.doneToks
  | .callback (.user tok) _ _ _ _ => tok ∈ r.1.sk.doneToks
  | .cancelLoop _ fromAll => cancelHead r.1 fromAll = none
  /- with no query linked, closing a connection removes it and touches nothing else (`ares_destroy`) -/
  | .closeLoop fd _ => s.sk.idx = [] → r.1.sk.cFUQ = s.sk.cFUQ.filter (fun x => x.1 != fd) ∧ r.1.sk.idx = []
  | .closeConn fd _ => s.sk.idx = [] → r.1.sk.cFUQ = s.sk.cFUQ.filter (fun x => x.1 != fd) ∧ r.1.sk.idx = []
  /- `ares_cancel`: every request of the application that was in `all_queries` has had its callback -/
  | .cancel => ∀ k ∈ s.sk.all, ∀ tok, (k, Owner.user tok) ∈ s.sk.qKO → tok ∈ r.1.sk.doneToks
  | _ => True

structure Good (d : Nat → Nat) (c : Call) (s : St) (r : St × Ret) : Prop where
  wf : Wf r.1
  debt : DebtOk none d r.1.sk
  step : StepS (exFd c) (exId c) d s.sk r.1.sk
  post : Post s r c

/-- the guarantee modulo fuel: nothing is claimed about a run that ran out of fuel (the flag is sticky) -/
def GoodO (d : Nat → Nat) (c : Call) (s : St) (r : St × Ret) : Prop := r.1.outOfFuel = true ∨ Good d c s r

/-- C01's guarantee of an executor: what `goOk_exec` says of `exec n` -/
def GoOk (go : Call → St → St × Ret) : Prop := OofMono go ∧ ∀ d c s, Pre d s c → GoodO d c s (go c s)

end Cares.Chan
