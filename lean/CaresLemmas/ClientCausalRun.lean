import CaresLemmas.ClientExecRun
import CaresLemmas.ChanWfDestroy
/-!
# Causality of channel runs

`RunI s t L`: a run `RunC s t L` (completed top-level calls and environment steps) all of whose states satisfy the
C01 invariant (`Wf ∧ DebtOk none 0`, i.e. `C01.Inv`) and whose top-level calls satisfy their C01 precondition
(`Pre 0`, i.e. `C01.CallOk` — what the driver establishes with `callOk_loop` / `callOk_accept`), or are
`ares_destroy` called between API calls.  An environment step must also keep the number of linked sub-requests of
every compound request (`Sk.subs`; true for everything the driver does between calls: `settle`, accepting a token,
time, replies, socket scripts — `RunI.env_sk`, `RunI.settle`, `C12c.run_accept`).

`RunI.causal`: the log of such a run is causal for every compound request created during the run.
-/
namespace Cares.Chan

variable {cid : Nat}

theorem execC_destroy_lg (fuel : Nat) {s : St} {L : CLog} (hw : Wf s) (hd : DebtOk none (fun _ => 0) s.sk)
    (hlc : s.listCopy = []) (hL : LG cid L 0 s) (hf : (exec fuel .destroy s).1.outOfFuel = false) :
    LG cid (L ++ (execC fuel .destroy s).2) 0 (exec fuel .destroy s).1 :=
  (exec_destroy fuel hw hd hlc hL hf).2.2.2.2.2.2.2

/-- a run under the C01 discipline: the first state satisfies the invariant (`C01.Inv`), every top-level call
    satisfies its precondition (`C01.CallOk`) or is `ares_destroy` between API calls, every environment step
    re-establishes the invariant and keeps the number of linked sub-requests of every compound request -/
inductive RunI : St → St → CLog → Prop
  | nil (s : St) : (Wf s ∧ DebtOk none (fun _ => 0) s.sk) → RunI s s []
  | env {s t t' : St} {L : CLog} : RunI s t L → t'.clients = t.clients → t'.nextClient = t.nextClient →
      t'.cfg = t.cfg → t'.accepted = t.accepted → t'.cache = t.cache →
      (Wf t' ∧ DebtOk none (fun _ => 0) t'.sk) → (∀ id, t'.sk.subs id = t.sk.subs id) → RunI s t' L
  | call {s t : St} {L : CLog} (fuel : Nat) (call : Call) : RunI s t L → call.topC → Pre (fun _ => 0) t call →
      (exec fuel call t).1.outOfFuel = false → RunI s (exec fuel call t).1 (L ++ (execC fuel call t).2)
  | destroy {s t : St} {L : CLog} (fuel : Nat) : RunI s t L → t.listCopy = [] →
      (exec fuel .destroy t).1.outOfFuel = false → RunI s (exec fuel .destroy t).1 (L ++ (execC fuel .destroy t).2)

theorem destroy_topC : Call.topC .destroy := ⟨fun _ _ h => (by cases h), rfl⟩

theorem RunI.run {s t : St} {L : CLog} (hr : RunI s t L) : RunC s t L := by
  induction hr with
  | nil _ => exact RunC.nil _
  | env _ h1 h2 h3 h4 h5 _ _ ih => exact ih.env h1 h2 h3 h4 h5
  | call fuel call _ htop _ hf ih => exact ih.call fuel call htop hf
  | destroy fuel _ _ hf ih => exact ih.call fuel .destroy destroy_topC hf

theorem RunI.inv0 {s t : St} {L : CLog} (hr : RunI s t L) : Wf s ∧ DebtOk none (fun _ => 0) s.sk := by
  induction hr with
  | nil h => exact h
  | env _ _ _ _ _ _ _ _ ih => exact ih
  | call _ _ _ _ _ _ ih => exact ih
  | destroy _ _ _ _ ih => exact ih

theorem RunI.inv {s t : St} {L : CLog} (hr : RunI s t L) : Wf t ∧ DebtOk none (fun _ => 0) t.sk := by
  induction hr with
  | nil h => exact h
  | env _ _ _ _ _ _ h _ _ => exact h
  | call fuel call _ _ hp hf _ =>
    exact ⟨(good_exec fuel hp hf).wf, (good_exec fuel hp hf).debt⟩
  | destroy fuel _ hl hf ih =>
    obtain ⟨L0, hL0⟩ := LG.exists (cid := 0) _ 0
    have hm := (exec_destroy fuel ih.1 ih.2 hl hL0 hf).1
    exact ⟨hm.wf, hm.debt⟩

/-- a top-level call cannot be the hand-over of a sub-request of a compound request that has no such hand-over
    pending: with the invariant of the state, the precondition of `sendNolock … (.client id)` / `callback (.client id)`
    is contradictory -/
theorem xtra_top {t : St} {call : Call} (hi : DebtOk none (fun _ => 0) t.sk) (hp : Pre (fun _ => 0) t call) :
    xtra cid call = 0 := by
  have key : ∀ (o : Owner), t.sk.OwnerFree o → t.sk.DebtFor (fun _ => 0) o → ownerX cid o = 0 := by
    intro o hof hdf
    cases o with
    | probe => rfl
    | user _ => rfl
    | client id =>
      exfalso
      obtain ⟨c, hc, hid, hpend⟩ := hof
      have h1 := hi.cnt c hc hpend (fun hh => by cases hh)
      have h2 := (show DebtOk none (bump (fun _ => 0) id 1) t.sk from hdf).cnt c hc hpend (fun hh => by cases hh)
      rw [hid, bump_self] at h2
      rw [hid] at h1
      omega
  cases call <;> first
    | rfl
    | exact key _ hp.2.1 hp.2.2

theorem RunI.lg {s t : St} {L : CLog} (hr : RunI s t L) (hnew : s.nextClient ≤ cid) : LG cid L 0 t := by
  induction hr with
  | nil h =>
    refine ⟨rfl, ?_⟩
    have := subsP_eq_zero.mpr (noSub_fresh h.1 hnew)
    unfold Sk.subs
    rw [this]; rfl
  | env _ _ _ _ _ _ _ hs ih => exact ih.subs_eq (hs cid)
  | call fuel call hr' _ hp hf ih =>
    have hL := ih
    rw [← xtra_top (cid := cid) hr'.inv.2 hp] at hL
    exact execC_lg fuel hp hL hf
  | destroy fuel hr' hl hf ih => exact execC_destroy_lg fuel hr'.inv.1 hr'.inv.2 hl ih hf

/-- **Causality of channel runs.**  In a run from a state satisfying the C01 invariant whose top-level calls satisfy
    their C01 preconditions, every completion delivered to a compound request created during the run comes while
    strictly more sub-requests have been started for it than completions delivered. -/
theorem RunI.causal {s t : St} {L : CLog} (hr : RunI s t L) : ∀ cid, s.nextClient ≤ cid → Causal cid L :=
  fun _ hnew => (hr.lg hnew).causal

/-- anything that keeps the skeleton (time, replies, socket scripts, …) -/
theorem RunI.env_sk {s t t' : St} {L : CLog} (hr : RunI s t L) (h1 : t'.clients = t.clients)
    (h3 : t'.cfg = t.cfg) (h4 : t'.accepted = t.accepted) (h5 : t'.cache = t.cache) (hsk : t'.sk = t.sk) :
    RunI s t' L :=
  hr.env h1 (by have := congrArg Sk.nextClient hsk; exact this) h3 h4 h5
    ⟨Wf.of_sk_eq hsk hr.inv.1, by rw [hsk]; exact hr.inv.2⟩ (fun id => by rw [hsk])

theorem subs_settle (s : St) (id : Nat) (hw : Wf s) : s.settle.sk.subs id = s.sk.subs id := by
  obtain ⟨bt', e, _, _⟩ := sk_settle hw
  rw [e]
  rfl

/-- the driver's `settle` at the end of an API call -/
theorem RunI.settle {s t : St} {L : CLog} (hr : RunI s t L) : RunI s t.settle L := by
  have h := settle_frame t
  simp only [envView, Prod.mk.injEq] at h
  exact hr.env h.1 h.2.1 h.2.2.1 h.2.2.2.1 h.2.2.2.2 ⟨wf_settle hr.inv.1, debt_settle hr.inv.1 hr.inv.2⟩
    (fun id => subs_settle t id hr.inv.1)

end Cares.Chan
