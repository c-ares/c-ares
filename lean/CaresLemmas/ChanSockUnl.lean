import CaresLemmas.ChanSockUdp
/-!
# No half-closed connection survives a completed call (C10, for `ares_destroy`)

`ares_close_connection` marks a connection as unlinked (`Conn.unlinked`: no longer reachable from its server) and
releases it once its queries have been requeued.  Here: unless fuel ran out, the unlinked connections after any
procedure were already unlinked before it — and `ares_requeue_queries`' loop (`closeLoop fd`) additionally removes `fd`.
-/
namespace Cares.Chan

def uflag (c : Conn) : Nat × Bool := (c.fd, c.unlinked)

def UnlF (U : List Nat) (cs : List Conn) (oof : Bool) : Prop :=
  oof = false → ∀ c ∈ cs, c.unlinked = true → c.fd ∈ U

abbrev Unl (U : List Nat) (s : St) : Prop := UnlF U s.conns s.outOfFuel

/-- the descriptor a call is in the middle of closing (every constructor has its line, as in `Call.rec?`) -/
def closing : Call → List Nat
  | .closeLoop fd _ => [fd]
  | .sendNolock .. => [] | .sendQuery .. => [] | .requeue .. => [] | .endQuery .. => [] | .callback .. => []
  | .reactions .. => [] | .closeConn .. => [] | .connError .. => [] | .flush .. => [] | .processWrite .. => []
  | .processRead .. => [] | .readAnswers .. => [] | .processAnswer .. => [] | .flushRequeue => []
  | .processTimeouts => [] | .cleanupConns .. => [] | .cancel => [] | .cancelLoop .. => [] | .destroy => []
  | .probe .. => [] | .clientStart .. => [] | .runActs .. => [] | .userCb .. => []

theorem UnlF.congr {U : List Nat} {cs cs' : List Conn} {oof : Bool} (h : UnlF U cs oof)
    (he : cs'.map uflag = cs.map uflag) : UnlF U cs' oof := by
  intro ho c hc hu
  have : uflag c ∈ cs.map uflag := by rw [← he]; exact List.mem_map_of_mem hc
  simp only [List.mem_map] at this
  obtain ⟨c0, h0, hk⟩ := this
  have h1 : c0.fd = c.fd := congrArg (·.1) hk
  have h2 : c0.unlinked = c.unlinked := congrArg (·.2) hk
  rw [← h1]; exact h ho c0 h0 (by rw [h2]; exact hu)

theorem uflag_blind : ConnBlind uflag := fun _ _ _ _ _ _ => rfl

/-- `ares_open_connection` adds at most one connection, which is linked -/
theorem uflags_openConn (s : St) (tcp : Bool) (srv : Server) :
    (openConn s tcp srv).2.conns.map uflag = s.conns.map uflag ∨
      (openConn s tcp srv).2.conns.map uflag = s.conns.map uflag ++ [(s.nextFd, false)] := by
  rcases openConn_paths s tcp srv with ⟨e, h⟩ | ⟨t, ht, h | h⟩ <;> rw [h]
  · exact .inl rfl
  · exact .inl (by rw [← ht.fields.1]; rfl)
  · right
    simp only [ocFinish, connsMap_notify uflag uflag_blind, chan_frame, ht.fields.1, List.map_append, List.map_cons,
      List.map_nil, uflag]

section
variable {U : List Nat} {oof : Bool}

theorem UnlF_modConn (s : St) (fd : Nat) (f : Conn → Conn) (hf : ∀ c, uflag (f c) = uflag c)
    (h : UnlF U s.conns oof) : UnlF U (s.modConn fd f).conns oof := h.congr ((connsMap_modConn uflag) s fd f hf)
theorem UnlF_notify (s : St) (fd : Nat) (r w : Bool) (h : UnlF U s.conns oof) :
    UnlF U (s.notify fd r w).conns oof := h.congr ((connsMap_notify uflag uflag_blind) s fd r w)
theorem UnlF_removeFromConn (s : St) (k : Nat) (h : UnlF U s.conns oof) :
    UnlF U (s.removeFromConn k).conns oof := h.congr ((connsMap_removeFromConn uflag uflag_blind) s k)
theorem UnlF_detach (s : St) (k : Nat) (h : UnlF U s.conns oof) :
    UnlF U (s.detach k).conns oof := h.congr ((connsMap_detach uflag uflag_blind) s k)
theorem UnlF_freeQuery (s : St) (k : Nat) (h : UnlF U s.conns oof) :
    UnlF U (s.freeQuery k).conns oof := h.congr ((connsMap_freeQuery uflag uflag_blind) s k)
theorem UnlF_advanceOut (fuel fd : Nat) (s : St) (k : Nat) (h : UnlF U s.conns oof) :
    UnlF U (advanceOut fuel fd s k).conns oof := h.congr ((connsMap_advanceOut uflag uflag_blind) fuel fd s k)
theorem UnlF_openConn (s : St) (tcp : Bool) (srv : Server) (h : UnlF U s.conns oof) :
    UnlF U (openConn s tcp srv).2.conns oof := by
  rcases uflags_openConn s tcp srv with he | he
  · exact h.congr he
  · intro ho c hc hu
    have : uflag c ∈ s.conns.map uflag ++ [(s.nextFd, false)] := by rw [← he]; exact List.mem_map_of_mem hc
    simp only [List.mem_append, List.mem_map, List.mem_singleton] at this
    rcases this with ⟨c0, h0, hk⟩ | hk
    · have h1 : c0.fd = c.fd := congrArg (·.1) hk
      have h2 : c0.unlinked = c.unlinked := congrArg (·.2) hk
      rw [← h1]; exact h ho c0 h0 (by rw [h2]; exact hu)
    · have : c.unlinked = false := congrArg (·.2) hk
      rw [hu] at this; cases this

theorem UnlF_filter (cs : List Conn) (p : Conn → Bool) (h : UnlF U cs oof) : UnlF U (cs.filter p) oof :=
  fun ho c hc hu => h ho c (List.mem_filter.mp hc).1 hu

theorem UnlF_oof (cs : List Conn) : UnlF U cs true := fun ho => by cases ho

end

/-- Only `ares_close_connection` marks a connection as unlinked; a new connection is linked; every other update leaves
    the descriptors and the marks alone or drops connections. -/
theorem Unl.prim {U : List Nat} {c : Call} {s s' : St} (p : Prim c s s') (hc : ∀ fd st, c ≠ .closeConn fd st)
    (h : Unl U s) : Unl U s' := by
  rw [Unl, p.outOfFuel_eq]
  cases p
  case resetConn => exact absurd rfl (hc _ _)
  case modConn hf => exact UnlF_modConn _ _ _ (fun c => by simp only [uflag, hf.fd, hf.unlinked]) h
  case notify => exact UnlF_notify _ _ _ _ h
  case removeFromConn => exact UnlF_removeFromConn _ _ h
  case detach => exact UnlF_detach _ _ h
  case freeQuery => exact UnlF_freeQuery _ _ h
  case advanceOut => exact UnlF_advanceOut _ _ _ _ h
  case udpSent => exact UnlF_modConn _ _ _ (fun _ => rfl) (UnlF_notify _ _ _ _ h)
  case enqueue => exact UnlF_modConn _ _ _ (fun _ => rfl) h
  case recvUdp | consume => exact UnlF_modConn _ _ _ (fun _ => rfl) h
  case recvTcp => exact UnlF_modConn (s.modSock _ _) _ _ (fun _ => rfl) h
  case sqCommit => exact h.congr (connsMap_sqCommit uflag (fun _ _ _ => rfl) ..)
  case openConn => exact UnlF_openConn _ _ _ h
  case closeFinal => rw [closeFinal_conns]; exact UnlF_filter _ _ h
  all_goals simpa only [chan_frame] using h

section
variable (go : Call → St → St × Ret) (hgo : ∀ c s U, Unl (closing c ++ U) s → Unl U (go c s).1)
include hgo

theorem bodyCloseConn_Unl (fd : Nat) (st : Status) (U : List Nat) (s : St) (h : Unl U s) :
    Unl U (bodyCloseConn go fd st s).1 := by
  unfold bodyCloseConn
  split
  · simpa only [Unl, chan_frame] using h
  · apply hgo
    simp only [closing, Unl, chan_frame]
    intro ho c' hc' hu
    simp only [St.modConn, List.mem_map] at hc'
    obtain ⟨c0, h0, rfl⟩ := hc'
    split at hu
    · rename_i hfd
      simp only [beq_iff_eq] at hfd
      simp only [hfd, beq_self_eq_true, ↓reduceIte, List.cons_append, List.nil_append, List.mem_cons, true_or]
    · rename_i hfd
      simp only [hfd, Bool.false_eq_true, ↓reduceIte, List.cons_append, List.nil_append, List.mem_cons]
      exact .inr (h ho c0 h0 hu)

theorem bodyCloseLoop_Unl (fd : Nat) (st : Status) (U : List Nat) (s : St) (h : Unl ([fd] ++ U) s) :
    Unl U (bodyCloseLoop go fd st s).1 := by
  unfold bodyCloseLoop
  split
  · -- no connection has this descriptor
    rename_i hc
    simp only [Unl, chan_frame]
    intro ho c' hc' hu
    have := h ho c' hc' hu
    simp only [List.cons_append, List.nil_append, List.mem_cons] at this
    rcases this with hfd | hU
    · have := List.find?_eq_none.mp hc c' hc'
      simp [hfd] at this
    · exact hU
  · split
    · apply hgo
      simp only [closing, Unl, chan_frame]
      refine UnlF_modConn _ _ _ (fun _ => rfl) ?_
      rename_i k _ _
      have := hgo (.requeue k st true none false) s ([fd] ++ U) (by simpa only [closing, List.nil_append] using h)
      exact this
    · simp only [Unl, chan_frame]
      intro ho c' hc' hu
      have hm := List.mem_filter.mp hc'
      have hne : c'.fd ≠ fd := by simpa using hm.2
      have h1 : UnlF ([fd] ++ U) (s.notify fd false false).conns s.outOfFuel := UnlF_notify s fd false false h
      have := h1 ho c' hm.1 hu
      simp only [List.cons_append, List.nil_append, List.mem_cons] at this
      rcases this with hfd | hU
      · exact absurd hfd hne
      · exact hU

/-- every procedure but `ares_close_connection` and its tail loop: no update marks a connection, no call is the loop -/
theorem execBody_Unl_of_ne {c : Call} (hc : ∀ fd st, c ≠ .closeConn fd st) (hl : ∀ fd st, c ≠ .closeLoop fd st)
    (U : List Nat) (s : St) (h : Unl U s) : Unl U (execBody go c s).1 :=
  (execBody_reach c s).invariant (fun p => Unl.prim p hc)
    (fun c' s hcl h => hgo c' s U (by
      cases c' <;> first | exact h | (rcases hcl with ⟨_, rfl⟩ | ⟨_, rfl⟩ <;> first | exact absurd rfl (hc _ _) | exact absurd rfl (hl _ _)))) h

theorem bodyRequeue_Unl (a b c d e) (U : List Nat) (s : St) (h : Unl U s) : Unl U (bodyRequeue go a b c d e s).1 :=
  execBody_Unl_of_ne go hgo (c := .requeue a b c d e) nofun nofun U s h

theorem bodyFlush_Unl (fd : Nat) (U : List Nat) (s : St) (h : Unl U s) : Unl U (bodyFlush go fd s).1 :=
  execBody_Unl_of_ne go hgo (c := .flush fd) nofun nofun U s h

theorem execBody_Unl (c : Call) (U : List Nat) (s : St) (h : Unl (closing c ++ U) s) : Unl U (execBody go c s).1 := by
  cases c
  case closeConn fd st => exact bodyCloseConn_Unl go hgo fd st U s h
  case closeLoop fd st => exact bodyCloseLoop_Unl go hgo fd st U s h
  all_goals exact execBody_Unl_of_ne go hgo (by nofun) (by nofun) U s h

end

/-- **Unless fuel ran out, no procedure leaves behind a half-closed connection that was not half-closed before** (and
    `closeLoop fd` removes `fd`'s) -/
theorem exec_Unl (fuel : Nat) (c : Call) (s : St) (U : List Nat) (h : Unl (closing c ++ U) s) :
    Unl U (exec fuel c s).1 := by
  have := exec_induct (P := fun c s out => ∀ U, Unl (closing c ++ U) s → Unl U out.1)
    (fun c s U _ => UnlF_oof _) (fun go hgo c s U h => execBody_Unl go hgo c U s h) fuel c s
  exact this U h

end Cares.Chan
