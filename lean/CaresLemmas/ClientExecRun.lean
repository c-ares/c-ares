import CaresLemmas.ClientExecReplayExec
import CaresLemmas.ClientExecFoldOfReplay
import CaresLemmas.ChanWfSettle
import CaresLemmas.ClientExecProvExec
/-!
# Runs of the channel: the client events of a whole run replay, and (causal runs) are the flat fold

`RunC s t L`: a run of completed top-level calls (any procedure except `runActs`, which only `bodyCallback` /
`bodyClientStart` / `bodyRunActs` call, and carrying no response of its own) and environment steps (anything the
driver does between API calls that keeps the client store, the configuration, the query cache and the `accepted`
log: time, replies, socket scripts, accepting a token, `settle`, …) leads from `s` to `t`; `L` is the concatenation
of the client-event logs of the calls.
-/
namespace Cares.Chan
open Cares.ClientWalk

/-- a call the driver makes: not `runActs`, and no response handed in -/
def Call.topC (c : Call) : Prop := (∀ id acts, c ≠ .runActs id acts) ∧ c.rec? = none

inductive RunC : St → St → CLog → Prop
  | nil (s : St) : RunC s s []
  | env {s t t' : St} {L : CLog} : RunC s t L → t'.clients = t.clients → t'.nextClient = t.nextClient →
      t'.cfg = t.cfg → t'.accepted = t.accepted → t'.cache = t.cache → RunC s t' L
  | call {s t : St} {L : CLog} (fuel : Nat) (call : Call) : RunC s t L → call.topC →
      (exec fuel call t).1.outOfFuel = false → RunC s (exec fuel call t).1 (L ++ (execC fuel call t).2)

theorem preσ_top {c : Call} (h : c.topC) (σ) : preσ c σ = σ := by
  cases c <;> first | rfl | exact absurd rfl (h.1 _ _)

/-- **Exec-level refinement over runs (unconditional).**  The client events of a run replay on the pure machine,
    from the client store of the first state to that of the last, with no frame left in progress. -/
theorem RunC.replays {s t : St} {L : CLog} (hr : RunC s t L) :
    t.cfg = s.cfg ∧ replay s.cfg ⟨s.clients, s.nextClient, []⟩ L = some ⟨t.clients, t.nextClient, []⟩ := by
  induction hr with
  | nil => exact ⟨rfl, rfl⟩
  | env _ h1 h2 h3 _ _ ih => rw [h1, h2, h3]; exact ih
  | call fuel call _ htop hf ih =>
    obtain ⟨e1, e2⟩ := exec_replays fuel call _ [] hf
    rw [preσ_top htop, ih.1] at e2
    refine ⟨e1.trans ih.1, ?_⟩
    rw [replay_append, ih.2]
    exact e2

/-- the fields an environment step keeps -/
def envView (s : St) : List Client × Nat × Cfg × List (Nat × Nat × Reply) × List CacheEntry :=
  (s.clients, s.nextClient, s.cfg, s.accepted, s.cache)

theorem settleStep_frame (s : St) (k : Nat) : envView (settleStep s k) = envView s := by
  unfold settleStep
  repeat' split
  all_goals first
    | rfl
    | (simp only []; split <;> rfl)

theorem settle_frame (s : St) : envView s.settle = envView s := by
  rw [settle_eq]
  show envView (s.pendingOrder.foldl settleStep s) = _
  generalize s.pendingOrder = l
  induction l generalizing s with
  | nil => rfl
  | cons k r ih => exact (ih (settleStep s k)).trans (settleStep_frame s k)

/-- the driver's `settle` at the end of an API call is an environment step -/
theorem RunC.settle {s t : St} {L : CLog} (hr : RunC s t L) : RunC s t.settle L := by
  have h := settle_frame t
  simp only [envView, Prod.mk.injEq] at h
  exact hr.env h.1 h.2.1 h.2.2.1 h.2.2.2.1 h.2.2.2.2

/-- **Provenance over runs**: every reply a completion callback of a compound request was invoked with is an
    accepted response, or the aged copy of a cached accepted response (C05 `cache_provenance`). -/
theorem RunC.provenance {s t : St} {L : CLog} (hr : RunC s t L) (hc : CacheProv s) :
    (∀ e ∈ s.accepted, e ∈ t.accepted) ∧ CacheProv t ∧ CbsFrom t.accepted L := by
  induction hr with
  | nil => exact ⟨fun _ h => h, hc, fun _ _ _ _ _ _ h => nomatch h⟩
  | env _ _ _ _ h4 h5 ih => simp only [CacheProv, h4, h5]; exact ih
  | call fuel call _ htop _ ih =>
    obtain ⟨a, b, c⟩ := exec_cb_provenance fuel call _ ih.2.1 htop.2
    refine ⟨fun e he => a e (ih.1 e he), b, ?_⟩
    intro id st t r qa qb hm
    rcases List.mem_append.mp hm with hm | hm
    · exact (ih.2.2 id st t r qa qb hm).mono a
    · exact c id st t r qa qb hm

/-- **R1 (flat fold), for causal runs.**  `cid` is created during the run (`s.nextClient ≤ cid`; client ids in `s`
    are below `s.nextClient`, which `C01.Inv` guarantees).  If every completion delivered to `cid` comes while one of
    its sub-requests is outstanding (`Causal`), then the sub-requests started for `cid` are exactly
    `(clientRun …).sent` and the completion handed to its user callback is exactly `(clientRun …).fin`, for
    `clientRun` on the completions delivered to `cid`, in order. -/
theorem RunC.fold {s t : St} {L : CLog} (hr : RunC s t L) (cid : Nat) (hnew : s.nextClient ≤ cid)
    (hids : ∀ c ∈ s.clients, c.id < s.nextClient) (hc : Causal cid L)
    (k : String) (tok : Nat) (re : List Nat) (sp : ReqSpec) (f : Nat) (hs : CItem.start cid k tok re sp f ∈ L) :
    sentOf cid L = (clientRun s.cfg cid k tok re sp f (evsOf cid L)).sent ∧
    finsOf cid L = (clientRun s.cfg cid k tok re sp f (evsOf cid L)).fin.toList :=
  fold_of_replay s.cfg cid _ _ L hr.replays.2 ⟨hnew, hids, fun _ h => by cases h⟩ hc (fun _ h => by cases h)
    k tok re sp f hs

/-- the completion as a list, from the completion as an option -/
theorem toList_map_of_map {α β : Type} {o : Option α} {f : α → β} {p : Prop} [Decidable p] {x : β}
    (h : o.map f = if p then some x else none) : o.toList.map f = if p then [x] else [] := by
  cases o <;> split at h <;> simp_all

end Cares.Chan
