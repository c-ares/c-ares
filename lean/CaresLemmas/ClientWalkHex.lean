import CaresModel.Chan.Client
import CaresLemmas.ProtoSearch
/-!
Bridge between the two name representations: model (A) works on byte lists (`Name = List Nat`), the channel
model (B) on the lower-case hex text of the bytes.
`hex` is the serialisation; it is faithful for byte values `< 256` (`Ser`).
-/
namespace Cares.ClientWalk
open Cares.Chan Cares.Text Cares.Proto

def hexDigit (n : Nat) : Char := if n < 10 then Char.ofNat (48 + n) else Char.ofNat (87 + n)
def hexByte (b : Nat) : List Char := [hexDigit (b / 16), hexDigit (b % 16)]
def hexChars (n : Bytes) : List Char := n.flatMap hexByte
/-- lower-case hex text of a byte string (two digits per byte) -/
def hex (n : Bytes) : String := String.ofList (hexChars n)

def Ser (n : Bytes) : Prop := ∀ b ∈ n, b < 256

instance (n : Bytes) : Decidable (Ser n) := by unfold Ser; infer_instance

theorem hexByte_dot : ∀ b, b < 256 →
    ((hexDigit (b / 16) == '2' && hexDigit (b % 16) == 'e') = (b == 46)) := by
  decide +kernel

theorem hexChars_cons (b : Nat) (n : Bytes) :
    hexChars (b :: n) = hexDigit (b / 16) :: hexDigit (b % 16) :: hexChars n := by
  simp [hexChars, hexByte]

theorem hexChars_append (a b : Bytes) : hexChars (a ++ b) = hexChars a ++ hexChars b := by
  simp [hexChars]

theorem hexChars_length (n : Bytes) : (hexChars n).length = 2 * n.length := by
  induction n with
  | nil => rfl
  | cons b n ih => rw [hexChars_cons]; simp only [List.length_cons, ih]; omega

theorem toList_hex (n : Bytes) : (hex n).toList = hexChars n := by simp [hex]

theorem length_hex (n : Bytes) : (hex n).length = 2 * n.length := by
  rw [← String.length_toList, toList_hex, hexChars_length]

theorem hex_append (a b : Bytes) : hex (a ++ b) = hex a ++ hex b := by
  apply String.ext; simp [toList_hex, hexChars_append]

theorem hex_dot : hex [46] = "2e" := by decide

theorem Ser.cons {b : Nat} {n : Bytes} (h : Ser (b :: n)) : b < 256 ∧ Ser n :=
  ⟨h b (by simp), fun x hx => h x (by simp [hx])⟩

theorem hexDots_hex (n : Bytes) (h : Ser n) : hexDots (hex n) = dots n := by
  unfold hexDots
  rw [toList_hex]
  induction n with
  | nil => rfl
  | cons b n ih =>
    obtain ⟨hb, hn⟩ := h.cons
    rw [hexChars_cons, hexDots.go, ih hn, hexByte_dot b hb]
    unfold dots
    rw [List.count_cons]
    by_cases h46 : b = 46 <;> simp [h46] <;> omega

theorem labelCnt_hex (n : Bytes) (h : Ser n) : Cares.Chan.labelCnt (hex n) = Cares.Proto.labelCnt n := by
  unfold Cares.Chan.labelCnt Cares.Proto.labelCnt; rw [hexDots_hex n h]

theorem hexChars_eq_dot (d : Bytes) (h : Ser d) : (hexChars d = ['2', 'e']) ↔ d = [46] := by
  match d, h with
  | [], _ => simp [hexChars]
  | [b], h =>
    have hb := hexByte_dot b (h b (by simp))
    rw [hexChars_cons]
    by_cases h46 : b = 46
    · subst h46; simp [hexChars]; decide
    · have hb' : (b == 46) = false := by simp [h46]
      rw [hb'] at hb
      simp only [hexChars, List.flatMap_nil, List.cons.injEq, and_true, h46, iff_false, not_and]
      intro h1 h2; simp [h1, h2] at hb
  | a :: b :: r, _ =>
    constructor
    · intro hh
      have := congrArg List.length hh
      rw [hexChars_length] at this; simp at this; omega
    · intro hh; simp at hh

theorem hex_beq_dot (d : Bytes) (h : Ser d) : (hex d == "2e") = (d == [46]) := by
  have : (hex d = "2e") ↔ d = [46] := by
    rw [← String.toList_inj, toList_hex]; exact hexChars_eq_dot d h
  by_cases hd : d = [46]
  · simp [hd, hex_dot]
  · have := mt this.mp hd
    rw [beq_eq_false_iff_ne.mpr this, beq_eq_false_iff_ne.mpr hd]

/-- `name` ends in a dot, as `searchNames` tests it on the hex text -/
theorem endsDot_hex (n : Bytes) (h : Ser n) :
    (decide ((hex n).length ≥ 2) && ((hex n).drop ((hex n).length - 2)).toString == "2e") =
      (n.getLast? == some 46) := by
  rcases List.eq_nil_or_concat n with rfl | ⟨i, l, rfl⟩
  · decide
  · rw [List.concat_eq_append] at h ⊢
    have hl : Ser [l] := fun x hx => h x (by simp at hx ⊢; exact Or.inr hx)
    have e1 : ((hex (i ++ [l])).drop ((hex (i ++ [l])).length - 2)).toString = hex [l] := by
      apply String.ext
      simp only [String.Slice.toString, String.toList_copy_drop, toList_hex, length_hex, hexChars_append]
      have : 2 * (i ++ [l]).length - 2 = (hexChars i).length := by
        rw [hexChars_length]; simp; omega
      rw [this, List.drop_left]
    rw [e1, hex_beq_dot [l] hl, length_hex]
    simp
    omega

/-- the channel configuration `cfg` carries the search settings of the C12 configuration `c` -/
structure CfgMatches (cfg : Cfg) (c : Config) : Prop where
  ndots : cfg.ndots = c.ndots
  domains : cfg.domains = c.domains.map hex
  nosearch : cfg.nosearch = c.noSearch
  domSer : ∀ d ∈ c.domains, Ser d

theorem Ser.catDomain {name d : Bytes} (hn : Ser name) (hd : Ser d) : Ser (catDomain name d) := by
  intro b hb
  unfold Cares.Proto.catDomain at hb
  simp only [List.mem_append, List.mem_singleton] at hb
  rcases hb with (hb | rfl) | hb
  · exact hn b hb
  · decide
  · split at hb
    · simp at hb
    · exact hd b hb

theorem cat_hex (name d : Bytes) (hd : Ser d) :
    hex name ++ "2e" ++ (if hex d == "2e" then "" else hex d) = hex (catDomain name d) := by
  unfold Cares.Proto.catDomain
  rw [hex_beq_dot d hd, hex_append, hex_append, hex_dot]
  by_cases h : d = [46]
  · subst h; simp [show hex [] = "" by decide]
  · simp [h]

/-- `searchNames` (B) computes the hex texts of `nameList` (A) when no host alias applies -/
theorem searchNames_hex (cfg : Cfg) (c : Config) (hm : CfgMatches cfg c) (name : Name) (hs : Ser name)
    (hal : lookupHostaliases c.noAliases c.aliases name = .error .enotfound) :
    ∃ names, nameList c name = .ok names ∧ searchNames cfg (hex name) = names.map hex ∧
      (∀ n ∈ names, Ser n) := by
  unfold nameList searchNames
  rw [hal]
  simp only [endsDot_hex name hs, labelCnt_hex name hs, hm.ndots, hm.domains, hm.nosearch, eligible]
  have hmap : List.map (fun d => hex name ++ "2e" ++ if (d == "2e") = true then "" else d) (c.domains.map hex) =
      (c.domains.map (catDomain name)).map hex := by
    rw [List.map_map, List.map_map]
    apply List.map_congr_left
    intro d hd
    exact cat_hex name d (hm.domSer d hd)
  have hser : ∀ n ∈ c.domains.map (catDomain name), Ser n := by
    intro n hn
    obtain ⟨d, hd, rfl⟩ := List.mem_map.mp hn
    exact hs.catDomain (hm.domSer d hd)
  rw [hmap]
  by_cases he : (name.getLast? == some 46 || c.noSearch) = true
  · refine ⟨[name], ?_, ?_, ?_⟩
    · have : (!(name.getLast? == some 46) && !c.noSearch) = false := by
        rw [← Bool.not_or, he]; rfl
      simp [this]
    · simp [he]
    · intro n hn; simp at hn; subst hn; exact hs
  · have he' : (name.getLast? == some 46 || c.noSearch) = false := by simpa using he
    have : (!(name.getLast? == some 46) && !c.noSearch) = true := by
      rw [← Bool.not_or, he']; rfl
    simp only [this, he', Bool.not_true, Bool.false_eq_true, ↓reduceIte]
    refine ⟨_, rfl, ?_, ?_⟩
    · by_cases hd : Cares.Proto.labelCnt name - 1 ≥ c.ndots
      · have : ¬ Cares.Proto.labelCnt name - 1 < c.ndots := by omega
        simp [hd, this]
      · have : Cares.Proto.labelCnt name - 1 < c.ndots := by omega
        simp [hd, this]
    · intro n hn
      simp only [List.mem_append] at hn
      rcases hn with (hn | hn) | hn
      · split at hn <;> simp at hn; subst hn; exact hs
      · exact hser n hn
      · split at hn <;> simp at hn; subst hn; exact hs


end Cares.ClientWalk
