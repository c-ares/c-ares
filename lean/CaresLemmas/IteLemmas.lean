/-! Conditionals taken apart by their branches. -/
namespace Cares

/-- a property of a conditional from its branches -/
theorem ite_of {α : Type} {P : α → Prop} {c : Prop} [Decidable c] {a b : α} (ha : c → P a) (hb : ¬c → P b) :
    P (if c then a else b) := by
  split
  · exact ha ‹c›
  · exact hb ‹¬c›

/-- a property both branches have, with the property given explicitly -/
theorem ite_both {α : Type} (P : α → Prop) {c : Prop} [Decidable c] {a b : α} (ha : P a) (hb : P b) :
    P (if c then a else b) :=
  ite_of (P := P) (fun _ => ha) (fun _ => hb)

/-- a relation between two conditionals on the same test from their branches -/
theorem ite_ite {α β : Type} (R : α → β → Prop) {c : Prop} [Decidable c] {a b : α} {x y : β}
    (h1 : c → R a x) (h2 : ¬c → R b y) : R (if c then a else b) (if c then x else y) := by
  split
  · exact h1 ‹c›
  · exact h2 ‹¬c›

/-- the successful branch of a conditional that otherwise fails -/
theorem ok_of_ite {ε α : Type} {c : Prop} [Decidable c] {e : ε} {r : Except ε α} {u : α}
    (h : (if c then .error e else r) = .ok u) : r = .ok u := by
  split at h
  · cases h
  · exact h

end Cares
