import CaresLemmas.ChanPolicyTimeout
import CaresLemmas.ChanPolicySettle
/-!
# C06 / C07 — `process_timeouts` leaves no expired entry behind; each expiry re-sends with `try_count + 1` or ends the
  query; `ares_timeout` is sound
-/
namespace Cares.Chan

def HeadFresh (s : St) : Prop :=
  ∀ k, s.byTimeout.head? = some k → ∀ q, s.query? k = some q → expired s.now q.deadline = false

/-- the exit condition of `process_timeouts`: when the loop returns without running out of fuel and without logging a
    model fault, the head of the index is not expired -/
theorem processTimeouts_head (fuel : Nat) (s : St) :
    (exec fuel .processTimeouts s).1.outOfFuel = true ∨
    s.modelFaults.length < (exec fuel .processTimeouts s).1.modelFaults.length ∨
    HeadFresh (exec fuel .processTimeouts s).1 := by
  have key : ∀ fuel c s, c = Call.processTimeouts →
      ((exec fuel c s).1.outOfFuel = true ∨ s.modelFaults.length < (exec fuel c s).1.modelFaults.length ∨
        HeadFresh (exec fuel c s).1) := by
    intro fuel
    induction fuel with
    | zero => intro c s _; left; rfl
    | succ n ih =>
      intro c s hc
      subst hc
      have e : exec (n + 1) .processTimeouts s = bodyProcessTimeouts (exec n) s := rfl
      rw [e]
      unfold bodyProcessTimeouts
      split
      · rename_i hnone
        right; right
        intro k hk; rw [hnone] at hk; cases hk
      · rename_i key hhead
        split
        · right; left
          show s.modelFaults.length < (s.modelFaults ++ [_]).length
          simp
        · rename_i q hq
          split
          · rename_i hne
            right; right
            intro k hk q' hq'
            rw [hhead] at hk; cases hk
            rw [hq] at hq'; cases hq'
            simpa using hne
          · split
            · right; left
              show s.modelFaults.length < (s.modelFaults ++ [_]).length
              simp
            · rename_i c hc
              extract_lets s1 s2
              split
              rename_i s3 r3 hreq
              have hmono : s.modelFaults.length ≤ s3.modelFaults.length := by
                have h1 : s.modelFaults.length ≤ s2.modelFaults.length := by
                  show s.modelFaults.length ≤ ((s.modQuery key _).incFailures c.srv q.usingTcp).modelFaults.length
                  simp only [chan_frame, Nat.le_refl]
                have h2 := exec_modelFaults_mono n (.requeue key .timeout true none false) s2
                rw [hreq] at h2
                exact Nat.le_trans h1 h2
              rcases ih .processTimeouts s3 rfl with h | h | h
              · exact Or.inl h
              · exact Or.inr (Or.inl (Nat.lt_of_le_of_lt hmono h))
              · exact Or.inr (Or.inr h)
  exact key fuel .processTimeouts s rfl

theorem dlOf_of_at {s : St} {k ms : Nat} (h : s.dl? k = some (.at ms)) : s.dlOf k = ms := by rw [dlOf_eq, h]; rfl

/-- the head of a well-formed index is a live query with a definite deadline, the earliest of the index -/
theorem BT0.head {s : St} {x : Nat} {t : List Nat} (hb : BT0 s) (hl : s.byTimeout = x :: t) :
    ∃ qx msx, s.query? x = some qx ∧ qx.deadline = .at msx ∧ ∀ k ∈ s.byTimeout, msx ≤ s.dlOf k := by
  obtain ⟨_, hs, hlive⟩ := hb
  obtain ⟨msx, hx⟩ := hlive x (by rw [hl]; exact List.mem_cons_self)
  have hdx := dlOf_of_at hx
  unfold St.dl? at hx
  cases hqx : s.query? x with
  | none => rw [hqx] at hx; cases hx
  | some qx =>
    rw [hqx] at hx
    refine ⟨qx, msx, rfl, by simpa using hx, fun k hk => ?_⟩
    rw [hl] at hk hs
    rcases List.mem_cons.1 hk with rfl | hk'
    · omega
    · have := (List.pairwise_cons.1 hs).1 k hk'; omega

/-- with a sorted index: no entry at all is expired -/
theorem fresh_of_head {s : St} (hb : BT0 s) (hh : HeadFresh s) :
    ∀ k ∈ s.byTimeout, ∀ q, s.query? k = some q → expired s.now q.deadline = false := by
  intro k hk q hq
  cases hl : s.byTimeout with
  | nil => rw [hl] at hk; cases hk
  | cons x r =>
    obtain ⟨qx, msx, hqx, hx, hmin⟩ := hb.head hl
    have hfx := hh x (by rw [hl]; rfl) qx hqx
    rw [hx] at hfx
    cases hd : q.deadline with
    | none => rfl
    | pending lo hi => rfl
    | «at» ms =>
      have hdk : s.dlOf k = ms := dlOf_of_at (by unfold St.dl?; rw [hq, ← hd]; rfl)
      have := hmin k hk
      simp only [expired, decide_eq_false_iff_not, Nat.not_le, ge_iff_le] at hfx ⊢
      omega

/-- `requeue` with `inc_try_count`, not deferred: the query either is re-sent with `try_count` one higher and still
    below the budget `servers × tries` (and it may be retried), or it is ended -/
theorem requeue_progress (go : Call → St → St × Ret) (key : Nat) (st : Status) (rec : Option Reply) (s : St)
    (q : Query) (hq : s.query? key = some q) :
    (∃ s' q', s'.query? key = some q' ∧ q'.tryCount = q.tryCount + 1 ∧
        q'.tryCount < s.servers.length * s.cfg.tries ∧ q'.noRetries = false ∧ q'.timeouts = q.timeouts ∧
        bodyRequeue go key st true rec false s = go (.sendQuery none key) s') ∨
    (∃ s' es, bodyRequeue go key st true rec false s = ((go (.endQuery none key es rec) s').1, .timeout)) := by
  unfold bodyRequeue
  rw [hq]
  dsimp only
  have hq2 := query?_requeued hq st true
  rw [hq2]
  simp only [↓reduceIte] at hq2 ⊢
  simp only [Option.getD_some]
  split
  · rename_i hc
    left
    simp only [Bool.false_eq_true, ↓reduceIte]
    simp only [Bool.and_eq_true, decide_eq_true_eq, Bool.not_eq_eq_eq_not, Bool.not_true] at hc
    exact ⟨_, _, hq2, rfl, hc.1, hc.2, rfl, rfl⟩
  · right
    exact ⟨_, _, rfl⟩

/-- `end_query` removes the query, whatever its callback does -/
theorem endQuery_ends (go : Call → St → St × Ret) (srv : Option Nat) (key : Nat) (st : Status) (rec : Option Reply)
    (s : St) (q : Query) (hq : s.query? key = some q) :
    (bodyEndQuery go srv key st rec s).1.query? key = none := by
  unfold bodyEndQuery
  rw [hq]
  exact query?_freeQuery_self _ key

/-- with a well-formed index in which every definite deadline is present (the situation after
    `settle`), the hint is at most the caller's maximum and at most the remaining time of *every* pending deadline;
    it is a natural number, so never negative -/
theorem timeoutHint_sound (s : St) (hb : BT0 s) (hcov : ∀ k ms, s.dl? k = some (.at ms) → k ∈ s.byTimeout)
    (maxtv : Option Nat) (r : Nat) (h : s.timeoutHint maxtv = some r) :
    (∀ m, maxtv = some m → r ≤ m) ∧ (∀ k ms, s.dl? k = some (.at ms) → r ≤ ms - s.now) := by
  unfold St.timeoutHint at h
  dsimp only at h
  cases hl : s.byTimeout with
  | nil =>
    rw [hl] at h
    simp only [List.head?_nil, Option.bind_none] at h
    cases maxtv with
    | none => cases h
    | some m =>
      simp only [Option.some.injEq] at h
      subst h
      refine ⟨fun m' e => by cases e; exact Nat.le_refl _, ?_⟩
      intro k ms hd
      have := hcov k ms hd
      rw [hl] at this; cases this
  | cons x t =>
    obtain ⟨qx, msx, hqx, hx, hmin⟩ := hb.head hl
    rw [hl] at h
    simp only [List.head?_cons, Option.bind_some, hqx, hx] at h
    have hall : ∀ k ms, s.dl? k = some (.at ms) → msx - s.now ≤ ms - s.now := by
      intro k ms hd
      have := hmin k (hcov k ms hd)
      rw [dlOf_of_at hd] at this; omega
    cases maxtv with
    | none =>
      simp only [Option.some.injEq] at h
      subst h
      exact ⟨fun m e => (by cases e), hall⟩
    | some m =>
      simp only [Option.some.injEq] at h
      subst h
      refine ⟨fun m' e => by cases e; exact Nat.min_le_left _ _, ?_⟩
      intro k ms hd
      exact Nat.le_trans (Nat.min_le_right _ _) (hall k ms hd)

/-- the hint is "no limit" exactly when the caller gave no maximum and nothing is pending -/
theorem timeoutHint_none (s : St) (hb : BT0 s) (maxtv : Option Nat) :
    s.timeoutHint maxtv = none ↔ maxtv = none ∧ s.byTimeout = [] := by
  unfold St.timeoutHint
  dsimp only
  cases hl : s.byTimeout with
  | nil =>
    simp only [List.head?_nil, Option.bind_none]
    cases maxtv <;> simp
  | cons x t =>
    obtain ⟨qx, msx, hqx, hx, _⟩ := hb.head hl
    simp only [List.head?_cons, Option.bind_some, hqx, hx]
    cases maxtv <;> simp

/-- run `process_timeouts` on a state with a well-formed index.  If it neither runs out of
    fuel nor logs a model fault, then afterwards no entry of the index is expired, and every query that *was* expired
    has left the index: it has been ended (`query? = none`), or it is still alive without a deadline or waits in
    `pendingOrder` with the new deadline of its re-transmission. -/
theorem expired_are_processed (fuel : Nat) (s : St) (hb : BT s) :
    let r := (exec fuel .processTimeouts s).1
    r.outOfFuel = false → r.modelFaults.length = s.modelFaults.length →
    BT r ∧
    (∀ k ∈ r.byTimeout, ∀ q, r.query? k = some q → expired r.now q.deadline = false) ∧
    (∀ k q, s.query? k = some q → expired s.now q.deadline = true →
      k ∉ r.byTimeout ∧ (r.query? k = none ∨ r.dl? k = some .none ∨ k ∈ r.pendingOrder)) := by
  intro r hoof hmf
  have hbr : BTR s r := exec_bt fuel .processTimeouts s (.of_BT hb)
  have hnow : r.now = s.now :=
    (exec_frame (c0 := s.cfg) (n0 := s.now) (ids0 := s.servers.map Server.id) fuel .processTimeouts s
      ⟨rfl, rfl, rfl⟩).2.1
  have hfresh : ∀ k ∈ r.byTimeout, ∀ q, r.query? k = some q → expired r.now q.deadline = false := by
    rcases processTimeouts_head fuel s with h | h | h
    · rw [hoof] at h; cases h
    · rw [hmf] at h; exact absurd h (Nat.lt_irrefl _)
    · exact fresh_of_head hbr.1.toBT0 h
  refine ⟨hbr.1, hfresh, ?_⟩
  intro k q hq hexp
  have hnot : k ∉ r.byTimeout := by
    intro hk
    have hdl := hbr.2.2 k hk
    unfold St.dl? at hdl
    rw [hq] at hdl
    cases hqr : r.query? k with
    | none => rw [hqr] at hdl; cases hdl
    | some q' =>
      rw [hqr] at hdl
      simp only [Option.map_some, Option.some.injEq] at hdl
      have := hfresh k hk q' hqr
      rw [hdl, hnow, hexp] at this
      cases this
  refine ⟨hnot, ?_⟩
  cases hqr : r.query? k with
  | none => exact Or.inl rfl
  | some q' =>
    right
    by_cases hd : q'.deadline = .none
    · left; unfold St.dl?; rw [hqr]; simp [hd]
    · right
      have hdl : r.dl? k = some q'.deadline := by unfold St.dl?; rw [hqr]; rfl
      rcases hbr.1.cover hdl hd with hh | hh
      · exact absurd hh hnot
      · exact hh

theorem BT.init (s : St) (h1 : s.byTimeout = []) (h2 : ∀ q ∈ s.qs, q.deadline = .none) : BT s := by
  unfold BT
  rw [h1]
  refine ⟨List.nodup_nil, List.Pairwise.nil, fun k hk => (by cases hk), ?_⟩
  intro k d hd hne
  unfold St.dl? at hd
  cases hq : s.query? k with
  | none => rw [hq] at hd; cases hd
  | some q =>
    rw [hq] at hd
    simp only [Option.map_some, Option.some.injEq] at hd
    rw [h2 q (query?_mem hq)] at hd
    exact absurd hd.symm hne

end Cares.Chan
