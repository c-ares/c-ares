import CaresLemmas.ClientWalkGai
import CaresLemmas.ClientWalkCand
/-! One completion of a `gai` sub-request, on the fold: the state between completions (`GSt`), a
    completion that is not the candidate's last (`gai_step_mid`) and the last one (`gai_step`). -/
namespace Cares.ClientWalk
open Cares.Chan Cares.Text Cares.Proto

/-- state of a `gai` client working on candidate `cand`: `k` sub-requests outstanding, `A` the nodes and `ai` the
    `ai->name` collected so far.  The client does not clear them between candidates (`gai_step` hands them on); a
    candidate that is left has delivered none (`candOut_soft_nodes`), so along a walk they are this candidate's. -/
structure GSt (c : Client) (name : String) (fam : Nat) (lr : List Char) (cand : Name) (rest : List Name)
    (any : Bool) (k : Nat) (A : List String) (ai : String) : Prop where
  kind : c.kind = "gai"
  names : c.names = rest.map hex
  last : c.lastName = hex cand
  lookups : c.lookups = 'b' :: lr
  name : c.name = name
  family : c.family = fam
  any : (c.nodataCnt != 0) = any
  remaining : c.remaining = k
  addrs : c.addrs = A
  aiName : c.aiName = ai

theorem GSt.setQids {c name fam lr cand rest any k A ai} (h : GSt c name fam lr cand rest any k A ai)
    (q : Option (Nat × Nat)) : GSt (setQids c q) name fam lr cand rest any k A ai := by
  cases q with
  | none => exact h
  | some p => exact ⟨h.kind, h.names, h.last, h.lookups, h.name, h.family, h.any, h.remaining, h.addrs, h.aiName⟩

/-- a DNS lookup with a candidate left: its sub-requests are started, and it becomes the candidate in progress -/
theorem gaiNextLookup_dns (cfg : Cfg) (fuel : Nat) (st : Chan.Status) {c name fam lr cand n rest any k A ai}
    (h : GSt c name fam lr cand (n :: rest) any k A ai) (hloc : isLocalhost name = false) :
    ∃ c' acts, gaiNextLookup cfg (fuel + 1) c st = (c', acts) ∧
      (∀ w, applyActs acts w = { w with sent := w.sent ++ famSpecs fam (hex n) }) ∧
      GSt c' name fam lr n rest any (k + famCount fam) A ai := by
  unfold gaiNextLookup
  simp only [h.lookups, h.name, hloc, Bool.not_false, ↓reduceIte, gaiNextDns, h.names, List.map_cons, h.family,
    famSpecs, famCount]
  have g (m : Nat) := congrArg (· + m) h.remaining
  by_cases h2 : fam = 2
  · simp only [h2, beq_self_eq_true, ↓reduceIte]
    exact ⟨_, _, rfl, fun w => rfl, h.kind, rfl, rfl, rfl, rfl, rfl, h.any, g 1, h.addrs, h.aiName⟩
  · by_cases h10 : fam = 10
    · simp only [h10, beq_self_eq_true, ↓reduceIte, show ((10 : Nat) == 2) = false from rfl, Bool.false_eq_true]
      exact ⟨_, _, rfl, fun w => rfl, h.kind, rfl, rfl, rfl, rfl, rfl, h.any, g 1, h.addrs, h.aiName⟩
    · simp only [beq_iff_eq, h2, h10, ↓reduceIte]
      exact ⟨_, _, rfl, fun w => by simp [applyActs], h.kind, rfl, rfl, rfl, rfl, rfl, h.any, g 2, h.addrs, h.aiName⟩

theorem clientOnCb_gai (cfg : Cfg) (c : Client) (hk : c.kind = "gai") (st : Chan.Status) (t : Nat) (rec : Option Reply) :
    clientOnCb cfg c st t rec = gaiOnCb cfg c st t rec := by
  unfold clientOnCb; simp [hk]

/-- the candidate's outcome as `host_callback` judges it at its last completion `e`, `nodes` being all
    nodes the candidate's completions delivered -/
def candOut (nodes : List String) (e : Ev) : Chan.Status :=
  if effSt e.st e.reply == .destruction || effSt e.st e.reply == .cancelled then effSt e.st e.reply
  else if !nodes.isEmpty then .ok
  else if evNodataAns e then .nodata else effSt e.st e.reply

/-- the digest of the `.finish` made at the candidate's last completion -/
def candDigest (nodes : List String) (ai : String) (e : Ev) : String :=
  if effSt e.st e.reply == .destruction || effSt e.st e.reply == .cancelled then "ai="
  else if !nodes.isEmpty then
    "ai=" ++ String.join (nodes.map (· ++ ";")) ++ (if ai == "" then "" else "name=" ++ hexToText ai)
  else "ai="

theorem evNodataAns_ok (e : Ev) (h : evNodataAns e = true) : effSt e.st e.reply = .ok := by
  unfold evNodataAns at h
  split at h
  · simp only [Bool.and_eq_true, beq_iff_eq] at h
    exact h.1
  · simp at h

/-- what `ares_parse_into_addrinfo` leaves of the state between completions -/
theorem GSt.parse {c name fam lr cand rest any k A ai} (h : GSt c name fam lr cand rest any (k + 1) A ai) (e : Ev)
    {x : Client × Chan.Status × List ClientAct}
    (hp : ParseSpec { c with timeouts := c.timeouts + e.timeouts, remaining := c.remaining - 1 } e x) :
    GSt x.1 name fam lr cand rest any k (A ++ evNodes e) (evAiName ai e) :=
  ⟨hp.same.kind.trans h.kind, hp.same.names.trans h.names, hp.same.lastName.trans h.last,
    hp.same.lookups.trans h.lookups, hp.same.name.trans h.name, hp.same.family.trans h.family,
    by rw [hp.same.nodataCnt]; exact h.any, by rw [hp.remaining]; show c.remaining - 1 = k; rw [h.remaining]; rfl,
    by rw [hp.addrs]; show c.addrs ++ _ = _; rw [h.addrs], by rw [hp.aiName]; show evAiName c.aiName e = _; rw [h.aiName]⟩

/-- a completion that leaves sub-requests of the candidate outstanding only collects -/
theorem gai_step_mid (cfg : Cfg) {c name fam lr cand rest any k A ai}
    (h : GSt c name fam lr cand rest any (k + 2) A ai) (e : Ev) :
    GSt (clientOnCb cfg c e.st e.timeouts e.reply).1 name fam lr cand rest any (k + 1)
        (A ++ evNodes e) (evAiName ai e) ∧
      ∀ w, applyActs (clientOnCb cfg c e.st e.timeouts e.reply).2 w = w := by
  have hp := gaiParse_spec { c with timeouts := c.timeouts + e.timeouts, remaining := c.remaining - 1 } e
  have hg := h.parse e hp
  rw [clientOnCb_gai cfg c h.kind, gaiOnCb_eq, gaiTail_mid _ _ _ (by rw [hg.remaining]; omega)]
  exact ⟨hg, fun w => applyActs_quiet _ w hp.acts.quiet⟩

/-- the candidate's last completion: `ares_parse_into_addrinfo` has run, the decision is pending -/
theorem gai_step_parse (cfg : Cfg) {c name fam lr cand rest any A ai}
    (h : GSt c name fam lr cand rest any 1 A ai) (e : Ev) :
    ∃ p acts, OnlyNoRetry acts ∧
      clientOnCb cfg c e.st e.timeouts e.reply =
        gaiTail cfg (effSt e.st e.reply) (p, if evNodataAns e then .nodata else .ok, acts) ∧
      GSt p name fam lr cand rest any 0 (A ++ evNodes e) (evAiName ai e) := by
  have hp := gaiParse_spec { c with timeouts := c.timeouts + e.timeouts, remaining := c.remaining - 1 } e
  rw [clientOnCb_gai cfg c h.kind, gaiOnCb_eq]
  exact ⟨_, _, hp.acts, by rw [← hp.addinfo], h.parse e hp⟩

theorem tailOutcome_eq {p name fam lr cand rest any nodes ai} (h : GSt p name fam lr cand rest any 0 nodes ai) (e : Ev) :
    tailOutcome p (effSt e.st e.reply) (evNodataAns e) = candOut nodes e := by
  unfold tailOutcome candOut; rw [h.addrs]

theorem nodataCnt_any (n : Nat) (b : Bool) :
    ((n + (if b then 1 else 0)) != 0) = ((n != 0) || b) := by
  cases b <;> simp

theorem candOut_soft_nodes (last : String) (nodes : List String) (e : Ev)
    (h : softB last (candOut nodes e) = true) : nodes = [] := by
  unfold candOut softB at h
  cases hn : nodes with
  | nil => rfl
  | cons a l =>
    rw [hn] at h
    simp only [List.isEmpty_cons, Bool.not_false, ↓reduceIte] at h
    split at h
    · rename_i hd
      simp only [Bool.or_eq_true, beq_iff_eq] at hd
      rcases hd with hd | hd <;> rw [hd] at h <;> simp at h
    · simp at h

theorem candDigest_soft (last : String) (nodes : List String) (ai : String) (e : Ev)
    (h : softB last (candOut nodes e) = true) : candDigest nodes ai e = "ai=" := by
  have := candOut_soft_nodes last nodes e h
  subst this
  unfold candDigest
  simp

/-- the candidate's last completion: `host_callback` carries out the verdict on the candidate's outcome -/
theorem gai_step (cfg : Cfg) {c name fam lr cand rest any A ai}
    (h : GSt c name fam lr cand rest any 1 A ai) (hloc : isLocalhost name = false) (e : Ev) :
    match verdict cand rest any (candOut (A ++ evNodes e) e) with
    | .fin st => ∃ t, ∀ w, applyActs (clientOnCb cfg c e.st e.timeouts e.reply).2 w =
        { w with fin := some (st, t, candDigest (A ++ evNodes e) (evAiName ai e) e) }
    | .next n r ev => (∀ w, applyActs (clientOnCb cfg c e.st e.timeouts e.reply).2 w =
          { w with sent := w.sent ++ famSpecs fam (hex n) }) ∧
        GSt (clientOnCb cfg c e.st e.timeouts e.reply).1 name fam lr n r ev (famCount fam) (A ++ evNodes e)
          (evAiName ai e) := by
  obtain ⟨p, acts, hacts, heq, hp⟩ := gai_step_parse cfg h e
  rw [heq, gaiTail_last cfg p _ _ acts hp.remaining (evNodataAns_ok e), tailOutcome_eq hp e,
    show softB p.lastName = softB (hex cand) by rw [hp.last]]
  unfold verdict
  cases hs : softB (hex cand) (candOut (A ++ evNodes e) e) with
  | false =>
    refine ⟨p.timeouts, fun w => ?_⟩
    rw [if_neg Bool.false_ne_true, applyActs_quiet_app _ _ _ hacts.quiet]
    unfold tailDigest candDigest gaiDigest
    rw [hp.addrs, hp.aiName]
    rfl
  | true =>
    simp only [↓reduceIte]
    cases rest with
    | nil =>
      obtain ⟨c', hnl⟩ := gaiNextLookup_done cfg 8
        { p with nodataCnt := p.nodataCnt + (if candOut (A ++ evNodes e) e == .nodata then 1 else 0) }
        (if (p.nodataCnt + (if candOut (A ++ evNodes e) e == .nodata then 1 else 0)) != 0
          then .nodata else candOut (A ++ evNodes e) e)
        (by show p.names = []; rw [hp.names]; rfl)
      rw [hnl]
      refine ⟨p.timeouts, fun w => ?_⟩
      rw [applyActs_quiet_app _ _ _ hacts.quiet, nodataCnt_any, hp.any, candDigest_soft _ _ _ _ hs]
      rfl
    | cons n rest =>
      obtain ⟨c', a', hnl, hacts', hg⟩ := gaiNextLookup_dns cfg 7
        (if (p.nodataCnt + (if candOut (A ++ evNodes e) e == .nodata then 1 else 0)) != 0
          then .nodata else candOut (A ++ evNodes e) e)
        (c := { p with nodataCnt := p.nodataCnt + (if candOut (A ++ evNodes e) e == .nodata then 1 else 0) })
        ⟨hp.kind, hp.names, hp.last, hp.lookups, hp.name, hp.family, (nodataCnt_any _ _).trans (congrArg (· || _) hp.any),
          hp.remaining, hp.addrs, hp.aiName⟩ hloc
      rw [hnl]
      exact ⟨fun w => by rw [applyActs_quiet_app _ _ _ hacts.quiet, hacts' w], by rwa [Nat.zero_add] at hg⟩

end Cares.ClientWalk
