import CaresLemmas.ChanAlignRun
/-!
# The replies handed to `process_answer` (C20) — an instrumented executor

`process_answer` is called from one place only, the loop of `read_answers` (`bodyReadAnswers`), which is reached from
`read_conn_packets` (`bodyProcessRead`) only.  `execH` is `exec` with these two procedures re-stated so that they
return, next to their result, the list of `(descriptor, reply)` handed to `process_answer`, in order; every other
procedure is run by `execBody` as it is and contributes no entry.  `execH_fst : (execH fuel call s).1 = exec fuel call s`:
the instrumented executor computes the same thing as the model.

Trusted, not proved: that no other procedure calls `process_answer`.  `execHBody` drops the logs of the calls the other
procedures make, so this is read off `Chan/Core.lean` (`.processAnswer` occurs once, in `bodyReadAnswers`).
-/
namespace Cares.Chan

/-- replies handed to `process_answer`, each with the descriptor of the connection it was read from -/
abbrev HLog := List (Nat × Reply)

/-- `bodyReadAnswers` with a log: `(fd, r)` is recorded where `process_answer` is called with `r` -/
def bodyReadAnswersH (goH : Call → St → (St × Ret) × HLog) (fd : Nat) (s : St) : (St × Ret) × HLog :=
  match s.conn? fd, s.sock? fd with
  | some c, some v =>
    let next : Option Reply :=
      if !c.tcp then (c.inMsgs.head?).map (·.2)
      else nextTcpFrame v.stream v.spos c.inBytes
    match next with
    | none => goH .flushRequeue s
    | some r =>
      let s := s.modConn fd fun c =>
        { c with inMsgs := c.inMsgs.drop 1, inBytes := c.inBytes - (2 + r.len) }
      let p := goH (.processAnswer fd r) s
      match p.1.1.conn? fd with
      | none =>
        let q := goH .flushRequeue p.1.1
        (q.1, (fd, r) :: p.2 ++ q.2)
      | some c' =>
        if c'.unlinked then
          let q := goH .flushRequeue p.1.1
          (q.1, (fd, r) :: p.2 ++ q.2)
        else if p.1.2 != .ok then
          let e := goH (.connError fd true p.1.2) p.1.1
          let q := goH .flushRequeue e.1.1
          (q.1, (fd, r) :: p.2 ++ e.2 ++ q.2)
        else
          let q := goH (.readAnswers fd) p.1.1
          (q.1, (fd, r) :: p.2 ++ q.2)
  | _, _ => ((s.mfault s!"uaf-conn({fd}) in read_answers", .other), [])

/-- `bodyProcessRead` with the log of the calls it makes -/
def bodyProcessReadH (goH : Call → St → (St × Ret) × HLog) (fd : Nat) (s : St) : (St × Ret) × HLog :=
  match s.conn? fd, s.sock? fd with
  | some c, some v =>
    if c.unlinked then ((s, .ok), []) else
    if !c.tcp then
      let (e, s) := s.fault "recvfrom"
      let s := s.slog fd "recv"
      match e with
      | some errno =>
        let s := s.emit s!"recv!({fd})"
        if isWouldBlock errno then goH (.readAnswers fd) s
        else
          let p := goH (.connError fd true .connrefused) s
          ((p.1.1, .connrefused), p.2)
      | none =>
        match v.rx with
        | [] => goH (.readAnswers fd) s
        | r :: rest =>
          let s := s.modSock fd fun v => { v with rx := rest }
          if r.wrongsrc then goH (.readAnswers fd) s
          else
            let s := s.modConn fd fun c =>
              { c with inMsgs := c.inMsgs ++ [(c.inBytes + 2 + r.len, r)], inBytes := c.inBytes + 2 + r.len,
                       connected := true }
            goH (.processRead fd) s
    else
      let (e, s) := s.fault "recvfrom"
      let s := s.slog fd "recv"
      match e with
      | some errno =>
        let s := s.emit s!"recv!({fd})"
        if isWouldBlock errno then goH (.readAnswers fd) s
        else
          let p := goH (.connError fd true .connrefused) s
          ((p.1.1, .connrefused), p.2)
      | none =>
        let avail := v.slen - v.spos
        if avail == 0 then
          if v.reset || v.eof then
            let p := goH (.connError fd true .connrefused) s
            ((p.1.1, .connrefused), p.2)
          else goH (.readAnswers fd) s
        else
          let (n, chunks, again) : Nat × List Nat × Bool :=
            match v.chunks with
            | [] => (avail, [], false)
            | c :: r => if c == 0 then (0, r, true) else (min c avail, r, false)
          if again then
            goH (.readAnswers fd) (s.modSock fd fun v => { v with chunks := chunks })
          else
            let s := s.modSock fd fun v => { v with chunks := chunks, spos := v.spos + n }
            let s := s.modConn fd fun c => { c with inBytes := c.inBytes + n, connected := true }
            goH (.readAnswers fd) s
  | _, _ => ((s, .ok), [])

/-- one procedure with its log; procedures other than the two read procedures make no call of `process_answer`
    and are run by the model's `execBody` -/
def execHBody (goH : Call → St → (St × Ret) × HLog) (call : Call) (s : St) : (St × Ret) × HLog :=
  match call with
  | .readAnswers fd => bodyReadAnswersH goH fd s
  | .processRead fd => bodyProcessReadH goH fd s
  | .sendNolock a b c d e f => (execBody (fun c s => (goH c s).1) (.sendNolock a b c d e f) s, [])
  | .sendQuery a b => (execBody (fun c s => (goH c s).1) (.sendQuery a b) s, [])
  | .requeue a b c d e => (execBody (fun c s => (goH c s).1) (.requeue a b c d e) s, [])
  | .endQuery a b c d => (execBody (fun c s => (goH c s).1) (.endQuery a b c d) s, [])
  | .callback a b c d e => (execBody (fun c s => (goH c s).1) (.callback a b c d e) s, [])
  | .reactions a => (execBody (fun c s => (goH c s).1) (.reactions a) s, [])
  | .closeConn a b => (execBody (fun c s => (goH c s).1) (.closeConn a b) s, [])
  | .closeLoop a b => (execBody (fun c s => (goH c s).1) (.closeLoop a b) s, [])
  | .connError a b c => (execBody (fun c s => (goH c s).1) (.connError a b c) s, [])
  | .flush a => (execBody (fun c s => (goH c s).1) (.flush a) s, [])
  | .processWrite a => (execBody (fun c s => (goH c s).1) (.processWrite a) s, [])
  | .processAnswer a b => (execBody (fun c s => (goH c s).1) (.processAnswer a b) s, [])
  | .flushRequeue => (execBody (fun c s => (goH c s).1) .flushRequeue s, [])
  | .processTimeouts => (execBody (fun c s => (goH c s).1) .processTimeouts s, [])
  | .cleanupConns a => (execBody (fun c s => (goH c s).1) (.cleanupConns a) s, [])
  | .cancel => (execBody (fun c s => (goH c s).1) .cancel s, [])
  | .cancelLoop a b => (execBody (fun c s => (goH c s).1) (.cancelLoop a b) s, [])
  | .destroy => (execBody (fun c s => (goH c s).1) .destroy s, [])
  | .probe a b => (execBody (fun c s => (goH c s).1) (.probe a b) s, [])
  | .clientStart a b c d e => (execBody (fun c s => (goH c s).1) (.clientStart a b c d e) s, [])
  | .runActs a b => (execBody (fun c s => (goH c s).1) (.runActs a b) s, [])
  | .userCb a b c d e => (execBody (fun c s => (goH c s).1) (.userCb a b c d e) s, [])

def execH : Nat → Call → St → (St × Ret) × HLog
  | 0, _, s => (s.oof, [])
  | fuel + 1, call, s => execHBody (execH fuel) call s

theorem bodyReadAnswersH_fst (goH : Call → St → (St × Ret) × HLog) (fd : Nat) (s : St) :
    (bodyReadAnswersH goH fd s).1 = bodyReadAnswers (fun c s => (goH c s).1) fd s := by
  unfold bodyReadAnswersH bodyReadAnswers
  cases hc : s.conn? fd with
  | none => cases hv : s.sock? fd <;> rfl
  | some c =>
    cases hv : s.sock? fd with
    | none => rfl
    | some v =>
      simp only []
      repeat (first | rfl | (split <;> try simp only [*]))

theorem bodyProcessReadH_fst (goH : Call → St → (St × Ret) × HLog) (fd : Nat) (s : St) :
    (bodyProcessReadH goH fd s).1 = bodyProcessRead (fun c s => (goH c s).1) fd s := by
  unfold bodyProcessReadH bodyProcessRead
  cases hc : s.conn? fd with
  | none => cases hv : s.sock? fd <;> rfl
  | some c =>
    cases hv : s.sock? fd with
    | none => rfl
    | some v =>
      simp only []
      repeat (first | rfl | contradiction | (csplit <;> try simp only [*, ↓reduceIte, Bool.false_eq_true]))

theorem execHBody_fst (goH : Call → St → (St × Ret) × HLog) (call : Call) (s : St) :
    (execHBody goH call s).1 = execBody (fun c s => (goH c s).1) call s := by
  cases call
  case readAnswers fd => exact bodyReadAnswersH_fst goH fd s
  case processRead fd => exact bodyProcessReadH_fst goH fd s
  all_goals rfl

theorem execH_fst : ∀ (fuel : Nat) (call : Call) (s : St), (execH fuel call s).1 = exec fuel call s
  | 0, _, _ => rfl
  | fuel + 1, call, s => by
    have e : (fun c s => (execH fuel c s).1) = exec fuel := funext fun c => funext fun s => execH_fst fuel c s
    show (execHBody (execH fuel) call s).1 = execBody (exec fuel) call s
    rw [execHBody_fst, e]

theorem execH_log_nil (fuel : Nat) (call : Call) (s : St) (h : ∀ fd, ¬ call.readsFd fd) : (execH fuel call s).2 = [] := by
  cases fuel with
  | zero => rfl
  | succ n =>
    cases call
    case readAnswers fd => exact absurd rfl (h fd)
    case processRead fd => exact absurd rfl (h fd)
    all_goals rfl

end Cares.Chan
