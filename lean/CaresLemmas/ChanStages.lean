import CaresLemmas.ChanShape
/-!
# What the stages of `ares_send_query` write

For the stages of `ChanExec` (`pickServer`, `openConn`, `sqPrepare`, `sqLinkPre`): one equation
`stage s = { s with the fields it writes }` each (`…_eq`, from `…_writes`; for `openConn` it is `sqOpen_shape`) and from
it the field lemmas `(stage s).field = s.field`, of which those some proof uses through the simp set are in `chan_frame`.
-/
namespace Cares.Chan

theorem openConn_snd_eq (s : St) (tcp : Bool) (srv : Server) :
    (openConn s tcp srv).2 =
      { s with faults := (openConn s tcp srv).2.faults, ev := (openConn s tcp srv).2.ev,
               nextFd := (openConn s tcp srv).2.nextFd, pendingWl := (openConn s tcp srv).2.pendingWl,
               socks := (openConn s tcp srv).2.socks, sockLog := (openConn s tcp srv).2.sockLog,
               conns := (openConn s tcp srv).2.conns, servers := (openConn s tcp srv).2.servers,
               notifyLog := (openConn s tcp srv).2.notifyLog } :=
  sqOpen_shape s { (default : Query) with usingTcp := tcp } srv none

theorem pickServer_writes (r : Option Nat) (s : St) :
    ∃ ob of, (pickServer r s).2 = { s with obs := ob, obsFaults := of } := by
  rcases sqChoose_snd r s with h | h
  · exact ⟨_, _, h⟩
  · exact ⟨_, _, h.trans (St.draw1snd_eq s)⟩

theorem pickServer_snd_eq (r : Option Nat) (s : St) :
    (pickServer r s).2 = { s with obs := (pickServer r s).2.obs, obsFaults := (pickServer r s).2.obsFaults } := by
  obtain ⟨_, _, h⟩ := pickServer_writes r s
  rw [h]

theorem sqPrepare_writes (key : Nat) (q : Query) (srv : Server) (fd : Nat) (s : St) :
    ∃ ob of sv qs co wl, (sqPrepare key q srv fd s).1 =
      { s with obs := ob, obsFaults := of, servers := sv, qs := qs, conns := co, writeLog := wl } := by
  unfold sqPrepare
  extract_lets cTcp cSelf srvNow0 reqOpt ao s1
  obtain ⟨ob, of, h⟩ : ∃ ob of, s1 = { s with obs := ob, obsFaults := of } := by
    unfold s1; split
    · exact ⟨_, _, St.pop8_eq s⟩
    · exact ⟨_, _, rfl⟩
  clear_value s1
  subst h
  exact ⟨_, _, _, _, _, _, rfl⟩

theorem sqPrepare_fst_eq (key : Nat) (q : Query) (srv : Server) (fd : Nat) (s : St) :
    (sqPrepare key q srv fd s).1 =
      { s with obs := (sqPrepare key q srv fd s).1.obs, obsFaults := (sqPrepare key q srv fd s).1.obsFaults,
               servers := (sqPrepare key q srv fd s).1.servers, qs := (sqPrepare key q srv fd s).1.qs,
               conns := (sqPrepare key q srv fd s).1.conns, writeLog := (sqPrepare key q srv fd s).1.writeLog } := by
  obtain ⟨_, _, _, _, _, _, h⟩ := sqPrepare_writes key q srv fd s
  rw [h]

theorem sqLinkPre_writes (key : Nat) (srv : Server) (fd : Nat) (q : Query) (s : St) :
    ∃ ob of bt co qs po, sqLinkPre key srv fd q s =
      { s with obs := ob, obsFaults := of, byTimeout := bt, conns := co, qs := qs, pendingOrder := po } := by
  unfold sqLinkPre
  split
  next c s' heq =>
  have hd : s' = { s with obs := s'.obs, obsFaults := s'.obsFaults } := by
    have := St.draw2snd_eq s; rwa [heq] at this
  by_cases hr : q.tryCount / s.servers.length > 0
  · simp only [hr, if_true]; rw [hd]; cases q.conn <;> exact ⟨_, _, _, _, _, _, rfl⟩
  · simp only [hr, if_false]; cases q.conn <;> exact ⟨_, _, _, _, _, _, rfl⟩

theorem sqLinkPre_eq (key : Nat) (srv : Server) (fd : Nat) (q : Query) (s : St) :
    sqLinkPre key srv fd q s =
      { s with obs := (sqLinkPre key srv fd q s).obs, obsFaults := (sqLinkPre key srv fd q s).obsFaults,
               byTimeout := (sqLinkPre key srv fd q s).byTimeout, conns := (sqLinkPre key srv fd q s).conns,
               qs := (sqLinkPre key srv fd q s).qs, pendingOrder := (sqLinkPre key srv fd q s).pendingOrder } := by
  obtain ⟨_, _, _, _, _, _, h⟩ := sqLinkPre_writes key srv fd q s
  rw [h]

section
variable (s : St)
@[simp, chan_frame] theorem pickServer_cfg (r : Option Nat) : (pickServer r s).2.cfg = s.cfg := by
  rw [pickServer_snd_eq]
@[simp, chan_frame] theorem pickServer_servers (r : Option Nat) : (pickServer r s).2.servers = s.servers := by
  rw [pickServer_snd_eq]
@[simp, chan_frame] theorem pickServer_conns (r : Option Nat) : (pickServer r s).2.conns = s.conns := by
  rw [pickServer_snd_eq]
@[simp, chan_frame] theorem pickServer_nextFd (r : Option Nat) : (pickServer r s).2.nextFd = s.nextFd := by
  rw [pickServer_snd_eq]
@[simp, chan_frame] theorem pickServer_cache (r : Option Nat) : (pickServer r s).2.cache = s.cache := by
  rw [pickServer_snd_eq]
@[simp, chan_frame] theorem pickServer_accepted (r : Option Nat) : (pickServer r s).2.accepted = s.accepted := by
  rw [pickServer_snd_eq]
@[simp, chan_frame] theorem pickServer_outOfFuel (r : Option Nat) : (pickServer r s).2.outOfFuel = s.outOfFuel := by
  rw [pickServer_snd_eq]
@[simp, chan_frame] theorem pickServer_clients (r : Option Nat) : (pickServer r s).2.clients = s.clients := by
  rw [pickServer_snd_eq]
@[simp, chan_frame] theorem pickServer_nextClient (r : Option Nat) : (pickServer r s).2.nextClient = s.nextClient := by
  rw [pickServer_snd_eq]
@[simp, chan_frame] theorem openConn_cfg (tcp : Bool) (srv : Server) : (openConn s tcp srv).2.cfg = s.cfg := by
  rw [openConn_snd_eq]
theorem openConn_now (tcp : Bool) (srv : Server) : (openConn s tcp srv).2.now = s.now := by
  rw [openConn_snd_eq]
theorem openConn_qs (tcp : Bool) (srv : Server) : (openConn s tcp srv).2.qs = s.qs := by
  rw [openConn_snd_eq]
theorem openConn_nextKey (tcp : Bool) (srv : Server) : (openConn s tcp srv).2.nextKey = s.nextKey := by
  rw [openConn_snd_eq]
theorem openConn_all (tcp : Bool) (srv : Server) : (openConn s tcp srv).2.all = s.all := by
  rw [openConn_snd_eq]
theorem openConn_byQid (tcp : Bool) (srv : Server) : (openConn s tcp srv).2.byQid = s.byQid := by
  rw [openConn_snd_eq]
theorem openConn_byTimeout (tcp : Bool) (srv : Server) : (openConn s tcp srv).2.byTimeout = s.byTimeout := by
  rw [openConn_snd_eq]
theorem openConn_listCopy (tcp : Bool) (srv : Server) : (openConn s tcp srv).2.listCopy = s.listCopy := by
  rw [openConn_snd_eq]
theorem openConn_txs (tcp : Bool) (srv : Server) : (openConn s tcp srv).2.txs = s.txs := by
  rw [openConn_snd_eq]
@[simp, chan_frame] theorem openConn_cache (tcp : Bool) (srv : Server) : (openConn s tcp srv).2.cache = s.cache := by
  rw [openConn_snd_eq]
theorem openConn_requeueArr (tcp : Bool) (srv : Server) : (openConn s tcp srv).2.requeueArr = s.requeueArr := by
  rw [openConn_snd_eq]
theorem openConn_writeLog (tcp : Bool) (srv : Server) : (openConn s tcp srv).2.writeLog = s.writeLog := by
  rw [openConn_snd_eq]
@[simp, chan_frame] theorem openConn_accepted (tcp : Bool) (srv : Server) : (openConn s tcp srv).2.accepted = s.accepted := by
  rw [openConn_snd_eq]
theorem openConn_picks (tcp : Bool) (srv : Server) : (openConn s tcp srv).2.picks = s.picks := by
  rw [openConn_snd_eq]
theorem openConn_destroying (tcp : Bool) (srv : Server) : (openConn s tcp srv).2.destroying = s.destroying := by
  rw [openConn_snd_eq]
theorem openConn_destroyed (tcp : Bool) (srv : Server) : (openConn s tcp srv).2.destroyed = s.destroyed := by
  rw [openConn_snd_eq]
@[simp, chan_frame] theorem openConn_outOfFuel (tcp : Bool) (srv : Server) : (openConn s tcp srv).2.outOfFuel = s.outOfFuel := by
  rw [openConn_snd_eq]
theorem openConn_modelFaults (tcp : Bool) (srv : Server) : (openConn s tcp srv).2.modelFaults = s.modelFaults := by
  rw [openConn_snd_eq]
@[simp, chan_frame] theorem openConn_clients (tcp : Bool) (srv : Server) : (openConn s tcp srv).2.clients = s.clients := by
  rw [openConn_snd_eq]
theorem openConn_selfVariant (tcp : Bool) (srv : Server) : (openConn s tcp srv).2.selfVariant = s.selfVariant := by
  rw [openConn_snd_eq]
theorem openConn_reactions (tcp : Bool) (srv : Server) : (openConn s tcp srv).2.reactions = s.reactions := by
  rw [openConn_snd_eq]
theorem openConn_notifyPending (tcp : Bool) (srv : Server) : (openConn s tcp srv).2.notifyPending = s.notifyPending := by
  rw [openConn_snd_eq]
theorem openConn_alive (tcp : Bool) (srv : Server) : (openConn s tcp srv).2.alive = s.alive := by
  rw [openConn_snd_eq]
@[simp, chan_frame] theorem openConn_nextClient (tcp : Bool) (srv : Server) : (openConn s tcp srv).2.nextClient = s.nextClient := by
  rw [openConn_snd_eq]
@[simp, chan_frame] theorem sqPrepare_cfg (key : Nat) (q : Query) (srv : Server) (fd : Nat) : (sqPrepare key q srv fd s).1.cfg = s.cfg := by
  rw [sqPrepare_fst_eq]
theorem sqPrepare_now (key : Nat) (q : Query) (srv : Server) (fd : Nat) : (sqPrepare key q srv fd s).1.now = s.now := by
  rw [sqPrepare_fst_eq]
theorem sqPrepare_nextKey (key : Nat) (q : Query) (srv : Server) (fd : Nat) : (sqPrepare key q srv fd s).1.nextKey = s.nextKey := by
  rw [sqPrepare_fst_eq]
theorem sqPrepare_all (key : Nat) (q : Query) (srv : Server) (fd : Nat) : (sqPrepare key q srv fd s).1.all = s.all := by
  rw [sqPrepare_fst_eq]
theorem sqPrepare_byQid (key : Nat) (q : Query) (srv : Server) (fd : Nat) : (sqPrepare key q srv fd s).1.byQid = s.byQid := by
  rw [sqPrepare_fst_eq]
theorem sqPrepare_byTimeout (key : Nat) (q : Query) (srv : Server) (fd : Nat) : (sqPrepare key q srv fd s).1.byTimeout = s.byTimeout := by
  rw [sqPrepare_fst_eq]
theorem sqPrepare_listCopy (key : Nat) (q : Query) (srv : Server) (fd : Nat) : (sqPrepare key q srv fd s).1.listCopy = s.listCopy := by
  rw [sqPrepare_fst_eq]
@[simp, chan_frame] theorem sqPrepare_nextFd (key : Nat) (q : Query) (srv : Server) (fd : Nat) : (sqPrepare key q srv fd s).1.nextFd = s.nextFd := by
  rw [sqPrepare_fst_eq]
theorem sqPrepare_txs (key : Nat) (q : Query) (srv : Server) (fd : Nat) : (sqPrepare key q srv fd s).1.txs = s.txs := by
  rw [sqPrepare_fst_eq]
@[simp, chan_frame] theorem sqPrepare_cache (key : Nat) (q : Query) (srv : Server) (fd : Nat) : (sqPrepare key q srv fd s).1.cache = s.cache := by
  rw [sqPrepare_fst_eq]
theorem sqPrepare_requeueArr (key : Nat) (q : Query) (srv : Server) (fd : Nat) : (sqPrepare key q srv fd s).1.requeueArr = s.requeueArr := by
  rw [sqPrepare_fst_eq]
theorem sqPrepare_notifyLog (key : Nat) (q : Query) (srv : Server) (fd : Nat) : (sqPrepare key q srv fd s).1.notifyLog = s.notifyLog := by
  rw [sqPrepare_fst_eq]
theorem sqPrepare_sockLog (key : Nat) (q : Query) (srv : Server) (fd : Nat) : (sqPrepare key q srv fd s).1.sockLog = s.sockLog := by
  rw [sqPrepare_fst_eq]
@[simp, chan_frame] theorem sqPrepare_accepted (key : Nat) (q : Query) (srv : Server) (fd : Nat) : (sqPrepare key q srv fd s).1.accepted = s.accepted := by
  rw [sqPrepare_fst_eq]
theorem sqPrepare_picks (key : Nat) (q : Query) (srv : Server) (fd : Nat) : (sqPrepare key q srv fd s).1.picks = s.picks := by
  rw [sqPrepare_fst_eq]
theorem sqPrepare_destroying (key : Nat) (q : Query) (srv : Server) (fd : Nat) : (sqPrepare key q srv fd s).1.destroying = s.destroying := by
  rw [sqPrepare_fst_eq]
theorem sqPrepare_destroyed (key : Nat) (q : Query) (srv : Server) (fd : Nat) : (sqPrepare key q srv fd s).1.destroyed = s.destroyed := by
  rw [sqPrepare_fst_eq]
@[simp, chan_frame] theorem sqPrepare_outOfFuel (key : Nat) (q : Query) (srv : Server) (fd : Nat) : (sqPrepare key q srv fd s).1.outOfFuel = s.outOfFuel := by
  rw [sqPrepare_fst_eq]
theorem sqPrepare_modelFaults (key : Nat) (q : Query) (srv : Server) (fd : Nat) : (sqPrepare key q srv fd s).1.modelFaults = s.modelFaults := by
  rw [sqPrepare_fst_eq]
@[simp, chan_frame] theorem sqPrepare_clients (key : Nat) (q : Query) (srv : Server) (fd : Nat) : (sqPrepare key q srv fd s).1.clients = s.clients := by
  rw [sqPrepare_fst_eq]
theorem sqPrepare_pendingWl (key : Nat) (q : Query) (srv : Server) (fd : Nat) : (sqPrepare key q srv fd s).1.pendingWl = s.pendingWl := by
  rw [sqPrepare_fst_eq]
theorem sqPrepare_selfVariant (key : Nat) (q : Query) (srv : Server) (fd : Nat) : (sqPrepare key q srv fd s).1.selfVariant = s.selfVariant := by
  rw [sqPrepare_fst_eq]
theorem sqPrepare_faults (key : Nat) (q : Query) (srv : Server) (fd : Nat) : (sqPrepare key q srv fd s).1.faults = s.faults := by
  rw [sqPrepare_fst_eq]
theorem sqPrepare_reactions (key : Nat) (q : Query) (srv : Server) (fd : Nat) : (sqPrepare key q srv fd s).1.reactions = s.reactions := by
  rw [sqPrepare_fst_eq]
theorem sqPrepare_notifyPending (key : Nat) (q : Query) (srv : Server) (fd : Nat) : (sqPrepare key q srv fd s).1.notifyPending = s.notifyPending := by
  rw [sqPrepare_fst_eq]
theorem sqPrepare_alive (key : Nat) (q : Query) (srv : Server) (fd : Nat) : (sqPrepare key q srv fd s).1.alive = s.alive := by
  rw [sqPrepare_fst_eq]
@[simp, chan_frame] theorem sqPrepare_nextClient (key : Nat) (q : Query) (srv : Server) (fd : Nat) : (sqPrepare key q srv fd s).1.nextClient = s.nextClient := by
  rw [sqPrepare_fst_eq]
@[simp, chan_frame] theorem sqLinkPre_cfg (key : Nat) (srv : Server) (fd : Nat) (q : Query) : (sqLinkPre key srv fd q s).cfg = s.cfg := by
  rw [sqLinkPre_eq]
theorem sqLinkPre_now (key : Nat) (srv : Server) (fd : Nat) (q : Query) : (sqLinkPre key srv fd q s).now = s.now := by
  rw [sqLinkPre_eq]
@[simp, chan_frame] theorem sqLinkPre_servers (key : Nat) (srv : Server) (fd : Nat) (q : Query) : (sqLinkPre key srv fd q s).servers = s.servers := by
  rw [sqLinkPre_eq]
theorem sqLinkPre_nextKey (key : Nat) (srv : Server) (fd : Nat) (q : Query) : (sqLinkPre key srv fd q s).nextKey = s.nextKey := by
  rw [sqLinkPre_eq]
theorem sqLinkPre_all (key : Nat) (srv : Server) (fd : Nat) (q : Query) : (sqLinkPre key srv fd q s).all = s.all := by
  rw [sqLinkPre_eq]
theorem sqLinkPre_byQid (key : Nat) (srv : Server) (fd : Nat) (q : Query) : (sqLinkPre key srv fd q s).byQid = s.byQid := by
  rw [sqLinkPre_eq]
theorem sqLinkPre_listCopy (key : Nat) (srv : Server) (fd : Nat) (q : Query) : (sqLinkPre key srv fd q s).listCopy = s.listCopy := by
  rw [sqLinkPre_eq]
@[simp, chan_frame] theorem sqLinkPre_nextFd (key : Nat) (srv : Server) (fd : Nat) (q : Query) : (sqLinkPre key srv fd q s).nextFd = s.nextFd := by
  rw [sqLinkPre_eq]
theorem sqLinkPre_txs (key : Nat) (srv : Server) (fd : Nat) (q : Query) : (sqLinkPre key srv fd q s).txs = s.txs := by
  rw [sqLinkPre_eq]
@[simp, chan_frame] theorem sqLinkPre_cache (key : Nat) (srv : Server) (fd : Nat) (q : Query) : (sqLinkPre key srv fd q s).cache = s.cache := by
  rw [sqLinkPre_eq]
theorem sqLinkPre_requeueArr (key : Nat) (srv : Server) (fd : Nat) (q : Query) : (sqLinkPre key srv fd q s).requeueArr = s.requeueArr := by
  rw [sqLinkPre_eq]
theorem sqLinkPre_writeLog (key : Nat) (srv : Server) (fd : Nat) (q : Query) : (sqLinkPre key srv fd q s).writeLog = s.writeLog := by
  rw [sqLinkPre_eq]
theorem sqLinkPre_notifyLog (key : Nat) (srv : Server) (fd : Nat) (q : Query) : (sqLinkPre key srv fd q s).notifyLog = s.notifyLog := by
  rw [sqLinkPre_eq]
theorem sqLinkPre_sockLog (key : Nat) (srv : Server) (fd : Nat) (q : Query) : (sqLinkPre key srv fd q s).sockLog = s.sockLog := by
  rw [sqLinkPre_eq]
@[simp, chan_frame] theorem sqLinkPre_accepted (key : Nat) (srv : Server) (fd : Nat) (q : Query) : (sqLinkPre key srv fd q s).accepted = s.accepted := by
  rw [sqLinkPre_eq]
theorem sqLinkPre_picks (key : Nat) (srv : Server) (fd : Nat) (q : Query) : (sqLinkPre key srv fd q s).picks = s.picks := by
  rw [sqLinkPre_eq]
theorem sqLinkPre_destroying (key : Nat) (srv : Server) (fd : Nat) (q : Query) : (sqLinkPre key srv fd q s).destroying = s.destroying := by
  rw [sqLinkPre_eq]
theorem sqLinkPre_destroyed (key : Nat) (srv : Server) (fd : Nat) (q : Query) : (sqLinkPre key srv fd q s).destroyed = s.destroyed := by
  rw [sqLinkPre_eq]
@[simp, chan_frame] theorem sqLinkPre_outOfFuel (key : Nat) (srv : Server) (fd : Nat) (q : Query) : (sqLinkPre key srv fd q s).outOfFuel = s.outOfFuel := by
  rw [sqLinkPre_eq]
theorem sqLinkPre_modelFaults (key : Nat) (srv : Server) (fd : Nat) (q : Query) : (sqLinkPre key srv fd q s).modelFaults = s.modelFaults := by
  rw [sqLinkPre_eq]
@[simp, chan_frame] theorem sqLinkPre_clients (key : Nat) (srv : Server) (fd : Nat) (q : Query) : (sqLinkPre key srv fd q s).clients = s.clients := by
  rw [sqLinkPre_eq]
theorem sqLinkPre_pendingWl (key : Nat) (srv : Server) (fd : Nat) (q : Query) : (sqLinkPre key srv fd q s).pendingWl = s.pendingWl := by
  rw [sqLinkPre_eq]
theorem sqLinkPre_selfVariant (key : Nat) (srv : Server) (fd : Nat) (q : Query) : (sqLinkPre key srv fd q s).selfVariant = s.selfVariant := by
  rw [sqLinkPre_eq]
theorem sqLinkPre_faults (key : Nat) (srv : Server) (fd : Nat) (q : Query) : (sqLinkPre key srv fd q s).faults = s.faults := by
  rw [sqLinkPre_eq]
theorem sqLinkPre_reactions (key : Nat) (srv : Server) (fd : Nat) (q : Query) : (sqLinkPre key srv fd q s).reactions = s.reactions := by
  rw [sqLinkPre_eq]
theorem sqLinkPre_notifyPending (key : Nat) (srv : Server) (fd : Nat) (q : Query) : (sqLinkPre key srv fd q s).notifyPending = s.notifyPending := by
  rw [sqLinkPre_eq]
theorem sqLinkPre_alive (key : Nat) (srv : Server) (fd : Nat) (q : Query) : (sqLinkPre key srv fd q s).alive = s.alive := by
  rw [sqLinkPre_eq]
@[simp, chan_frame] theorem sqLinkPre_nextClient (key : Nat) (srv : Server) (fd : Nat) (q : Query) : (sqLinkPre key srv fd q s).nextClient = s.nextClient := by
  rw [sqLinkPre_eq]
theorem sqLinkPre_doneToks (key : Nat) (srv : Server) (fd : Nat) (q : Query) : (sqLinkPre key srv fd q s).doneToks = s.doneToks := by
  rw [sqLinkPre_eq]
theorem sqLinkPre_pendingToks (key : Nat) (srv : Server) (fd : Nat) (q : Query) : (sqLinkPre key srv fd q s).pendingToks = s.pendingToks := by
  rw [sqLinkPre_eq]
theorem sqLinkPre_lastQid (key : Nat) (srv : Server) (fd : Nat) (q : Query) : (sqLinkPre key srv fd q s).lastQid = s.lastQid := by
  rw [sqLinkPre_eq]
theorem sqLinkPre_reactSeq (key : Nat) (srv : Server) (fd : Nat) (q : Query) : (sqLinkPre key srv fd q s).reactSeq = s.reactSeq := by
  rw [sqLinkPre_eq]
end

end Cares.Chan
