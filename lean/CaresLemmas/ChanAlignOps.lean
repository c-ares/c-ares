import CaresLemmas.ChanAlignSt
import CaresLemmas.ChanStages
/-!
# TCP read alignment (C20) — the steps that change the inbound side

`ares_open_connection` (new virtual socket, new connection), `read_conn_packets` (one `recv`), `read_answers` (one frame
taken out of in_buf).
-/
namespace Cares.Chan

theorem ocSock_views (s1 : St) (tcp : Bool) (srv : Server) :
    (ocSock s1 tcp srv).conns = s1.conns ∧ (ocSock s1 tcp srv).nextFd = s1.nextFd + 1 ∧
      (ocSock s1 tcp srv).socks.map vk = s1.socks.map vk ++ [(s1.nextFd, ⟨[], 0, 0⟩)] ∧
      (ocSock s1 tcp srv).outOfFuel = s1.outOfFuel := by
  unfold ocSock
  refine ⟨by simp only [chan_frame], by simp only [chan_frame], ?_, by simp only [chan_frame]⟩
  simp only []
  refine (vks_modSock_id _ _ _ ?_).trans ?_
  · intro _; rfl
  simp only [chan_frame, List.map_append, List.map_cons, List.map_nil]
  rfl

theorem ocClose_views (s : St) (fd : Nat) :
    (ocClose s fd).conns = s.conns ∧ (ocClose s fd).nextFd = s.nextFd ∧
      (ocClose s fd).socks.map vk = s.socks.map vk ∧ (ocClose s fd).outOfFuel = s.outOfFuel := by
  unfold ocClose
  refine ⟨by simp only [chan_frame], by simp only [chan_frame], ?_, by simp only [chan_frame]⟩
  simp only [chan_frame]
  exact vks_modSock_id _ _ _ (fun _ => rfl)

theorem ocFinish_views (s : St) (fd : Nat) (tcp : Bool) (srv : Server) :
    (ocFinish s fd tcp srv).conns.map rk = s.conns.map rk ++ [(fd, ⟨tcp, false, 0⟩)] ∧
      (ocFinish s fd tcp srv).nextFd = s.nextFd ∧ (ocFinish s fd tcp srv).socks = s.socks ∧
      (ocFinish s fd tcp srv).outOfFuel = s.outOfFuel := by
  unfold ocFinish
  refine ⟨?_, by simp only [chan_frame], by simp only [chan_frame], by simp only [chan_frame]⟩
  simp only []
  rw [(connsMap_notify rk rk_blind)]
  simp only [chan_frame, List.map_append, List.map_cons, List.map_nil]
  rfl

/-- what `ares_open_connection` does to the views: nothing; a socket that is closed again; or a socket with a new
    connection on it -/
theorem openConn_views (s : St) (tcp : Bool) (srv : Server) :
    ((openConn s tcp srv).2.conns.map rk = s.conns.map rk ∧ (openConn s tcp srv).2.socks.map vk = s.socks.map vk ∧
        (openConn s tcp srv).2.nextFd = s.nextFd) ∨
    ((openConn s tcp srv).2.conns.map rk = s.conns.map rk ∧
        (openConn s tcp srv).2.socks.map vk = s.socks.map vk ++ [(s.nextFd, ⟨[], 0, 0⟩)] ∧
        (openConn s tcp srv).2.nextFd = s.nextFd + 1) ∨
    ((openConn s tcp srv).2.conns.map rk = s.conns.map rk ++ [(s.nextFd, ⟨tcp, false, 0⟩)] ∧
        (openConn s tcp srv).2.socks.map vk = s.socks.map vk ++ [(s.nextFd, ⟨[], 0, 0⟩)] ∧
        (openConn s tcp srv).2.nextFd = s.nextFd + 1) := by
  rcases openConn_paths s tcp srv with ⟨e, h⟩ | ⟨t, ht, h | h⟩ <;> rw [h]
  · exact .inl ⟨rfl, rfl, rfl⟩
  · obtain ⟨h1, h2, h3, _⟩ := ocClose_views t s.nextFd
    obtain ⟨e1, _, _, e4, _, e6, _⟩ := ht.fields
    exact .inr (.inl ⟨by rw [h1, e1], by rw [h3, e6]; exact (ocSock_views s tcp srv).2.2.1, by rw [h2, e4]⟩)
  · obtain ⟨h1, h2, h3, _⟩ := ocFinish_views t s.nextFd tcp srv
    obtain ⟨e1, _, _, e4, _, e6, _⟩ := ht.fields
    exact .inr (.inr ⟨by rw [h1, e1], by rw [h3, e6]; exact (ocSock_views s tcp srv).2.2.1, by rw [h2, e4]⟩)

section
variable {Q : Nat → SV → CV → Prop} {N0 : Nat}

theorem Al_openConn (hQ : QFresh Q N0) (s : St) (tcp : Bool) (srv : Server) (h : Al Q N0 s) :
    Al Q N0 (openConn s tcp srv).2 := by
  intro ho
  rw [openConn_outOfFuel] at ho
  have core := h ho
  have hsn : pfind (s.socks.map vk) s.nextFd = none := by
    cases hx : pfind (s.socks.map vk) s.nextFd with
    | none => rfl
    | some x => exact absurd (core.fresh _ x hx) (Nat.lt_irrefl _)
  have hcn : pfind (s.conns.map rk) s.nextFd = none := by
    cases hy : pfind (s.conns.map rk) s.nextFd with
    | none => rfl
    | some y =>
      obtain ⟨x, hx⟩ := core.hasSock _ y hy
      rw [hsn] at hx; cases hx
  have es : pfind (s.socks.map vk ++ [(s.nextFd, (⟨[], 0, 0⟩ : SV))]) =
      fun fd' => if fd' = s.nextFd then some ⟨[], 0, 0⟩ else pfind (s.socks.map vk) fd' :=
    kfind_append_one Prod.fst Prod.snd (s.nextFd, (⟨[], 0, 0⟩ : SV)) _ hsn
  have ec : pfind (s.conns.map rk ++ [(s.nextFd, (⟨tcp, false, 0⟩ : CV))]) =
      fun fd' => if fd' = s.nextFd then some ⟨tcp, false, 0⟩ else pfind (s.conns.map rk) fd' :=
    kfind_append_one Prod.fst Prod.snd (s.nextFd, (⟨tcp, false, 0⟩ : CV)) _ hcn
  rcases openConn_views s tcp srv with ⟨e1, e2, e3⟩ | ⟨e1, e2, e3⟩ | ⟨e1, e2, e3⟩
  · rw [e1, e2, e3]; exact core
  · rw [e1, e2, e3, es]; exact core.newSock
  · rw [e1, e2, e3, es, ec]; exact core.newConn hQ tcp

/-- one `recv` on a TCP connection: `n` bytes (at most what the peer has written) move from the socket to in_buf -/
theorem Al_readTcp {fd : Nat} (hq : QRead Q fd) (s : St) (n : Nat) (chunks : List Nat) (v : VSock)
    (hv : s.sock? fd = some v) (hn : n ≤ v.slen - v.spos) (h : Al Q N0 s) :
    Al Q N0 ((s.modSock fd fun v => { v with chunks := chunks, spos := v.spos + n }).modConn fd
      fun c => { c with inBytes := c.inBytes + n, connected := true }) := by
  intro ho
  have core := h ho
  show AlCore Q N0 (pfind ((St.modConn _ fd _).conns.map rk)) (pfind ((St.modConn _ fd _).socks.map vk)) s.nextFd
  rw [rks_modConn _ fd _ (fun y => { y with inBytes := y.inBytes + n }) (fun _ => rfl),
    pfind_upd fd (fun y : CV => { y with inBytes := y.inBytes + n })]
  simp only [chan_frame]
  rw [vks_modSock s fd _ (fun x => { x with spos := x.spos + n }) (fun _ => rfl),
    pfind_upd fd (fun x : SV => { x with spos := x.spos + n })]
  refine core.upd fd _ _ ?_ ?_ ?_
  · intro x hx
    rw [pfind_socks, hv] at hx
    simp only [Option.map_some, Option.some.injEq] at hx
    subst hx
    exact (core.stream fd _ (by rw [pfind_socks, hv]; rfl)).read hn
  · intro y x hy hx ht hu
    exact (core.al fd y x hy hx ht hu).read n
  · intro y x hy hx hu; exact hq _ _ _ _ (core.q fd y x hy hx hu)

/-- a datagram is appended to the in_buf of a UDP connection -/
theorem Al_readUdp {fd : Nat} (hq : QRead Q fd) (s : St) (c : Conn) (f : Conn → Conn) (g : Nat → Nat)
    (hc : s.conn? fd = some c) (ht : c.tcp = false)
    (hf : ∀ c, rk (f c) = (c.fd, ⟨(rflag c).tcp, (rflag c).unlinked, g (rflag c).inBytes⟩)) (h : Al Q N0 s) :
    Al Q N0 (s.modConn fd f) := by
  intro ho
  have core := h ho
  show AlCore Q N0 (pfind ((s.modConn fd f).conns.map rk)) (pfind (s.socks.map vk)) s.nextFd
  rw [rks_modConn s fd f (fun y => ⟨y.tcp, y.unlinked, g y.inBytes⟩) hf,
    pfind_upd fd (fun y : CV => ⟨y.tcp, y.unlinked, g y.inBytes⟩)]
  have := core.upd fd (fun y => ⟨y.tcp, y.unlinked, g y.inBytes⟩) id (fun x hx => core.stream fd x hx) ?_ ?_
  · simpa only [Option.map_id_fun, id_eq, ite_self] using this
  · intro y x hy _ ht' _
    rw [pfind_conns, hc] at hy
    simp only [Option.map_some, Option.some.injEq] at hy
    subst hy
    simp only [rflag] at ht'
    rw [ht] at ht'; cases ht'
  · intro y x hy hx hu; exact hq x y x.spos _ (core.q fd y x hy hx hu)

/-- `read_answers` takes the next frame out of in_buf -/
theorem Al_consume {fd : Nat} (hq : QRead Q fd) (s : St) (c : Conn) (v : VSock) (r : Reply)
    (hc : s.conn? fd = some c) (hv : s.sock? fd = some v)
    (hnext : c.tcp = true → nextTcpFrame v.stream v.spos c.inBytes = some r) (h : Al Q N0 s) :
    Al Q N0 (s.modConn fd fun c => { c with inMsgs := c.inMsgs.drop 1, inBytes := c.inBytes - (2 + r.len) }) := by
  intro ho
  have core := h ho
  show AlCore Q N0 (pfind ((St.modConn s fd _).conns.map rk)) (pfind (s.socks.map vk)) s.nextFd
  rw [rks_modConn s fd _ (fun y => { y with inBytes := y.inBytes - (2 + r.len) }) (fun _ => rfl),
    pfind_upd fd (fun y : CV => { y with inBytes := y.inBytes - (2 + r.len) })]
  have := core.upd fd (fun y => { y with inBytes := y.inBytes - (2 + r.len) }) id (fun x hx => core.stream fd x hx) ?_ ?_
  · simpa only [Option.map_id_fun, id_eq, ite_self] using this
  · intro y x hy hx ht' hu
    have hal := core.al fd y x hy hx ht' hu
    have hst := core.stream fd x hx
    rw [pfind_conns, hc] at hy
    rw [pfind_socks, hv] at hx
    simp only [Option.map_some, Option.some.injEq] at hy hx
    subst hy; subst hx
    exact hal.consume hst (hnext ht')
  · intro y x hy hx hu; exact hq x y x.spos _ (core.q fd y x hy hx hu)

end

end Cares.Chan
