import CaresLemmas.SListOps
/-! Helper lemmas for the skip-list model: ares_slist_node_find. -/
namespace Cares.Dsa.SList

/-- the walk along one level: either it stops on a node with the key, or no node of the walked part has the key
    and the node it hands down is a walked node with a smaller key (or the start's predecessor, which happens only
    when the very first node is already larger) -/
theorem walk_spec (key : Nat → Nat) (k : Nat) (prev : Option Nat) (rest : List Nat) (hs : Sorted key rest) :
    match walk key k prev rest with
    | .found x => x ∈ rest ∧ key x = k
    | .cont node' => (∀ y ∈ rest, key y ≠ k) ∧
        ∀ c, node' = some c → (c ∈ rest ∧ key c < k) ∨ (prev = some c ∧ ∀ x, rest.head? = some x → k < key x) := by
  induction rest generalizing prev with
  | nil =>
    simp only [walk]
    exact ⟨fun y hy => by simp at hy, fun c hc => by cases hc⟩
  | cons x r ih =>
    have hp := List.pairwise_cons.1 hs
    unfold walk
    by_cases h1 : k < key x
    · rw [if_pos h1]
      simp only
      refine ⟨?_, ?_⟩
      · intro y hy
        rcases List.mem_cons.1 hy with rfl | hy
        · exact Nat.ne_of_gt h1
        · exact Nat.ne_of_gt (Nat.lt_of_lt_of_le h1 (hp.1 y hy))
      · intro c hc; right; exact ⟨hc, fun x' hx' => by simp at hx'; subst hx'; exact h1⟩
    · rw [if_neg h1]
      by_cases h2 : k = key x
      · rw [if_pos h2]; exact ⟨List.mem_cons_self, h2.symm⟩
      · rw [if_neg h2]
        have := ih (some x) hp.2
        cases hw : walk key k (some x) r with
        | found y =>
          rw [hw] at this
          exact ⟨List.mem_cons_of_mem _ this.1, this.2⟩
        | cont node' =>
          rw [hw] at this
          refine ⟨?_, ?_⟩
          · intro y hy
            rcases List.mem_cons.1 hy with rfl | hy
            · exact fun e => h2 e.symm
            · exact this.1 y hy
          · intro c hc
            left
            rcases this.2 c hc with ⟨hm, hk⟩ | ⟨hpx, _⟩
            · exact ⟨List.mem_cons_of_mem _ hm, hk⟩
            · cases hpx; exact ⟨List.mem_cons_self, by omega⟩

theorem findLevel_spec (key : Nat → Nat) (k : Nat) (l : List Nat) (node : Option Nat) (hs : Sorted key l)
    (hnode : ∀ c, node = some c → c ∈ l ∧ key c < k) :
    match findLevel key k l node with
    | .found x => x ∈ l ∧ key x = k
    | .cont node' => (∀ y ∈ l, key y ≠ k) ∧ ∀ c, node' = some c → c ∈ l ∧ key c < k := by
  unfold findLevel
  cases node with
  | none =>
    simp only
    have := walk_spec key k none l hs
    cases hw : walk key k none l with
    | found x => rw [hw] at this; exact this
    | cont node' =>
      rw [hw] at this
      refine ⟨this.1, ?_⟩
      intro c hc
      rcases this.2 c hc with h | ⟨h, _⟩
      · exact h
      · cases h
  | some c =>
    simp only
    obtain ⟨hcl, hck⟩ := hnode c rfl
    obtain ⟨pre, post, e, hcpre⟩ := List.eq_append_cons_of_mem hcl
    have hafter : after c l = post := by rw [e]; exact after_split c pre post hcpre
    rw [hafter]
    have hs' : Sorted key (pre ++ c :: post) := by rw [← e]; exact hs
    have hsp := List.pairwise_append.1 hs'
    have hpre : ∀ y ∈ pre, key y ≠ k := by
      intro y hy
      exact Nat.ne_of_lt (Nat.lt_of_le_of_lt (hsp.2.2 y hy c List.mem_cons_self) hck)
    have := walk_spec key k (prevOf c l) (c :: post) hsp.2.1
    cases hw : walk key k (prevOf c l) (c :: post) with
    | found x =>
      rw [hw] at this
      refine ⟨?_, this.2⟩
      rw [e]; exact List.mem_append_right _ this.1
    | cont node' =>
      rw [hw] at this
      refine ⟨?_, ?_⟩
      · intro y hy
        rw [e] at hy
        rcases List.mem_append.1 hy with hy | hy
        · exact hpre y hy
        · exact this.1 y hy
      · intro c' hc'
        rcases this.2 c' hc' with ⟨hm, hk⟩ | ⟨_, hh⟩
        · exact ⟨by rw [e]; exact List.mem_append_right _ hm, hk⟩
        · exact absurd (hh c rfl) (Nat.lt_asymm hck)

theorem findLevels_spec (key : Nat → Nat) (k : Nat) (lv : List (List Nat)) (node : Option Nat)
    (hg : AllGood key lv) (hsub : SubChain lv)
    (hnode : ∀ c, node = some c → ∀ l, lv.head? = some l → c ∈ l ∧ key c < k) :
    match findLevels key k lv node with
    | some x => x ∈ lv.getLast?.getD [] ∧ key x = k
    | none => ∀ y ∈ lv.getLast?.getD [], key y ≠ k := by
  induction lv generalizing node with
  | nil => simp [findLevels]
  | cons l below ih =>
    obtain ⟨hs, hnd⟩ := hg l List.mem_cons_self
    have h1 := findLevel_spec key k l node hs (fun c hc => hnode c hc l rfl)
    unfold findLevels
    cases hf : findLevel key k l node with
    | found x =>
      rw [hf] at h1
      simp only
      exact ⟨(sublist_level0 (l :: below) hsub l List.mem_cons_self).subset h1.1, h1.2⟩
    | cont node' =>
      rw [hf] at h1
      simp only
      cases below with
      | nil =>
        simp only [findLevels, List.getLast?_singleton, Option.getD_some]
        exact h1.1
      | cons lo r =>
        have := ih node' (fun l' hl' => hg l' (List.mem_cons_of_mem _ hl')) hsub.2 (by
          intro c hc l' hl'
          simp only [List.head?_cons, Option.some.injEq] at hl'
          subst hl'
          obtain ⟨m, hk⟩ := h1.2 c hc
          exact ⟨hsub.1.subset m, hk⟩)
        rw [List.getLast?_cons_cons]
        exact this

theorem backToFirst_eq (key : Nat → Nat) (k cur : Nat) (r : List Nat) :
    backToFirst key k cur r = ((r.takeWhile (fun p => key p == k)).getLast?).getD cur :=
  walk_eq_getLast (fun _ => rfl) (fun _ _ _ => by simp [backToFirst]) cur r

theorem takeWhile_nil_of_all_false (p : Nat → Bool) (l : List Nat) (h : ∀ a ∈ l, p a = false) : l.takeWhile p = [] := by
  cases l with
  | nil => rfl
  | cons a r => rw [List.takeWhile_cons_of_neg (by rw [h a List.mem_cons_self]; simp)]

/-- walking back from a node with the key along a sorted level 0 ends on the first node with the key -/
theorem back_first (key : Nat → Nat) (k x : Nat) (l0 : List Nat) (hs : Sorted key l0) (hx : x ∈ l0)
    (hk : key x = k) :
    backToFirst key k x (l0.takeWhile (· != x)).reverse = (l0.find? (fun y => key y == k)).getD x ∧
      (l0.find? (fun y => key y == k)).isSome := by
  obtain ⟨pre, post, e, hxpre⟩ := List.eq_append_cons_of_mem hx
  have htw : l0.takeWhile (· != x) = pre := by rw [e]; exact takeWhile_ne_split x pre post hxpre
  rw [htw, backToFirst_eq]
  have hs' : Sorted key (pre ++ x :: post) := by rw [← e]; exact hs
  have hsp := List.pairwise_append.1 hs'
  have hprele : ∀ y ∈ pre, key y ≤ k := by
    intro y hy; exact hk ▸ hsp.2.2 y hy x List.mem_cons_self
  -- pre = (smaller keys) ++ (equal keys)
  have htd := List.takeWhile_append_dropWhile (p := Lt key k) (l := pre)
  obtain ⟨f1, f2⟩ := takeWhile_eq_filter key k pre hsp.1
  have hA : ∀ a ∈ pre.takeWhile (Lt key k), (key a == k) = false := by
    intro a ha
    have := mem_takeWhile_pos _ _ _ ha
    simp only [Lt, decide_eq_true_eq] at this
    exact beq_eq_false_iff_ne.2 (Nat.ne_of_lt this)
  have hB : ∀ b ∈ pre.dropWhile (Lt key k), (key b == k) = true := by
    intro b hb
    rw [f2, List.mem_filter] at hb
    have h1 := hprele b hb.1
    have h2 := hb.2
    simp only [Lt, Bool.not_eq_eq_eq_not, Bool.not_true, decide_eq_false_iff_not, Nat.not_lt] at h2
    exact beq_iff_eq.2 (Nat.le_antisymm h1 h2)
  have hrev : pre.reverse = (pre.dropWhile (Lt key k)).reverse ++ (pre.takeWhile (Lt key k)).reverse := by
    conv => lhs; rw [← htd]
    rw [List.reverse_append]
  have htwr : pre.reverse.takeWhile (fun p => key p == k) = (pre.dropWhile (Lt key k)).reverse := by
    rw [hrev, List.takeWhile_append_of_pos (fun a ha => hB a (List.mem_reverse.1 ha)),
      takeWhile_nil_of_all_false _ _ (fun a ha => hA a (List.mem_reverse.1 ha)), List.append_nil]
  rw [htwr, List.getLast?_reverse]
  have hfind : l0.find? (fun y => key y == k) = some (((pre.dropWhile (Lt key k)).head?).getD x) := by
    rw [e]
    conv => lhs; rw [← htd]
    rw [List.append_assoc, List.find?_append]
    have hnone : (pre.takeWhile (Lt key k)).find? (fun y => key y == k) = none := by
      rw [List.find?_eq_none]; intro a ha; rw [hA a ha]; simp
    rw [hnone, Option.none_or]
    cases hd : pre.dropWhile (Lt key k) with
    | nil =>
      rw [List.nil_append, List.find?_cons_of_pos (by simpa using hk)]; rfl
    | cons b r =>
      have := hB b (by rw [hd]; exact List.mem_cons_self)
      rw [List.cons_append, List.find?_cons]
      simp only [this]; rfl
  rw [hfind]
  exact ⟨rfl, rfl⟩

theorem find_spec (s : SList) (k : Nat) (h : Inv s) : s.find k = s.level0.find? (fun y => s.key y == k) := by
  have hg := allGood_of_level0 s.key s.lv h.sub h.sorted h.nodup
  have h1 := findLevels_spec s.key k s.lv none hg h.sub (fun c hc => by cases hc)
  unfold find
  cases hf : findLevels s.key k s.lv none with
  | none =>
    rw [hf] at h1
    simp only
    symm
    rw [List.find?_eq_none]
    intro y hy
    have := h1 y hy
    simpa using this
  | some x =>
    rw [hf] at h1
    simp only
    obtain ⟨b1, b2⟩ := back_first s.key k x s.level0 h.sorted h1.1 h1.2
    rw [b1]
    cases hfi : s.level0.find? (fun y => s.key y == k) with
    | none => rw [hfi] at b2; cases b2
    | some y => rfl

end Cares.Dsa.SList
