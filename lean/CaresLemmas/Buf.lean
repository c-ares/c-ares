import CaresModel.Buf
import CaresLemmas.Arr
import CaresLemmas.Alloc
/-! Helper lemmas for the `ares_buf` model: the view (live bytes, offset, tag) under
    reclaim / ensure_space / append. -/
namespace Cares.Buf
open Cares.Generated Cares.Dsa

/-- how a compaction by `p` bytes relates two buffers: the first `p` live bytes are gone, positions shift -/
structure Shift (b b' : Buf) (p : Nat) : Prop where
  live : b'.live = b.live.drop p
  off : b'.off + p = b.off
  tag : b'.tag = b.tag.map (· - p)
  ple : ∀ t, b.tag = some t → p ≤ t
  const : b'.isConst = b.isConst

theorem Shift.refl (b : Buf) : Shift b b 0 := by
  refine ⟨by simp, by simp, ?_, fun _ _ => Nat.zero_le _, rfl⟩
  cases b.tag <;> simp

theorem live_length (b : Buf) (h : b.Inv) : b.live.length = b.dataLen := by
  unfold live; simp [Nat.min_eq_left h.dlen]

theorem mem_isEmpty {b : Buf} (h : b.Inv) (hd : 0 < b.dataLen) : b.mem.isEmpty = false :=
  List.isEmpty_eq_false_iff.2 (List.ne_nil_of_length_pos (Nat.lt_of_lt_of_le hd h.dlen))

theorem Inv.grow {b : Buf} (h : b.Inv) (hc : b.isConst = false) (mem' : List Nat) (dl' : Nat) (hd : b.dataLen ≤ dl')
    (hlt : dl' < mem'.length) : ({ b with mem := mem', dataLen := dl' } : Buf).Inv :=
  ⟨Nat.le_of_lt hlt, Nat.le_trans h.offLe hd, fun t ht => Nat.le_trans (h.tagLe t ht) hd,
    by show (if b.isConst = true then _ else _); rw [if_neg (by rw [hc]; exact Bool.false_ne_true)]; exact Or.inr hlt⟩

theorem remaining_eq (b : Buf) : b.remaining = b.live.drop b.off := rfl

/-- the `hasData` test of ares_buf_fetch never decides: with unread bytes there is memory -/
theorem fetch_of_inv (b : Buf) (h : b.Inv) : b.fetch = if b.len = 0 then none else some b.remaining := by
  unfold fetch
  by_cases hl : b.len = 0
  · rw [if_pos hl]; exact ite_self _
  · have hd : 0 < b.dataLen := Nat.pos_of_ne_zero fun h0 => hl (by unfold Buf.len; rw [h0, Nat.zero_sub])
    have hh : b.hasData = true := by unfold hasData; rw [mem_isEmpty h hd]; exact Bool.or_true _
    rw [if_neg hl, hh]; rfl

theorem remaining_length (b : Buf) (h : b.Inv) : b.remaining.length = b.len := by
  rw [remaining_eq, List.length_drop, live_length b h]; rfl

theorem tagged_eq (b : Buf) (h : b.Inv) (t : Nat) (ht : b.tag = some t) : b.tagged = (b.live.take b.off).drop t := by
  unfold tagged live; rw [ht]; simp only
  rw [List.take_take, Nat.min_eq_left h.offLe]

/-- the bytes between two positions of the data, read through `mem` as the C code does -/
theorem slice_eq (b : Buf) (t o2 : Nat) (h2 : o2 ≤ b.dataLen) :
    (b.mem.drop t).take (o2 - t) = (b.live.drop t).take (o2 - t) := by
  unfold Buf.live
  rw [List.drop_take, List.take_take, Nat.min_eq_left (Nat.sub_le_sub_right h2 t)]

theorem Shift.remaining {b b' : Buf} {p : Nat} (s : Shift b b' p) : b'.remaining = b.remaining := by
  rw [remaining_eq, remaining_eq, s.live, List.drop_drop, Nat.add_comm, s.off]

theorem Shift.tagged {b b' : Buf} {p : Nat} (s : Shift b b' p) (h : b.Inv) (h' : b'.Inv) : b'.tagged = b.tagged := by
  cases ht : b.tag with
  | none =>
    have : b'.tag = none := by rw [s.tag, ht]; rfl
    unfold Buf.tagged; rw [ht, this]
  | some t =>
    have ht' : b'.tag = some (t - p) := by rw [s.tag, ht]; rfl
    rw [tagged_eq b h t ht, tagged_eq b' h' _ ht', s.live, List.take_drop, List.drop_drop, Nat.add_comm p b'.off, s.off,
      Nat.add_sub_of_le (s.ple t ht)]

theorem reclaimPrefix_spec (b : Buf) : b.reclaimPrefix ≤ b.off ∧ ∀ t, b.tag = some t → b.reclaimPrefix ≤ t := by
  unfold reclaimPrefix
  cases ht : b.tag with
  | none => exact ⟨Nat.le_refl _, fun t h => by cases h⟩
  | some t =>
    by_cases hlt : t < b.off
    · simp only [hlt, ↓reduceIte]; exact ⟨Nat.le_of_lt hlt, fun t' h => by cases h; exact Nat.le_refl _⟩
    · simp only [hlt, ↓reduceIte]; exact ⟨Nat.le_refl _, fun t' h => by cases h; exact Nat.le_of_not_lt hlt⟩

theorem reclaim_cases (b : Buf) :
    b.reclaim = b ∨ (b.isConst = false ∧ b.mem.isEmpty = false ∧ b.reclaim =
      { b with mem := Arr.memmove b.mem 0 b.reclaimPrefix (b.dataLen - b.reclaimPrefix),
               dataLen := b.dataLen - b.reclaimPrefix, off := b.off - b.reclaimPrefix,
               tag := b.tag.map (· - b.reclaimPrefix) }) := by
  unfold reclaim
  by_cases hc : b.isConst = true
  · left; rw [if_pos hc]
  by_cases he : b.mem.isEmpty = true
  · left; rw [if_neg hc, if_pos he]
  by_cases h0 : b.reclaimPrefix = 0
  · left; rw [if_neg hc, if_neg he, if_pos h0]
  · right; exact ⟨Bool.eq_false_iff.2 hc, Bool.eq_false_iff.2 he, by rw [if_neg hc, if_neg he, if_neg h0]⟩

theorem reclaim_isConst (b : Buf) : b.reclaim.isConst = b.isConst := by
  rcases reclaim_cases b with e | ⟨_, _, e⟩ <;> rw [e]

theorem reclaim_spec (b : Buf) (h : b.Inv) :
    ∃ p, Shift b b.reclaim p ∧ b.reclaim.Inv ∧ b.reclaim.mem.length = b.mem.length ∧ p ≤ b.off ∧
      b.reclaim.dataLen + p = b.dataLen := by
  rcases reclaim_cases b with e | ⟨hc', he, e⟩
  · rw [e]; exact ⟨0, Shift.refl b, h, rfl, Nat.zero_le _, rfl⟩
  have hc : ¬ b.isConst = true := by rw [hc']; exact Bool.false_ne_true
  rw [e]
  obtain ⟨hpo, hpt⟩ := reclaimPrefix_spec b
  generalize b.reclaimPrefix = p at hpo hpt ⊢
  have hd := h.dlen
  have hpd : p ≤ b.dataLen := Nat.le_trans hpo h.offLe
  have hs : p + (b.dataLen - p) ≤ b.mem.length := by rw [Nat.add_sub_of_le hpd]; exact hd
  have hml : (Arr.memmove b.mem 0 p (b.dataLen - p)).length = b.mem.length :=
    Arr.memmove_length b.mem 0 p (b.dataLen - p) hs (by rw [Nat.zero_add]; exact Nat.le_trans (Nat.sub_le _ _) hd)
  refine ⟨p, ⟨?_, Nat.sub_add_cancel hpo, rfl, hpt, rfl⟩, ⟨?_, Nat.sub_le_sub_right h.offLe p, ?_, ?_⟩, hml, hpo,
    Nat.sub_add_cancel hpd⟩
  · show (Arr.memmove b.mem 0 p (b.dataLen - p)).take (b.dataLen - p) = (b.mem.take b.dataLen).drop p
    rw [List.drop_take]
    exact Arr.memmove_block b.mem 0 p (b.dataLen - p) hs (Nat.zero_le _)
  · show b.dataLen - p ≤ (Arr.memmove b.mem 0 p (b.dataLen - p)).length
    rw [hml]; exact Nat.le_trans (Nat.sub_le _ _) hd
  · intro t ht
    show t ≤ b.dataLen - p
    cases hbt : b.tag with
    | none => rw [hbt] at ht; cases ht
    | some t0 =>
      rw [hbt] at ht; cases ht
      exact Nat.sub_le_sub_right (h.tagLe t0 hbt) p
  · have hr := h.room
    rw [if_neg hc] at hr
    show if b.isConst = true then _ else _
    rw [if_neg hc]
    right
    show b.dataLen - p < (Arr.memmove b.mem 0 p (b.dataLen - p)).length
    rw [hml]
    rcases hr with hr | hr
    · rw [hr] at he; cases he
    · exact Nat.lt_of_le_of_lt (Nat.sub_le _ _) hr

theorem growLoop_ge (fuel a d n : Nat) (ha : 0 < a) (hn : 0 < n) (hf : n + d ≤ a + fuel) :
    n + d ≤ growLoop fuel a d n ∧ a ≤ growLoop fuel a d n := by
  induction fuel generalizing a with
  | zero => exact ⟨hf, Nat.le_refl a⟩
  | succ f ih =>
    unfold growLoop
    by_cases hlt : a * 2 - d < n
    · rw [if_pos hlt]
      obtain ⟨g1, g2⟩ := ih (a * 2) (Nat.mul_pos ha Nat.two_pos) (by omega)
      exact ⟨g1, Nat.le_trans (Nat.le_mul_of_pos_right a Nat.two_pos) g2⟩
    · rw [if_neg hlt]
      exact ⟨by omega, Nat.le_mul_of_pos_right a Nat.two_pos⟩

/-- side condition on the generated constant: the first allocation is at least two bytes -/
def ConstsOk : Prop := 2 ≤ BUF_FIRST_ALLOC

theorem consts_ok : ConstsOk := by unfold ConstsOk; decide

theorem allocLen_dyn (b : Buf) (hc : b.isConst = false) : b.allocLen = b.mem.length := by
  unfold allocLen; simp [hc]

/-- the size ares_buf_ensure_space asks realloc for.  `BUF_FIRST_ALLOC` is the first allocation as observed from the
    compiled code; the C loop starts an empty buffer at 16 and always doubles at least once, hence the half. -/
def growSize (b1 : Buf) (needed : Nat) : Nat :=
  growLoop (needed + 1 + b1.dataLen + 1) (if b1.allocLen = 0 then BUF_FIRST_ALLOC / 2 else b1.allocLen) b1.dataLen (needed + 1)

theorem ensureSpace_eq (b : Buf) (needed : Nat) (o : Oracle) (hc : b.isConst = false) :
    b.ensureSpace needed o =
      if b.mem.length - b.dataLen ≥ needed + 1 then (.ok, b, o)
      else if b.reclaim.mem.length - b.reclaim.dataLen ≥ needed + 1 then (.ok, b.reclaim, o)
      else match o.next with
        | (false, o1) => (.nomem, b.reclaim, o1)
        | (true, o1) =>
          (.ok, { b.reclaim with
                  mem := b.reclaim.mem ++ List.replicate (growSize b.reclaim needed - b.reclaim.mem.length) 0 }, o1) := by
  unfold ensureSpace growSize
  simp only []
  rw [if_neg (by simp [hc]), allocLen_dyn b hc,
    allocLen_dyn b.reclaim (by rw [reclaim_isConst]; exact hc)]
  rfl

theorem ensureSpace_fits (b : Buf) (needed : Nat) (o : Oracle) (hc : b.isConst = false)
    (h1 : b.mem.length - b.dataLen ≥ needed + 1) : b.ensureSpace needed o = (.ok, b, o) := by
  rw [ensureSpace_eq b needed o hc, if_pos h1]

/-- ares_buf_ensure_space on a dynamic buffer: the result is a compaction of the original (so nothing at or
    after min(tag, offset) is lost), on success there is room for `needed` more bytes plus the NUL, and it can
    only fail by allocation failure -/
theorem ensureSpace_spec (hk : ConstsOk) (b : Buf) (needed : Nat) (o : Oracle) (h : b.Inv) (hc : b.isConst = false) :
    ∃ p, Shift b (b.ensureSpace needed o).2.1 p ∧ (b.ensureSpace needed o).2.1.Inv ∧ p ≤ b.off ∧
      ((b.ensureSpace needed o).1 = .ok ∨ (b.ensureSpace needed o).1 = .nomem) ∧
      ((b.ensureSpace needed o).1 = .ok →
        (b.ensureSpace needed o).2.1.dataLen + needed + 1 ≤ (b.ensureSpace needed o).2.1.mem.length) ∧
      (o.AllOk → (b.ensureSpace needed o).1 = .ok ∧ (b.ensureSpace needed o).2.2.AllOk) ∧
      (b.ensureSpace needed o).2.1.dataLen + p = b.dataLen := by
  obtain ⟨p, sh, i1, ml, hpo, hdl⟩ := reclaim_spec b h
  have hc1 : b.reclaim.isConst = false := by rw [reclaim_isConst]; exact hc
  rw [ensureSpace_eq b needed o hc]
  by_cases h1 : b.mem.length - b.dataLen ≥ needed + 1
  · rw [if_pos h1]
    exact ⟨0, Shift.refl b, h, Nat.zero_le _, Or.inl rfl, fun _ => Nat.add_le_of_le_sub' (k := b.mem.length) (m := b.dataLen) h.dlen h1,
      fun ho => ⟨rfl, ho⟩, rfl⟩
  rw [if_neg h1]
  by_cases h2 : b.reclaim.mem.length - b.reclaim.dataLen ≥ needed + 1
  · rw [if_pos h2]
    exact ⟨p, sh, i1, hpo, Or.inl rfl, fun _ => Nat.add_le_of_le_sub' (k := b.reclaim.mem.length) (m := b.reclaim.dataLen) i1.dlen h2, fun ho => ⟨rfl, ho⟩, hdl⟩
  rw [if_neg h2]
  cases hn : o.next with
  | mk ok o1 =>
  cases ok with
  | false =>
    refine ⟨p, sh, i1, hpo, Or.inr rfl, fun hh => (by have hh' : St.nomem = St.ok := hh; cases hh'), ?_, hdl⟩
    exact fun ho => nomatch (Oracle.next_allOk hn ho).1
  | true =>
    have hstart : 0 < (if b.reclaim.allocLen = 0 then BUF_FIRST_ALLOC / 2 else b.reclaim.allocLen) := by
      split
      · exact Nat.div_pos hk Nat.two_pos
      · exact Nat.pos_of_ne_zero ‹_›
    obtain ⟨g1, _⟩ := growLoop_ge (needed + 1 + b.reclaim.dataLen + 1)
      (if b.reclaim.allocLen = 0 then BUF_FIRST_ALLOC / 2 else b.reclaim.allocLen)
      b.reclaim.dataLen (needed + 1) hstart (Nat.succ_pos _) (Nat.le_trans (Nat.le_succ _) (Nat.le_add_left _ _))
    have hd1 := i1.dlen
    have hroom : b.reclaim.dataLen + (needed + 1) ≤ growSize b.reclaim needed := by rw [Nat.add_comm]; exact g1
    -- the old allocation was too small, so the new one has exactly the size asked for
    have hlen : (b.reclaim.mem ++ List.replicate (growSize b.reclaim needed - b.reclaim.mem.length) 0).length =
        growSize b.reclaim needed := by
      have hle : b.reclaim.mem.length ≤ needed + b.reclaim.dataLen :=
        Nat.sub_le_iff_le_add.1 (Nat.le_of_lt_succ (Nat.lt_of_not_le h2))
      rw [List.length_append, List.length_replicate]
      exact Nat.add_sub_of_le (Nat.le_trans hle (Nat.le_trans (Nat.add_le_add_right (Nat.le_succ needed) _) g1))
    refine ⟨p, ⟨?_, sh.off, sh.tag, sh.ple, sh.const⟩, i1.grow hc1 _ _ (Nat.le_refl _) ?_, hpo, Or.inl rfl, ?_, ?_, hdl⟩
    · rw [← sh.live]; unfold live
      show List.take b.reclaim.dataLen (b.reclaim.mem ++ _) = _
      rw [List.take_append_of_le_length hd1]
    · rw [hlen]; exact Nat.lt_of_lt_of_le (Nat.lt_add_of_pos_right (Nat.succ_pos needed)) hroom
    · intro _
      show b.reclaim.dataLen + needed + 1 ≤ (b.reclaim.mem ++ _).length
      rw [hlen]; exact hroom
    · exact fun ho => ⟨rfl, (Oracle.next_allOk hn ho).2⟩

theorem append_eq (b : Buf) (data : List Nat) (o : Oracle) (hd : data ≠ []) :
    b.append data o =
      match b.ensureSpace data.length o with
      | (.ok, b1, o1) =>
        (.ok, { b1 with mem := b1.mem.take b1.dataLen ++ data ++ b1.mem.drop (b1.dataLen + data.length),
                        dataLen := b1.dataLen + data.length }, o1)
      | r => r := by
  unfold append
  have hde : data.isEmpty = false := by cases data <;> simp_all
  rw [hde]; rfl

/-- ares_buf_append of a non-empty slice to a dynamic buffer: either it succeeds and the live bytes are a
    compaction of the old ones followed by the new data, or an allocation failed and only a compaction
    happened -/
theorem append_spec (hk : ConstsOk) (b : Buf) (data : List Nat) (o : Oracle) (h : b.Inv) (hc : b.isConst = false)
    (hd : data ≠ []) :
    ∃ p, (b.append data o).2.1.Inv ∧ p ≤ b.off ∧ (b.append data o).2.1.off + p = b.off ∧
      (b.append data o).2.1.tag = b.tag.map (· - p) ∧ (∀ t, b.tag = some t → p ≤ t) ∧
      (b.append data o).2.1.isConst = false ∧
      (((b.append data o).1 = .ok ∧ (b.append data o).2.1.live = b.live.drop p ++ data) ∨
       ((b.append data o).1 = .nomem ∧ (b.append data o).2.1.live = b.live.drop p)) ∧
      (o.AllOk → (b.append data o).1 = .ok ∧ (b.append data o).2.2.AllOk) := by
  obtain ⟨p, sh, i1, hpo, hst, hroom, hok, hdl⟩ := ensureSpace_spec hk b data.length o h hc
  rw [append_eq b data o hd]
  cases he : b.ensureSpace data.length o with
  | mk st r =>
    cases r with
    | mk b1 o1 =>
      rw [he] at sh i1 hst hroom hok hdl
      simp only at sh i1 hst hroom hok hdl
      have hc1 : b1.isConst = false := by rw [sh.const]; exact hc
      have hd1 := i1.dlen
      rcases hst with hst | hst
      · have hst' : st = .ok := hst
        subst hst'
        have hr : b1.dataLen + data.length + 1 ≤ b1.mem.length := hroom rfl
        have hl : (List.take b1.dataLen b1.mem ++ data).length = b1.dataLen + data.length := by
          rw [List.length_append, List.length_take_of_le hd1]
        have hml : (b1.mem.take b1.dataLen ++ data ++ b1.mem.drop (b1.dataLen + data.length)).length =
            b1.mem.length := by
          rw [List.length_append, hl, List.length_drop]; exact Nat.add_sub_of_le (Nat.le_of_succ_le hr)
        refine ⟨p, i1.grow hc1 _ _ (Nat.le_add_right _ _) (by rw [hml]; exact hr), hpo, sh.off, sh.tag, sh.ple, hc1,
          Or.inl ⟨rfl, ?_⟩, ?_⟩
        · show List.take (b1.dataLen + data.length) (b1.mem.take b1.dataLen ++ data ++ b1.mem.drop (b1.dataLen + data.length)) = _
          rw [← sh.live, List.take_left' hl]; rfl
        · intro ho; exact ⟨rfl, (hok ho).2⟩
      · have hst' : st = .nomem := hst
        subst hst'
        refine ⟨p, i1, hpo, sh.off, sh.tag, sh.ple, hc1, Or.inr ⟨rfl, sh.live⟩, ?_⟩
        intro ho; have := (hok ho).1; cases this

/-- `append_spec` read through the unread bytes: the compaction it may have done is not seen -/
theorem append_remaining (hk : ConstsOk) (b : Buf) (data : List Nat) (o : Oracle) (h : b.Inv) (hc : b.isConst = false)
    (hd : data ≠ []) :
    (b.append data o).2.1.Inv ∧
      (((b.append data o).1 = .ok ∧ (b.append data o).2.1.remaining = b.remaining ++ data) ∨
       ((b.append data o).1 = .nomem ∧ (b.append data o).2.1.remaining = b.remaining)) ∧
      (o.AllOk → (b.append data o).1 = .ok) := by
  obtain ⟨p, i', hpo, hoff, _, _, _, hres, hok⟩ := append_spec hk b data o h hc hd
  have hl := live_length b h
  have hoL := h.offLe
  refine ⟨i', ?_, fun ho => (hok ho).1⟩
  rcases hres with ⟨hs, hlive⟩ | ⟨hs, hlive⟩
  · left
    refine ⟨hs, ?_⟩
    rw [remaining_eq, remaining_eq, hlive, List.drop_append_of_le_length (by rw [List.length_drop]; omega),
      List.drop_drop]
    congr 2; omega
  · right
    refine ⟨hs, ?_⟩
    rw [remaining_eq, remaining_eq, hlive, List.drop_drop]
    congr 1; omega

end Cares.Buf
