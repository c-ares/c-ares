import CaresLemmas.ChanWfMid
import CaresLemmas.ChanWfLookup
/-!
# C01 and C12c — body lemmas: `requeue`
-/
namespace Cares.Chan

/-- a connection being closed keeps only queries it had, so a query that was in none of them stays out -/
theorem post_requeue_of_step {xi d} {a a2 b : Sk} {key : Nat} (hb : WfS b none)
    (h2 : ∀ fd q, (fd, true, q) ∈ a.cFUQ → ∃ q1, (fd, true, q1) ∈ a2.cFUQ ∧ key ∉ q1)
    (hs : StepS none xi d a2 b) :
    ∀ fd q, (fd, true, q) ∈ a.cFUQ → ∀ q', (fd, q') ∈ b.cFQ → key ∉ q' := by
  intro fd q hm q' hq'
  obtain ⟨q1, hm1, hn1⟩ := h2 fd q hm
  obtain ⟨q2, hm2, hsub⟩ := hs.unl fd q1 hm1 (fun hh => by cases hh)
  have := Sk.cFQ_unique hb.c.nodup hq' (cFQ_of_cFUQ hm2)
  rw [this]
  exact fun hk => hn1 (hsub key hk)

theorem rfc_unl_not_listed {a : Sk} {hole} {key : Nat} {e : QSk} (hw : WfS a hole) (hq : a.q? key = some e) :
    ∀ fd q, (fd, true, q) ∈ a.cFUQ → ∃ q1, (fd, true, q1) ∈ (a.removeFromConn key).cFUQ ∧ key ∉ q1 := by
  intro fd q hm
  obtain ⟨q1, hm1, _⟩ := (step_rfc (xf := none) (xi := none) (d := fun _ => 0) hq).unl fd q hm
    (fun hh => by cases hh)
  exact ⟨q1, hm1, rfc_not_listed hw hq _ (cFQ_of_cFUQ hm1)⟩

/-- state after `ares_requeue_query` has taken the query off its connection and counted the try -/
def requeueSt (s : St) (key : Nat) (st : Status) (inc : Bool) : St :=
  (s.removeFromConn key).modQuery key fun q =>
    { q with errorStatus := if st != .ok then st else q.errorStatus,
             tryCount := if inc then q.tryCount + 1 else q.tryCount }

theorem sk_requeueSt (s : St) (key : Nat) (st : Status) (inc : Bool) :
    (requeueSt s key st inc).sk = s.sk.removeFromConn key := by
  unfold requeueSt
  rw [sk_modQuery_same, sk_removeFromConn]
  intro; rfl

variable {cid : Nat}

theorem bodyRequeueC_eq (goC : GoC) (key : Nat) (st : Status) (inc : Bool) (rec : Option Reply) (deferred : Bool)
    (s : St) (q0 : Query) (hq : s.query? key = some q0) :
    bodyRequeueC goC key st inc rec deferred s =
      (let s2 := requeueSt s key st inc
       let q := (s2.query? key).getD default
       if q.tryCount < s.servers.length * s.cfg.tries && !q.noRetries then
         if deferred then (({ s2 with requeueArr := s2.requeueArr ++ [(q.qid, none)] }, .ok), [])
         else goC (.sendQuery none key) s2
       else
         let es := if q.errorStatus == .ok then .timeout else q.errorStatus
         let p := goC (.endQuery none key es rec) (s2.modQuery key fun q => { q with errorStatus := es })
         ((p.1.1, .timeout), p.2)) := by
  unfold bodyRequeueC requeueSt
  simp only [hq]

theorem good_requeue {goC : GoC} (h : GoGood cid goC) {d key st inc rec deferred s L}
    (hpre : Pre d s (.requeue key st inc rec deferred))
    (hL : LG cid L (xtra cid (.requeue key st inc rec deferred)) s) :
    GoodL cid d (.requeue key st inc rec deferred) s L (bodyRequeueC goC key st inc rec deferred s) := by
  obtain ⟨hw, hk, hd⟩ := hpre
  obtain ⟨q0, hq, hqs⟩ := query?_of_idx hw hk
  rw [bodyRequeueC_eq goC key st inc rec deferred s q0 hq]
  have hsk2 := sk_requeueSt s key st inc
  generalize requeueSt s key st inc = s2 at hsk2
  have hm2 : MidL cid d s L s2 :=
    ⟨⟨by unfold Wf; rw [hsk2]; exact wf_rfc hw (Or.inr rfl) hqs, by rw [hsk2]; exact debt_rfc key hd,
      by rw [hsk2]; exact step_rfc hqs⟩, hL.congr (by rw [hsk2, rfc_qKO]) (by rw [hsk2, rfc_idx])⟩
  have hk2 : s2.sk.Idx key := by unfold Sk.Idx; rw [hsk2, rfc_idx]; exact hk
  have hnl := rfc_unl_not_listed hw hqs
  rw [← hsk2] at hnl
  -- the postcondition, from any step made after the query has left its connection
  have post : ∀ {c' s3} {r : St × Ret} {ret : Ret}, s3.sk = s2.sk → Good d c' s3 r → exFd c' = none →
      Post s (r.1, ret) (.requeue key st inc rec deferred) := fun h3 hg hf => by
    have := hg.step; rw [h3, hf] at this
    exact post_requeue_of_step hg.wf hnl this
  simp only
  split
  · split
    · refine MidL.ret (hm2.sk_eq ?_) ?_
      · rfl
      · exact post_requeue_of_step (xi := none) (d := d) hm2.mid.wf hnl (StepS.refl _ _ _ _)
    · exact (h.callL (d := d) (c := .sendQuery none key) ⟨hm2.mid.wf, hk2, hm2.mid.debt⟩ hm2.lg).tail
        hm2.mid.step (Or.inl rfl) (Or.inl rfl) (fun hg => post rfl hg rfl)
  · generalize (if ((s2.query? key).getD default).errorStatus == .ok then Status.timeout
      else ((s2.query? key).getD default).errorStatus) = es
    have h3 : (s2.modQuery key fun q => { q with errorStatus := es }).sk = s2.sk := sk_modQuery_same _ _ _ (fun _ => rfl)
    generalize (s2.modQuery key fun q => { q with errorStatus := es }) = s3 at h3
    have hm3 := hm2.sk_eq h3
    exact (h.callL (d := d) (c := .endQuery none key es rec) (s := s3)
      ⟨by rw [h3]; exact WfS.weaken_hole hm2.mid.wf, by unfold Sk.Idx; rw [h3]; exact hk2, hm3.mid.debt⟩ hm3.lg).tail
        hm3.mid.step (Or.inl rfl) (Or.inl rfl) (fun hg => post h3 hg rfl)

end Cares.Chan
