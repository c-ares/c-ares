import CaresLemmas.ChanReach
import CaresLemmas.ChanPolicyLookup
/-!
# C07a — the by-timeout index (`channel->queries_by_timeout`) is sorted and covers every pending deadline

`BT s`: the index has no duplicates, is sorted by the deadline of the query each entry refers to, every entry refers to
a live query with a definite deadline, and every query that has a deadline is in the index or in `pendingOrder` (the
insertions of the current API call, replayed by `St.settle`).  `BTR s0 s` adds `Stay s0 s`: what is still in the index
has the deadline it had in `s0` (C07 needs it to say that an expired query has left the index).  Every operation is
proved once, for `BTR`, through `BTR.transfer`; `BT` is the case `s0 := s`: `BTR.of_BT` enters it, `.1` gives `BT` of the
result back and `.2` what stayed (`exec_BT`; `BT.of_BTR` for a single operation).  `BT` is a plain conjunction; its last
clause, the coverage, has the name `BT.cover`.
-/
namespace Cares.Chan

/-- deadline (ms) the index sees for entry `k` — the key function of `insertByDeadline` -/
def St.dlOf (s : St) (k : Nat) : Nat := ((s.query? k).bind fun q => deadlineMs q.deadline).getD 0

def St.dl? (s : St) (k : Nat) : Option Deadline := (s.query? k).map (·.deadline)

theorem dlOf_eq (s : St) (k : Nat) : s.dlOf k = ((s.dl? k).bind deadlineMs).getD 0 := by
  unfold St.dlOf St.dl?; cases s.query? k <;> rfl

def St.hasAt (s : St) (k : Nat) : Prop := ∃ ms, s.dl? k = some (.at ms)

def BT (s : St) : Prop :=
  s.byTimeout.Nodup ∧
  s.byTimeout.Pairwise (fun a b => s.dlOf a ≤ s.dlOf b) ∧
  (∀ k ∈ s.byTimeout, s.hasAt k) ∧
  (∀ k d, s.dl? k = some d → d ≠ .none → k ∈ s.byTimeout ∨ k ∈ s.pendingOrder)

/-- the part of `BT` that does not mention `pendingOrder` -/
def BT0 (s : St) : Prop :=
  s.byTimeout.Nodup ∧ s.byTimeout.Pairwise (fun a b => s.dlOf a ≤ s.dlOf b) ∧ (∀ k ∈ s.byTimeout, s.hasAt k)

theorem BT.toBT0 {s : St} (h : BT s) : BT0 s := ⟨h.1, h.2.1, h.2.2.1⟩

/-- the coverage clause: a query with a deadline is in the index or awaits its insertion -/
theorem BT.cover {s : St} (h : BT s) {k : Nat} {d : Deadline} (hd : s.dl? k = some d) (hne : d ≠ .none) :
    k ∈ s.byTimeout ∨ k ∈ s.pendingOrder := h.2.2.2 k d hd hne

theorem BT0.transfer {s s' : St} (h : BT0 s) (hsub : s'.byTimeout.Sublist s.byTimeout)
    (hq : ∀ k ∈ s'.byTimeout, s'.dl? k = s.dl? k) : BT0 s' := by
  obtain ⟨hn, hs, hl⟩ := h
  refine ⟨hsub.nodup hn, ?_, ?_⟩
  · have := List.Pairwise.sublist hsub hs
    refine this.imp_of_mem ?_
    intro a b ha hb hab
    rw [dlOf_eq, dlOf_eq, hq a ha, hq b hb, ← dlOf_eq, ← dlOf_eq]; exact hab
  · intro k hk
    unfold St.hasAt
    rw [hq k hk]
    exact hl k (hsub.subset hk)

theorem BT.transfer {s s' : St} (h : BT s) (hsub : s'.byTimeout.Sublist s.byTimeout)
    (hq : ∀ k ∈ s'.byTimeout, s'.dl? k = s.dl? k)
    (hcov : ∀ k d, s'.dl? k = some d → d ≠ .none → k ∈ s'.byTimeout ∨ k ∈ s'.pendingOrder) : BT s' :=
  let ⟨h1, h2, h3⟩ := h.toBT0.transfer hsub hq
  ⟨h1, h2, h3, hcov⟩

def Stay (s0 s : St) : Prop := s.byTimeout.Sublist s0.byTimeout ∧ ∀ k ∈ s.byTimeout, s.dl? k = s0.dl? k

theorem Stay.refl (s : St) : Stay s s := ⟨List.Sublist.refl _, fun _ _ => rfl⟩

theorem Stay.step {s0 s s' : St} (h : Stay s0 s) (hsub : s'.byTimeout.Sublist s.byTimeout)
    (hq : ∀ k ∈ s'.byTimeout, s'.dl? k = s.dl? k) : Stay s0 s' :=
  ⟨hsub.trans h.1, fun k hk => (hq k hk).trans (h.2 k (hsub.subset hk))⟩

def BTR (s0 s : St) : Prop := BT s ∧ Stay s0 s

theorem BTR.of_BT {s : St} (h : BT s) : BTR s s := ⟨h, Stay.refl s⟩

/-- what holds of `BTR s0` for every base state holds of `BT` -/
theorem BT.of_BTR {s s' : St} (f : BTR s s → BTR s s') (h : BT s) : BT s' := (f (.of_BT h)).1

theorem BT.not_mem_of_none {s : St} {k : Nat} (h : BT s) (hnone : s.query? k = none) : k ∉ s.byTimeout := by
  intro hk
  obtain ⟨ms, hms⟩ := h.2.2.1 k hk
  unfold St.dl? at hms; rw [hnone] at hms; cases hms

theorem not_mem_after_removeFromConn {s : St} {k : Nat} (h : BT s) :
    k ∉ (s.removeFromConn k).byTimeout := by
  rcases removeFromConn_cases s k with ⟨hnone, e⟩ | ⟨_, hb, _⟩
  · rw [e]; exact h.not_mem_of_none hnone
  · rw [hb, h.1.mem_erase_iff]; exact fun hh => hh.1 rfl

theorem dl?_removeFromConn_ne (s : St) {k k' : Nat} (hne : k' ≠ k) : (s.removeFromConn k).dl? k' = s.dl? k' := by
  unfold St.dl?; rw [query?_removeFromConn_ne s hne]

theorem dl?_removeFromConn_self (s : St) (k : Nat) (d : Deadline) (h : (s.removeFromConn k).dl? k = some d) :
    d = .none := by
  unfold St.dl? at h
  rw [query?_removeFromConn_self] at h
  cases hq : s.query? k with
  | none => rw [hq] at h; simp at h
  | some q => rw [hq] at h; simp [unlinkQ] at h; exact h.symm

theorem dl?_freeQuery (s : St) (k k' : Nat) :
    (s.freeQuery k).dl? k' = if k' = k then none else (s.detach k).dl? k' := by
  unfold St.dl?
  rw [query?_freeQuery]
  split <;> rfl

theorem not_mem_after_detach {s : St} {k : Nat} (h : BT s) : k ∉ (s.detach k).byTimeout := by
  unfold St.detach
  split
  · exact h.not_mem_of_none ‹_›
  · exact not_mem_after_removeFromConn h

/-- the state `sqCommit` produces, up to the connection bookkeeping -/
def commitCore (s : St) (key fd : Nat) (dl : Deadline) : St :=
  ({ s with byTimeout := s.byTimeout.erase key, pendingOrder := s.pendingOrder.erase key ++ [key] } : St).modQuery key
    (fun q => { q with ts := s.now, deadline := dl, conn := some fd, inConnList := true })

theorem sqCommit_core (s : St) (q : Query) (key fd : Nat) (dl : Deadline) :
    ∃ cs, sqCommit s q key fd dl = { commitCore s key fd dl with conns := cs } := by
  unfold sqCommit commitCore
  cases q.conn <;> exact ⟨_, rfl⟩

namespace BTR
variable {s0 : St}

/-- every operation below is carried over by this -/
theorem transfer {s s' : St} (h : BTR s0 s) (hsub : s'.byTimeout.Sublist s.byTimeout)
    (hq : ∀ k ∈ s'.byTimeout, s'.dl? k = s.dl? k)
    (hcov : ∀ k d, s'.dl? k = some d → d ≠ .none → k ∈ s'.byTimeout ∨ k ∈ s'.pendingOrder) : BTR s0 s' :=
  ⟨BT.transfer h.1 hsub hq hcov, Stay.step h.2 hsub hq⟩

theorem same {s s' : St} (h : BTR s0 s) (hb : s'.byTimeout = s.byTimeout) (hp : s'.pendingOrder = s.pendingOrder)
    (hl : ∀ k, s'.dl? k = s.dl? k) : BTR s0 s' := by
  refine h.transfer (by rw [hb]; exact List.Sublist.refl _) (fun k _ => hl k) fun k d hd hne => ?_
  rw [hl] at hd; rw [hb, hp]; exact h.1.cover hd hne

theorem congr {s s' : St} (h : BTR s0 s) (hq : s'.qs = s.qs) (hb : s'.byTimeout = s.byTimeout)
    (hp : s'.pendingOrder = s.pendingOrder) : BTR s0 s' :=
  h.same hb hp fun k => by unfold St.dl? St.query?; rw [hq]

theorem mapQs {s : St} {g : Query → Query} (hg : ∀ q, (g q).key = q.key ∧ (g q).deadline = q.deadline)
    (h : BTR s0 s) : BTR s0 { s with qs := s.qs.map g } := by
  refine h.same rfl rfl fun k => ?_
  unfold St.dl?
  rw [query?_map (fun q => (hg q).1)]
  cases s.query? k with
  | none => rfl
  | some q => simp [(hg q).2]

theorem modQuery {s : St} {k : Nat} {f : Query → Query}
    (hf : ∀ q, (f q).key = q.key ∧ (f q).deadline = q.deadline) (h : BTR s0 s) : BTR s0 (s.modQuery k f) := by
  unfold St.modQuery
  apply BTR.mapQs _ h
  intro q
  by_cases hq : q.key == k <;> simp [hq, hf]

theorem nameOnly {s : St} {g : Query → Query} (hg : NameOnly g) (h : BTR s0 s) :
    BTR s0 { s with qs := s.qs.map g } := by
  apply BTR.mapQs _ h
  intro q
  obtain ⟨nm, e⟩ := hg q
  rw [e]; exact ⟨rfl, rfl⟩

theorem removeFromConn {s : St} {k : Nat} (h : BTR s0 s) : BTR s0 (s.removeFromConn k) := by
  rcases removeFromConn_cases s k with ⟨_, e⟩ | ⟨_, hb, hp, _⟩
  · rw [e]; exact h
  · refine h.transfer (by rw [hb]; exact List.erase_sublist) ?_ ?_
    · intro k' hk'
      rw [hb, h.1.1.mem_erase_iff] at hk'
      exact dl?_removeFromConn_ne s hk'.1
    · intro k' d hd hne
      by_cases hkk : k' = k
      · subst hkk; exact absurd (dl?_removeFromConn_self s k' d hd) hne
      · rw [dl?_removeFromConn_ne s hkk] at hd
        rw [hb, hp, List.mem_erase_of_ne hkk, List.mem_erase_of_ne hkk]
        exact h.1.cover hd hne

theorem detach {s : St} {k : Nat} (h : BTR s0 s) : BTR s0 (s.detach k) := by
  unfold St.detach
  split
  · exact h
  · exact (BTR.removeFromConn (k := k) h).congr rfl rfl rfl

theorem freeQuery {s : St} {k : Nat} (h : BTR s0 s) : BTR s0 (s.freeQuery k) := by
  have hd : BTR s0 (s.detach k) := BTR.detach h
  refine hd.transfer (List.Sublist.refl _) ?_ ?_
  · intro k' hk'
    rw [dl?_freeQuery, if_neg fun e => not_mem_after_detach h.1 (e ▸ hk')]
  · intro k' d hdl hne
    rw [dl?_freeQuery] at hdl
    split at hdl
    · cases hdl
    · exact hd.1.cover hdl hne

theorem addQuery {s s' : St} {q : Query} (h1 : s'.qs = s.qs ++ [q])
    (h2 : s'.byTimeout = s.byTimeout) (h3 : s'.pendingOrder = s.pendingOrder) (hq : q.deadline = .none)
    (h : BTR s0 s) : BTR s0 s' := by
  -- a look-up that succeeded before gives the same query; one that failed now finds nothing or `q`
  have hl : ∀ k, s'.dl? k = s.dl? k ∨ s.dl? k = none ∧ (s'.dl? k = some .none ∨ s'.dl? k = none) := by
    intro k
    unfold St.dl? St.query?
    rw [h1, List.find?_append]
    cases hf : s.qs.find? (·.key == k) with
    | some x => left; rfl
    | none =>
      right
      by_cases hk : q.key == k <;> simp [hk, hq]
  refine h.transfer (by rw [h2]; exact List.Sublist.refl _) ?_ ?_
  · intro k hk
    rw [h2] at hk
    obtain ⟨ms, hms⟩ := h.1.2.2.1 k hk
    rcases hl k with e | ⟨e, _⟩
    · exact e
    · rw [e] at hms; cases hms
  · intro k d hd hne
    rw [h2, h3]
    rcases hl k with e | ⟨_, e | e⟩
    · rw [e] at hd; exact h.1.cover hd hne
    · rw [e] at hd; cases hd; exact absurd rfl hne
    · rw [e] at hd; cases hd

theorem recordTx {s : St} {fd : Nat} {tcp : Bool} {f : OutFrame} (h : BTR s0 s) : BTR s0 (s.recordTx fd tcp f) := by
  obtain ⟨t, g, ev, sl, hg, _, e⟩ := recordTx_shape s fd tcp f
  rw [e]
  exact (BTR.nameOnly hg h).congr rfl rfl rfl

theorem advanceOut {s : St} {fuel fd n : Nat} (h : BTR s0 s) : BTR s0 (Cares.Chan.advanceOut fuel fd s n) :=
  advanceOut_induct (fun _ _ _ _ _ _ h => BTR.recordTx (h.congr rfl rfl rfl)) (fun _ _ h => h.congr rfl rfl rfl)
    fuel s n h

/-- the bookkeeping of `ares_send_query` after a successful write: the query leaves the index, gets its new deadline
    and is queued for (re-)insertion -/
theorem commit {s : St} (q : Query) (key fd : Nat) (dl : Deadline) (h : BTR s0 s) :
    BTR s0 (sqCommit s q key fd dl) := by
  obtain ⟨cs, e⟩ := sqCommit_core s q key fd dl
  rw [e]
  refine BTR.congr (s := commitCore s key fd dl) ?_ rfl rfl rfl
  have hl : ∀ k', k' ≠ key → (commitCore s key fd dl).dl? k' = s.dl? k' := by
    intro k' hne
    unfold St.dl? commitCore
    rw [query?_modQuery_ne (hne := hne)]
    · rfl
    · intro _; rfl
  refine h.transfer (List.erase_sublist : ((commitCore s key fd dl).byTimeout).Sublist s.byTimeout) ?_ ?_
  · intro k' hk'
    have : k' ∈ s.byTimeout.erase key := hk'
    rw [h.1.1.mem_erase_iff] at this
    exact hl k' this.1
  · intro k' d hd hne
    show k' ∈ s.byTimeout.erase key ∨ k' ∈ s.pendingOrder.erase key ++ [key]
    by_cases hkk : k' = key
    · right; subst hkk; simp
    · rw [hl k' hkk] at hd
      rw [List.mem_erase_of_ne hkk, List.mem_append, List.mem_erase_of_ne hkk]
      rcases h.1.cover hd hne with hh | hh
      · exact Or.inl hh
      · exact Or.inr (Or.inl hh)

end BTR

theorem BT.modQuery {s : St} {k : Nat} {f : Query → Query}
    (hf : ∀ q, (f q).key = q.key ∧ (f q).deadline = q.deadline) (h : BT s) : BT (s.modQuery k f) :=
  h.of_BTR (BTR.modQuery hf)

theorem BT.detach {s : St} {k : Nat} (h : BT s) : BT (s.detach k) := h.of_BTR BTR.detach

theorem BT.recordTx {s : St} {fd : Nat} {tcp : Bool} {f : OutFrame} (h : BT s) : BT (s.recordTx fd tcp f) :=
  h.of_BTR BTR.recordTx

theorem BT.advanceOut {s : St} {fuel fd n : Nat} (h : BT s) : BT (advanceOut fuel fd s n) := h.of_BTR BTR.advanceOut

theorem BT.commit {s : St} (q : Query) (key fd : Nat) (dl : Deadline) (h : BT s) : BT (sqCommit s q key fd dl) :=
  h.of_BTR (BTR.commit q key fd dl)

variable {s0 : St}

theorem BTR.prim {c : Call} {s s' : St} (p : Prim c s s') (h : BTR s0 s) : BTR s0 s' := by
  cases p
  case modQuery hf => exact BTR.modQuery (fun q => ⟨hf.key q, hf.deadline q⟩) h
  case editQuery hf _ => exact BTR.modQuery (fun q => ⟨hf.key q, hf.deadline q⟩) h
  case removeFromConn => exact BTR.removeFromConn h
  case detach => exact BTR.detach h
  case freeQuery => exact BTR.freeQuery h
  case udpSent fd _ f _ tcp _ _ _ =>
    refine (BTR.recordTx (fd := fd) (tcp := tcp) (f := f) h).congr ?_ ?_ ?_ <;> simp only [chan_frame]
  case openConn => rw [sqOpen_shape]; exact h.congr rfl rfl rfl
  case closeFinal => rw [closeFinal_shape]; exact h.congr rfl rfl rfl
  case advanceOut => exact BTR.advanceOut h
  case sqCommit => exact BTR.commit _ _ _ _ h
  case addQuery q _ _ _ _ hd _ _ => exact BTR.addQuery (s := s) (q := q) rfl rfl rfl hd h
  all_goals refine h.congr ?_ ?_ ?_ <;> simp only [chan_frame]

theorem exec_bt (fuel : Nat) (c : Call) (s : St) (h : BTR s0 s) : BTR s0 (exec fuel c s).1 :=
  exec_invariant BTR.prim (fun _ h => h) fuel c s h

theorem exec_BT (fuel : Nat) (c : Call) (s : St) (h : BT s) : BT (exec fuel c s).1 :=
  (exec_bt fuel c s (.of_BT h)).1

end Cares.Chan
