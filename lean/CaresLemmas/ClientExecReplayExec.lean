import CaresLemmas.ClientExecReplay
/-!
# `exec_replays`: the log of every procedure replays on the pure machine (induction over `execC`)
-/
namespace Cares.Chan

theorem RPv_oof {cfg r0 L σ c cl nx} : RPv cfg r0 L σ true c cl nx := .inl rfl

/-- one more event: the machine makes the step (the configuration may be assumed to be the run's) -/
theorem RPv.snoc {cfg r0 L σ oof c cl nx} (h : RPv cfg r0 L σ oof c cl nx) (i : CItem) {cl' nx' σ'}
    (hs : c = cfg → rstep cfg ⟨cl, nx, σ⟩ i = some ⟨cl', nx', σ'⟩) : RPv cfg r0 (L ++ [i]) σ' oof c cl' nx' :=
  h.imp id fun ⟨hc, hr⟩ => ⟨hc, by rw [replay_snoc, hr]; exact hs hc⟩

/-- the response a client event hands to a compound request -/
def CItem.rec? : CItem → Option Reply
  | .cb _ _ _ rec _ _ => rec
  | _ => none

/-! `P σ L v`: the log `L` has led to the view `v` with the frames `σ` in progress.  Given that the recursive calls keep
it (`hgo`: `runActs id acts` consumes its frame) and that it follows one more client event along a step of the replay
machine (`hev`), `execCBody` keeps it; what `sendNolock` and `paDeliverC` do to the cache and the accepted responses is
left to the invariant (`hexp`, `hhit`, `hpa`). -/
section
variable {P : List (Nat × Option (List ClientAct)) → CLog → CView → Prop} {R : Reply → Prop} {goC : GoC}
  (hgo : ∀ c s L σ, (∀ r, c.rec? = some r → R r) → P (preσ c σ) L s.cview →
    P σ (L ++ (goC c s).2) (goC c s).1.1.cview)
  (hev : ∀ {σ σ' L} {v : CView} {cl' nx'} (i : CItem), (∀ r, i.rec? = some r → R r) →
    rstep v.cfg ⟨v.clients, v.next, σ⟩ i = some ⟨cl', nx', σ'⟩ → P σ L v →
    P σ' (L ++ [i]) { v with clients := cl', next := nx' })
include hgo hev

theorem bodyCallbackC_ev (o : Owner) (re : List Nat) (st : Status) (t : Nat) (rec : Option Reply) (s : St)
    (L : CLog) (σ) (hrec : ∀ r, rec = some r → R r) (h : P σ L s.cview) :
    P σ (L ++ (bodyCallbackC goC o re st t rec s).2) (bodyCallbackC goC o re st t rec s).1.1.cview := by
  unfold bodyCallbackC
  split
  · simpa only [List.append_nil, St.cview, chan_frame] using h
  · rename_i id
    split
    · simpa only [List.append_nil, St.cview, chan_frame] using h
    · rename_i c hc
      have hc' : s.clients.find? (·.id == id) = some c := hc
      rw [List.append_cons]
      exact hgo _ _ _ _ (fun _ hr => nomatch hr)
        (hev (.cb id st t rec c.qidA c.qidAAAA) hrec (by simp only [St.cview, rstep, hc', and_self, ↓reduceIte]; rfl) h)
  · exact hgo _ _ _ _ (fun _ hr => nomatch hr) h

theorem bodyClientStartC_ev (k : String) (tok : Nat) (re : List Nat) (sp : ReqSpec) (f : Nat) (s : St)
    (L : CLog) (σ) (h : P σ L s.cview) :
    P σ (L ++ (bodyClientStartC goC k tok re sp f s).2) (bodyClientStartC goC k tok re sp f s).1.1.cview := by
  unfold bodyClientStartC
  rw [List.append_cons]
  exact hgo _ _ _ _ (fun _ hr => nomatch hr)
    (hev (.start s.nextClient k tok re sp f) (fun _ hr => nomatch hr) (by simp only [St.cview, rstep, ↓reduceIte]; rfl) h)

theorem bodyRunActsC_ev (id : Nat) (acts : List ClientAct) (s : St) (L : CLog) (σ)
    (h : P ((id, some acts) :: σ) L s.cview) :
    P σ (L ++ (bodyRunActsC goC id acts s).2) (bodyRunActsC goC id acts s).1.1.cview := by
  have nr : ∀ {c : Call}, c.rec? = none → ∀ r, c.rec? = some r → R r := fun e _ hr => nomatch e ▸ hr
  have ni : ∀ {i : CItem}, i.rec? = none → ∀ r, i.rec? = some r → R r := fun e _ hr => nomatch e ▸ hr
  -- the first pending action of the frame is started
  have act : ∀ a rest, acts = a :: rest → P (afterAct id a rest ++ σ) (L ++ [.act id a]) s.cview :=
    fun a rest e => hev _ (ni rfl) (by simp only [St.cview, rstep, e, and_self, ↓reduceIte]) h
  unfold bodyRunActsC
  split
  · exact hev _ (ni rfl) (by simp only [St.cview, rstep, ↓reduceIte]) h
  · rename_i spec rest
    simp only [List.cons_append]
    rw [List.append_cons]
    simp only [← List.append_assoc]
    exact hgo _ _ _ _ (nr rfl) (hgo _ _ _ _ (nr rfl) (act _ _ rfl))
  · rename_i spec slot rest
    simp only [List.cons_append]
    rw [List.append_cons]
    simp only [← List.append_assoc]
    apply hgo _ _ _ _ (nr rfl)
    have h2 := hgo (.sendNolock none false false spec (.client id) []) s _ _ (nr rfl) (act _ _ rfl)
    split
    · exact hev _ (ni rfl) (by simp only [St.cview, rstep, preσ]; rfl) h2
    · rw [List.append_nil]; exact h2
  · rename_i qid rest
    rw [List.append_cons]
    apply hgo _ _ _ _ (nr rfl)
    split <;> simp only [St.cview, chan_frame] <;> exact act _ _ rfl
  · rename_i st timeouts dg rest
    split
    · rename_i hc
      have hc' : s.clients.find? (·.id == id) = none := hc
      rw [List.append_cons]
      exact hev _ (ni rfl) (by simp only [rstep, ↓reduceIte]; rfl) (hev (σ' := (id, some []) :: σ) _ (ni rfl)
        (by simp only [St.cview, rstep, hc', Option.isNone_none, and_self, ↓reduceIte]; rfl) h)
    · rename_i c hc
      have h2 := hgo (.userCb c.tok c.react st timeouts dg) s _ _ (nr rfl) (act _ _ rfl)
      rw [show L ++ (CItem.act id (.finish st timeouts dg) :: (goC (.userCb c.tok c.react st timeouts dg) s).2 ++
            [CItem.rel id, CItem.ret id]) =
          ((L ++ [CItem.act id (.finish st timeouts dg)] ++ (goC (.userCb c.tok c.react st timeouts dg) s).2) ++
            [CItem.rel id]) ++ [CItem.ret id] by simp]
      exact hev _ (ni rfl) (by simp only [rstep, ↓reduceIte]; rfl) (hev (σ' := (id, some []) :: σ) _ (ni rfl)
        (by simp only [St.cview, rstep, afterAct, List.cons_append, List.nil_append, ↓reduceIte]) h2)

theorem execCBody_ev (hexp : ∀ σ L (s' : St), P σ L s'.cview → P σ L s'.cacheExpire.cview)
    (hhit : ∀ σ, GoKeeps (P σ) R goC → ∀ L (s' : St) e o re (sp : ReqSpec), P σ L s'.cview →
      s'.cacheExpire.cacheFetch sp.name sp.qtype sp.qclass sp.rd = some e →
      Keeps (P σ) L (goC (.callback o re .ok 0
        (some { e.reply with ttls := e.reply.ttls.map (· - (s'.cacheExpire.nowSec - e.insert)) })) s'.cacheExpire))
    (hpa : ∀ σ, GoKeeps (P σ) R goC → ∀ fd r c key q s' L', P σ L' s'.cview →
      Keeps (P σ) L' (paDeliverC goC fd r c key q s'))
    (c : Call) (s : St) (L : CLog) (σ) (hrec : ∀ r, c.rec? = some r → R r) (h : P (preσ c σ) L s.cview) :
    P σ (L ++ (execCBody goC c s).2) (execCBody goC c s).1.1.cview := by
  have hk : GoKeeps (P σ) R goC := fun c s L hq hr h =>
    hgo c s L σ hr (by cases c <;> first | exact h | cases hq)
  show Keeps (P σ) L (execCBody goC c s)
  cases c with
  | sendNolock a b c sp o re =>
    exact (bodySendNolockC_sim hk s L h a b c sp o re (hexp σ L) fun s' e => hhit σ hk L s' e o re sp).2
  | processAnswer fd r => exact (bodyProcessAnswerC_sim hk s L h fd r (hpa σ hk fd r)).2
  | callback o re st t rec => exact bodyCallbackC_ev hgo hev o re st t rec s L σ hrec h
  | clientStart k tok re sp f => exact bodyClientStartC_ev hgo hev k tok re sp f s L σ h
  | runActs id acts => exact bodyRunActsC_ev hgo hev id acts s L σ h
  | _ => exact (execCBody_sim hk _ (by rfl) hrec s L h).2

end

section
variable {cfg : Cfg} {r0 : RSt} {goC : GoC}

/-- `paDeliverC` changes `accepted` and the cache only, of which `RP` does not speak -/
theorem paDeliverC_RP {σ} (hk : GoKeeps (RPk cfg r0 σ) (fun _ => True) goC) (fd : Nat) (r : Reply) (c : Conn)
    (key : Nat) (q : Query) (s : St) (L : CLog) (h : RP cfg r0 L σ s) :
    Keeps (RPk cfg r0 σ) L (paDeliverC goC fd r c key q s) := by
  unfold paDeliverC
  refine .ite (.ret ?_) (.ite (.ret ?_)
    (.ite (hk _ _ _ rfl (fun _ _ => trivial) ?_) (hk _ _ _ rfl (fun _ _ => trivial) ?_)))
  all_goals simpa only [St.cview, chan_frame] using h

theorem execCBody_RP (hgo : GoRP cfg r0 goC) : GoRP cfg r0 (execCBody goC) := fun c s L σ h =>
  execCBody_ev (P := fun σ => RPk cfg r0 σ) (R := fun _ => True) (fun c s L σ _ h => hgo c s L σ h)
    (fun i _ hs h => h.snoc i fun hc => hc ▸ hs)
    (fun σ L s' h' => by simpa only [St.cview, chan_frame] using h')
    (fun σ hk L s' e o re sp h' _ => hk _ _ _ rfl (fun _ _ => trivial) (by simpa only [St.cview, chan_frame] using h'))
    (fun σ hk => paDeliverC_RP hk) c s L σ (fun _ _ => trivial) h

end

theorem execC_RP (cfg : Cfg) (r0 : RSt) : ∀ fuel, GoRP cfg r0 (execC fuel)
  | 0 => fun _ _ _ _ _ => .inl rfl
  | fuel + 1 => execCBody_RP (execC_RP cfg r0 fuel)

/-- **Exec-level refinement (unconditional).**  Unless fuel runs out, the client events logged while `call` runs
    replay on the pure machine from the client store of `s` to that of the resulting state; the frame stack is
    restored (`runActs id acts` starts with its frame `(id, acts)` on top). -/
theorem exec_replays (fuel : Nat) (call : Call) (s : St) (σ : List (Nat × Option (List ClientAct)))
    (hf : (exec fuel call s).1.outOfFuel = false) :
    (exec fuel call s).1.cfg = s.cfg ∧
    replay s.cfg ⟨s.clients, s.nextClient, preσ call σ⟩ (execC fuel call s).2 =
      some ⟨(exec fuel call s).1.clients, (exec fuel call s).1.nextClient, σ⟩ := by
  have h := execC_RP s.cfg ⟨s.clients, s.nextClient, preσ call σ⟩ fuel call s [] σ (.inr ⟨rfl, rfl⟩)
  rw [execC_fst] at h
  rcases h with h | ⟨h1, h2⟩
  · rw [hf] at h; cases h
  · exact ⟨h1, by simpa using h2⟩

end Cares.Chan
