import CaresLemmas.WriteField
import CaresLemmas.WriteTables
import CaresLemmas.BitLemmas
/-!
# Record level: `ares_dns_parse_rr` after `ares_dns_write_rr`

The RDATA decoders (scripted types through the generic field lemma, OPT and RAW_RR by hand), then the
fixed part of the RR (owner name, TYPE, CLASS, TTL, RDLENGTH) and the reconciliation of RDLENGTH with
what the decoder consumed.
-/
namespace Cares.Dns.Write
open Cares.Dns Cares.Dns.NameW Cares.Dns.Build

/-- every parse script is compatible with the write script of the same type
    (`decide` over the tables regenerated from the clang AST on every run) -/
theorem scripts_compatible : scriptsCompatible Generated.parseScript Generated.writeScript = true := by decide

theorem scriptOf_pair (ptbl wtbl : List (Nat × Script))
    (h : (ptbl.length == wtbl.length &&
      (ptbl.zip wtbl).all fun pw => pw.1.1 == pw.2.1 && compatible pw.1.2 pw.2.2) = true)
    (t : Nat) (ws : Script) (hw : scriptOf wtbl t = some ws) :
    ∃ ps, scriptOf ptbl t = some ps ∧ compatible ps ws = true := by
  induction ptbl generalizing wtbl with
  | nil =>
    cases wtbl with
    | nil => simp [scriptOf] at hw
    | cons a r => simp at h
  | cons pe pr ih =>
    cases wtbl with
    | nil => simp at h
    | cons we wr =>
      simp only [List.length_cons, Nat.add_right_cancel_iff, List.zip_cons_cons, List.all_cons,
        Bool.and_eq_true, beq_iff_eq] at h
      obtain ⟨hl, ⟨hk, hc⟩, hrest⟩ := h
      unfold scriptOf at hw ⊢
      simp only [List.find?_cons] at hw ⊢
      by_cases ht : we.1 = t
      · have : (we.1 == t) = true := by simpa using ht
        simp only [this, Option.map_some, Option.some.injEq] at hw
        have : (pe.1 == t) = true := by rw [hk]; simpa using ht
        simp only [this, Option.map_some]
        exact ⟨pe.2, rfl, by rw [← hw]; exact hc⟩
      · have h1 : (we.1 == t) = false := by simpa using ht
        have h2 : (pe.1 == t) = false := by rw [hk]; simpa using ht
        simp only [h1, h2] at hw ⊢
        exact ih wr (by simp [hl, hrest]) hw

theorem script_pair (t : Nat) (ws : Script) (h : scriptOf Generated.writeScript t = some ws) :
    ∃ ps, scriptOf Generated.parseScript t = some ps ∧ compatible ps ws = true :=
  scriptOf_pair _ _ scripts_compatible t ws h

theorem parseRRData_scripted (rr : RR) (ws ps : Script)
    (hps : scriptOf Generated.parseScript rr.type = some ps) (hc : compatible ps ws = true)
    (h1 : rr.type ≠ RecType.any) (h2 : rr.type ≠ RecType.opt) (h3 : rr.type ≠ RecType.rawRR)
    (out post : BStr) (names : List NameOff) (p : Piece) (rawT rawC rawTtl : Nat)
    (hw : writeFields out.length names (allowNameComp rr.type) rr ws = .ok p) (hinv : NInv names out)
    (hok : fieldsOk rr ps = true) :
    parseRRData (out ++ p.bytes ++ post).toArray p.bytes.length rr.type rawT rawC rawTtl out.length =
        .ok (canonFields rr ws, 0) (out.length + p.bytes.length) ∧
      NInv p.names (out ++ p.bytes) ∧ p.trunc = false := by
  have hbl : bufLen (out ++ p.bytes ++ post).toArray out.length =
      .ok ((out ++ p.bytes ++ post).length - out.length) out.length := by
    rw [bufLen_eq (by simp), List.size_toArray]
  have hgoal : ∀ (hpf : parseFields (out ++ p.bytes ++ post).toArray ((out ++ p.bytes ++ post).length - out.length)
      p.bytes.length ps out.length = .ok (canonFields rr ws) (out.length + p.bytes.length)),
      parseRRData (out ++ p.bytes ++ post).toArray p.bytes.length rr.type rawT rawC rawTtl out.length =
        .ok (canonFields rr ws, 0) (out.length + p.bytes.length) := by
    intro hpf
    unfold parseRRData
    rw [if_neg h1, if_neg h2, if_neg h3]
    simp only [hps]
    rw [P.bind_ok hbl, P.bind_ok hpf]
    rfl
  simp only [compatible, Bool.or_eq_true] at hc
  rcases hc with hc | hc
  · obtain ⟨f1, f2, f3⟩ := parseFields_writeFields_end (out ++ p.bytes ++ post) out.length _ p.bytes.length rfl
      (allowNameComp rr.type) rr ps ws hc out names p hw hinv hok (Nat.le_refl _) rfl (List.prefix_append _ _)
    exact ⟨hgoal f1, f2, f3⟩
  · -- TXT
    split at hc
    · rename_i pk wf wk
      have : pk = wk := by simpa using hc
      subst this
      obtain ⟨f1, f2, f3⟩ := parseFields_writeFields_abin pk wf out post _ p.bytes.length names
        (allowNameComp rr.type) rr p hw hinv rfl rfl
      exact ⟨hgoal f1, f2, f3⟩
    · cases hc

theorem parseRRData_opt (rr : RR) (hopt : rr.type = RecType.opt) (out post : BStr)
    (hok : fieldOk rr .opts Key.optOptions = true) (rawT rawC rawTtl : Nat) :
    parseRRData (out ++ (writeOpts (getOpts rr Key.optOptions)).1 ++ post).toArray
        (writeOpts (getOpts rr Key.optOptions)).1.length rr.type rawT rawC rawTtl out.length =
      .ok ([(Key.optUdpSize, .u16 rawC), (Key.optVersion, .u8 ((rawTtl >>> 16) &&& 0xFF)),
            (Key.optFlags, .u16 (rawTtl &&& 0xFFFF)), (Key.optOptions, .opt (getOpts rr Key.optOptions))],
           (rawTtl >>> 20) &&& 0x0FF0)
        (out.length + (writeOpts (getOpts rr Key.optOptions)).1.length) ∧
    (writeOpts (getOpts rr Key.optOptions)).2 = false := by
  simp only [fieldOk, Bool.and_eq_true, List.all_eq_true, decide_eq_true_eq] at hok
  have hval : ∀ q ∈ getOpts rr Key.optOptions, q.1 < 65536 ∧ q.2.length < 65536 :=
    fun q hq => by have := hok.1 q hq; simpa using this
  refine ⟨?_, writeOpts_notrunc _ hval⟩
  have hbl : bufLen (out ++ (writeOpts (getOpts rr Key.optOptions)).1 ++ post).toArray out.length =
      .ok ((out ++ (writeOpts (getOpts rr Key.optOptions)).1 ++ post).length - out.length) out.length := by
    rw [bufLen_eq (by simp), List.size_toArray]
  have hloop := optLoop_written (out ++ (writeOpts (getOpts rr Key.optOptions)).1 ++ post)
    ((out ++ (writeOpts (getOpts rr Key.optOptions)).1 ++ post).length - out.length)
    (writeOpts (getOpts rr Key.optOptions)).1.length _ (getOpts rr Key.optOptions) out [] hval
    (fun q hq hq' => rrRemainingLen_eq (by rw [List.size_toArray]; simp only [List.length_append]; omega) hq
      (by rw [List.size_toArray])) rfl (List.prefix_append _ _)
  rw [optFold_nodup _ [] (by simpa using hok.2)] at hloop
  unfold parseRRData
  have hany : rr.type ≠ RecType.any := by rw [hopt]; decide
  rw [if_neg hany, if_pos hopt]
  unfold parseRROpt
  rw [P.bind_ok hbl, P.bind_ok hloop]
  rfl

theorem parseRRData_raw (rr : RR) (hraw : rr.type = RecType.rawRR) (out d post : BStr) (rawT rawC rawTtl : Nat) :
    parseRRData (out ++ d ++ post).toArray d.length rr.type rawT rawC rawTtl out.length =
      .ok ([(Key.rawRRType, .u16 rawT), (Key.rawRRData, .bin (some d))], 0) (out.length + d.length) := by
  unfold parseRRData
  have hany : rr.type ≠ RecType.any := by rw [hraw]; decide
  have hopt : rr.type ≠ RecType.opt := by rw [hraw]; decide
  rw [if_neg hany, if_neg hopt, if_pos hraw]
  unfold parseRRRaw
  by_cases h0 : d.length = 0
  · have : d = [] := List.eq_nil_of_length_eq_zero h0
    subst this
    rfl
  · rw [if_neg h0]
    have hin : (do let b ← fetchBytes (out ++ d ++ post).toArray d.length
                   pure [(Key.rawRRType, Val.u16 rawT), (Key.rawRRData, Val.bin (some b))] : P _) out.length =
        .ok [(Key.rawRRType, Val.u16 rawT), (Key.rawRRData, Val.bin (some d))] (out.length + d.length) := by
      rw [P.bind_ok (fetchBytes_at out d h0 (by simp) rfl)]
      rfl
    rw [P.bind_ok hin]
    rfl

/-- the fixed part of an RR and the RDLENGTH reconciliation, for any RDATA decoder result -/
theorem parseRR_generic (sect : Sect) (msg out nb db post : BStr) (T C TT : Nat)
    (hT : T < 65536) (hC : C < 65536) (hTT : TT < 4294967296) (hL : db.length < 65536)
    (hmsg : msg = out ++ (nb ++ (be16 T ++ be16 C ++ be32 TT) ++ be16 db.length ++ db) ++ post)
    (cname : BStr) (hname : parseName msg.toArray false out.length = .ok cname (out.length + nb.length))
    (type : Nat) (htype : effectiveType 0 sect T = type)
    (hvalid : rrAddValid type (rrClass type C) = true)
    (fields : List (Nat × Val)) (hi : Nat)
    (hdata : parseRRData msg.toArray db.length type T C TT (out.length + nb.length + 10) =
      .ok (fields, hi) (out.length + nb.length + 10 + db.length)) :
    parseRR msg.toArray 0 sect out.length =
      .ok (⟨cname, type, rrClass type C, rrTtl type TT, fields⟩, hi) (out.length + nb.length + 10 + db.length) := by
  have hsz : msg.toArray.size = out.length + nb.length + 10 + db.length + post.length := by
    rw [hmsg, List.size_toArray]
    simp only [List.length_append, be16_length, be32_length]
    omega
  rw [parseRR_frame hname (by omega), dif_pos (by omega)]
  simp only
  rw [be16At_written (pos := out.length + nb.length) (out ++ nb) hT (by simp [hmsg]) (by simp),
    be16At_written (pos := out.length + nb.length + 2) (out ++ nb ++ be16 T) hC (by simp [hmsg]) (by simp +arith),
    be32At_written (pos := out.length + nb.length + 4) (out ++ nb ++ be16 T ++ be16 C) hTT (by simp [hmsg])
      (by simp +arith),
    be16At_written (pos := out.length + nb.length + 8) (out ++ nb ++ be16 T ++ be16 C ++ be32 TT) hL
      (by simp [hmsg]) (by simp +arith),
    htype, if_neg (by omega), if_neg (by simp [hvalid]), hdata]
  simp only
  rw [if_neg (by omega)]

/-- the extended-rcode bits an OPT RR carries (`(rcode >> 4) & 0xFF`, shifted to their place) -/
def optHi (rcode : Nat) : Nat := (rcode / 16 % 256) * 16

/-- the bits the parser ORs into `raw_rcode` for this RR -/
def hiOfRR (rcode : Nat) (rr : RR) : Nat := if rr.type = RecType.opt then optHi rcode else 0

theorem opt_ttl_bits (a v f : Nat) (ha : a < 2) (hv : v < 256) (hf : f < 65536) :
    ((a * 16777216 + v * 65536 + f) >>> 16) &&& 0xFF = v ∧ (a * 16777216 + v * 65536 + f) &&& 0xFFFF = f ∧
    ((a * 16777216 + v * 65536 + f) >>> 20) &&& 0x0FF0 = a * 16 := by
  rw [opt_version_eq, opt_flags_eq, opt_hi_eq _ (by omega)]
  omega

theorem rcodeValid_small (rc : Nat) (h : rcodeValid rc = true) : rc / 16 < 2 := by
  simp only [rcodeValid, Bool.or_eq_true, Bool.and_eq_true, decide_eq_true_eq] at h
  omega

theorem u16t_small (n : Nat) (h : n < 65536) : u16t n = (be16 n, false) := by
  simp [u16t, Nat.mod_eq_of_lt h]; omega

theorem rrFixed_opt (rcode : Nat) (rr : RR) (hopt : rr.type = RecType.opt) (hrc : rcode / 16 < 256)
    (hudp : getU rr Key.optUdpSize < 65536) (hver : getU rr Key.optVersion < 256)
    (hflg : getU rr Key.optFlags < 65536) :
    rrFixed rcode 0 rr = (be16 41 ++ be16 (getU rr Key.optUdpSize) ++
      be32 ((rcode / 16) * 16777216 + getU rr Key.optVersion * 65536 + getU rr Key.optFlags), false) := by
  unfold rrFixed
  simp only [hopt, ↓reduceIte, RecType.opt]
  rw [Nat.mod_eq_of_lt hudp, Nat.mod_eq_of_lt hver, Nat.mod_eq_of_lt hflg, Nat.mod_eq_of_lt hrc]

theorem rrFixed_other (rcode : Nat) (rr : RR) (hopt : rr.type ≠ RecType.opt) (T : Nat)
    (hT : T = if rr.type = RecType.rawRR then getU rr Key.rawRRType else rr.type) (hT16 : T < 65536)
    (hcls : rr.cls < 65536) (httl : rr.ttl < 4294967296) :
    rrFixed rcode 0 rr = (be16 T ++ be16 rr.cls ++ be32 rr.ttl, false) := by
  unfold rrFixed
  simp only [hopt, ↓reduceIte, ← hT]
  rw [Nat.mod_eq_of_lt hT16, Nat.mod_eq_of_lt hcls]
  have : (if 0 > rr.ttl then 0 else rr.ttl - 0) = rr.ttl := by split <;> omega
  rw [this, Nat.mod_eq_of_lt httl]
  simp; omega

theorem canonRR_unscripted (rr : RR) (h : scriptOf Generated.writeScript rr.type = none) :
    canonRR rr = ⟨canonName rr.name, rr.type, rr.cls, rr.ttl, rr.fields⟩ := by
  simp [canonRR, h]

theorem canonRR_scripted (rr : RR) (ws : Script) (h : scriptOf Generated.writeScript rr.type = some ws) :
    canonRR rr = ⟨canonName rr.name, rr.type, rr.cls, rr.ttl, canonFields rr ws⟩ := by
  simp [canonRR, h]

theorem rrFixed_length (rcode ttlDec : Nat) (rr : RR) : (rrFixed rcode ttlDec rr).1.length = 8 := by
  unfold rrFixed
  split <;> rfl

theorem writeRR_inv {rcode pos : Nat} {names : List NameOff} {rr : RR} {p : Piece}
    (h : writeRR rcode 0 pos names rr = .ok p) :
    ∃ n d, nameWrite pos names true true rr.name = .ok n ∧
      writeRData (pos + n.bytes.length + 10) n.names rr = .ok d ∧
      p.bytes = n.bytes ++ (rrFixed rcode 0 rr).1 ++ (u16t d.bytes.length).1 ++ d.bytes ∧ p.names = d.names ∧
      p.trunc = (n.trunc || (rrFixed rcode 0 rr).2 || (u16t d.bytes.length).2 || d.trunc) := by
  unfold writeRR at h
  cases hn : nameWrite pos names true true rr.name with
  | error e => simp [hn] at h
  | ok n =>
    simp only [hn] at h
    cases hd : writeRData (pos + n.bytes.length + 10) n.names rr with
    | error e => simp [hd] at h
    | ok d =>
      simp only [hd] at h
      cases h
      exact ⟨n, d, rfl, hd, rfl, rfl, rfl⟩

/-- **one RR**: parsing what `ares_dns_write_rr` wrote gives the canonical RR back -/
theorem parseRR_writeRR (rcode : Nat) (hrc : rcodeValid rcode = true) (sect : Sect) (rr : RR)
    (hok : rrOk rr = true) (out msg : BStr) (names : List NameOff) (p : Piece)
    (hw : writeRR rcode 0 out.length names rr = .ok p) (hinv : NInv names out)
    (hpre : out ++ p.bytes <+: msg) (hsize : msg.length ≤ 65535) :
    parseRR msg.toArray 0 sect out.length = .ok (canonRR rr, hiOfRR rcode rr) (out.length + p.bytes.length) ∧
      NInv p.names (out ++ p.bytes) ∧ p.trunc = false := by
  obtain ⟨post, hmsg⟩ := hpre
  obtain ⟨n, d, hn, hd, hpb, hpn, hpt⟩ := writeRR_inv hw
  simp only [rrOk, Bool.and_eq_true, decide_eq_true_eq] at hok
  obtain ⟨⟨⟨⟨hvt, hvc⟩, hcls⟩, httl⟩, hcase⟩ := hok
  -- the shape of the piece: name, fixed part (8 bytes), RDLENGTH, RDATA
  have hfl8 := rrFixed_length rcode 0 rr
  obtain ⟨fixed, ft, hfx⟩ : ∃ f t, rrFixed rcode 0 rr = (f, t) := ⟨_, _, rfl⟩
  rw [hfx] at hpb hpt hfl8
  dsimp only at hpb hpt hfl8
  have hL : d.bytes.length < 65536 := by
    rw [← hmsg, hpb] at hsize
    simp only [List.length_append] at hsize; omega
  rw [u16t_small _ hL] at hpt hpb
  dsimp only at hpt hpb
  rw [hpb] at hmsg
  obtain ⟨hname, hinvN, htrN⟩ := parseName_nameWrite out (fixed ++ be16 d.bytes.length ++ d.bytes ++ post)
    names true true rr.name n hinv hn
  rw [show out ++ n.bytes ++ (fixed ++ be16 d.bytes.length ++ d.bytes ++ post) = msg by
    rw [← hmsg]; simp only [List.append_assoc]] at hname
  have hS : (out ++ n.bytes ++ fixed ++ be16 d.bytes.length).length = out.length + n.bytes.length + 10 := by
    simp [be16, hfl8]; omega
  have hmsgD : (out ++ n.bytes ++ fixed ++ be16 d.bytes.length) ++ d.bytes ++ post = msg := by
    rw [← hmsg]; simp only [List.append_assoc]
  have hinvS : NInv n.names (out ++ n.bytes ++ fixed ++ be16 d.bytes.length) := by
    have := hinvN.append (fixed ++ be16 d.bytes.length)
    simpa [List.append_assoc] using this
  have hplen : p.bytes.length = n.bytes.length + 10 + d.bytes.length := by
    rw [hpb]; simp [be16, hfl8]; omega
  -- what the three kinds of RR share: given the fixed part, the type the parser takes and the RDATA read back,
  -- `parseRR_generic` gives the RR, which is `canonRR rr`
  have hfinal : ∀ (T C TT : Nat) (fields : List (Nat × Val)) (hi type : Nat), T < 65536 → C < 65536 →
      TT < 4294967296 → rrFixed rcode 0 rr = (be16 T ++ be16 C ++ be32 TT, false) →
      effectiveType 0 sect T = type → rrAddValid type (rrClass type C) = true →
      parseRRData msg.toArray d.bytes.length type T C TT (out.length + n.bytes.length + 10) =
        .ok (fields, hi) (out.length + n.bytes.length + 10 + d.bytes.length) →
      (⟨canonName rr.name, type, rrClass type C, rrTtl type TT, fields⟩ : RR) = canonRR rr → hi = hiOfRR rcode rr →
      NInv d.names ((out ++ n.bytes ++ fixed ++ be16 d.bytes.length) ++ d.bytes) → d.trunc = false →
      parseRR msg.toArray 0 sect out.length = .ok (canonRR rr, hiOfRR rcode rr) (out.length + p.bytes.length) ∧
        NInv p.names (out ++ p.bytes) ∧ p.trunc = false := by
    intro T C TT fields hi type hT hC hTT hfixed htype hvalid hdata h2 h3 h4 h6
    obtain ⟨hfixed, hft⟩ := Prod.mk.inj (hfx.symm.trans hfixed)
    have h1 := parseRR_generic sect _ out n.bytes d.bytes post T C TT hT hC hTT hL (by rw [← hmsg, hfixed])
      (canonName rr.name) hname type htype hvalid fields hi hdata
    refine ⟨?_, ?_, ?_⟩
    · rw [h1, h2, h3, hplen]
      congr 1
      omega
    · rw [hpn, hpb]; simpa [List.append_assoc] using h4
    · rw [hpt, htrN, hft, h6]; rfl
  by_cases hopt : rr.type = RecType.opt
  · -- OPT
    simp only [hopt, ↓reduceIte, Bool.and_eq_true, decide_eq_true_eq, beq_iff_eq] at hcase
    obtain ⟨⟨⟨⟨⟨⟨hc1, ht0⟩, hfl⟩, hudp⟩, hver⟩, hflg⟩, hopts⟩ := hcase
    have hdw : d = ⟨(writeOpts (getOpts rr Key.optOptions)).1, n.names, (writeOpts (getOpts rr Key.optOptions)).2⟩ := by
      unfold writeRData at hd
      have hany : ¬ (RecType.opt = RecType.any) := by decide
      simp only [hopt, hany, ↓reduceIte, Except.ok.injEq] at hd
      exact hd.symm
    have hdb : d.bytes = (writeOpts (getOpts rr Key.optOptions)).1 := by rw [hdw]
    have hdn : d.names = n.names := by rw [hdw]
    have hdt : d.trunc = (writeOpts (getOpts rr Key.optOptions)).2 := by rw [hdw]
    have ha := rcodeValid_small rcode hrc
    obtain ⟨b1, b2, b3⟩ := opt_ttl_bits (rcode / 16) _ _ ha hver hflg
    obtain ⟨hdata, hnotr⟩ := parseRRData_opt rr hopt (out ++ n.bytes ++ fixed ++ be16 d.bytes.length) post
      hopts 41 (getU rr Key.optUdpSize)
      ((rcode / 16) * 16777216 + getU rr Key.optVersion * 65536 + getU rr Key.optFlags)
    rw [← hdb, hmsgD, hS, hopt] at hdata
    have hsc : scriptOf Generated.writeScript rr.type = none := by rw [hopt]; decide
    refine hfinal 41 (getU rr Key.optUdpSize) _ _ _ 41 (by decide) hudp (by omega)
      (rrFixed_opt rcode rr hopt (by omega) hudp hver hflg) (by rw [effectiveType_zero]; decide)
      (by simp only [rrAddValid, rrClass, RecType.opt, ↓reduceIte]; decide) hdata ?_ ?_
      (by rw [hdn]; exact hinvS.append _) (by rw [hdt]; exact hnotr)
    · rw [canonRR_unscripted rr hsc, hopt, hc1, ht0, hfl, b1, b2]
      simp [optFieldsStd, rrClass, rrTtl, RecType.opt]
    · simp [hiOfRR, hopt, optHi, b3, Nat.mod_eq_of_lt (by omega : rcode / 16 < 256)]
  · by_cases hraw : rr.type = RecType.rawRR
    · -- RAW_RR
      have hne : ¬ (RecType.rawRR = RecType.opt) := by decide
      simp only [hraw, hne, ↓reduceIte, Bool.and_eq_true, decide_eq_true_eq, beq_iff_eq, Bool.not_eq_true'] at hcase
      obtain ⟨⟨hfl, hrt⟩, hnv⟩ := hcase
      cases hgb : getBin rr Key.rawRRData with
      | none =>
        exfalso
        unfold writeRData at hd
        have hany : ¬ (RecType.rawRR = RecType.any) := by decide
        simp [hraw, hany, hne, hgb] at hd
      | some dat =>
        have hdw : d = ⟨dat, n.names, false⟩ := by
          unfold writeRData at hd
          have hany : ¬ (RecType.rawRR = RecType.any) := by decide
          simp only [hraw, hany, hne, ↓reduceIte, hgb, Except.ok.injEq] at hd
          exact hd.symm
        have hdb : d.bytes = dat := by rw [hdw]
        have hdn : d.names = n.names := by rw [hdw]
        have hdt : d.trunc = false := by rw [hdw]
        have hdata := parseRRData_raw rr hraw (out ++ n.bytes ++ fixed ++ be16 d.bytes.length)
          d.bytes post (getU rr Key.rawRRType) rr.cls rr.ttl
        rw [hmsgD, hS, hraw] at hdata
        have hsc : scriptOf Generated.writeScript rr.type = none := by rw [hraw]; decide
        refine hfinal (getU rr Key.rawRRType) rr.cls rr.ttl _ _ RecType.rawRR hrt hcls httl
          (rrFixed_other rcode rr hopt _ (by simp [hraw]) hrt hcls httl)
          (by rw [effectiveType_zero, ← recTypeValid_rr_eq, hnv]; rfl)
          (by simp [rrAddValid, RecType.rawRR, Cares.Generated.recTypeValid, Cares.Generated.recTypeValidRR,
                Cares.Generated.classValid])
          hdata ?_ ?_ (by rw [hdn]; exact hinvS.append _) hdt
        · rw [canonRR_unscripted rr hsc, hraw, hfl]
          simp [rawFieldsStd, rrClass, rrTtl, RecType.rawRR, RecType.opt, hgb, hdb]
        · simp [hiOfRR, hopt]
    · -- scripted
      simp only [hopt, hraw, ↓reduceIte] at hcase
      cases hps : scriptOf Generated.parseScript rr.type with
      | none => simp [hps] at hcase
      | some ps =>
        simp only [hps] at hcase
        have hm := scriptOf_mem hps
        have hT : rr.type < 65536 := (by decide : ∀ e ∈ Generated.parseScript, e.1 < 65536) _ hm
        have hany : rr.type ≠ RecType.any := by
          intro h
          have hn : scriptOf Generated.parseScript RecType.any = none := by decide
          rw [h, hn] at hps
          cases hps
        cases hwsc : scriptOf Generated.writeScript rr.type with
        | none =>
          have := (by decide : ∀ e ∈ Generated.parseScript, (scriptOf Generated.writeScript e.1).isSome = true) _ hm
          rw [hwsc] at this
          cases this
        | some ws =>
          obtain ⟨ps', hps', hcomp⟩ := script_pair rr.type ws hwsc
          rw [hps] at hps'
          cases hps'
          have hdw : writeFields (out.length + n.bytes.length + 10) n.names (allowNameComp rr.type) rr ws = .ok d := by
            unfold writeRData at hd
            simp only [hany, ↓reduceIte, hopt, hraw, hwsc] at hd
            exact hd
          rw [← hS] at hdw
          obtain ⟨hdata, hinvD, htrD⟩ := parseRRData_scripted rr ws ps hps hcomp hany hopt hraw _ post
            n.names d rr.type rr.cls rr.ttl hdw hinvS hcase
          rw [hmsgD, hS] at hdata
          have hvt' : Cares.Generated.recTypeValid rr.type false = true := by rw [← recTypeValid_rr_eq]; exact hvt
          refine hfinal rr.type rr.cls rr.ttl _ _ rr.type hT hcls httl
            (rrFixed_other rcode rr hopt _ (by simp [hraw]) hT hcls httl) (by rw [effectiveType_zero, hvt']; rfl)
            (by simp only [rrAddValid, rrClass, hopt, ↓reduceIte, hvt', Bool.true_and]
                exact classValid_imp _ _ _ hvc)
            hdata ?_ ?_ hinvD htrD
          · rw [canonRR_scripted rr ws hwsc]
            simp [rrClass, rrTtl, hopt]
          · simp [hiOfRR, hopt]

end Cares.Dns.Write
