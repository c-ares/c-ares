import CaresLemmas.WriteMsg
/-!
# C03 — Write then parse is the identity, including for what goes on the wire

Property theorems only (helper lemmas live in `CaresLemmas/Write*.lean`).

* writer model: `Cares.Dns.Write` (`ares_dns_write.c`), `Cares.Dns.NameW` (`ares_dns_name.c`, write side),
  `Cares.Dns.Build` (record builder API, `ares_dns_record_create_query`, `ares_create_query`);
* parser model: `Cares.Dns.parse` of the C02/C04 slice (`CaresModel/Dns/Parse.lean`) — the theorems below are
  about *that* parser, not about a copy;
* `canon r` = the record with every name in the spelling the parser prints and TXT chunks cut at 255 bytes;
  `RecEquiv a b := canon a = canon b` is "equal field by field".

## The full statement and what is proved

```
roundtrip : Built r ∨ Parsed r → write r = .ok bs →
    bs.length ≤ 65535 ∧ ∃ r', parse bs 0 = .ok r' ∧ r' ≈ r ∧ write r' = .ok bs
```
is false on this tree for the input classes of findings F33–F38 (kernel-checked counterexamples
`c03_fails_*` below, each replayed on the implementation from `corpus/C03/`).  Proved:

* `roundtrip_partial`: for every record satisfying the decidable predicate `recOk` (what the typed setters
  guarantee + the guards excluding F33–F37), with the re-serialisation conjunct under the additional
  decidable-by-evaluation hypothesis `canon r = r` (names spelled canonically, F38);
* `frame_roundtrip_partial`: the same for the frame `ares_dns_write_buf_tcp` appends behind *any* queued bytes;
* `create_query_parse`: `ares_create_query` / `ares_mkquery` — no guard needed;
* the name layer and the generic scripted-field lemma at full strength.

The defects F5 (offsets relative to the buffer), F6 (offsets ≥ 16384), F7 (no 65535 limit), F30 (empty label
in front of a pointer), F31 (512-byte `name_copy`), F32 (question type > 65535) and F39 (escaped dot taken
for a separator) are repaired by `fix:` commits; the model is the repaired writer and the theorems below hold
without guards for them (`no_truncation`, `frame_roundtrip_partial` for every `queued`).
-/
namespace Cares.C03
open Cares.Dns Cares.Dns.Write Cares.Dns.NameW Cares.Dns.Build

/-- `unescape (escape ls) = ls`: splitting the presentation text the parser prints for a legal label list
    returns exactly those labels -/
theorem unescape_escape (ls : List BStr) (h : labelsOk ls = true) :
    NameW.splitDnsName false (NameW.escapeName ls) = .ok ls :=
  split_escape ls h

/-- `labels (p ++ "." ++ m) = labels p ++ labels m` when the writer accepted `p` as the text in front of a
    pointer to `m` (a dot that is escaped leaves a dangling backslash in `p`, which is then rejected) -/
theorem labels_concat (v : Bool) (p m : BStr) (lp lm : List BStr)
    (hp : NameW.splitDnsName v p false = .ok lp) (hm : unescape m = .ok lm) (hlm : lm ≠ []) :
    unescape (p ++ dot :: m) = .ok (lp ++ lm) :=
  (unescape_tail v p m lp lm hp hm hlm).1

/-- appending never changes what an earlier name decodes to -/
theorem decode_append (msg more : BStr) (lo pos e : Nat) (ls : List BStr) (h : Decodes msg lo pos ls e) :
    Decodes (msg ++ more) lo pos ls e :=
  h.append more

/-- **offset-list invariant**: if every stored `(name, idx)` decodes at `idx` (< 2^14) to the labels of
    `name`, reading only bytes already written, then after `ares_dns_name_write` the same holds for the new
    list and the longer buffer, the appended bytes decode to the labels of the written name, and the 14-bit
    pointer mask dropped nothing -/
theorem name_offsets_invariant (out : BStr) (names : List NameOff) (useList v : Bool) (name : BStr)
    (o : NameOut) (hinv : NInv names out) (h : nameWrite out.length names useList v name = .ok o) :
    (∃ ls, unescape name = .ok ls ∧ wireLabels ls = true ∧
        Decodes (out ++ o.bytes) out.length out.length ls (out.length + o.bytes.length) ∧ o.trunc = false) ∧
      NInv o.names (out ++ o.bytes) :=
  nameWrite_spec out names useList v name o hinv h

/-- the parser model reads a written name back as its canonical spelling, whatever follows it -/
theorem written_name_parses (out rest : BStr) (names : List NameOff) (useList v : Bool) (name : BStr)
    (o : NameOut) (hinv : NInv names out) (h : nameWrite out.length names useList v name = .ok o) :
    parseName (out ++ o.bytes ++ rest).toArray false out.length =
      .ok (canonName name) (out.length + o.bytes.length) :=
  (parseName_nameWrite out rest names useList v name o hinv h).1

/-- the scripts regenerated from the clang AST of `ares_dns_parse.c` / `ares_dns_write.c` are codec pairs -/
theorem generated_scripts_compatible :
    scriptsCompatible Generated.parseScript Generated.writeScript = true :=
  scripts_compatible

/-- **generic lemma**: `compatible ps ws → parseFields ps (writeFields ws v) = canon v`, with the offset-list
    invariant threaded through and no length masked -/
theorem fields_roundtrip (ps ws : Script) (hc : compatibleSeq ps ws = true)
    (out post : BStr) (S origLen rdlength : Nat) (names : List NameOff) (comp : Bool) (rr : RR) (p : Piece)
    (hw : writeFields out.length names comp rr ws = .ok p) (hinv : NInv names out)
    (hok : fieldsOk rr ps = true) (hS : S ≤ out.length)
    (horig : origLen = (out ++ p.bytes ++ post).length - S)
    (hrd : rdlength = out.length - S + p.bytes.length) :
    parseFields (out ++ p.bytes ++ post).toArray origLen rdlength ps out.length =
        .ok (canonFields rr ws) (out.length + p.bytes.length) ∧
      NInv p.names (out ++ p.bytes) ∧ p.trunc = false :=
  parseFields_writeFields ps ws hc out post S origLen rdlength names comp rr p hw hinv hok hS horig hrd

/-- **round trip (partial, see the header of this file)** -/
theorem roundtrip_partial (r : Rec) (bs : BStr) (hok : recOk r = true) (hw : write r = .ok bs) :
    bs.length ≤ 65535 ∧
      ∃ r', parse bs.toArray 0 = .ok r' ∧ r' = canon r ∧ (canon r = r → write r' = .ok bs) := by
  obtain ⟨h1, h2⟩ := parse_write r bs hok hw
  exact ⟨h1, canon r, h2, rfl, fun hc => by rw [hc]; exact hw⟩

/-- no 16-bit or 14-bit field of a successfully written message lost bits (F6, F7 repaired) -/
theorem no_truncation (r : Rec) (bs : BStr) (t : Bool) (hok : recOk r = true)
    (hw : writeMsg 0 r = .ok (bs, t)) : t = false :=
  (parse_writeMsg r bs t hok hw).2.2

/-- **frames (partial)**: what `ares_dns_write_buf_tcp` appends to an output buffer holding any `queued`
    bytes is `be16 length ++ message`, the queued bytes are untouched, and the message parses back to the
    canonical record — independently of `queued` (F5 repaired) -/
theorem frame_roundtrip_partial (queued : BStr) (r : Rec) (buf : BStr) (hok : recOk r = true)
    (hw : writeBufTcp queued r = .ok buf) :
    ∃ msg, buf = queued ++ (be16 msg.length ++ msg) ∧ msg.length ≤ 65535 ∧ write r = .ok msg ∧
      parse msg.toArray 0 = .ok (canon r) := by
  simp only [writeBufTcp, writeTcpFrame, Except.map] at hw
  cases h : writeMsg 0 r with
  | error e => simp [h] at hw
  | ok mt =>
    obtain ⟨msg, t⟩ := mt
    simp only [h] at hw
    obtain ⟨h1, h2, _⟩ := parse_writeMsg r msg t hok h
    have : ¬ msg.length > 65535 := by omega
    simp only [this, ↓reduceIte, Except.ok.injEq] at hw
    exact ⟨msg, hw.symm, h1, by simp [write, Except.map, h], h2⟩

theorem createQuery_recOk (name : BStr) (cls type id flags udp : Nat) (r : Rec)
    (hid : id < 65536) (hfl : flags = 0 ∨ flags = Flag.rd)
    (h : createQuery name cls type id flags udp = .ok r) :
    recOk r = true ∧ r.id = id ∧ r.flags = flags ∧ r.opcode = 0 ∧ r.rcode = 0 ∧
      r.qd = [⟨name, type, cls⟩] ∧ r.an = [] ∧ r.ns = [] ∧ (udp = 0 → r.ar = []) := by
  have hflv : flagsValid flags = true ∧ flags < 65536 := by
    rcases hfl with h | h <;> subst h <;> decide
  have hrc : recordCreate id flags 0 0 =
      .ok { id := id, flags := flags, opcode := 0, rcode := 0, qd := [], an := [], ns := [], ar := [] } := by
    simp [recordCreate, opcodeValid, rcodeValid, hflv.1]
  unfold createQuery at h
  by_cases hon : isOnion name = true
  · simp [hon] at h
  simp only [hon, Bool.false_eq_true, ↓reduceIte, hrc, queryAdd] at h
  by_cases hq : (!recTypeValid type true || !classValid cls type true) = true
  · simp [hq] at h
  simp only [hq, Bool.false_eq_true, ↓reduceIte, List.nil_append] at h
  simp only [Bool.or_eq_true, Bool.not_eq_true', not_or, Bool.not_eq_false] at hq
  by_cases hu : udp = 0
  · simp only [hu, ↓reduceIte, Except.ok.injEq] at h
    subst h
    refine ⟨?_, rfl, rfl, rfl, rfl, rfl, rfl, rfl, fun _ => rfl⟩
    simp [recOk, hid, hflv.1, hflv.2, opcodeValid, rcodeValid, hq.1, hq.2]
  · simp only [hu, ↓reduceIte] at h
    by_cases hbig : udp > 65535
    · simp [hbig] at h
    have hu16 : udp < 65536 := by omega
    have hnew : rrNew 3 [] RecType.opt Class.in 0 =
        .ok { name := [], type := 41, cls := 1, ttl := 0, fields := defaultFields 41 } := by rfl
    simp only [hbig, ↓reduceIte, hnew, Except.ok.injEq] at h
    subst h
    refine ⟨?_, rfl, rfl, rfl, rfl, rfl, rfl, rfl, fun h0 => absurd h0 hu⟩
    have hdf : defaultFields 41 = [(4101, Val.u16 0), (4103, Val.u8 0), (4104, Val.u16 0), (4105, Val.opt [])] := by rfl
    have hv1 : recTypeValid 41 false = true := by rfl
    have hv2 : classValid 1 41 false = true := by rfl
    simp [recOk, hid, hflv.1, hflv.2, opcodeValid, rcodeValid, hq.1, hq.2, addToSect, rrOk, setField, hdf,
      RecType.opt, Class.in, Key.optUdpSize, Key.optVersion, Key.optFlags, Key.optOptions,
      hv1, hv2, optFieldsStd, getU, getOpts, RR.get?, fieldOk, hu16, hasOpt]

/-- **`ares_create_query` / `ares_mkquery`**: when the builder succeeds, its bytes are at most 65535 and
    parse to exactly the requested query (name in canonical spelling) -/
theorem create_query_parse (name : BStr) (cls type id : Nat) (rd : Bool) (udp : Nat) (bs : BStr)
    (hid : id < 65536) (h : legacyCreateQuery name cls type id rd udp = .ok bs) :
    bs.length ≤ 65535 ∧
      ∃ r, parse bs.toArray 0 = .ok (canon r) ∧ r.id = id ∧ r.flags = (if rd then Flag.rd else 0) ∧
        r.opcode = 0 ∧ r.rcode = 0 ∧ r.qd = [⟨name, type, cls⟩] ∧ r.an = [] ∧ r.ns = [] ∧
        (udp = 0 → r.ar = []) := by
  unfold legacyCreateQuery at h
  cases hc : createQuery name cls type id (if rd then Flag.rd else 0) udp with
  | error e => simp [hc] at h
  | ok r =>
    simp only [hc] at h
    obtain ⟨hok, e1, e2, e3, e4, e5, e6, e7, e8⟩ := createQuery_recOk name cls type id _ udp r hid
      (by cases rd <;> simp) hc
    obtain ⟨h1, h2⟩ := parse_write r bs hok h
    exact ⟨h1, r, h2, e1, e2, e3, e4, e5, e6, e7, e8⟩

/-- numeric value of `ares_dns_datatype_t` -/
def dtCode : Option DT → Nat
  | some .inaddr => 1 | some .inaddr6 => 2 | some .u8 => 3 | some .u16 => 4 | some .u32 => 5
  | some .name => 6 | some .str => 7 | some .bin => 8 | some .binp => 9 | some .opt => 10
  | some .abinp => 11 | none => 0

theorem rrKeys_eq_generated : ∀ t ∈ Generated.rrKeysTbl.map (·.1), rrKeys t = Generated.rrKeys t := by decide

theorem keyDatatype_eq_generated :
    ∀ k ∈ Generated.keyDatatypeTbl.map (·.1), dtCode (keyDatatype k) = Generated.keyDatatype k := by decide

theorem allowNameComp_eq_generated :
    ∀ t ∈ Generated.recTypeValidRR, allowNameComp t = Generated.allowNameComp t := by decide

/-- every script lists the keys of its type in `ares_dns_rr_get_keys` order, so "fields in key order" and
    "fields in script order" are the same thing -/
theorem script_keys_are_rrKeys :
    (∀ e ∈ Generated.writeScript, e.2.map (·.2) = rrKeys e.1) ∧
      (∀ e ∈ Generated.parseScript, e.2.map (·.2) = rrKeys e.1) := by decide

theorem recTypeValid_eq_generated (t : Nat) : recTypeValid t false = Generated.recTypeValid t false :=
  recTypeValid_rr_eq t

theorem hostname_chars_eq_generated (c : UInt8) : isHostnameCh c = Generated.isHostnameCh c.toNat :=
  isHostnameCh_eq_generated c

theorem escape_eq_parser (l : BStr) : Cares.Dns.escapeLabel l = NameW.escapeLabel l :=
  escapeLabel_eq_parser l

def exampleCom : BStr := [101, 120, 97, 109, 112, 108, 101, 46, 99, 111, 109]          -- "example.com"
def exampleComDot : BStr := exampleCom ++ [46]                                        -- "example.com."

/-- `example.com IN A` query answered by `example.com A 10.0.0.1` -/
def rGood : Rec :=
  { id := 1, flags := 0, opcode := 0, rcode := 0
    qd := [{ name := exampleCom, qtype := 1, qclass := 1 }]
    an := [{ name := exampleCom, type := 1, cls := 1, ttl := 60, fields := [(101, Val.addr [1, 2, 3, 4])] }]
    ns := [], ar := [] }

def rNoQuestion : Rec := { rGood with qd := [] }
def rBadCookie : Rec := { rGood with rcode := 23 }
def rServfail : Rec := { rGood with rcode := 2 }

def optRR (cls ttl : Nat) : RR :=
  { name := [], type := 41, cls := cls, ttl := ttl,
    fields := [(4101, Val.u16 1232), (4103, Val.u8 0), (4104, Val.u16 0), (4105, Val.opt [])] }

def rOptChaos : Rec := { rGood with ar := [optRR 3 5] }
def rOptIn : Rec := { rGood with ar := [optRR 1 0] }

def rawA : RR :=
  { name := exampleCom, type := 65536, cls := 1, ttl := 60,
    fields := [(6553601, Val.u16 1), (6553602, Val.bin (some [1, 2, 3, 4]))] }

def rRawA : Rec := { rGood with an := [rawA] }

def hinfoCtl : RR :=
  { name := [], type := 13, cls := 1, ttl := 0,
    fields := [(1301, Val.str (some [97, 1, 98])), (1302, Val.str (some []))] }

def rTrailingDot : Rec :=
  { rGood with an := [{ name := exampleComDot, type := 1, cls := 1, ttl := 60,
                        fields := [(101, Val.addr [1, 2, 3, 4])] }] }

/-- F33: no question — the bytes are refused by the parser -/
theorem c03_fails_qdcount : ∃ bs, write rNoQuestion = .ok bs ∧ parse bs.toArray 0 = .err .ebadresp :=
  ⟨_, rfl, rfl⟩

/-- F34: rcode BADCOOKIE (23) without an OPT RR is written exactly like rcode SERVFAIL (2) -/
theorem c03_fails_extrcode_without_opt :
    ∃ bs r', write rBadCookie = .ok bs ∧ parse bs.toArray 0 = .ok r' ∧ r'.rcode = 2 := by
  have hw : write rBadCookie = write rServfail := rfl
  obtain ⟨bs, hbs⟩ : ∃ bs, write rServfail = .ok bs := ⟨_, rfl⟩
  exact ⟨bs, _, by rw [hw]; exact hbs, (parse_write _ bs rfl hbs).2, rfl⟩

/-- F35: an OPT RR created with class CH and TTL 5 is written exactly like one with class IN, TTL 0 -/
theorem c03_fails_opt_class_ttl :
    ∃ bs r', write rOptChaos = .ok bs ∧ parse bs.toArray 0 = .ok r' ∧
      r'.ar.map (fun rr => (rr.cls, rr.ttl)) = [(1, 0)] := by
  have hw : write rOptChaos = write rOptIn := rfl
  obtain ⟨bs, hbs⟩ : ∃ bs, write rOptIn = .ok bs := ⟨_, rfl⟩
  exact ⟨bs, _, by rw [hw]; exact hbs, (parse_write _ bs rfl hbs).2, rfl⟩

/-- F36: a RAW_RR carrying type 1 and four bytes is written exactly like the A record -/
theorem c03_fails_rawrr_decoded_type :
    ∃ bs r', write rRawA = .ok bs ∧ parse bs.toArray 0 = .ok r' ∧ r'.an.map (·.type) = [1] := by
  have hw : write rRawA = write rGood := rfl
  obtain ⟨bs, hbs⟩ : ∃ bs, write rGood = .ok bs := ⟨_, rfl⟩
  exact ⟨bs, _, by rw [hw]; exact hbs, (parse_write _ bs rfl hbs).2, rfl⟩

/-- F37: the character-string `a\x01b` written by `ares_dns_write_rr_str` is refused by
    `ares_dns_parse_and_set_dns_str` (field level: the bytes of the helper, read by its counterpart) -/
theorem c03_fails_nonprintable_string :
    ∃ p, writeField 0 [] false hinfoCtl (.str true) 1301 = .ok p ∧
      parseField p.bytes.toArray p.bytes.length p.bytes.length (.str true) 0 = .err .ebadstr :=
  ⟨_, rfl, rfl⟩

/-- F38: the same name once with and once without trailing dot: the record serialises, its canonical form
    (what the parser returns) serialises to different — shorter — bytes -/
theorem c03_fails_rewrite_spelling :
    ∃ b1 b2, write rTrailingDot = .ok b1 ∧ write (canon rTrailingDot) = .ok b2 ∧ b2.length < b1.length :=
  ⟨_, _, rfl, rfl, by decide⟩

/-- a record with compression (owner = question name), an SOA with two compressible names, an SRV target that
    must not be compressed (with an escaped dot), and an OPT RR carrying an extended rcode -/
def rSample : Rec :=
  { id := 4660, flags := 9, opcode := 0, rcode := 23
    qd := [{ name := exampleCom, qtype := 255, qclass := 1 }]
    an := [{ name := exampleCom, type := 1, cls := 1, ttl := 60, fields := [(101, Val.addr [1, 2, 3, 4])] },
           { name := [119, 119, 119, 46] ++ exampleCom, type := 33, cls := 1, ttl := 5,
             fields := [(3302, Val.u16 1), (3303, Val.u16 2), (3304, Val.u16 443),
                        (3305, Val.name (some ([97, 92, 46, 98, 46] ++ exampleCom)))] }]
    ns := [{ name := exampleCom, type := 6, cls := 1, ttl := 3600,
             fields := [(601, Val.name (some ([110, 115, 46] ++ exampleCom))),
                        (602, Val.name (some ([114, 46] ++ exampleCom))),
                        (603, Val.u32 1), (604, Val.u32 2), (605, Val.u32 3), (606, Val.u32 4), (607, Val.u32 5)] }]
    ar := [{ name := [], type := 41, cls := 1, ttl := 0,
             fields := [(4101, Val.u16 1232), (4103, Val.u8 0), (4104, Val.u16 32768),
                        (4105, Val.opt [(10, [1, 2, 3, 4, 5, 6, 7, 8])])] }] }

example : recOk rSample = true := by rfl
set_option maxRecDepth 100000 in
example : ∃ bs, write rSample = .ok bs := ⟨_, rfl⟩
example : canon rSample = rSample := by rfl
example : recOk rGood = true := by rfl
set_option maxRecDepth 100000 in
/-- the hypotheses of `roundtrip_partial` are satisfiable and its conclusion is not trivial -/
example : ∃ bs, write rSample = .ok bs ∧ parse bs.toArray 0 = .ok rSample ∧ write rSample = .ok bs := by
  obtain ⟨bs, hbs⟩ : ∃ bs, write rSample = .ok bs := ⟨_, rfl⟩
  have := (parse_write rSample bs rfl hbs).2
  exact ⟨bs, hbs, by rw [this]; rfl, hbs⟩

/-- the offset-list invariant has a non-trivial model: after the question of `rGood` one name is stored -/
example : ∃ o, nameWrite 12 [] true true exampleCom = .ok o ∧ o.names = [⟨exampleCom, 12⟩] := ⟨_, rfl, rfl⟩

end Cares.C03
