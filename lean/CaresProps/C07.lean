import CaresLemmas.ChanPolicyProgress
/-!
# C07 (a) — Timers are sound and live (single-threaded part)

Model: the channel model `Cares.Chan`: `St.byTimeout` (`channel->queries_by_timeout`, an `ares_slist` ordered by
deadline; `insertByDeadline`), `St.timeoutHint` (`ares_timeout`: remaining time of the first entry, capped by the
caller's `maxtv`), `bodyProcessTimeouts` (`process_timeouts`: pop while expired), `expired` (`ares_timedout`),
`St.settle` (the skip-list insertions of one API call, replayed in send order once the jittered values are known).
The event-thread part (b) is a separate model.

* `byTimeout_sorted` — the invariant `BT` (index duplicate-free, sorted by deadline, every entry a live query with a
  definite deadline, every query that has a deadline is in the index or awaits insertion) holds initially and is kept by
  every procedure run (`exec`, any fuel, any call) and, up to the coverage of unobservable jittered deadlines, by
  `settle`.
* `timeout_hint_sound` — after `settle`, `ares_timeout` returns a value that is at most the caller's maximum and at most
  the remaining time of *every* pending definite deadline; it is `none` (no limit) exactly when there is neither a
  maximum nor an index entry.  The value is a natural number of milliseconds: never negative by typing.
* `expired_are_processed` — processing the channel (`process_timeouts`) at or after a deadline: unless the run reports
  a model fault / runs out of fuel, no index entry is expired afterwards and every query that was expired has been
  ended or re-sent (it left the index; it is gone, or has no deadline, or waits in `pendingOrder` with a new one).
* `expiry_resends_or_ends` — what one expiry does: `try_count + 1 < servers × tries` and re-sent, or ended.
-/
namespace Cares.C07
open Cares.Chan

/-- the empty channel satisfies the invariant -/
theorem byTimeout_sorted_init (s : St) (h1 : s.byTimeout = []) (h2 : ∀ q ∈ s.qs, q.deadline = .none) : BT s :=
  BT.init s h1 h2

/-- **byTimeout_sorted**: every procedure run keeps the index well-formed -/
theorem byTimeout_sorted (fuel : Nat) (c : Call) (s : St) (h : BT s) : BT (exec fuel c s).1 :=
  exec_BT fuel c s h

/-- … and what stays in the index during a run keeps its deadline (the index only shrinks within a run; insertions
    are replayed by `settle`) -/
theorem byTimeout_stable (fuel : Nat) (c : Call) (s : St) (h : BT s) :
    (exec fuel c s).1.byTimeout.Sublist s.byTimeout ∧
    ∀ k ∈ (exec fuel c s).1.byTimeout, (exec fuel c s).1.dl? k = s.dl? k :=
  (exec_bt fuel c s (.of_BT h)).2

/-- `settle` inserts in order: the index stays duplicate-free, sorted and live, every definite deadline is in it
    afterwards, and the full invariant holds again unless a jittered deadline could not be observed -/
theorem settle_sorted (s : St) (h : BT s) :
    BT0 s.settle ∧ s.settle.pendingOrder = [] ∧
    (∀ k ms, s.settle.dl? k = some (.at ms) → k ∈ s.settle.byTimeout) ∧
    (s.settle.obsFaults.length = s.obsFaults.length → BT s.settle) :=
  settle_bt s h

/-- **timeout_hint_sound.**  After `settle`, what `ares_timeout` returns is at most the caller's maximum and at most the
    time left to every pending deadline; it returns "no limit" exactly when no maximum was given and no query is
    outstanding. -/
theorem timeout_hint_sound (s : St) (h : BT s) (maxtv : Option Nat) :
    (∀ r, s.settle.timeoutHint maxtv = some r →
      (∀ m, maxtv = some m → r ≤ m) ∧ (∀ k ms, s.settle.dl? k = some (.at ms) → r ≤ ms - s.settle.now)) ∧
    (s.settle.timeoutHint maxtv = none ↔ maxtv = none ∧ s.settle.byTimeout = []) := by
  obtain ⟨h0, _, hcov, _⟩ := settle_bt s h
  exact ⟨fun r hr => timeoutHint_sound s.settle h0 hcov maxtv r hr, timeoutHint_none s.settle h0 maxtv⟩

/-- **expired_are_processed.**  When `process_timeouts` returns (not out of fuel, no model fault) the index is well formed,
    nothing left in it is expired, and every query that was expired on entry has left it: ended, detached, or queued
    for re-insertion with a new deadline. -/
theorem expired_are_processed (fuel : Nat) (s : St) (hb : BT s) :
    let r := (exec fuel .processTimeouts s).1
    r.outOfFuel = false → r.modelFaults.length = s.modelFaults.length →
    BT r ∧
    (∀ k ∈ r.byTimeout, ∀ q, r.query? k = some q → expired r.now q.deadline = false) ∧
    (∀ k q, s.query? k = some q → expired s.now q.deadline = true →
      k ∉ r.byTimeout ∧ (r.query? k = none ∨ r.dl? k = some .none ∨ k ∈ r.pendingOrder)) :=
  Cares.Chan.expired_are_processed fuel s hb

/-- the loop itself: it returns with a fresh head, a model fault, or out of fuel -/
theorem processTimeouts_terminates_fresh (fuel : Nat) (s : St) :
    (exec fuel .processTimeouts s).1.outOfFuel = true ∨
    s.modelFaults.length < (exec fuel .processTimeouts s).1.modelFaults.length ∨
    HeadFresh (exec fuel .processTimeouts s).1 :=
  processTimeouts_head fuel s

/-- one expiry: re-sent with `try_count + 1` below the budget, or ended (and `end_query` removes the query) -/
theorem expiry_resends_or_ends (go : Call → St → St × Ret) (key : Nat) (st : Status) (rec : Option Reply) (s : St)
    (q : Query) (hq : s.query? key = some q) :
    (∃ s' q', s'.query? key = some q' ∧ q'.tryCount = q.tryCount + 1 ∧
        q'.tryCount < s.servers.length * s.cfg.tries ∧ q'.noRetries = false ∧ q'.timeouts = q.timeouts ∧
        bodyRequeue go key st true rec false s = go (.sendQuery none key) s') ∨
    (∃ s' es, bodyRequeue go key st true rec false s = ((go (.endQuery none key es rec) s').1, .timeout)) :=
  requeue_progress go key st rec s q hq

theorem end_query_removes (go : Call → St → St × Ret) (srv : Option Nat) (key : Nat) (st : Status)
    (rec : Option Reply) (s : St) (q : Query) (hq : s.query? key = some q) :
    (bodyEndQuery go srv key st rec s).1.query? key = none :=
  endQuery_ends go srv key st rec s q hq

/-! ## non-vacuity: concrete runs (kernel-evaluated) -/

def exServers : List Server := [{ id := 0, addr := "a" }, { id := 1, addr := "b" }]
def exSt : St :=
  { alive := true, cfg := { tries := 2, timeout := 1000 }, servers := exServers, obs := { rnd2 := [7, 9, 4, 11] } }
def exSpec : ReqSpec := { name := "6578", qtype := 1 }

/-- the state after one request and the end-of-call replay -/
def exSent : St := (exec 60 (.sendNolock none false false exSpec (.user 1) []) exSt).1.settle

/-- the start state satisfies the invariant; after the request the index holds the query with deadline 1000, the hint
    is 1000 ms, or the caller's 300 ms if that is smaller -/
example : BT exSt := BT.init exSt rfl (fun q hq => by cases hq)
example : exSent.byTimeout = [0] ∧ exSent.qs.map (fun q => (q.key, q.deadline, q.tryCount)) = [(0, .at 1000, 0)] ∧
    exSent.timeoutHint none = some 1000 ∧ exSent.timeoutHint (some 300) = some 300 ∧
    ({ exSent with now := 400 } : St).timeoutHint none = some 600 := by decide

/-- processing at the deadline re-sends the query (try count 1, one timeout counted, new deadline 2000) -/
example :
    let r := (exec 60 .processTimeouts { exSent with now := 1000 }).1.settle
    r.byTimeout = [0] ∧ r.qs.map (fun q => (q.key, q.deadline, q.tryCount, q.timeouts)) = [(0, .at 2000, 1, 1)] ∧
    r.writeLog = [0, 0] ∧ r.outOfFuel = false ∧ r.modelFaults = [] := by decide

/-- processing before the deadline does nothing -/
example : (exec 60 .processTimeouts { exSent with now := 999 }).1.byTimeout = [0] ∧
    (exec 60 .processTimeouts { exSent with now := 999 }).1.writeLog = [0] := by decide

end Cares.C07
