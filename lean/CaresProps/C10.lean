import CaresLemmas.ChanSockUdp
import CaresLemmas.ChanSockDestroyFull
import CaresProps.C01
import CaresLemmas.ChanSockGetsock
/-!
# C10 — sockets are opened, announced, used and closed in a consistent protocol

Channel model (`Cares.Chan`): `sockLog` is the ghost log of every call made through the virtual socket layer,
`(fd, "open" | "connect" | "send" | "recv" | "close")`, oldest first; `notifyLog` the log of every socket-state
notification `(fd, read, write)` made to the application; `conns` the connection table; descriptors are never reused
(`nextFd`).  The invariant `SInv` (`CaresLemmas/ChanSockProto.lean`, `ChanSockInv.lean`) ties them
together and is preserved by every procedure of the model at every fuel; `UInv` (`ChanSockUdp.lean`) is the invariant
for `udp_max_queries`.
-/
namespace Cares.C10
open Cares Cares.Chan

/-- the invariants hold of a freshly initialised channel (no connection, empty logs) -/
theorem invariant_initially (s : St) (hc : s.conns = []) (hl : s.sockLog = []) (hn : s.notifyLog = []) :
    SInv none s :=
  SInv_init s hc hl hn

/-- … and are kept by every procedure, run to completion with any fuel (no statement covers what the driver does
    between calls — queueing replies, scripting faults, advancing the clock —; none of it touches `conns`, `sockLog`,
    `notifyLog` or `nextFd`, which are all the invariant reads) -/
theorem invariant_preserved (fuel : Nat) (call : Call) (s : St) (h : SInv none s) : SInv none (exec fuel call s).1 :=
  exec_SInv none fuel call s h

/-- **`sock_protocol`.**  In every reachable state, for every descriptor, the sub-sequence of socket calls made on it
    has the form `open · (connect | send | recv)* · close?`: nothing before `open`, at most one `close`, nothing
    after it. -/
theorem sock_protocol (fuel : Nat) (call : Call) (s : St) (h : SInv none s) (fd : Nat) :
    let log := (exec fuel call s).1.sockLog
    callsOn log fd = [] ∨
      (∃ mid, callsOn log fd = "open" :: mid ∧ ∀ x ∈ mid, isIo x = true) ∨
      (∃ mid, callsOn log fd = "open" :: mid ++ ["close"] ∧ ∀ x ∈ mid, isIo x = true) := by
  have hnb := (exec_SInv none fuel call s h).notBad fd
  rcases callsOn_shape _ fd hnb with ⟨_, h1⟩ | ⟨_, h1⟩ | ⟨_, h1⟩
  · exact .inl h1
  · exact .inr (.inl h1)
  · exact .inr (.inr h1)

/-- every connection in the table has an open socket, every open socket belongs to a connection in the table, and
    connections have distinct descriptors -/
theorem conns_are_the_open_sockets (fuel : Nat) (call : Call) (s : St) (h : SInv none s) :
    let s' := (exec fuel call s).1
    (∀ c ∈ s'.conns, fdState s'.sockLog c.fd = .opened) ∧
      (∀ fd, fdState s'.sockLog fd = .opened → ∃ c ∈ s'.conns, c.fd = fd) ∧
      (s'.conns.map (·.fd)).Nodup := by
  have hi := exec_SInv none fuel call s h
  refine ⟨?_, ?_, ?_⟩
  · intro c hc
    exact hi.connOpen (ckey c) (List.mem_map_of_mem hc)
  · intro fd ho
    obtain ⟨k, hk, hfd⟩ := hi.openHasConn fd ho
    simp only [St.sview, List.mem_map] at hk
    obtain ⟨c, hc, rfl⟩ := hk
    exact ⟨c, hc, hfd⟩
  · have := hi.nodup
    simp only [St.sview, List.map_map] at this
    exact this

/-- **`notifications_alternate`.**  In every reachable state the notifications made for a descriptor form a
    well-formed stream (`NotifyOK`): no notification repeats its predecessor, `(false, false)` is never the first one
    and nothing follows it — so an fd gets `(false, false)` at most once and only after a non-zero interest. -/
theorem notifications_alternate (fuel : Nat) (call : Call) (s : St) (h : SInv none s) (fd : Nat) :
    let l := nproj (exec fuel call s).1.notifyLog fd
    (∀ i x y, l[i]? = some x → l[i + 1]? = some y → x ≠ y) ∧
      (∀ i, l[i]? = some (false, false) → 0 < i ∧ i + 1 = l.length) :=
  ((exec_SInv none fuel call s h).nOK fd).spec

/-- the connection's recorded interest is the last one announced (so the application's view is never stale) -/
theorem announced_interest_is_current (fuel : Nat) (call : Call) (s : St) (h : SInv none s) :
    ∀ c ∈ (exec fuel call s).1.conns,
      (nproj (exec fuel call s).1.notifyLog c.fd).getLast?.getD (false, false) = (c.notR, c.notW) := by
  intro c hc
  exact (exec_SInv none fuel call s h).nLast (ckey c) (List.mem_map_of_mem hc)

/-- **no call and no notification for a descriptor after its `close`**: once closed, a descriptor stays in the closed
    state (any further call would make `sock_protocol` fail) and its notification stream never grows -/
theorem nothing_after_close (fuel : Nat) (call : Call) (s : St) (h : SInv none s) (fd : Nat)
    (hcl : fdState s.sockLog fd = .closed) :
    fdState (exec fuel call s).1.sockLog fd = .closed ∧
      nproj (exec fuel call s).1.notifyLog fd = nproj s.notifyLog fd :=
  exec_closed_frozen fuel call s h fd hcl

/-- **`udp_max_respected`.**  With `udp_max_queries` set, no UDP connection ever carries more queries than the limit
    (`Conn.total` counts the queries sent on the connection): the invariant `UInv` — which also says descriptors are
    distinct and a server's `tcp_conn` is a TCP connection — is kept by every procedure at every fuel. -/
theorem udp_max_respected (fuel : Nat) (call : Call) (s : St) (h : UInv s) (hmax : s.cfg.udpMax > 0) :
    ∀ c ∈ (exec fuel call s).1.conns, c.tcp = false → c.total ≤ s.cfg.udpMax := by
  have hi := (exec_UInv fuel call s).1 h
  have hcfg : (exec fuel call s).1.cfg = s.cfg := (exec_frame fuel call s ⟨rfl, rfl, rfl⟩).1
  intro c hc ht
  have := hi.max (by rw [hcfg]; exact hmax) c hc ht
  rw [hcfg] at this; exact this

theorem udp_invariant_initially (s : St) (hc : s.conns = []) (hs : ∀ v ∈ s.servers, v.tcpConn = none) : UInv s := by
  refine ⟨?_, ?_, ?_, ?_, ?_⟩ <;> simp_all

/-! ## destruction -/

/-- **`destroy_closes_all`.**  After `ares_destroy` (run to completion: not out of fuel) no connection is left and
    every socket the library ever opened is closed.  Hypotheses on the entry state of the top-level call: the socket
    invariant `SInv`, the ownership invariant of C01 (`Cares.C01.Inv s = Wf s ∧ DebtOk none (fun _ => 0) s.sk`,
    kept by every procedure — `CaresLemmas/ChanWf*`), no list walk in progress (`listCopy = []`) and no half-closed
    connection (`unlinked`; by `exec_Unl` none survives a completed call).  C01's `destroy_walk_no_queries` supplies: after
    the cancel loop no connection lists a query (so closing them re-sends nothing and opens nothing) and every linked
    connection is on its server's list (so the walk over the servers' lists reaches it). -/
theorem destroy_closes_all (f : Nat) (s : St) (h : SInv none s) (hown : Cares.C01.Inv s) (hlc : s.listCopy = [])
    (hu : ∀ c ∈ s.conns, c.unlinked = false) (hf : (exec (f + 3) .destroy s).1.outOfFuel = false) :
    (exec (f + 3) .destroy s).1.conns = [] ∧
      (∀ fd, fdState (exec (f + 3) .destroy s).1.sockLog fd ≠ .opened) :=
  exec_destroy_closes_all_full f s h hown.1 hown.2 hlc hu hf

/-- the socket-level half on its own: given the two ownership facts about the state after the cancel loop -/
theorem destroy_closes_all_of_ownership (f : Nat) (s : St) (h : SInv none s)
    (hq : ∀ c ∈ (exec (f + 2) (.cancelLoop .destruction true) { s with destroying := true }).1.conns, c.queries = [])
    (hl : ∀ c ∈ (exec (f + 2) (.cancelLoop .destruction true) { s with destroying := true }).1.conns,
      c.fd ∈ ((exec (f + 2) (.cancelLoop .destruction true) { s with destroying := true }).1.sortedServers.map
        (·.conns)).flatten) :
    (exec (f + 3) .destroy s).1.conns = [] ∧
      (∀ fd, fdState (exec (f + 3) .destroy s).1.sockLog fd ≠ .opened) ∧
      (exec (f + 3) .destroy s).1.outOfFuel =
        (exec (f + 2) (.cancelLoop .destruction true) { s with destroying := true }).1.outOfFuel :=
  exec_destroy_closes_all f s h hq hl

/-- unless fuel runs out, a procedure leaves no connection half-closed (`unlinked`) that was not so before -/
theorem no_half_closed_connection_survives (fuel : Nat) (call : Call) (s : St)
    (hc : ∀ fd st, call ≠ .closeLoop fd st) (hu : ∀ c ∈ s.conns, c.unlinked = false)
    (hf : (exec fuel call s).1.outOfFuel = false) : ∀ c ∈ (exec fuel call s).1.conns, c.unlinked = false := by
  have hcl : closing call = [] := by
    cases call <;> first | rfl | exact absurd rfl (hc _ _)
  have := exec_Unl fuel call s [] (by
    rw [hcl]; intro _ c hcm hcu; rw [hu c hcm] at hcu; cases hcu)
  intro c hcm
  cases hcu : c.unlinked with
  | false => rfl
  | true => have := this hf c hcm hcu; cases this

/-- … in any case (no hypothesis beyond the invariant): whatever is left after `ares_destroy` still obeys the protocol,
    and a descriptor is open exactly if its connection is still in the table -/
theorem destroy_leaves_only_tabled_sockets (fuel : Nat) (s : St) (h : SInv none s) (fd : Nat)
    (ho : fdState (exec fuel .destroy s).1.sockLog fd = .opened) : ∃ c ∈ (exec fuel .destroy s).1.conns, c.fd = fd :=
  (conns_are_the_open_sockets fuel .destroy s h).2.1 fd ho

/-! ## `ares_getsock` / `ares_fds` -/

/-- **`getsock_set`.**  In a state satisfying the invariant, `ares_getsock`'s result as restated in `ChanSockGetsock`
    (`getsock s = (getsockAll s).take 16`, a copy of the expression the driver's `finishOp` renders after every op; no
    statement ties the two) is exactly the connections on the servers' lists that
    are TCP or — when the channel has active queries — any; each is an open socket with read interest, and with write
    interest iff the connection's WRITE flag is set, which is the write interest last announced. -/
theorem getsock_set (s : St) (h : SInv none s) :
    (∀ e ∈ getsockAll s, ∃ c ∈ s.conns, e = (c.fd, true, c.notW) ∧ (s.all ≠ [] ∨ c.tcp = true) ∧
        c.fd ∈ (s.sortedServers.map (·.conns)).flatten ∧ fdState s.sockLog c.fd = .opened ∧
        ((nproj s.notifyLog c.fd).getLast?.getD (false, false)).2 = e.2.2) ∧
    (∀ c ∈ s.conns, c.fd ∈ (s.sortedServers.map (·.conns)).flatten → (s.all ≠ [] ∨ c.tcp = true) →
        (c.fd, true, c.notW) ∈ getsockAll s) ∧
    getsock s = (getsockAll s).take 16 :=
  Cares.Chan.getsock_set s h

/-! ## non-vacuity: concrete runs (kernel-evaluated) -/

def s0 : St := { alive := true, cfg := { udpMax := 1 }, servers := [{ id := 0, addr := "a" }],
                 obs := { rnd2 := [7, 8] } }
def s1 : St := (exec 50 (.sendNolock none false false { name := "", qtype := 1 } (.user 1) []) s0).1
def s2 : St := (exec 50 (.sendNolock none false false { name := "", qtype := 1 } (.user 2) []) s1).1
/-- with `udp_max_queries = 1` the second query gets a socket of its own -/
example : s2.sockLog = [(100, "open"), (100, "connect"), (100, "send"), (101, "open"), (101, "connect"), (101, "send")] ∧
    s2.notifyLog = [(100, true, false), (101, true, false)] ∧ s2.conns.map (fun c => (c.fd, c.total)) = [(100, 1), (101, 1)] := by
  decide
/-- cancelling everything closes both sockets, each announced with `(false, false)` first -/
def s3 : St := (exec 100 .cancel s2).1
example : s3.conns = [] ∧ s3.notifyLog = [(100, true, false), (101, true, false), (101, false, false), (100, false, false)] ∧
    callsOn s3.sockLog 100 = ["open", "connect", "send", "close"] := by
  decide
/-- a `connect` failure is unwound: the descriptor is closed and never announced -/
def s1f : St := (exec 50 (.sendNolock none false false { name := "", qtype := 1 } (.user 1) [])
  { s0 with faults := [{ call := "connect", nth := 1, err := 111 }] }).1
example : callsOn s1f.sockLog 100 = ["open", "connect", "close"] ∧ nproj s1f.notifyLog 100 = [] := by decide
example : SInv none s0 := invariant_initially s0 rfl rfl rfl
/-- two UDP sockets with active queries: both reported, read interest only -/
example : getsock s2 = [(101, true, false), (100, true, false)] := by decide
/-- destruction closes both sockets (and the run completes: hypothesis `hf` of `destroy_closes_all`) -/
def s4 : St := (exec 100 .destroy s2).1
example : s4.conns = [] ∧ fdState s4.sockLog 100 = .closed ∧ fdState s4.sockLog 101 = .closed ∧ s4.outOfFuel = false := by
  decide
example : ∀ c ∈ (exec 99 (.cancelLoop .destruction true) { s2 with destroying := true }).1.conns, c.queries = [] := by
  decide
/-- the hypotheses of `destroy_closes_all` are satisfiable: C01's example state (one query in flight on one of two
    servers) satisfies the ownership invariant (`Cares.C01.run_inv`) and, being reached from a fresh channel, `SInv` -/
example : (exec 60 .destroy Cares.C01.Example.s1).1.conns = [] ∧
    ∀ fd, fdState (exec 60 .destroy Cares.C01.Example.s1).1.sockLog fd ≠ .opened :=
  destroy_closes_all 57 Cares.C01.Example.s1
    (invariant_preserved Cares.C01.Example.fuel Cares.C01.Example.call1 _
      (invariant_initially { Cares.C01.Example.s0 with pendingToks := Cares.C01.Example.s0.pendingToks ++ [1] } rfl rfl rfl))
    Cares.C01.Example.run_inv.1 (by decide) (by decide) (by decide)

end Cares.C10
