import CaresLemmas.LegacyAddr
/-!
# C18 — legacy reply parsers agree with the record API and respect caller limits

Property theorems only.  Every `ares_parse_*_reply` is modelled (`CaresModel/Legacy/Parsers.lean`) as
`ares_dns_parse` (its result `p : ParseResult` is an input; the record parser is verified under C02–C04)
followed by the conversion loop of the C file.  The theorems state what the loops compute, as
filter/map expressions over the answer section `r.answers` of the parsed record (the "expected" side:
answers filtered by class and type, in answer order, field values as the getters return them):

* `*_same_records` — each parser returns exactly the records of its type, in order, with identical
  field values, and its own no-data rule as coded;
* `addrttl_ttl_rule`, `capacity_*`, `addrttl_is_prefix` — the TTL rule `min(ttl, min CNAME ttl)` (signed
  32-bit, as the C casts make it) and "never more elements than offered", for every capacity;
* `malformed_iff_*` — a malformed-class status is returned exactly when `ares_dns_parse` failed.
  For `ares_parse_soa_reply` this is **false** on the tree (`soa_malformed_iff_fails`): a well-formed
  reply without an SOA answer is reported as EBADRESP; `soa_malformed_iff_partial` is what holds.
-/
namespace Cares.C18
open Cares.Legacy Cares.AddrInfo


/-- answers in class IN, in answer order -/
def inAnswers (r : LRec) : List RR := r.answers.filter (fun rr => rr.cls = clsIN)

/-- answers in class IN or CHAOS (ares_parse_caa_reply and ares_parse_txt_reply accept both) -/
def inOrChaosAnswers (r : LRec) : List RR := r.answers.filter (fun rr => rr.cls = clsIN ∨ rr.cls = clsCHAOS)

def mxFields : RData → Option MxReply
  | .mx pref exch => some { host := exch, priority := pref }
  | _ => none

def srvFields : RData → Option SrvReply
  | .srv prio weight port target => some { host := target, priority := prio, weight := weight, port := port }
  | _ => none

def naptrFields : RData → Option NaptrReply
  | .naptr order pref flags services regexp replacement =>
    some { flags := flags, service := services, regexp := regexp, replacement := replacement,
           order := order, preference := pref }
  | _ => none

def caaFields : RData → Option CaaReply
  | .caa critical tag value => some { critical := critical, prop := tag, value := value }
  | _ => none

def uriFields (ttl : Nat) : RData → Option UriReply
  | .uri prio weight target => some { priority := prio, weight := weight, uri := target, ttl := toI32 ttl }
  | _ => none

def nsFields : RData → Option Bytes
  | .ns d => some d
  | _ => none

def ptrFields : RData → Option Bytes
  | .ptr d => some d
  | _ => none

def soaFields : RData → Option SoaReply
  | .soa mname rname serial refresh retry expire minimum =>
    some { nsname := mname, hostmaster := rname, serial := serial, refresh := refresh, retry := retry,
           expire := expire, minttl := minimum }
  | _ => none

/-- the chunks of one TXT record; `record_start` marks the first chunk in the `_ext` variant -/
def txtFields (ex : Bool) : RData → List TxtReply
  | .txt chunks => chunks.zipIdx.map (fun p => { txt := p.1, recordStart := ex && p.2 == 0 })
  | _ => []

/-- "no answers at all" is ENODATA, anything else SUCCESS (caa/mx/naptr/srv/txt/uri) -/
def listStatus (r : LRec) : Status := if r.answers.isEmpty then .enodata else .success


/-- the common frame: the loop collects `sel rr` for every answer, in order -/
theorem list_same_records {β : Type} (sel : RR → List β) (r : LRec) :
    parseListReply sel (.ok r) = (listStatus r, if r.answers.isEmpty then [] else r.answers.flatMap sel) := by
  unfold parseListReply listStatus
  by_cases h : r.answers.isEmpty = true
  · simp [h]
  · simp [h, appendLoop_eq]

private theorem filterMap_eq_flatMap {α β : Type} (f : α → Option β) (l : List α) :
    l.filterMap f = l.flatMap (fun a => (f a).toList) := by
  induction l with
  | nil => rfl
  | cons a l ih => rw [List.filterMap_cons, List.flatMap_cons, ← ih]; cases f a <;> rfl

private theorem list_keep_records {β : Type} (p : RR → Prop) [DecidablePred p] (sel g : RR → List β)
    (h : ∀ rr, sel rr = if p rr then g rr else []) (r : LRec) :
    parseListReply sel (.ok r) = (listStatus r, (r.answers.filter (fun rr => p rr)).flatMap g) := by
  rw [list_same_records, flatMap_keep p sel g h]
  cases r.answers <;> rfl

theorem mx_same_records (r : LRec) :
    parseMxReply (.ok r) = (listStatus r, (inAnswers r).filterMap (fun rr => mxFields rr.data)) := by
  rw [filterMap_eq_flatMap]
  exact list_keep_records _ mxSel _ (fun rr => by unfold mxSel; rw [ite_not]; cases rr.data <;> rfl) r

theorem srv_same_records (r : LRec) :
    parseSrvReply (.ok r) = (listStatus r, (inAnswers r).filterMap (fun rr => srvFields rr.data)) := by
  rw [filterMap_eq_flatMap]
  exact list_keep_records _ srvSel _ (fun rr => by unfold srvSel; rw [ite_not]; cases rr.data <;> rfl) r

theorem naptr_same_records (r : LRec) :
    parseNaptrReply (.ok r) = (listStatus r, (inAnswers r).filterMap (fun rr => naptrFields rr.data)) := by
  rw [filterMap_eq_flatMap]
  exact list_keep_records _ naptrSel _ (fun rr => by unfold naptrSel; rw [ite_not]; cases rr.data <;> rfl) r

/-- URI also reports the record TTL (as `int`) -/
theorem uri_same_records (r : LRec) :
    parseUriReply (.ok r) = (listStatus r, (inAnswers r).filterMap (fun rr => uriFields rr.ttl rr.data)) := by
  rw [filterMap_eq_flatMap]
  exact list_keep_records _ uriSel _ (fun rr => by unfold uriSel; rw [ite_not]; cases rr.data <;> rfl) r

/-- CAA: class IN *or CHAOS* (as coded) -/
theorem caa_same_records (r : LRec) :
    parseCaaReply (.ok r) = (listStatus r, (inOrChaosAnswers r).filterMap (fun rr => caaFields rr.data)) := by
  rw [filterMap_eq_flatMap]
  exact list_keep_records _ caaSel _
    (fun rr => by unfold caaSel; simp only [ne_eq, ← not_or, ite_not]; cases rr.data <;> rfl) r

/-- TXT (`ex = false`: ares_parse_txt_reply, `ex = true`: ares_parse_txt_reply_ext): every chunk of every
    TXT answer in class IN or CHAOS, in order -/
theorem txt_same_records (ex : Bool) (r : LRec) :
    parseListReply (txtSel ex) (.ok r) =
      (listStatus r, (inOrChaosAnswers r).flatMap (fun rr => txtFields ex rr.data)) :=
  list_keep_records _ (txtSel ex) _
    (fun rr => by
      unfold txtSel; simp only [ne_eq, ← not_or, ite_not]
      cases rr.data with
      | txt chunks => simp only [txtChunks_eq]; rfl
      | _ => rfl) r

/-- NS: the targets of the NS answers in class IN become `h_aliases`, `h_name` is the question name;
    no answers or none of type NS: ENODATA -/
theorem ns_same_records (r : LRec) (q : Bytes) (qs : List Bytes) (hq : r.questions = q :: qs) :
    parseNsReply (.ok r) =
      let names := (inAnswers r).filterMap (fun rr => nsFields rr.data)
      if names = [] then (.enodata, none)
      else (.success, some { name := some q, aliases := names, addrtype := afINET, length := 4, addrs := [] }) := by
  have key : r.answers.flatMap nsSel = (inAnswers r).filterMap (fun rr => nsFields rr.data) := by
    rw [filterMap_eq_flatMap]
    exact flatMap_keep _ nsSel _ (fun rr => by unfold nsSel; rw [ite_not]; cases rr.data <;> rfl) r.answers
  unfold parseNsReply
  have hqn : r.queryName = .ok q := by simp [LRec.queryName, hq]
  by_cases h : r.answers.isEmpty = true
  · have h0 : r.answers = [] := by simpa using h
    simp [h, inAnswers, h0]
  · simp only [h, Bool.false_eq_true, ↓reduceIte, hqn, appendLoop_eq, List.nil_append, key]
    by_cases hn : (inAnswers r).filterMap (fun rr => nsFields rr.data) = []
    · simp [hn]
    · simp [hn]

/-- PTR: every PTR target in class IN, in order, is an alias; `h_name` is the last of them; the caller's
    address is handed back; CNAMEs only redirect the (unused) query name; none: ENODATA -/
theorem ptr_same_records (r : LRec) (q : Bytes) (qs : List Bytes) (hq : r.questions = q :: qs)
    (addr : Option Bytes) (addrlen family : Nat) :
    parsePtrReplyBuf (.ok r) addr addrlen family =
      let names := (inAnswers r).filterMap (fun rr => ptrFields rr.data)
      match names.getLast? with
      | none => (.enodata, none)
      | some last => (.success, some { name := some last, aliases := names, addrtype := family,
                                       length := addrlen, addrs := addr.toList }) := by
  have key : r.answers.filterMap ptrOf = (inAnswers r).filterMap (fun rr => ptrFields rr.data) :=
    filterMap_keep _ ptrOf _ (fun rr => by unfold ptrOf; rw [ite_not]; cases rr.data <;> rfl) r.answers
  rw [parsePtrReplyBuf, parsePtrReply_closed r q qs hq, key]
  dsimp only
  cases ((inAnswers r).filterMap (fun rr => ptrFields rr.data)).getLast? <;> rfl

/-- SOA: the first SOA answer in class IN; no answers, or no SOA among them: EBADRESP (as coded) -/
theorem soa_same_records (r : LRec) :
    parseSoaReply (.ok r) =
      match ((inAnswers r).filterMap (fun rr => soaFields rr.data)).head? with
      | none => (.ebadresp, none)
      | some s => (.success, some s) := by
  have key : r.answers.filterMap soaOf = (inAnswers r).filterMap (fun rr => soaFields rr.data) :=
    filterMap_keep _ soaOf _ (fun rr => by unfold soaOf; rw [ite_not]; cases rr.data <;> rfl) r.answers
  unfold parseSoaReply
  by_cases h : r.answers.isEmpty = true
  · have h0 : r.answers = [] := by simpa using h
    simp [h, inAnswers, h0]
  · simp only [h, Bool.false_eq_true, ↓reduceIte, soaLoop_eq, key]
    cases ((inAnswers r).filterMap (fun rr => soaFields rr.data)).head? <;> rfl


/-- the address bytes of an answer of the wanted family -/
def addrField (family : Nat) : RData → Option Bytes
  | .a x => if family = afINET then some x else none
  | .aaaa x => if family = afINET6 then some x else none
  | _ => none

/-- the CNAME answers in class IN as (owner name, target, ttl) -/
def cnameAnswers (r : LRec) : List (Bytes × Bytes × Nat) :=
  (inAnswers r).filterMap (fun rr => match rr.data with | .cname c => some (rr.name, c, rr.ttl) | _ => none)

/-- the name after following the aliases: target of the last CNAME, else the question name -/
def canonicalName (r : LRec) (q : Bytes) : Bytes :=
  match (cnameAnswers r).getLast? with
  | some (_, target, _) => target
  | none => q

/-- smallest CNAME TTL (as `int`), INT_MAX when there is no CNAME -/
def minCnameTtl (r : LRec) : Int :=
  (cnameAnswers r).foldl (fun m c => if toI32 c.2.2 < m then toI32 c.2.2 else m) intMax

/-- the addresses of the wanted family, each with `min(ttl, min CNAME ttl)` -/
def expectedTtls (family : Nat) (r : LRec) : List (Bytes × Int) :=
  (inAnswers r).filterMap (fun rr => (addrField family rr.data).map
    (fun a => (a, if toI32 rr.ttl > minCnameTtl r then minCnameTtl r else toI32 rr.ttl)))

def expectedAddrs (family : Nat) (r : LRec) : List Bytes :=
  (inAnswers r).filterMap (fun rr => addrField family rr.data)



/-- the `ares_addrinfo_cname` node of a CNAME answer -/
private def cnameNode (c : Bytes × Bytes × Nat) : CnameNode := { ttl := toI32 c.2.2, alias := some c.1, name := some c.2.1 }

private theorem cnameOf_eq (r : LRec) : r.answers.filterMap cnameOf = (cnameAnswers r).map cnameNode := by
  unfold cnameAnswers
  rw [List.map_filterMap]
  exact filterMap_keep _ cnameOf _ (fun rr => by unfold cnameOf; rw [ite_not]; cases rr.data <;> rfl) r.answers

private theorem cnameTarget_eq (r : LRec) :
    r.answers.filterMap cnameTarget = (cnameAnswers r).map (fun c => c.2.1) := by
  unfold cnameAnswers
  rw [List.map_filterMap]
  exact filterMap_keep _ cnameTarget _ (fun rr => by unfold cnameTarget; rw [ite_not]; cases rr.data <;> rfl)
    r.answers

private theorem canonName_eq (r : LRec) (q : Bytes) : canonName q r.answers = canonicalName r q := by
  unfold canonName canonicalName
  rw [cnameTarget_eq, List.getLast?_map]
  cases (cnameAnswers r).getLast? with
  | none => rfl
  | some c => obtain ⟨o, t, l⟩ := c; rfl

private theorem cnameTtl_eq (r : LRec) : cnameTtl (r.answers.filterMap cnameOf) = minCnameTtl r := by
  unfold cnameTtl minCnameTtl
  rw [cnameOf_eq, List.foldl_map]
  rfl

private theorem nodes_map {β : Type} (family : Nat) (hf : family = afINET ∨ family = afINET6) (port : Nat)
    (g : AddrNode → β) (r : LRec) :
    ((r.answers.filterMap (nodeOf port)).filter (fun n => n.family = family)).map g =
      (inAnswers r).filterMap (fun rr => (addrField family rr.data).map
        (fun a => g { family := family, addr := a, port := port, ttl := toI32 rr.ttl })) := by
  rw [List.filter_filterMap, List.map_filterMap]
  refine filterMap_keep _ _ _ (fun rr => ?_) r.answers
  unfold nodeOf
  by_cases hc : rr.cls = clsIN
  · rw [if_neg (not_not_intro hc), if_pos hc]
    rcases hf with rfl | rfl <;> cases rr.data <;> rfl
  · rw [if_pos hc, if_neg hc]; rfl

private theorem addrs_eq (family : Nat) (hf : family = afINET ∨ family = afINET6) (port : Nat) (r : LRec) :
    ((r.answers.filterMap (nodeOf port)).filter (fun n => n.family = family)).map (·.addr) =
      expectedAddrs family r := by
  rw [nodes_map family hf port (·.addr) r]
  simp only [expectedAddrs, Option.map_id']

private theorem expectedTtls_nil {family : Nat} {r : LRec} (h : expectedAddrs family r = []) :
    expectedTtls family r = [] := by
  unfold expectedAddrs at h
  unfold expectedTtls
  simp only [List.filterMap_eq_nil_iff] at h ⊢
  intro a ha
  simp [h a ha]

/-- **ares_parse_a_reply / ares_parse_aaaa_reply** (host and addrttls requested, capacity `cap`):
    addresses = the A (AAAA) answers in class IN in order; aliases = the owner names of the CNAME answers;
    `h_name` = the name after following the aliases; addrttl entries = the first `cap` addresses, each
    with `min(ttl, min CNAME ttl)`; ENODATA exactly when there is neither an address of the family nor a
    CNAME -/
theorem addr_same_records (family : Nat) (hf : family = afINET ∨ family = afINET6) (r : LRec)
    (q : Bytes) (qs : List Bytes) (hq : r.questions = q :: qs) (cap : Nat) :
    parseAddrReply family (.ok r) true (some cap) =
      if expectedAddrs family r = [] ∧ cnameAnswers r = [] then
        { status := .enodata, host := none, ttls := [] }
      else
        { status := .success,
          host := some { name := some (canonicalName r q), aliases := (cnameAnswers r).map (·.1),
                         addrtype := family, length := addrLen family, addrs := expectedAddrs family r },
          ttls := (expectedTtls family r).take cap } := by
  have hname : (((cnameAnswers r).map cnameNode).getLast?.map (·.name)).getD (some (canonName q r.answers)) =
      some (canonicalName r q) := by
    rw [List.getLast?_map, canonName_eq, canonicalName]
    cases (cnameAnswers r).getLast? <;> rfl
  have hal : ((cnameAnswers r).map cnameNode).filterMap (·.alias) = (cnameAnswers r).map (·.1) := by
    simp [List.filterMap_map, Function.comp_def, cnameNode]
  rw [parseAddrReply_ok family hf r q qs hq cap, addrs_eq family hf 0 r, nodes_map family hf 0 (ttlEntry _) r, cnameTtl_eq,
    cnameOf_eq, hname, hal]
  simp only [List.map_eq_nil_iff]
  rfl

/-- `h_name` is the name after following the aliases -/
theorem addr_hostent_name_canonical (family : Nat) (hf : family = afINET ∨ family = afINET6) (r : LRec)
    (q : Bytes) (qs : List Bytes) (hq : r.questions = q :: qs) (cap : Nat) (h : Hostent)
    (hh : (parseAddrReply family (.ok r) true (some cap)).host = some h) :
    h.name = some (canonicalName r q) := by
  rw [addr_same_records family hf r q qs hq cap] at hh
  split at hh
  · simp at hh
  · simp only [Option.some.injEq] at hh
    rw [← hh]

/-- the addrttl output is the prefix of length `cap` of the expected list, for every capacity -/
theorem addrttl_is_prefix (family : Nat) (hf : family = afINET ∨ family = afINET6) (r : LRec)
    (q : Bytes) (qs : List Bytes) (hq : r.questions = q :: qs) (cap : Nat) :
    (parseAddrReply family (.ok r) true (some cap)).ttls = (expectedTtls family r).take cap := by
  rw [addr_same_records family hf r q qs hq cap]
  split
  · rename_i h
    simp [expectedTtls_nil h.1]
  · rfl

/-- `minCnameTtl` really is the minimum of INT_MAX and the CNAME TTLs -/
theorem minCnameTtl_spec (r : LRec) :
    minCnameTtl r ≤ intMax ∧ (∀ ca ∈ cnameAnswers r, minCnameTtl r ≤ toI32 ca.2.2) ∧
      (minCnameTtl r = intMax ∨ ∃ ca ∈ cnameAnswers r, minCnameTtl r = toI32 ca.2.2) := by
  unfold minCnameTtl
  exact foldl_min_spec (fun ca : Bytes × Bytes × Nat => toI32 ca.2.2) (cnameAnswers r) intMax

/-- TTL rule: every entry written is an address of an answer of the family with
    `ttl = min(record ttl, every CNAME ttl)` -/
theorem addrttl_ttl_rule (family : Nat) (hf : family = afINET ∨ family = afINET6) (r : LRec)
    (q : Bytes) (qs : List Bytes) (hq : r.questions = q :: qs) (cap : Nat) (a : Bytes) (t : Int)
    (hm : (a, t) ∈ (parseAddrReply family (.ok r) true (some cap)).ttls) :
    ∃ rr ∈ r.answers, rr.cls = clsIN ∧ addrField family rr.data = some a ∧
      t ≤ toI32 rr.ttl ∧ (∀ ca ∈ cnameAnswers r, t ≤ toI32 ca.2.2) ∧
      (t = toI32 rr.ttl ∨ ∃ ca ∈ cnameAnswers r, t = toI32 ca.2.2) := by
  rw [addrttl_is_prefix family hf r q qs hq cap] at hm
  have hm' := List.mem_of_mem_take hm
  unfold expectedTtls at hm'
  obtain ⟨rr, hrr, hv⟩ := List.mem_filterMap.mp hm'
  unfold inAnswers at hrr
  obtain ⟨hin, hcls⟩ := List.mem_filter.mp hrr
  cases hf' : addrField family rr.data with
  | none => simp [hf'] at hv
  | some a' =>
    simp only [hf', Option.map_some, Option.some.injEq, Prod.mk.injEq] at hv
    obtain ⟨rfl, ht⟩ := hv
    obtain ⟨h1, h2, h3⟩ := minCnameTtl_spec r
    refine ⟨rr, hin, by simpa using hcls, hf', ?_, ?_, ?_⟩
    · rw [← ht]; split <;> omega
    · intro ca hca
      have := h2 ca hca
      rw [← ht]; split <;> omega
    · by_cases hgt : toI32 rr.ttl > minCnameTtl r
      · rw [if_pos hgt] at ht
        rcases h3 with h3 | ⟨ca, hca, h3⟩
        · exfalso
          have : toI32 rr.ttl ≤ intMax := by
            unfold toI32 intMax; simp only; split <;> omega
          omega
        · exact Or.inr ⟨ca, hca, by rw [← ht, h3]⟩
      · rw [if_neg hgt] at ht
        exact Or.inl ht.symm


/-- `ares_addrinfo2addrttl` writes at most `req_naddrttls` entries, for every addrinfo and capacity -/
theorem capacity_addrinfo2addrttl (ai : AddrInfo) (family req : Nat) :
    (addrinfo2addrttl ai family req).2.length ≤ req :=
  addrinfo2addrttl_length_le ai family req

/-- `ares_parse_a_reply` / `ares_parse_aaaa_reply` write at most `*naddrttls` entries, whatever the
    message (parsed or not), host pointer and capacity -/
theorem capacity_parse_addr_reply (family : Nat) (p : ParseResult) (wantHost : Bool) (cap : Nat) :
    (parseAddrReply family p wantHost (some cap)).ttls.length ≤ cap := by
  unfold parseAddrReply
  cases p with
  | error e => simp
  | ok r =>
    simp only
    generalize parseIntoAddrinfo r false 0 {} = pr
    obtain ⟨st, ai⟩ := pr
    simp only
    by_cases h1 : st ≠ .success ∧ st ≠ .enodata
    · simp [h1]
    · simp only [h1, ↓reduceIte]
      generalize (if wantHost = true then addrinfo2hostent ai family else (st, none)) = hr
      obtain ⟨st2, host⟩ := hr
      simp only
      by_cases h2 : st2 ≠ .success ∧ st2 ≠ .enodata
      · simp [h2]
      · simp only [h2, ↓reduceIte]
        split
        · exact capacity_addrinfo2addrttl _ _ _
        · simp


/-- the assumption on `ares_dns_parse`: it fails only with a status of the malformed class
    (no allocation failure) -/
def ParseFailsMalformed (p : ParseResult) : Prop := ∀ e, p = .error e → e.isMalformed = true

/-- the parsed record has a question (`ares_dns_parse` rejects `qdcount ≠ 1`) -/
def HasQuestion (p : ParseResult) : Prop := ∀ r, p = .ok r → r.questions ≠ []

theorem malformed_iff_list {β : Type} (sel : RR → List β) (p : ParseResult) (hp : ParseFailsMalformed p) :
    (parseListReply sel p).1.isMalformed = true ↔ ∃ e, p = .error e := by
  cases p with
  | error e => simp [parseListReply, hp e rfl]
  | ok r =>
    unfold parseListReply
    simp only
    split <;> simp [Status.isMalformed]

theorem malformed_iff_addr (family : Nat) (hf : family = afINET ∨ family = afINET6) (p : ParseResult)
    (hp : ParseFailsMalformed p) (hq : HasQuestion p) (wantHost : Bool) (cap : Option Nat) :
    (parseAddrReply family p wantHost cap).status.isMalformed = true ↔ ∃ e, p = .error e := by
  cases p with
  | error e => simp [parseAddrReply, Status.compat_isMalformed, hp e rfl]
  | ok r =>
    obtain ⟨q, qs, hqs⟩ := List.exists_cons_of_ne_nil (hq r rfl)
    rcases parseAddrReply_status family hf r q qs hqs wantHost cap with h | h <;> simp [h, Status.isMalformed]

theorem malformed_iff_ns (p : ParseResult) (hp : ParseFailsMalformed p) (hq : HasQuestion p) :
    (parseNsReply p).1.isMalformed = true ↔ ∃ e, p = .error e := by
  cases p with
  | error e => simp [parseNsReply, Status.compat_isMalformed, hp e rfl]
  | ok r =>
    obtain ⟨q, qs, hqs⟩ := List.exists_cons_of_ne_nil (hq r rfl)
    rw [ns_same_records r q qs hqs]
    simp only [reduceCtorEq, exists_false, iff_false, Bool.not_eq_true]
    split <;> simp [Status.isMalformed]

theorem malformed_iff_ptr (p : ParseResult) (hp : ParseFailsMalformed p) (hq : HasQuestion p)
    (addr : Option Bytes) (addrlen family : Nat) :
    (parsePtrReplyBuf p addr addrlen family).1.isMalformed = true ↔ ∃ e, p = .error e := by
  cases p with
  | error e => simp [parsePtrReplyBuf, Status.compat_isMalformed, hp e rfl]
  | ok r =>
    obtain ⟨q, qs, hqs⟩ := List.exists_cons_of_ne_nil (hq r rfl)
    rw [ptr_same_records r q qs hqs]
    simp only [reduceCtorEq, exists_false, iff_false, Bool.not_eq_true]
    split <;> simp [Status.isMalformed]

/-  The full statement for SOA would be

      theorem malformed_iff_soa (p) (hp : ParseFailsMalformed p) :
          (parseSoaReply p).1.isMalformed = true ↔ ∃ e, p = .error e

    It is FALSE on the tree: `ares_parse_soa_reply` answers EBADRESP for a well-formed reply that has no
    SOA answer (`soa_malformed_iff_fails`).  What holds: -/
theorem soa_malformed_iff_partial (p : ParseResult) (hp : ParseFailsMalformed p) :
    (parseSoaReply p).1.isMalformed = true ↔
      (∃ e, p = .error e) ∨ (∃ r, p = .ok r ∧ (inAnswers r).filterMap (fun rr => soaFields rr.data) = []) := by
  cases p with
  | error e => simp [parseSoaReply, Status.compat_isMalformed, hp e rfl]
  | ok r =>
    rw [soa_same_records r]
    simp only [reduceCtorEq, exists_false, false_or, Except.ok.injEq, exists_eq_left']
    cases h : (inAnswers r).filterMap (fun rr => soaFields rr.data) with
    | nil => simp [Status.isMalformed]
    | cons s rest => simp [Status.isMalformed]

/-- a reply to an SOA question whose only answer is an MX record -/
def soaWitness : LRec :=
  { questions := [[101]], answers := [{ name := [101], cls := 1, ttl := 60, data := .mx 10 [109] }] }

/-- kernel-checked counterexample: the record parser accepted the message (`.ok soaWitness`), yet the
    status is of the malformed class -/
theorem soa_malformed_iff_fails : (parseSoaReply (.ok soaWitness)).1.isMalformed = true := by decide

/-- the functions with the "compatibility" mapping never return EBADNAME -/
theorem ebadname_is_mapped (p : ParseResult) (hq : HasQuestion p) :
    (∀ family wantHost cap, family = afINET ∨ family = afINET6 →
      (parseAddrReply family p wantHost cap).status ≠ .ebadname) ∧
    (parseNsReply p).1 ≠ .ebadname ∧
    (∀ addr addrlen family, (parsePtrReplyBuf p addr addrlen family).1 ≠ .ebadname) ∧
    (parseSoaReply p).1 ≠ .ebadname := by
  have hcompat : ∀ s : Status, s.compat ≠ .ebadname := by intro s; cases s <;> simp [Status.compat]
  cases p with
  | error e =>
    refine ⟨?_, ?_, ?_, ?_⟩
    · intro f w c _; simpa [parseAddrReply] using hcompat e
    · simpa [parseNsReply] using hcompat e
    · intro a l f; simpa [parsePtrReplyBuf] using hcompat e
    · simpa [parseSoaReply] using hcompat e
  | ok r =>
    obtain ⟨q, qs, hqs⟩ := List.exists_cons_of_ne_nil (hq r rfl)
    refine ⟨?_, ?_, ?_, ?_⟩
    · intro f w c hf
      rcases parseAddrReply_status f hf r q qs hqs w c with h | h <;> simp [h]
    · rw [ns_same_records r q qs hqs]; simp only; split <;> simp
    · intro a l f; rw [ptr_same_records r q qs hqs]; simp only; split <;> simp
    · rw [soa_same_records r]; split <;> simp

/-! ## non-vacuity: the models compute the expected results on a concrete reply -/

/-- `www -> c1 -> c2`, two A records (TTL 300 and 20), one AAAA, one A in class CHAOS -/
def sample : LRec :=
  { questions := [[119]],
    answers := [
      { name := [119], cls := 1, ttl := 100, data := .cname [99, 49] },
      { name := [99, 49], cls := 1, ttl := 50, data := .cname [99, 50] },
      { name := [99, 50], cls := 1, ttl := 300, data := .a [1, 2, 3, 4] },
      { name := [99, 50], cls := 3, ttl := 300, data := .a [9, 9, 9, 9] },
      { name := [99, 50], cls := 1, ttl := 20, data := .a [5, 6, 7, 8] },
      { name := [99, 50], cls := 1, ttl := 7, data := .aaaa [0, 0, 0, 0, 0, 0, 0, 0, 0, 0, 0, 0, 0, 0, 0, 1] },
      { name := [119], cls := 1, ttl := 9, data := .mx 10 [109] } ] }

example : parseAReply (.ok sample) true (some 8) =
    { status := .success,
      host := some { name := some [99, 50], aliases := [[119], [99, 49]], addrtype := 2, length := 4,
                     addrs := [[1, 2, 3, 4], [5, 6, 7, 8]] },
      ttls := [([1, 2, 3, 4], 50), ([5, 6, 7, 8], 20)] } := by decide

example : (parseAReply (.ok sample) true (some 1)).ttls = [([1, 2, 3, 4], 50)] := by decide
example : parseMxReply (.ok sample) = (.success, [{ host := [109], priority := 10 }]) := by decide
example : parseSrvReply (.ok sample) = (.success, []) := by decide
example : parseMxReply (.error .ebadname) = (.ebadname, []) := by decide
example : (parseAReply (.error .ebadname) true (some 3)).status = .ebadresp := by decide
example : (parseSoaReply (.ok sample)).1 = .ebadresp := by decide
example : ParseFailsMalformed (.error .ebadresp) := by intro e h; cases h; rfl
example : HasQuestion (.ok sample) := by intro r h; cases h; simp [sample]

end Cares.C18
