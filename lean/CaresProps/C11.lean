import CaresProps.C07b
import CaresModel.Generated.LockTable
/-!
# C11 — concurrent use of one channel (partial: lock discipline, lock order, wake-ups, wait-empty)

This file holds the table obligations and the C11 names of the `Event` theorems.  The larger parts of C11 are
`CaresProps/C11b.lean` (ares_reinit() / ares_destroy() and the reload thread cannot deadlock, any number of callers) and
`CaresProps/C11c.lean` (the wait loop of ares_queue_wait_empty()).

* Lock order / deadlock freedom / lost wake-ups: theorems over the `Event` transition system, proved in
  `CaresProps.C07b` and re-exported here under C11 names.
* Lock discipline of the public entry points: `Generated.Lock.lockTable` is regenerated from the source on
  every run (tools/gen_locktable.py); the obligation below says every public function that dereferences the
  channel takes the channel lock, except the life-cycle functions and the callback setters that are
  documented to be called before the channel is shared.  A source change that removes the lock from an entry
  point breaks this obligation on the next run.

Not proved here (see DESIGN.md): absence of data races in the C memory model — that part of C11 is observed
(ThreadSanitizer on the stress harness), not proved.
-/
namespace Cares.C11
open Cares.Event Cares.Generated.Lock

/-- functions that access the channel without the lock by design: creation (no other thread can have the
    channel yet) and the callback / socket-function setters, which are called before the channel is shared -/
def preSharing : List String :=
  ["ares_init_options", "ares_set_socket_callback", "ares_set_socket_configure_callback",
   "ares_set_pending_write_cb", "ares_set_server_state_callback", "ares_set_socket_functions",
   "ares_set_socket_functions_ex"]

/-- **lock discipline** over the regenerated table -/
theorem entry_points_lock :
    ∀ e ∈ lockTable, e.2.2 = true → e.2.1 = true ∨ e.1 ∈ preSharing := by decide

/-- `ares_destroy` reads `channel->optmask` after its last unlock, when the event thread has been stopped and the
    channel is being torn down: by contract no other thread may use the channel any more -/
def outsideByDesign : List String := ["ares_destroy"]

/-- **no access outside the locked region**: every public function that takes the channel lock dereferences the
    channel only between its first lock and its last unlock (textual order, regenerated table).  The pinned tree had
    one violator, `ares_search`, which read `channel->flags` before locking (finding F45-C11, a data race with the
    reload thread confirmed by ThreadSanitizer, repaired). -/
theorem accesses_inside_lock : ∀ f ∈ outsideLock, f ∈ outsideByDesign := by decide

/-- the request entry points themselves are in the table and lock (guards against an extraction that
    silently finds nothing) -/
theorem table_covers_entry_points :
    ("ares_send_dnsrec", true, false) ∈ lockTable ∧ ("ares_cancel", true, true) ∈ lockTable ∧
    ("ares_process_fds", true, false) ∈ lockTable ∧ ("ares_save_options", true, false) ∈ lockTable ∧
    ("ares_reinit", true, true) ∈ lockTable := by decide

theorem lock_order_acyclic (s : St) (steps : List Step) (h : C07b.LockInv s) :
    C07b.LockInv (run s steps) ∧ (run s steps).lockOrderViolations = s.lockOrderViolations :=
  C07b.lock_order_acyclic s steps h

theorem lock_order_from_start (steps : List Step) : (run {} steps).lockOrderViolations = 0 :=
  (C07b.lock_order_acyclic {} steps C07b.lockInv_init).2

theorem event_thread_releases_mutex (s : St) (h : C07b.LockInv s) (hm : s.etHoldsM = true) :
    (step s .et).etHoldsM = false := C07b.et_releases_mutex s h hm

theorem no_lost_wakeup (steps : List Step) : Covered (run {} steps) :=
  C07b.sleep_covers_deadlines {} steps rfl C07b.covered_init

theorem wait_empty_sound (queries : Nat) (timedOut : Bool) :
    waitEmptyReturnsSuccess queries timedOut = true → queries = 0 := C07b.wait_empty_sound queries timedOut

end Cares.C11
