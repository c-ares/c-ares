import CaresLemmas.Float32
/-!
# C06 (arithmetic part) — every attempt waits between the base timeout and the configured maximum; no overflow, no UB

Model: `Cares.Proto.Timeout` (`ares_metrics_record`, `ares_metrics_server_timeout` — `src/lib/ares_metrics.c`;
`ares_calc_query_timeout` — static in `src/lib/ares_process.c`).  The retry budget, the non-counting resends and
termination are the channel model's part of C06 (`CaresProps/C06.lean`); this file is about the numbers.

* `server_timeout_bounds`, `server_timeout_eq` — the "configured / learned base timeout":
  `min (max (5·avg | configured) MIN_TIMEOUT_MS) cap`, `cap = maxtimeout` if set else `MAX_TIMEOUT_MS`;
* `timeout_bounds` — unless the shift is undefined, every attempt waits at least the base timeout and, when a maximum
  is configured, at most that maximum; `first_pass_exact`; `jitter_window` (the doubled value loses at most half);
* `no_ub` — on the tree under check (`CALC_SHIFT_GUARDED = 1`, regenerated) no input makes the shift undefined or lose
  bits, and the result fits a signed 64-bit number of milliseconds (what `timeadd` casts it to);
  `c06_f10_pinned_shift_ub`: on the pinned tree 64 rounds (tries ≥ 65 with one server) is undefined behaviour and
  57 rounds already wraps;
* `calc_samples_agree` — the model equals the compiled `ares_calc_query_timeout` on the generated sample grid
  (kernel evaluation, exact float model);
* the jitter is modelled exactly (`jitterExact`, IEEE binary32); the general theorems use the interval fact `JitOk`
  (`jit tp ≤ tp·(1/2 + 2⁻²⁴ + 2⁻⁴⁹)`), and `jitter_exact_ok` (from `jitterExact_ok` of `CaresLemmas/Float32.lean`) shows the exact function
  satisfies it for every 16-bit draw, so `timeout_bounds_tree` / `no_ub` hold for the function of the tree itself.
-/
namespace Cares.C06a
open Cares.Proto.Timeout Cares.Generated.Proto

/-- F10: the doubling saturates instead of shifting bits out / shifting by the word size -/
theorem calc_shift_guarded : CALC_SHIFT_GUARDED = 1 := by decide

theorem timeout_constants :
    0 < MIN_TIMEOUT_MS ∧ MIN_TIMEOUT_MS ≤ MAX_TIMEOUT_MS ∧ 0 < AVG_TIMEOUT_MULTIPLIER ∧ 0 < MIN_COUNT_FOR_AVERAGE ∧
    SIZE_T_BITS = 64 ∧ USHRT_MAX = 65535 ∧ METRIC_DIVISORS.length + 1 = METRIC_COUNT ∧
    METRIC_INCEPTION + 1 = METRIC_COUNT ∧ METRIC_DIVISORS.all (0 < ·) = true := by decide

/-- one generated sample `(channel timeout, maxtimeout, try_count, servers, 16-bit draw, value returned by the C code)` -/
def sampleOk (s : Nat × Nat × Nat × Nat × Nat × Nat) : Bool :=
  (calcQueryTimeout (serverTimeout Metrics.init s.1 s.2.1 1000) s.2.1 s.2.2.1 s.2.2.2.1 s.2.2.2.2.1).timeplus
    == s.2.2.2.2.2

/-- the model (exact binary32 jitter included) reproduces the compiled `ares_calc_query_timeout` on every sample the
    generator evaluated in this run -/
theorem calc_samples_agree : CALC_SAMPLES.all sampleOk = true := by decide +kernel

/-- upper clamp of `ares_metrics_server_timeout` -/
def cap (maxtimeout : Nat) : Nat := if maxtimeout ≠ 0 then maxtimeout else MAX_TIMEOUT_MS

/-- the learned (5 × average latency of the first usable bucket) or else configured timeout, before clamping -/
def rawTimeout (m : Metrics) (cfgTimeout : Nat) (nowSec : Int) : Nat :=
  if avgGo nowSec 0 m = 0 then cfgTimeout else avgGo nowSec 0 m

theorem server_timeout_eq (m : Metrics) (cfgTimeout maxtimeout : Nat) (nowSec : Int) :
    serverTimeout m cfgTimeout maxtimeout nowSec =
      min (max (rawTimeout m cfgTimeout nowSec) MIN_TIMEOUT_MS) (cap maxtimeout) := by
  unfold serverTimeout rawTimeout cap
  simp only []
  generalize (if avgGo nowSec 0 m = 0 then cfgTimeout else avgGo nowSec 0 m) = t1
  generalize (if maxtimeout ≠ 0 then maxtimeout else MAX_TIMEOUT_MS) = c
  have e : (if t1 < MIN_TIMEOUT_MS then MIN_TIMEOUT_MS else t1) = max t1 MIN_TIMEOUT_MS := by
    by_cases h : t1 < MIN_TIMEOUT_MS
    · rw [if_pos h, Nat.max_eq_right (Nat.le_of_lt h)]
    · rw [if_neg h, Nat.max_eq_left (Nat.le_of_not_lt h)]
  rw [e]
  by_cases h : max t1 MIN_TIMEOUT_MS > c
  · rw [if_pos h, Nat.min_eq_right (Nat.le_of_lt h)]
  · rw [if_neg h, Nat.min_eq_left (Nat.le_of_not_lt h)]

/-- **base timeout**: never above the configured maximum (or 5000 ms if none), never below 250 ms unless the
    configured maximum itself is lower -/
theorem server_timeout_bounds (m : Metrics) (cfgTimeout maxtimeout : Nat) (nowSec : Int) :
    min MIN_TIMEOUT_MS (cap maxtimeout) ≤ serverTimeout m cfgTimeout maxtimeout nowSec ∧
    serverTimeout m cfgTimeout maxtimeout nowSec ≤ cap maxtimeout := by
  rw [server_timeout_eq]; omega

/-- failed queries and error answers do not enter the latency statistics -/
theorem record_ignores_failures (m : Metrics) (statusOk : Bool) (rcode : Nat) (ss : Int) (su : Nat) (ns : Int) (nu : Nat)
    (h : statusOk = false ∨ (rcode ≠ RCODE_NOERROR ∧ rcode ≠ RCODE_NXDOMAIN)) :
    m.record statusOk rcode ss su ns nu = m := by
  unfold Metrics.record
  rcases h with h | h
  · simp [h]
  · by_cases hs : statusOk = true
    · simp [hs, h]
    · simp [hs]

theorem recordGo_length (ns : Int) (q : Nat) (i : Nat) (bs : List Bucket) : (recordGo ns q i bs).length = bs.length := by
  induction bs generalizing i with
  | nil => rfl
  | cons b bs ih => simp [recordGo, ih]

theorem record_length (m : Metrics) (statusOk : Bool) (rcode : Nat) (ss : Int) (su : Nat) (ns : Int) (nu : Nat) :
    (m.record statusOk rcode ss su ns nu).length = m.length := by
  unfold Metrics.record
  split
  · rfl
  · split
    · rfl
    · simp only []; exact recordGo_length _ _ _ _

/-- the jitter never takes away more than the interval allows -/
def JitOk (jit : Nat → Nat) : Prop := ∀ tp, jitterOk tp (jit tp)

/-- the exact binary32 jitter of the code lies in the interval, for every 16-bit random number -/
theorem jitter_exact_ok (r : Nat) (hr : r ≤ USHRT_MAX) : JitOk (fun tp => jitterExact tp r) :=
  fun tp => jitterExact_ok tp r hr

theorem preJitter_le_max (g : Bool) (timeout maxtimeout rounds : Nat) (h : maxtimeout ≠ 0) :
    (preJitter g timeout maxtimeout rounds).1 ≤ maxtimeout := by
  unfold preJitter; simp only []; split <;> omega

/-- with a jitter inside its interval `calcWith` is the closed form `calcWith_eq`, for an amount `d` of the interval -/
theorem calcWith_jitOk {jit : Nat → Nat} (hj : JitOk jit) (g : Bool) (timeout maxtimeout tryCount : Nat) {nservers : Nat}
    (hn : nservers ≠ 0) :
    ∃ d, jitterOk (preJitter g timeout maxtimeout (tryCount / nservers)).1 d ∧
      calcWith g jit timeout maxtimeout tryCount nservers =
        ⟨max timeout ((preJitter g timeout maxtimeout (tryCount / nservers)).1 - d),
          (preJitter g timeout maxtimeout (tryCount / nservers)).2.1,
          (preJitter g timeout maxtimeout (tryCount / nservers)).2.2, decide (tryCount / nservers > 0)⟩ := by
  have hd : jitterOk (preJitter g timeout maxtimeout (tryCount / nservers)).1
      (if tryCount / nservers > 0 then jit (preJitter g timeout maxtimeout (tryCount / nservers)).1 else 0) := by
    split
    · exact hj _
    · exact Nat.zero_le _
  refine ⟨_, hd, calcWith_eq hn rfl rfl ?_⟩
  unfold jitterOk at hd
  omega

/-- **timeout bounds.**  For every base timeout, maximum, try count, number of servers and jitter within its interval:
    unless the shift count reaches the word size (undefined behaviour, `ub`), the attempt waits at least the base
    timeout, and at most the configured maximum when one is set (the base timeout never exceeds it,
    `server_timeout_bounds`). -/
theorem timeout_bounds (g : Bool) (jit : Nat → Nat) (hj : JitOk jit) (timeout maxtimeout tryCount nservers : Nat)
    (hn : 0 < nservers) (hb : maxtimeout ≠ 0 → timeout ≤ maxtimeout) :
    let o := calcWith g jit timeout maxtimeout tryCount nservers
    o.ub = false → timeout ≤ o.timeplus ∧ (maxtimeout ≠ 0 → o.timeplus ≤ maxtimeout) := by
  intro o _
  obtain ⟨d, _, e⟩ := calcWith_jitOk hj g timeout maxtimeout tryCount (Nat.pos_iff_ne_zero.mp hn)
  simp only [o, e]
  refine ⟨Nat.le_max_left _ _, fun hm => ?_⟩
  have := preJitter_le_max g timeout maxtimeout (tryCount / nservers) hm
  have := hb hm
  omega

/-- the whole pipeline: base timeout from the metrics, then `ares_calc_query_timeout` -/
theorem timeout_bounds_full (g : Bool) (jit : Nat → Nat) (hj : JitOk jit) (m : Metrics) (cfgTimeout maxtimeout : Nat)
    (nowSec : Int) (tryCount nservers : Nat) (hn : 0 < nservers) :
    let base := serverTimeout m cfgTimeout maxtimeout nowSec
    let o := calcWith g jit base maxtimeout tryCount nservers
    o.ub = false → base ≤ o.timeplus ∧ (maxtimeout ≠ 0 → o.timeplus ≤ maxtimeout) := by
  intro base o
  apply timeout_bounds g jit hj base maxtimeout tryCount nservers hn
  intro hm
  have := (server_timeout_bounds m cfgTimeout maxtimeout nowSec).2
  unfold cap at this; simp only [hm, ne_eq, not_false_eq_true, ↓reduceIte] at this
  exact this

/-- the first pass through the server list waits exactly the base timeout: no doubling, no randomness -/
theorem first_pass_exact (g : Bool) (jit : Nat → Nat) (timeout maxtimeout tryCount nservers : Nat)
    (h : tryCount < nservers) (hb : maxtimeout ≠ 0 → timeout ≤ maxtimeout) :
    calcWith g jit timeout maxtimeout tryCount nservers = ⟨timeout, false, false, false⟩ :=
  calcWith_first (by omega) (Nat.div_eq_of_lt h) hb

/-- from the second pass on the value is the doubled (capped) timeout minus at most (a hair more than) half of it, and
    never more than it -/
theorem jitter_window (g : Bool) (jit : Nat → Nat) (hj : JitOk jit) (timeout maxtimeout tryCount nservers : Nat)
    (hn : 0 < nservers) :
    let p := (preJitter g timeout maxtimeout (tryCount / nservers)).1
    let o := calcWith g jit timeout maxtimeout tryCount nservers
    o.timeplus ≤ max p timeout ∧ (p - o.timeplus) * 2 ^ 49 ≤ p * (2 ^ 24 + 1) ^ 2 := by
  obtain ⟨d, hd, e⟩ := calcWith_jitOk hj g timeout maxtimeout tryCount (Nat.pos_iff_ne_zero.mp hn)
  simp only [e]
  generalize (preJitter g timeout maxtimeout (tryCount / nservers)).1 = p at hd ⊢
  refine ⟨by omega, Nat.le_trans (Nat.mul_le_mul_right _ ?_) hd⟩
  omega

theorem word_eq : WORD = 2 ^ 64 := by decide
theorem max_timeplus_eq : MAX_TIMEPLUS = 2 ^ 63 - 1 := by decide

theorem shiftStep_guarded (timeout rounds : Nat) :
    (shiftStep true timeout rounds).2.1 = false ∧ (shiftStep true timeout rounds).2.2 = false ∧
    ((shiftStep true timeout rounds).1 ≤ MAX_TIMEPLUS ∨ rounds = 0) := by
  unfold shiftStep
  by_cases h0 : rounds = 0
  · simp [h0]
  · simp only [h0, ↓reduceIte, true_and]
    left
    split
    · exact Nat.le_refl _
    · rename_i h
      have h1 : ¬ timeout > MAX_TIMEPLUS >>> rounds := fun hh => h (Or.inr hh)
      have h2 : timeout ≤ MAX_TIMEPLUS / 2 ^ rounds := by
        rw [← Nat.shiftRight_eq_div_pow]; omega
      rw [Nat.shiftLeft_eq]
      calc timeout * 2 ^ rounds ≤ MAX_TIMEPLUS / 2 ^ rounds * 2 ^ rounds := Nat.mul_le_mul_right _ h2
        _ ≤ MAX_TIMEPLUS := Nat.div_mul_le_self _ _

/-- **no UB, no overflow** with the guarded doubling: for *every* base timeout below 2⁶³ (any legal option value is far
    below), every maximum, every try count (hence every `tries`), every number of servers and every jitter within its
    interval, the shift is defined, no bits are lost, the subtraction does not wrap, and the result fits the signed
    64-bit type `timeadd` converts it to -/
theorem no_ub_guarded (jit : Nat → Nat) (hj : JitOk jit) (timeout maxtimeout tryCount nservers : Nat)
    (ht : timeout ≤ MAX_TIMEPLUS) :
    let o := calcWith true jit timeout maxtimeout tryCount nservers
    o.ub = false ∧ o.ovf = false ∧ o.timeplus ≤ MAX_TIMEPLUS := by
  intro o
  by_cases hn : nservers = 0
  · simp [o, calcWith, hn]
  · obtain ⟨d, _, e⟩ := calcWith_jitOk hj true timeout maxtimeout tryCount hn
    obtain ⟨s1, s2, s3⟩ := shiftStep_guarded timeout (tryCount / nservers)
    simp only [o, e]
    refine ⟨s1, s2, ?_⟩
    show max timeout ((if _ then maxtimeout else (shiftStep true timeout (tryCount / nservers)).1) - d) ≤ _
    rcases s3 with s3 | s3
    · split <;> omega
    · have : (shiftStep true timeout (tryCount / nservers)).1 = timeout := by simp [shiftStep, s3]
      rw [this]; split <;> omega

/-- **no_ub** for the tree under check: `calcQueryTimeout` uses the guarded doubling (`calc_shift_guarded`) and the exact
    binary32 jitter: for every base timeout below 2⁶³, every maximum, try count, number of servers and 16-bit draw the
    shift is defined, no bits are lost, the jitter subtraction does not wrap and the result fits `timeadd`'s signed type -/
theorem no_ub (timeout maxtimeout tryCount nservers r : Nat) (ht : timeout ≤ MAX_TIMEPLUS) (hr : r ≤ USHRT_MAX) :
    let o := calcQueryTimeout timeout maxtimeout tryCount nservers r
    o.ub = false ∧ o.ovf = false ∧ o.timeplus ≤ MAX_TIMEPLUS := by
  unfold calcQueryTimeout
  rw [calc_shift_guarded]
  exact no_ub_guarded _ (jitter_exact_ok r hr) timeout maxtimeout tryCount nservers ht

/-- **timeout bounds** for the function of the tree under check, from configuration to result: with the base timeout
    `ares_metrics_server_timeout` yields (any latency history, any configured timeout and maximum, any instant), any try
    count, any positive number of servers and any 16-bit draw: base ≤ result, and result ≤ maxtimeout when one is set -/
theorem timeout_bounds_tree (m : Metrics) (cfgTimeout maxtimeout : Nat) (nowSec : Int) (tryCount nservers r : Nat)
    (hn : 0 < nservers) (hr : r ≤ USHRT_MAX) :
    let base := serverTimeout m cfgTimeout maxtimeout nowSec
    let o := calcQueryTimeout base maxtimeout tryCount nservers r
    base ≤ o.timeplus ∧ (maxtimeout ≠ 0 → o.timeplus ≤ maxtimeout) := by
  intro base o
  have hb := timeout_bounds_full (CALC_SHIFT_GUARDED == 1) (fun tp => jitterExact tp r) (jitter_exact_ok r hr) m
    cfgTimeout maxtimeout nowSec tryCount nservers hn
  simp only [] at hb
  apply hb
  -- the shift is never undefined on this tree
  have hne : nservers ≠ 0 := by omega
  rw [calc_shift_guarded]
  simp only [calcWith, hne, ↓reduceIte, preJitter, beq_self_eq_true]
  exact (shiftStep_guarded _ (tryCount / nservers)).1

/-- F10 on the pinned tree (unguarded `timeplus <<= rounds`): tries = 65 with one server reaches 64 rounds — undefined
    behaviour —, and 57 rounds with the 250 ms minimum already shifts bits out of the word -/
theorem c06_f10_pinned_shift_ub :
    (calcWith false (fun _ => 0) 2000 0 64 1).ub = true ∧ (calcWith false (fun _ => 0) 250 0 57 1).ovf = true ∧
    (calcWith true (fun _ => 0) 2000 0 64 1) = ⟨MAX_TIMEPLUS, false, false, true⟩ := by decide

/-! ## non-vacuity -/

example : JitOk (fun tp => tp / 2) := by intro tp; show tp / 2 * 2 ^ 49 ≤ tp * (2 ^ 24 + 1) ^ 2; omega

example : (calcQueryTimeout 500 0 1 1 45344).timeplus = 655 ∧ (calcQueryTimeout 500 0 3 1 32124).timeplus = 3020 ∧
    (calcQueryTimeout 300 300 5 1 65535) = ⟨300, false, false, true⟩ := by decide +kernel

example : serverTimeout Metrics.init 2000 0 1000 = 2000 ∧ serverTimeout Metrics.init 100 0 1000 = 250 ∧
    serverTimeout Metrics.init 9000 0 1000 = 5000 ∧ serverTimeout Metrics.init 9000 20000 1000 = 9000 ∧
    serverTimeout (((Metrics.init.record true 0 999 900000 1000 0).record true 0 999 900000 1000 0).record true 0
      999 900000 1000 0) 2000 0 1000 = 500 := by decide +kernel

end Cares.C06a
