import CaresLemmas.ChanSockFrame
import CaresLemmas.ChanSockAnswer
import CaresLemmas.ChanAlignTrace
/-!
# C20 — the outcome does not depend on how the transport chops or delays bytes

Channel model (`Cares.Chan`): a TCP connection's inbound side is `VSock.stream` (absolute end offset of every message
the peer has written, 2-byte length prefix included), `VSock.spos` (bytes read so far) and `Conn.inBytes` (bytes still in
in_buf); `nextTcpFrame` is `read_answers`' "tag, fetch length, fetch message or roll back".  The outbound side is
`Conn.out` (queued frames), `Conn.outOff` (bytes of the first frame already written); `advanceOut` is what
`ares_conn_flush` does with the byte count the socket accepted, and `txs` records every whole message the virtual server
has received.  Pure list-level functions (`drain`, `feed`, `advQ`, `advSeq`; `CaresLemmas/ChanSockFrame.lean`) state
the invariance; the `…_tie` theorems connect them to the procedures of the model.
-/
namespace Cares.C20
open Cares Cares.Chan

/-- **`read_segmentation_invariance`.**  The peer has written `stream` (well-formed: each message ends `2 + len` bytes
    after its predecessor).  Reading it in chunks of *any* sizes — one `read_answers` run (`drain`) per chunk, each run
    taking frames with `nextTcpFrame` and shrinking in_buf by `2 + len` per frame — hands to `process_answer` exactly the
    messages whose last byte lies within the bytes read so far, in stream order. -/
theorem read_segmentation_invariance (stream : List (Nat × Reply)) (h : WfStream 0 stream) (chunks : List Nat) :
    feed stream chunks 0 0 = arrived stream chunks.sum :=
  feed_arrived h chunks

/-- hence two segmentations of the same bytes (down to one byte per read) deliver the same messages in the same
    order -/
theorem read_segmentation_independent (stream : List (Nat × Reply)) (h : WfStream 0 stream) (chunks chunks' : List Nat)
    (hsum : chunks.sum = chunks'.sum) : feed stream chunks 0 0 = feed stream chunks' 0 0 :=
  feed_segmentation_independent h chunks chunks' hsum

/-- the general form, from any position reached by earlier reads: `done` are the messages already taken (they end at or
    before the consumed offset `spos - buffered`), `todo` the others; nothing complete is waiting (`Drained`, the state
    `read_answers` leaves).  What is delivered is the complete prefix of `todo`, whatever the chunk sizes. -/
theorem read_segmentation_invariance_from (stream : List (Nat × Reply)) (chunks : List Nat)
    (todo done : List (Nat × Reply)) (spos buffered : Nat) (hs : Split stream (spos - buffered) done todo)
    (hb : buffered ≤ spos) (hd : Drained spos todo) (hl : todo.length ≤ stream.length) :
    feed stream chunks spos buffered = (complete (spos + chunks.sum) (spos - buffered) todo).1 :=
  feed_spec chunks todo done spos buffered hs hb hd hl

/-- one `read_answers` run: the complete messages are delivered, the incomplete tail stays buffered -/
theorem read_answers_delivers_complete (stream : List (Nat × Reply)) (h : WfStream 0 stream) (spos : Nat) :
    drain stream spos (stream.length + 1) spos = (arrived stream spos, spos - (complete spos 0 stream).2) :=
  drain_rest h spos

/-- **tie**: the model's `read_answers` on a TCP connection takes `nextTcpFrame stream spos inBytes`, removes
    `2 + len` bytes from in_buf, calls `process_answer` with that message and loops — it computes `drain` -/
theorem read_answers_tie (go : Call → St → St × Ret) (fd : Nat) (s : St) (c : Conn) (v : VSock)
    (hc : s.conn? fd = some c) (hv : s.sock? fd = some v) (ht : c.tcp = true) :
    bodyReadAnswers go fd s =
      match nextTcpFrame v.stream v.spos c.inBytes with
      | none => go .flushRequeue s
      | some r =>
        let s := s.modConn fd fun c =>
          { c with inMsgs := c.inMsgs.drop 1, inBytes := c.inBytes - (2 + r.len) }
        let (s, st) := go (.processAnswer fd r) s
        match s.conn? fd with
        | none => go .flushRequeue s
        | some c' =>
          if c'.unlinked then go .flushRequeue s else
          if st != .ok then
            let (s, _) := go (.connError fd true st) s
            go .flushRequeue s
          else go (.readAnswers fd) s :=
  bodyReadAnswers_tcp go fd s c v hc hv ht

/-- **tie**: `read_conn_packets` on a TCP connection with data available reads one chunk of `n` bytes: `spos` and in_buf
    grow by `n`, then `read_answers` runs (`feed`'s step) -/
theorem read_conn_packets_tie (go : Call → St → St × Ret) (fd : Nat) (s : St) (c : Conn) (v : VSock)
    (hc : s.conn? fd = some c) (hv : s.sock? fd = some v) (hul : c.unlinked = false) (ht : c.tcp = true)
    (hf : (s.fault "recvfrom").1 = none) (hav : v.slen - v.spos ≠ 0) (n : Nat) (chunks : List Nat)
    (hn : (n, chunks) = match v.chunks with
      | [] => (v.slen - v.spos, [])
      | k :: r => (min k (v.slen - v.spos), r))
    (hnz : ∀ k r, v.chunks = k :: r → k ≠ 0) :
    bodyProcessRead go fd s = go (.readAnswers fd)
      ((((s.fault "recvfrom").2.slog fd "recv").modSock fd fun v => { v with chunks := chunks, spos := v.spos + n }).modConn fd
        fun c => { c with inBytes := c.inBytes + n, connected := true }) :=
  bodyProcessRead_tcp_chunk go fd s c v hc hv hul ht hf hav n chunks hn hnz

/-- **`write_segmentation_invariance`** (model level).  Connection `fd` has frames `c.out` queued with `c.outOff` bytes of
    the first already written.  Whatever pattern `ns` of partial acceptances the socket shows (not accepting more than
    is queued), afterwards
    * the whole messages the virtual server has received (`txs`) are the old ones followed by exactly the frames
      `advQ` completes for the total `ns.sum` — by `frames_whole_in_order` a prefix of the queue, each frame once, in
      queue order, namely those whose last byte lies within the accepted bytes;
    * the connection's queue and offset are what accepting `ns.sum` bytes in one piece leaves. -/
theorem write_segmentation_invariance (fd : Nat) (ns : List Nat) (s : St) (c : Conn) (hc : s.conn? fd = some c)
    (hok : OutOk c.out c.outOff) (hle : c.outOff + ns.sum ≤ framesLen c.out) :
    (advanceSeq fd s ns).conn? fd =
        some { c with out := (advQ c.out c.outOff ns.sum).2.1, outOff := (advQ c.out c.outOff ns.sum).2.2 } ∧
      (advanceSeq fd s ns).txs.map Tx.view =
        s.txs.map Tx.view ++ (advQ c.out c.outOff ns.sum).1.map (OutFrame.view fd) :=
  advanceSeq_invariant fd ns s c hc hok hle

/-- **`frames_whole_in_order`**: the frames completed by accepting `n` bytes, followed by the frames left, are the
    queue (nothing lost, duplicated or reordered); the bytes of the completed frames plus the new offset are the old
    offset plus `n` (the bytes at the server are a prefix of the concatenation of the queued frames); the completed
    frames are exactly those whose last byte has been accepted (the next frame's last byte has not). -/
theorem frames_whole_in_order (out : List OutFrame) (off n : Nat) (hok : OutOk out off)
    (hle : off + n ≤ framesLen out) :
    (advQ out off n).1 ++ (advQ out off n).2.1 = out ∧
      framesLen (advQ out off n).1 + (advQ out off n).2.2 = off + n ∧
      framesLen (advQ out off n).1 ≤ off + n ∧
      (∀ g ∈ (advQ out off n).2.1.head?, off + n < framesLen (advQ out off n).1 + g.len) ∧
      OutOk (advQ out off n).2.1 (advQ out off n).2.2 :=
  ⟨advQ_append out off n, (advQ_bytes out off n hok hle).1, (advQ_done_iff out off n hok hle).1,
    (advQ_done_iff out off n hok hle).2, (advQ_bytes out off n hok hle).2⟩

/-- accepting `a` then `b` bytes is accepting `a + b` bytes -/
theorem partial_write_invariance (out : List OutFrame) (off : Nat) (ns : List Nat) (hok : OutOk out off)
    (hle : off + ns.sum ≤ framesLen out) : advSeq out off ns = advQ out off ns.sum :=
  advSeq_eq_advQ ns out off hok hle

/-- once the accepted total reaches the queued total every frame has arrived and the queue is empty -/
theorem all_frames_arrive (out : List OutFrame) (off : Nat) (hok : OutOk out off) :
    advQ out off (framesLen out - off) = (out, [], 0) :=
  advQ_all out off hok

/-- **tie**: `advanceOut` (the model of the consume step of `ares_conn_flush`) is `advQ` on the connection's queue and
    on the transmissions recorded -/
theorem advanceOut_tie (fuel fd : Nat) (s : St) (n : Nat) (c : Conn) (hc : s.conn? fd = some c)
    (hf : c.out.length < fuel) :
    (advanceOut fuel fd s n).conn? fd =
        some { c with out := (advQ c.out c.outOff n).2.1, outOff := (advQ c.out c.outOff n).2.2 } ∧
      (advanceOut fuel fd s n).txs.map Tx.view =
        s.txs.map Tx.view ++ (advQ c.out c.outOff n).1.map (OutFrame.view fd) :=
  advanceOut_spec fuel fd s n c hc hf

/-- **tie**: `ares_conn_flush` on a connected TCP connection whose socket accepts `n` bytes -/
theorem flush_tie (go : Call → St → St × Ret) (fd : Nat) (s : St) (c : Conn) (n : Nat)
    (hc : s.conn? fd = some c) (hout : c.out ≠ []) (ht : c.tcp = true) (hcon : c.connected = true)
    (hf : (s.fault "sendto").1 = none)
    (hacc : (tcpAccept (((s.fault "sendto").2.sock? fd).getD default) (outBytes c)).1 = some n) :
    (bodyFlush go fd s).1.txs.map Tx.view = s.txs.map Tx.view ++ (advQ c.out c.outOff n).1.map (OutFrame.view fd) ∧
      ((bodyFlush go fd s).1.conn? fd).map (fun c => (c.out, c.outOff)) = some (advQ c.out c.outOff n).2 :=
  bodyFlush_tcp_accept go fd s c n hc hout ht hcon hf hacc

/-- **`tc_udp_retried_over_tcp_unless_igntc`.**  An accepted response with TC set that arrived over UDP, with
    `ARES_FLAG_IGNTC` off (and not a FORMERR, which takes the EDNS-downgrade path): no recursive call is made at all —
    so nothing is delivered and nothing cached — the query (`key`) is switched to TCP and its id queued for the
    re-send that `read_answers` performs when its loop ends (`requeued_ids_are_resent`), which goes to the server's TCP
    connection (`resend_uses_tcp`). -/
theorem tc_udp_retried_over_tcp_unless_igntc (go : Call → St → St × Ret) (fd : Nat) (r : Reply) (s : St) (c : Conn)
    (key : Nat) (hc : s.conn? fd = some c) (hk : acceptKey s fd r = some key) (htc : r.tc = true)
    (hudp : c.tcp = false) (hign : s.cfg.igntc = false) (hrc : r.rcode ≠ 1) :
    ∃ s' q, bodyProcessAnswer go fd r s = (s', .ok) ∧ s.query? key = some q ∧
      s'.requeueArr = s.requeueArr ++ [(q.qid, none)] ∧
      s'.accepted = s.accepted ++ [(fd, key, r)] ∧
      (∀ q' ∈ s'.qs, q'.key = key → q'.usingTcp = true) ∧
      s'.doneToks = s.doneToks ∧ s'.cache = s.cache :=
  bodyProcessAnswer_tc go fd r s c key hc hk htc hudp hign hrc

theorem requeued_ids_are_resent (go : Call → St → St × Ret) (s : St) (qid : Nat) (srv : Option Nat)
    (rest : List (Nat × Option Nat)) (id key : Nat) (hr : s.requeueArr = (qid, srv) :: rest)
    (hf : s.byQid.find? (·.1 == qid) = some (id, key)) :
    bodyFlushRequeue go s = go .flushRequeue (go (.sendQuery srv key) { s with requeueArr := rest }).1 :=
  bodyFlushRequeue_resends go s qid srv rest id key hr hf

theorem resend_uses_tcp (s : St) (q : Query) (srv : Server) (h : q.usingTcp = true) :
    fetchConn s q srv = srv.tcpConn :=
  fetchConn_tcp s q srv h

/-- … unless truncation is ignored: then a (NOERROR) truncated response is used as it is -/
theorem tc_ignored_with_igntc (go : Call → St → St × Ret) (fd : Nat) (r : Reply) (s : St) (c : Conn) (key : Nat)
    (hc : s.conn? fd = some c) (hk : acceptKey s fd r = some key) (hign : s.cfg.igntc = true) (hrc : r.rcode = 0) :
    ∃ s', bodyProcessAnswer go fd r s = ((go (.endQuery (some c.srv) key .ok (some r)) s').1, .ok) ∧
      s'.accepted = s.accepted ++ [(fd, key, r)] :=
  bodyProcessAnswer_igntc go fd r s c key hc hk hign hrc

/-- **`zero_length_datagram_harmless`**: `process_answer` returns success and changes nothing -/
theorem zero_length_datagram_harmless (go : Call → St → St × Ret) (fd : Nat) (r : Reply) (s : St) (c : Conn)
    (hc : s.conn? fd = some c) (he : r.empty = true) : bodyProcessAnswer go fd r s = (s, .ok) :=
  bodyProcessAnswer_empty go fd r s c hc he

/-! ## non-vacuity (kernel-evaluated) -/

def m (n len : Nat) : Reply := { id := n, name := "", qtype := 1, qclass := 1, rcode := 0, len := len }
/-- three messages of 30, 12 and 50 bytes: end offsets 32, 46, 98 -/
def stream3 : List (Nat × Reply) := [(32, m 1 30), (46, m 2 12), (98, m 3 50)]
example : WfStream 0 stream3 := ⟨by decide, by decide, by decide, trivial⟩
/-- byte-by-byte, in two odd pieces, or at once: the same messages -/
example : feed stream3 (List.replicate 98 1) 0 0 = [m 1 30, m 2 12, m 3 50] := by decide
example : feed stream3 [31, 67] 0 0 = [m 1 30, m 2 12, m 3 50] := by decide
example : feed stream3 [98] 0 0 = [m 1 30, m 2 12, m 3 50] := by decide
/-- 97 of 98 bytes: the third message is still incomplete -/
example : feed stream3 [40, 57] 0 0 = [m 1 30, m 2 12] := by decide

def fr (k len : Nat) : OutFrame :=
  { len := len, key := k, qid := k, name := "", qtype := 1, qclass := 1, rd := true, edns := false, cookie := "-" }
example : OutOk [fr 1 31, fr 2 40] 0 := by
  refine ⟨?_, ?_, ?_⟩ <;> decide
example : ((advSeq [fr 1 31, fr 2 40] 0 [10, 25, 36]).1.map (·.key), (advSeq [fr 1 31, fr 2 40] 0 [10, 25, 36]).2.2) =
    ([1, 2], 0) := by decide
example : ((advSeq [fr 1 31, fr 2 40] 0 [10, 25]).1.map (·.key), (advSeq [fr 1 31, fr 2 40] 0 [10, 25]).2.2) =
    ([1], 4) := by decide

/-! model-level runs: two queries over one TCP connection (`ARES_FLAG_USEVC`) -/

def t0 : St := { alive := true, cfg := { flags := 1 }, servers := [{ id := 0, addr := "a" }], obs := { rnd2 := [7, 8] } }
def t1 : St := (exec 50 (.sendNolock none false false { name := "", qtype := 1 } (.user 1) []) t0).1
/-- both frames are queued on the (not yet connected) TCP connection -/
def t2 : St := (exec 50 (.sendNolock none false false { name := "", qtype := 1 } (.user 2) []) t1).1
def writes : Nat → St → St
  | 0, s => s
  | n + 1, s => writes n (exec 50 (.processWrite 100) s).1
def withWl (s : St) (wl : List Nat) : St := s.modSock 100 fun v => { v with wl := wl }
/-- any acceptance pattern (here: all at once; 5 + 20 + rest; byte-wise start, a would-block, then the rest): the
    server receives the same two whole messages in the same order -/
example : (writes 1 t2).txs.map Tx.view = [(100, true, 0, 7, 17), (100, true, 1, 8, 17)] := by decide
example : (writes 3 (withWl t2 [5, 20])).txs.map Tx.view = (writes 1 t2).txs.map Tx.view := by decide
example : (writes 5 (withWl t2 [1, 1, 0, 18])).txs.map Tx.view = (writes 1 t2).txs.map Tx.view := by decide
/-- after 5 + 20 of 38 bytes only the first message is complete -/
example : (writes 2 (withWl t2 [5, 20])).txs.map Tx.view = [(100, true, 0, 7, 17)] := by decide

def t3 : St := writes 1 t2
def r7 : Reply := { id := 7, name := "", qtype := 1, qclass := 1, rcode := 0, an := 1, ttls := [300], len := 30 }
def r8 : Reply := { id := 8, name := "", qtype := 1, qclass := 1, rcode := 0, an := 1, ttls := [300], len := 40 }
/-- the server answers both queries in one stream; `chunks` scripts the sizes of the client's reads -/
def withStream (s : St) (chunks : List Nat) : St :=
  s.modSock 100 fun v => { v with stream := [(32, r7), (74, r8)], slen := 74, chunks := chunks }
def reads : Nat → St → St
  | 0, s => s
  | n + 1, s => reads n (exec 50 (.processRead 100) s).1
/-- one read, two reads split inside the second message, five reads with one-byte pieces: same responses accepted in
    the same order, same callbacks -/
example : (reads 1 (withStream t3 [])).accepted = [(100, 0, r7), (100, 1, r8)] ∧
    (reads 1 (withStream t3 [])).doneToks = [1, 2] := by decide
example : (reads 2 (withStream t3 [33, 41])).accepted = (reads 1 (withStream t3 [])).accepted := by decide
example : (reads 5 (withStream t3 [1, 30, 1, 41, 1])).accepted = (reads 1 (withStream t3 [])).accepted ∧
    (reads 5 (withStream t3 [1, 30, 1, 41, 1])).doneToks = [1, 2] := by decide
/-- 31 of the first message's 32 bytes: nothing is delivered yet -/
example : (reads 1 (withStream t3 [31, 43])).accepted = [] := by decide

/-! Whole runs: the TCP read alignment invariant and what reaches `process_answer`.

`Aligned s` (`CaresLemmas/ChanAlignRun.lean`): virtual-socket descriptors are below `nextFd`, every connection has a
virtual socket, every socket's stream is well formed (`WfStream 0`, `slen` = end of the last message, `spos ≤ slen`), and
for every TCP connection that is not being closed (`unlinked = false`) the position `spos - inBytes` up to which it has
consumed its socket's stream is a message boundary (`Boundary`; equivalently it `Split`s the stream).
`execH` (`ChanAlignLog.lean`) is `exec` instrumented with the list of `(descriptor, reply)` handed to `process_answer`.
`RunH s t l` (`ChanAlignTrace.lean`): a run of completed top-level calls and environment steps from `s` to `t`, log `l`. -/

/-- the invariant holds of a fresh channel -/
theorem aligned_initially (s : St) (hc : s.conns = []) (hs : s.socks = []) : Aligned s := aligned_init s hc hs

/-- **`aligned_preserved`**: every procedure, run to completion with any fuel, keeps the alignment invariant -/
theorem aligned_preserved (fuel : Nat) (call : Call) (s : St) (h : Aligned s)
    (hf : (exec fuel call s).1.outOfFuel = false) : Aligned (exec fuel call s).1 :=
  (exec_Aligned fuel call s h hf).1

/-- … and so does the environment: the peer appending a message to a socket's stream, and everything that leaves the
    connections and the `(fd, stream, slen, spos)` of the sockets alone (read-size scripts, EOF marks, the clock, …) -/
theorem aligned_preserved_by_environment {t t' : St} (h : Aligned t) (he : EnvStep t t') : Aligned t' :=
  aligned_env h he

/-- the consumed position of an aligned live TCP connection `Split`s its stream (the hypothesis of
    `read_segmentation_invariance_from`): what was taken lies before it, the rest follows it without gap -/
theorem aligned_position_splits_stream {s : St} (h : Aligned s) {fd : Nat} {c : Conn} {v : VSock}
    (hc : s.conn? fd = some c) (hv : s.sock? fd = some v) (ht : c.tcp = true) (hu : c.unlinked = false) :
    c.inBytes ≤ v.spos ∧ ∃ done todo, Split v.stream (v.spos - c.inBytes) done todo :=
  h.split hc hv ht hu

/-- **frame**: a completed call that is not `read_conn_packets` / `read_answers` on `fd` leaves the inbound side of a
    live connection `fd` as it was (and a connection live afterwards was live before: descriptors are not reused) -/
theorem read_position_untouched_by_other_calls (fuel : Nat) (call : Call) (s : St) (h : Aligned s) (fd : Nat)
    (hfd : fd < s.nextFd) (hcall : ¬ call.readsFd fd) (hf : (exec fuel call s).1.outOfFuel = false) {c' : Conn}
    {v' : VSock} (hc' : (exec fuel call s).1.conn? fd = some c') (hv' : (exec fuel call s).1.sock? fd = some v')
    (hu' : c'.unlinked = false) :
    ∃ c v, s.conn? fd = some c ∧ s.sock? fd = some v ∧ c.unlinked = false ∧ vflag v' = vflag v ∧ rflag c' = rflag c :=
  exec_read_frame fuel call s h fd hfd hcall hf hc' hv' hu'

/-- the instrumented executor computes `exec`: the link between the log and the model -/
theorem instrumented_executor_is_exec (fuel : Nat) (call : Call) (s : St) : (execH fuel call s).1 = exec fuel call s :=
  execH_fst fuel call s

/-- only the two read procedures hand anything to `process_answer`, and only for the descriptor they work on.  The second
    part is a fact about the instrument `execH`, which logs in the read procedures only; that no other procedure of the
    model calls `process_answer` is read off `Chan/Core.lean`, not proved (header of `ChanAlignLog`). -/
theorem only_read_calls_hand_over (fuel : Nat) (call : Call) (s : St) :
    (∀ e ∈ (execH fuel call s).2, call.readsFd e.1 ∧ ∃ c, s.conn? e.1 = some c) ∧
      ((∀ fd, ¬ call.readsFd fd) → (execH fuel call s).2 = []) :=
  ⟨execH_log_mem fuel call s, execH_log_nil fuel call s⟩

/-- **one completed `read_conn_packets`** on an aligned live TCP connection (`c` on socket `v`), whatever the scripted
    read size: every reply handed to `process_answer` is for `fd`; if the connection is still live afterwards, the stream
    is unchanged, and the messages that have arrived at the new consumed position are those that had arrived at the old
    one followed by exactly the replies handed over, in order; and no complete message is left in in_buf -/
theorem read_conn_packets_hands_stream_in_order (n : Nat) (s : St) (fd : Nat) (c : Conn) (v : VSock) (hal : Aligned s)
    (hl : liveTcp s fd c v) (hf : (execH n (.processRead fd) s).1.1.outOfFuel = false) :
    (∀ e ∈ (execH n (.processRead fd) s).2, e.1 = fd) ∧
    ∀ c' v', (execH n (.processRead fd) s).1.1.conn? fd = some c' → (execH n (.processRead fd) s).1.1.sock? fd = some v' →
      c'.unlinked = false →
      c'.tcp = true ∧ v'.stream = v.stream ∧ v'.slen = v.slen ∧ v.spos ≤ v'.spos ∧
      arrived v.stream (v'.spos - c'.inBytes) =
        arrived v.stream (v.spos - c.inBytes) ++ (execH n (.processRead fd) s).2.map (·.2) ∧
      nextTcpFrame v'.stream v'.spos c'.inBytes = none :=
  ⟨fun e he => Eq.symm (execH_log_mem n (.processRead fd) s e he).1, processReadH_post n s fd c v hal hl hf⟩

/-- **`read_segmentation_invariance_run`** — the whole-run version of `read_segmentation_invariance`.  Take any run from
    a fresh channel: completed top-level calls (anything but `read_answers` / `process_answer` themselves) interleaved
    with the peer writing messages and the script choosing read sizes.  For every TCP connection `fd` that is live at
    the end, the replies handed to `process_answer` on `fd` over the whole run (`logOn l fd`, in order) are exactly the
    messages of the socket's stream whose last byte lies within the `spos` bytes read so far — whatever the sizes of
    the individual reads; in particular they are a prefix of the messages the peer has written. -/
theorem read_segmentation_invariance_run {s0 t : St} {l : HLog} (hr : RunH s0 t l) (hc : s0.conns = [])
    (hs : s0.socks = []) (fd : Nat) (c : Conn) (v : VSock) (hl : liveTcp t fd c v) :
    WfStream 0 v.stream ∧ logOn l fd = arrived v.stream v.spos ∧ logOn l fd <+: v.stream.map (·.2) := by
  have inv := hr.inv (RunInv.init s0 hc hs)
  obtain ⟨hc', hv', ht, hu⟩ := hl
  have hso := inv.al.stream fd v hv'
  have hal := inv.al.aligned fd c v hc' hv' ht hu
  have h1 := inv.log fd c v ⟨hc', hv', ht, hu⟩
  have h2 : arrived v.stream (v.spos - c.inBytes) = arrived v.stream v.spos :=
    arrived_drained (x := vflag v) (y := rflag c) hso hal (inv.drained fd c v ⟨hc', hv', ht, hu⟩)
  refine ⟨hso.wf, by rw [h1, h2], ?_⟩
  rw [h1]
  exact arrived_prefix v.stream 0 _ hso.wf

/-- hence two runs — with different read sizes, different interleavings — that have read the same number of bytes of
    the same stream have handed the same replies to `process_answer`, in the same order -/
theorem read_segmentation_independent_run {s0 t s0' t' : St} {l l' : HLog} (hr : RunH s0 t l) (hr' : RunH s0' t' l')
    (hc : s0.conns = []) (hs : s0.socks = []) (hc' : s0'.conns = []) (hs' : s0'.socks = []) (fd fd' : Nat)
    (c c' : Conn) (v v' : VSock) (hl : liveTcp t fd c v) (hl' : liveTcp t' fd' c' v') (hst : v.stream = v'.stream)
    (hsp : v.spos = v'.spos) : logOn l fd = logOn l' fd' := by
  rw [(read_segmentation_invariance_run hr hc hs fd c v hl).2.1,
    (read_segmentation_invariance_run hr' hc' hs' fd' c' v' hl').2.1, hst, hsp]

/-! ### non-vacuity: the model run above as a `RunH`, read in one piece and in two pieces split inside a message -/

theorem top_send (a : Option Nat) (b d : Bool) (e : ReqSpec) (f : Owner) (g : List Nat) :
    (Call.sendNolock a b d e f g).top := ⟨(fun _ h => by cases h), (fun _ _ h => by cases h)⟩
theorem top_write (fd : Nat) : (Call.processWrite fd).top := ⟨(fun _ h => by cases h), (fun _ _ h => by cases h)⟩
theorem top_read (fd : Nat) : (Call.processRead fd).top := ⟨(fun _ h => by cases h), (fun _ _ h => by cases h)⟩

def u1 : St := (execH 50 (.sendNolock none false false { name := "", qtype := 1 } (.user 1) []) t0).1.1
def u2 : St := (execH 50 (.sendNolock none false false { name := "", qtype := 1 } (.user 2) []) u1).1.1
def u3 : St := (execH 50 (.processWrite 100) u2).1.1
/-- the server answers both queries (two `peer` steps); the script sets the read sizes (an `other` step) -/
def u4 (chunks : List Nat) : St :=
  ((u3.modSock 100 (peerWrite r7)).modSock 100 (peerWrite r8)).modSock 100 fun v => { v with chunks := chunks }
def u5 (chunks : List Nat) : St := (execH 50 (.processRead 100) (u4 chunks)).1.1
def u6 (chunks : List Nat) : St := (execH 50 (.processRead 100) (u5 chunks)).1.1

theorem u_fuel : u1.outOfFuel = false ∧ u2.outOfFuel = false ∧ u3.outOfFuel = false ∧ (u5 []).outOfFuel = false ∧
    (u5 [33, 41]).outOfFuel = false ∧ (u6 [33, 41]).outOfFuel = false := by decide

/-- the log up to the server's answers: two sends and a write (nothing is handed to `process_answer`) -/
def lg3 : HLog :=
  (([] ++ (execH 50 (.sendNolock none false false { name := "", qtype := 1 } (.user 1) []) t0).2) ++
    (execH 50 (.sendNolock none false false { name := "", qtype := 1 } (.user 2) []) u1).2) ++
    (execH 50 (.processWrite 100) u2).2

theorem run_to_u3 : RunH t0 u3 lg3 := by
  -- one call at a time, so that each step is compared with one of `u1`, `u2`, `u3` (nested, the kernel evaluates them)
  have r1 : RunH t0 u1 _ := (RunH.nil t0).call 50 _ (top_send ..) u_fuel.1
  have r2 : RunH t0 u2 _ := r1.call 50 _ (top_send ..) u_fuel.2.1
  exact r2.call 50 _ (top_write 100) u_fuel.2.2.1

theorem run_to_u4 (chunks : List Nat) : RunH t0 (u4 chunks) lg3 := by
  -- stated for every state, so that checking it does not evaluate `u3`
  have script : ∀ s : St, EnvStep s (s.modSock 100 fun v => { v with chunks := chunks }) := fun s =>
    .other _ _ (St.modSock_conns ..) (vks_modSock_id _ _ _ (fun _ => rfl)) (St.modSock_nextFd ..)
  exact ((run_to_u3.env (.peer u3 100 r7)).env (.peer _ 100 r8)).env (script _)

/-- one read of everything -/
theorem run_once : RunH t0 (u5 []) (lg3 ++ (execH 50 (.processRead 100) (u4 [])).2) :=
  (run_to_u4 []).call 50 _ (top_read 100) u_fuel.2.2.2.1
/-- two reads, 33 and 41 bytes: the first ends one byte inside the second message -/
theorem run_twice : RunH t0 (u6 [33, 41])
    ((lg3 ++ (execH 50 (.processRead 100) (u4 [33, 41])).2) ++ (execH 50 (.processRead 100) (u5 [33, 41])).2) := by
  have r5 : RunH t0 (u5 [33, 41]) _ := (run_to_u4 [33, 41]).call 50 _ (top_read 100) u_fuel.2.2.2.2.1
  exact r5.call 50 _ (top_read 100) u_fuel.2.2.2.2.2

/-- the first read of the second run hands over the first message only, the second read the second one … -/
example : (execH 50 (.processRead 100) (u4 [33, 41])).2 = [(100, r7)] ∧
    (execH 50 (.processRead 100) (u5 [33, 41])).2 = [(100, r8)] ∧
    (execH 50 (.processRead 100) (u4 [])).2 = [(100, r7), (100, r8)] := by decide
/-- … the connection is live at the end of both runs, with all 74 bytes of the same stream read … -/
example : ((u6 [33, 41]).conn? 100).map (fun c => (c.tcp, c.unlinked, c.inBytes)) = some (true, false, 0) ∧
    ((u5 []).conn? 100).map (fun c => (c.tcp, c.unlinked, c.inBytes)) = some (true, false, 0) ∧
    ((u6 [33, 41]).sock? 100).map (fun v => (v.stream, v.spos)) = some ([(32, r7), (74, r8)], 74) ∧
    ((u5 []).sock? 100).map (fun v => (v.stream, v.spos)) = some ([(32, r7), (74, r8)], 74) := by decide
/-- … so the theorem applies to both and says what the runs show: `[r7, r8]` either way -/
example (c : Conn) (v : VSock) (h : liveTcp (u6 [33, 41]) 100 c v) :
    logOn ((lg3 ++ (execH 50 (.processRead 100) (u4 [33, 41])).2) ++ (execH 50 (.processRead 100) (u5 [33, 41])).2) 100 =
      arrived v.stream v.spos :=
  (read_segmentation_invariance_run run_twice rfl rfl 100 c v h).2.1
example : logOn ((lg3 ++ (execH 50 (.processRead 100) (u4 [33, 41])).2) ++ (execH 50 (.processRead 100) (u5 [33, 41])).2) 100 =
    [r7, r8] ∧ logOn (lg3 ++ (execH 50 (.processRead 100) (u4 [])).2) 100 = [r7, r8] ∧
    arrived [(32, r7), (74, r8)] 74 = [r7, r8] := by decide
/-- the invariant holds along the run (through the theorems, so their hypotheses are satisfiable) -/
example : Aligned (u6 [33, 41]) := (run_twice.inv (RunInv.init t0 rfl rfl)).al
example : Aligned t0 := aligned_initially t0 rfl rfl

end Cares.C20
