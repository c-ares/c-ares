import CaresLemmas.ClientExecRun
import CaresLemmas.ClientCausalRun
import CaresProps.C12b
import CaresProps.C13b
import CaresProps.C01
/-!
# C12c — the channel model drives its compound requests through the pure client fold

`C12b` / `C13b` are statements about `ClientWalk.clientRun`, the fold of `clientStart` / `clientOnCb` over the
completions a `search` / `gai` client receives.  This file is the refinement that ties them to `Chan.Core.exec`.

**The log.**  `execC` (CaresLemmas/ClientExecLog*.lean) is `exec` with every procedure re-stated so that it also
returns the client events that happened while it ran (`CItem`: `.start`, `.cb`, `.act`, `.slot`, `.lost`, `.rel`,
`.ret`); `execC_fst : (execC fuel call s).1 = exec fuel call s`.  `RunC s t L`: a run of completed top-level calls and
environment steps from `s` to `t` with log `L`.  For a compound request `cid`: `evsOf cid L` = the completions
`(status, timeouts, reply, stored query ids)` with which `clientOnCb` was invoked on its record, `sentOf cid L` =
`(name, qtype)` of the `.send` / `.sendSlot` actions executed for it, `finsOf cid L` = the `(status, timeouts, digest)`
of the `.finish` actions executed for it (each hands exactly these to `userCb`).

**What is proved.**

1. `client_run_replays` / `client_call_replays` (unconditional, re-entrancy included): the log replays on the pure
   machine `rstep`: records change only by `clientStart` / `clientOnCb` (applied to the *stored* record) / storing a
   query id / release; the actions executed are exactly those returned, in order, frame by frame (`runActs` frames
   nest: a sub-request that completes synchronously calls back into the client while the outer frame still has
   actions to run).
2. `client_events_are_fold_partial`: for runs that are *causal* for `cid` — every completion delivered to `cid` comes
   while more sub-requests have been started for `cid` than completions delivered (`Causal cid L`, a decidable
   property of the log) — `sentOf` / `finsOf` are exactly `clientRun`'s `sent` / `fin` on `evsOf`.  Synchronous
   completions inside `runActs`, cancel and destroy are covered.
3. `search_over_channel_partial`, `gai_over_channel_partial`, `gai_addresses_over_channel_partial`: C12b / C13b
   re-stated over the channel run.
4. `client_replies_accepted` (unconditional): every reply handed to `clientOnCb` is in C05's `accepted` log, or the
   aged copy of a cache entry whose record is.

5. **Causality of channel runs** (`causal_of_run`, from `RunI.causal` in CaresLemmas/ClientCausalRun.lean): for a run
   under the C01 discipline
   (`RunI s t L`: the first state satisfies `C01.Inv`, every top-level call satisfies `C01.CallOk` — what the driver
   establishes with `callOk_loop` / `callOk_accept` — or is `ares_destroy` called between API calls, every environment
   step re-establishes `C01.Inv` and keeps the linked sub-requests) the log is `Causal` for every compound request
   created during the run.  It is a property of the channel, not of the client: each sub-request completes at most
   once and only after it was started.  The proof is C01's induction over the procedures, which runs on the instrumented
   executor: each `good_*` lemma (CaresLemmas/ChanWfBody*.lean) maintains, together with C01's contract, the log invariant
   `#starts = #completions + (linked sub-requests of cid) + (hand-overs in flight)`.
   Hence the unconditional versions `client_events_are_fold`, `search_over_channel`, `search_names_over_channel`,
   `gai_over_channel`, `gai_addresses_over_channel` below.  The hypothesis is not avoidable in the *pure* theorem
   (`fold_of_replay`): `Example.NonCausal` is a log that replays but delivers one completion twice.
-/
namespace Cares.C12c
open Cares.Chan Cares.Text Cares.Proto Cares.ClientWalk

/-- **R1a (unconditional).**  The client events of a run replay on the pure machine: from the client store of the
    first state to that of the last one, with no frame left in progress. -/
theorem client_run_replays {s t : St} {L : CLog} (hr : RunC s t L) :
    t.cfg = s.cfg ∧ replay s.cfg ⟨s.clients, s.nextClient, []⟩ L = some ⟨t.clients, t.nextClient, []⟩ :=
  hr.replays

/-- the same for one procedure (any call, also the nested ones): `runActs id acts` consumes its frame -/
theorem client_call_replays (fuel : Nat) (call : Call) (s : St) (σ : List (Nat × Option (List ClientAct)))
    (hf : (exec fuel call s).1.outOfFuel = false) :
    (execC fuel call s).1 = exec fuel call s ∧
    replay s.cfg ⟨s.clients, s.nextClient, preσ call σ⟩ (execC fuel call s).2 =
      some ⟨(exec fuel call s).1.clients, (exec fuel call s).1.nextClient, σ⟩ :=
  ⟨execC_fst fuel call s, (exec_replays fuel call s σ hf).2⟩

/-- client ids are handed out in order (part of `C01.Inv`) -/
theorem ids_lt_of_inv {s : St} (h : Cares.C01.Inv s) : ∀ c ∈ s.clients, c.id < s.nextClient := by
  intro c hc
  exact h.1.k.lt c.sk (List.mem_map.mpr ⟨c, hc, rfl⟩)

/-- **R1 `client_events_are_fold` (for causal runs).**  Compound request `cid` is created during the run.  The names
    of the `.send` / `.sendSlot` actions executed for `cid` are `(clientRun …).sent`, and the `.finish` handed to
    `userCb` is `(clientRun …).fin`, where `clientRun` folds the completions `clientOnCb` was invoked with. -/
theorem client_events_are_fold_partial {s t : St} {L : CLog} (hr : RunC s t L) (cid : Nat)
    (hnew : s.nextClient ≤ cid) (hinv : Cares.C01.Inv s) (hc : Causal cid L)
    (kind : String) (tok : Nat) (react : List Nat) (spec : ReqSpec) (fam : Nat)
    (hs : CItem.start cid kind tok react spec fam ∈ L) :
    sentOf cid L = (clientRun s.cfg cid kind tok react spec fam (evsOf cid L)).sent ∧
    finsOf cid L = (clientRun s.cfg cid kind tok react spec fam (evsOf cid L)).fin.toList :=
  hr.fold cid hnew (ids_lt_of_inv hinv) hc kind tok react spec fam hs

/-- **R2 (search).**  The queries created for a `search` request carry exactly the candidate names of `searchWalk`
    (hex text, requested type), in order; the user callback is made iff the completions reach the candidate the
    walk stops at, with `searchWalk`'s status (`C12.final_status` / `C12.stops_at_first_data_or_hard_error`). -/
theorem search_over_channel_partial {s t : St} {L : CLog} (hr : RunC s t L) (cid : Nat)
    (hnew : s.nextClient ≤ cid) (hinv : Cares.C01.Inv s) (hc : Causal cid L)
    (c : Config) (hm : CfgMatches s.cfg c) (name : Name) (hser : Ser name)
    (hal : lookupHostaliases c.noAliases c.aliases name = .error .enotfound)
    (honion : isOnion (hex name) = false)
    (tok : Nat) (react : List Nat) (spec : ReqSpec) (hspec : spec.name = hex name) (fam : Nat)
    (hs : CItem.start cid "search" tok react spec fam ∈ L) :
    let walk := searchWalk c name ((evsOf cid L).map searchOutcome)
    sentOf cid L = tagNames spec.qtype walk.1 ∧
    (finsOf cid L).map (fun f => stMap f.1) = if walk.1.length ≤ (evsOf cid L).length then [walk.2] else [] := by
  obtain ⟨h1, h2⟩ := client_events_are_fold_partial hr cid hnew hinv hc "search" tok react spec fam hs
  obtain ⟨g1, g2⟩ := Cares.C12b.search_client_walk s.cfg c hm name hser hal honion cid tok react spec hspec fam
    (evsOf cid L)
  exact ⟨h1.trans g1, h2 ▸ toList_map_of_map g2⟩

/-- names sent = `takeUntilStop candidates outcomes` -/
theorem search_names_over_channel_partial {s t : St} {L : CLog} (hr : RunC s t L) (cid : Nat)
    (hnew : s.nextClient ≤ cid) (hinv : Cares.C01.Inv s) (hc : Causal cid L)
    (c : Config) (hm : CfgMatches s.cfg c) (name : Name) (hser : Ser name)
    (hal : lookupHostaliases c.noAliases c.aliases name = .error .enotfound)
    (honion : isOnion (hex name) = false)
    (tok : Nat) (react : List Nat) (spec : ReqSpec) (hspec : spec.name = hex name) (fam : Nat)
    (hs : CItem.start cid "search" tok react spec fam ∈ L) (names : List Name) (h : nameList c name = .ok names) :
    sentOf cid L = tagNames spec.qtype (takeUntilStop names ((evsOf cid L).map searchOutcome)) := by
  rw [(client_events_are_fold_partial hr cid hnew hinv hc "search" tok react spec fam hs).1]
  exact Cares.C12b.search_client_sent_names s.cfg c hm name hser hal honion cid tok react spec hspec fam _ names h

/-- **R2 (gai).**  Completions grouped by candidate as in `C12b.gai_client_walk`: the sub-requests are `gaiWalk`'s
    names with the requested families, the user callback's status is `gaiWalk`'s. -/
theorem gai_over_channel_partial {s t : St} {L : CLog} (hr : RunC s t L) (cid : Nat)
    (hnew : s.nextClient ≤ cid) (hinv : Cares.C01.Inv s) (hc : Causal cid L)
    (c : Config) (hm : CfgMatches s.cfg c) (name : Name) (hser : Ser name)
    (hal : lookupHostaliases c.noAliases c.aliases name = .error .enotfound)
    (fam : Nat) (hfam : fam = 0 ∨ fam = 2 ∨ fam = 10)
    (honion : isOnion (hex name) = false) (hlit : isV4Literal (hex name) = false)
    (hloc : isLocalhost (hex name) = false) (hdns : DnsFirst s.cfg)
    (tok : Nat) (react : List Nat) (spec : ReqSpec) (hspec : spec.name = hex name)
    (hs : CItem.start cid "gai" tok react spec fam ∈ L)
    (grps : List (List Ev)) (tail : List Ev) (hev : evsOf cid L = grps.flatten ++ tail)
    (hlen : ∀ g ∈ grps, g.length = famCount fam) (htail : tail.length < famCount fam) :
    let walk := gaiWalk c name (grps.map grpOutcome)
    sentOf cid L = tagFam fam walk.1 ∧
    (finsOf cid L).map (fun f => stMap f.1) = if walk.1.length ≤ grps.length then [walk.2] else [] := by
  obtain ⟨h1, h2⟩ := client_events_are_fold_partial hr cid hnew hinv hc "gai" tok react spec fam hs
  rw [hev] at h1 h2
  obtain ⟨g1, g2⟩ := Cares.C12b.gai_client_walk s.cfg c hm name hser hal fam hfam honion hlit hloc hdns cid tok react
    spec hspec grps tail hlen htail
  exact ⟨h1.trans g1, h2 ▸ toList_map_of_map g2⟩

/-- **R2 (gai addresses).**  When the user callback of a `gai` request is made with status OK, the address list of
    its digest is exactly the concatenation, in arrival order, of the addresses of the OK answers delivered (to
    `clientOnCb`) for the winning candidate; with any other status the list is empty. -/
theorem gai_addresses_over_channel_partial {s t : St} {L : CLog} (hr : RunC s t L) (cid : Nat)
    (hnew : s.nextClient ≤ cid) (hinv : Cares.C01.Inv s) (hc : Causal cid L)
    (c : Config) (hm : CfgMatches s.cfg c) (name : Name) (hser : Ser name)
    (hal : lookupHostaliases c.noAliases c.aliases name = .error .enotfound)
    (fam : Nat) (hfam : fam = 0 ∨ fam = 2 ∨ fam = 10)
    (honion : isOnion (hex name) = false) (hlit : isV4Literal (hex name) = false)
    (hloc : isLocalhost (hex name) = false) (hdns : DnsFirst s.cfg)
    (tok : Nat) (react : List Nat) (spec : ReqSpec) (hspec : spec.name = hex name)
    (hs : CItem.start cid "gai" tok react spec fam ∈ L)
    (grps : List (List Ev)) (tail : List Ev) (hev : evsOf cid L = grps.flatten ++ tail)
    (hlen : ∀ g ∈ grps, g.length = famCount fam) (htail : tail.length < famCount fam)
    (st : Chan.Status) (tm : Nat) (dg : String) (hfin : (st, tm, dg) ∈ finsOf cid L) :
    (st = .ok → ∃ win, grps[(gaiWalk c name (grps.map grpOutcome)).1.length - 1]? = some win ∧
        dg = addrDigest (win.flatMap evNodes) (win.foldl evAiName "")) ∧
    (st ≠ .ok → dg = "ai=") := by
  obtain ⟨_, h2⟩ := client_events_are_fold_partial hr cid hnew hinv hc "gai" tok react spec fam hs
  rw [hev] at h2
  rw [h2] at hfin
  have hf : (clientRun s.cfg cid "gai" tok react spec fam (grps.flatten ++ tail)).fin = some (st, tm, dg) := by
    cases h : (clientRun s.cfg cid "gai" tok react spec fam (grps.flatten ++ tail)).fin with
    | none => rw [h] at hfin; cases hfin
    | some f => rw [h] at hfin; simp only [Option.toList_some, List.mem_singleton] at hfin; rw [hfin]
  constructor
  · intro hst
    subst hst
    exact Cares.C13b.gai_addresses_from_replies s.cfg c hm name hser hal fam hfam honion hlit hloc hdns cid tok react
      spec hspec grps tail hlen htail tm dg hf
  · intro hne
    exact Cares.C13b.gai_no_addresses_unless_ok s.cfg c hm name hser hal fam hfam honion hlit hloc hdns cid tok react
      spec hspec grps tail hlen htail st tm dg hf hne

/-- **R2 (link to C05's `accepted` log).**  Every reply passed to `clientOnCb` for `cid` during the run is an
    accepted response (`(fd, key, r) ∈ accepted`: it passed all checks of `process_answer`, `C05.accepted_authentic`),
    or the copy of a cache entry — itself an accepted response, `C05.cache_provenance` — with its TTLs reduced by
    the time spent in the cache.  Unconditional (no causality needed). -/
theorem client_replies_accepted {s t : St} {L : CLog} (hr : RunC s t L) (hc : CacheProv s) (cid : Nat) :
    ∀ e ∈ evsOf cid L, ∀ r, e.reply = some r → FromAcc t.accepted r := by
  intro e he r hr'
  obtain ⟨i, hi, hie⟩ := List.mem_flatMap.mp he
  cases i with
  | cb id st tm rec qa qb =>
    simp only [ev1] at hie
    split at hie
    · simp only [List.mem_singleton] at hie
      subst hie
      simp only at hr'
      subst hr'
      exact hr.provenance hc |>.2.2 _ _ _ _ _ _ hi
    · cases hie
  | _ => cases hie

/-- the addresses a `gai` request reports come from accepted responses: the completions of the winning candidate
    (`gai_addresses_over_channel_partial`) carry only accepted (or cached accepted) replies -/
theorem gai_replies_accepted {s t : St} {L : CLog} (hr : RunC s t L) (hc : CacheProv s) (cid : Nat)
    (grps : List (List Ev)) (tail : List Ev) (hev : evsOf cid L = grps.flatten ++ tail) :
    ∀ win ∈ grps, ∀ e ∈ win, ∀ r, e.reply = some r → FromAcc t.accepted r := by
  intro win hw e he r hr'
  refine client_replies_accepted hr hc cid e ?_ r hr'
  rw [hev]
  exact List.mem_append_left _ (List.mem_flatten.mpr ⟨win, hw, he⟩)

/-! `RunI s t L` (CaresLemmas/ClientCausalRun.lean) is `RunC s t L` under the C01 discipline; its constructors, in the
vocabulary of C01: -/

/-- a run starts in a state satisfying the C01 invariant -/
theorem run_start {s : St} (h : Cares.C01.Inv s) : RunI s s [] := RunI.nil s h

/-- a completed top-level call (any procedure but `runActs`, no reply handed in) whose C01 precondition holds -/
theorem run_call {s t : St} {L : CLog} (hr : RunI s t L) (fuel : Nat) (call : Call) (htop : call.topC)
    (hok : Cares.C01.CallOk t call) (hf : (exec fuel call t).1.outOfFuel = false) :
    RunI s (exec fuel call t).1 (L ++ (execC fuel call t).2) := hr.call fuel call htop hok hf

/-- the invariant holds after every step, so `C01.callOk_loop` / `C01.callOk_accept` apply -/
theorem run_inv {s t : St} {L : CLog} (hr : RunI s t L) : Cares.C01.Inv t := hr.inv

/-- accepting a request with a fresh token (`C01.callOk_accept`) is an environment step; tokens from
    `10000 + reactSeq` on are those the model gives to the requests a scripted user callback starts (`bodyReactions`) -/
theorem run_accept {s t : St} {L : CLog} (hr : RunI s t L) (tok : Nat) (hb : tok < 10000 + t.reactSeq)
    (hp : tok ∉ t.pendingToks) (hd : tok ∉ t.doneToks) :
    RunI s { t with pendingToks := t.pendingToks ++ [tok] } L :=
  hr.env rfl rfl rfl rfl rfl (Cares.C01.callOk_accept hr.inv tok hb hp hd).1 (fun _ => rfl)

/-- **Causality of channel runs.**  In a run under the C01 discipline, at every completion delivered to a compound
    request created during the run, strictly more sub-requests have been started for it than completions
    delivered. -/
theorem causal_of_run {s t : St} {L : CLog} (hr : RunI s t L) : ∀ cid, s.nextClient ≤ cid → Causal cid L :=
  hr.causal

/-- the invariant behind it: every sub-request started for `cid` has either completed (exactly once) or is still
    linked in the qid table (`Sk.subs`: the queries owned by `cid` that can still get a completion) -/
theorem subrequests_accounted {s t : St} {L : CLog} (hr : RunI s t L) (cid : Nat) (hnew : s.nextClient ≤ cid) :
    (sentOf cid L).length = (evsOf cid L).length + t.sk.subs cid := by
  have := (hr.lg hnew).cnt
  simpa only [nsOf, ncOf, Nat.add_zero] using this

/-- **R1 `client_events_are_fold`.**  Compound request `cid` is created during the run.  The names of the `.send` /
    `.sendSlot` actions executed for `cid` are `(clientRun …).sent`, and the `.finish` handed to `userCb` is
    `(clientRun …).fin`, where `clientRun` folds the completions `clientOnCb` was invoked with. -/
theorem client_events_are_fold {s t : St} {L : CLog} (hr : RunI s t L) (cid : Nat) (hnew : s.nextClient ≤ cid)
    (kind : String) (tok : Nat) (react : List Nat) (spec : ReqSpec) (fam : Nat)
    (hs : CItem.start cid kind tok react spec fam ∈ L) :
    sentOf cid L = (clientRun s.cfg cid kind tok react spec fam (evsOf cid L)).sent ∧
    finsOf cid L = (clientRun s.cfg cid kind tok react spec fam (evsOf cid L)).fin.toList :=
  client_events_are_fold_partial hr.run cid hnew hr.inv0 (causal_of_run hr cid hnew) kind tok react spec fam hs

/-- **R2 (search)**, see `search_over_channel_partial` -/
theorem search_over_channel {s t : St} {L : CLog} (hr : RunI s t L) (cid : Nat) (hnew : s.nextClient ≤ cid)
    (c : Config) (hm : CfgMatches s.cfg c) (name : Name) (hser : Ser name)
    (hal : lookupHostaliases c.noAliases c.aliases name = .error .enotfound)
    (honion : isOnion (hex name) = false)
    (tok : Nat) (react : List Nat) (spec : ReqSpec) (hspec : spec.name = hex name) (fam : Nat)
    (hs : CItem.start cid "search" tok react spec fam ∈ L) :
    let walk := searchWalk c name ((evsOf cid L).map searchOutcome)
    sentOf cid L = tagNames spec.qtype walk.1 ∧
    (finsOf cid L).map (fun f => stMap f.1) = if walk.1.length ≤ (evsOf cid L).length then [walk.2] else [] :=
  search_over_channel_partial hr.run cid hnew hr.inv0 (causal_of_run hr cid hnew) c hm name hser hal honion tok react
    spec hspec fam hs

/-- names sent = `takeUntilStop candidates outcomes` -/
theorem search_names_over_channel {s t : St} {L : CLog} (hr : RunI s t L) (cid : Nat) (hnew : s.nextClient ≤ cid)
    (c : Config) (hm : CfgMatches s.cfg c) (name : Name) (hser : Ser name)
    (hal : lookupHostaliases c.noAliases c.aliases name = .error .enotfound)
    (honion : isOnion (hex name) = false)
    (tok : Nat) (react : List Nat) (spec : ReqSpec) (hspec : spec.name = hex name) (fam : Nat)
    (hs : CItem.start cid "search" tok react spec fam ∈ L) (names : List Name) (h : nameList c name = .ok names) :
    sentOf cid L = tagNames spec.qtype (takeUntilStop names ((evsOf cid L).map searchOutcome)) :=
  search_names_over_channel_partial hr.run cid hnew hr.inv0 (causal_of_run hr cid hnew) c hm name hser hal honion tok
    react spec hspec fam hs names h

/-- **R2 (gai)**, see `gai_over_channel_partial` -/
theorem gai_over_channel {s t : St} {L : CLog} (hr : RunI s t L) (cid : Nat) (hnew : s.nextClient ≤ cid)
    (c : Config) (hm : CfgMatches s.cfg c) (name : Name) (hser : Ser name)
    (hal : lookupHostaliases c.noAliases c.aliases name = .error .enotfound)
    (fam : Nat) (hfam : fam = 0 ∨ fam = 2 ∨ fam = 10)
    (honion : isOnion (hex name) = false) (hlit : isV4Literal (hex name) = false)
    (hloc : isLocalhost (hex name) = false) (hdns : DnsFirst s.cfg)
    (tok : Nat) (react : List Nat) (spec : ReqSpec) (hspec : spec.name = hex name)
    (hs : CItem.start cid "gai" tok react spec fam ∈ L)
    (grps : List (List Ev)) (tail : List Ev) (hev : evsOf cid L = grps.flatten ++ tail)
    (hlen : ∀ g ∈ grps, g.length = famCount fam) (htail : tail.length < famCount fam) :
    let walk := gaiWalk c name (grps.map grpOutcome)
    sentOf cid L = tagFam fam walk.1 ∧
    (finsOf cid L).map (fun f => stMap f.1) = if walk.1.length ≤ grps.length then [walk.2] else [] :=
  gai_over_channel_partial hr.run cid hnew hr.inv0 (causal_of_run hr cid hnew) c hm name hser hal fam hfam honion hlit
    hloc hdns tok react spec hspec hs grps tail hev hlen htail

/-- **R2 (gai addresses)**, see `gai_addresses_over_channel_partial` -/
theorem gai_addresses_over_channel {s t : St} {L : CLog} (hr : RunI s t L) (cid : Nat) (hnew : s.nextClient ≤ cid)
    (c : Config) (hm : CfgMatches s.cfg c) (name : Name) (hser : Ser name)
    (hal : lookupHostaliases c.noAliases c.aliases name = .error .enotfound)
    (fam : Nat) (hfam : fam = 0 ∨ fam = 2 ∨ fam = 10)
    (honion : isOnion (hex name) = false) (hlit : isV4Literal (hex name) = false)
    (hloc : isLocalhost (hex name) = false) (hdns : DnsFirst s.cfg)
    (tok : Nat) (react : List Nat) (spec : ReqSpec) (hspec : spec.name = hex name)
    (hs : CItem.start cid "gai" tok react spec fam ∈ L)
    (grps : List (List Ev)) (tail : List Ev) (hev : evsOf cid L = grps.flatten ++ tail)
    (hlen : ∀ g ∈ grps, g.length = famCount fam) (htail : tail.length < famCount fam)
    (st : Chan.Status) (tm : Nat) (dg : String) (hfin : (st, tm, dg) ∈ finsOf cid L) :
    (st = .ok → ∃ win, grps[(gaiWalk c name (grps.map grpOutcome)).1.length - 1]? = some win ∧
        dg = addrDigest (win.flatMap evNodes) (win.foldl evAiName "")) ∧
    (st ≠ .ok → dg = "ai=") :=
  gai_addresses_over_channel_partial hr.run cid hnew hr.inv0 (causal_of_run hr cid hnew) c hm name hser hal fam hfam
    honion hlit hloc hdns tok react spec hspec hs grps tail hev hlen htail st tm dg hfin

end Cares.C12c
