import CaresModel.Event
/-!
# C07 (event-thread part) and C11 (lock order, wait-empty) — theorems over the `Event` transition system

`Covered` is the safety form of "the event thread never outsleeps a deadline": whenever the thread is in
(or about to enter) `ev_sys->wait(timeout)`, either the wake pipe is readable — so the wait returns at once —
or the timeout it computed is no later than one millisecond after every pending deadline (`t ≤ max d now + 1`: for a
deadline `d` that is already overdue the bound is one millisecond from now).  Together with
C06's termination (processing at or after a deadline retries or fails the query) this gives "every query
completes within its retry budget with no application action".
-/
namespace Cares.C07b
open Cares.Event

theorem minOpt_le {l : List Nat} {m : Nat} (h : minOpt l = some m) : ∀ d ∈ l, m ≤ d := by
  induction l generalizing m with
  | nil => simp [minOpt] at h
  | cons x r ih =>
    intro d hd
    simp only [minOpt] at h
    cases hr : minOpt r with
    | none =>
      rw [hr] at h
      simp only [Option.some.injEq] at h
      subst h
      cases r with
      | nil => simp at hd; omega
      | cons y r' =>
        simp only [minOpt] at hr
        cases h2 : minOpt r' <;> simp [h2] at hr
    | some y =>
      rw [hr] at h
      simp only [Option.some.injEq] at h
      subst h
      rcases List.mem_cons.mp hd with h1 | h1
      · subst h1; exact Nat.min_le_left _ _
      · exact Nat.le_trans (Nat.min_le_right _ _) (ih hr d h1)

theorem minOpt_none {l : List Nat} (h : minOpt l = none) : l = [] := by
  cases l with
  | nil => rfl
  | cons x r =>
    simp only [minOpt] at h
    cases hr : minOpt r <;> simp [hr] at h

/-- the sleep computed for the event thread is never 0, the value every backend reads as "wait forever"
    (obligation over the expression regenerated from ares_event_thread()) -/
theorem waitMs_pos (rem : Nat) : 0 < waitMs rem := by
  unfold waitMs Cares.Generated.Ev.timeoutMs
  omega

/-- … and oversleeps the remaining time by at most one millisecond -/
theorem waitMs_le (rem : Nat) : waitMs rem ≤ rem + 1 := by
  unfold waitMs Cares.Generated.Ev.timeoutMs
  omega

/-- … and is not shorter than the remaining time (the thread does not spin before a deadline) -/
theorem waitMs_ge (rem : Nat) : rem ≤ waitMs rem := by
  unfold waitMs Cares.Generated.Ev.timeoutMs
  omega

/-- the timeout computed by the event thread covers every deadline pending at that moment -/
theorem sleepUntil_covers (s : St) : ∀ d ∈ s.deadlines, ∃ t, sleepUntil s = some t ∧ t ≤ max d s.now + 1 := by
  intro d hd
  unfold sleepUntil
  cases hm : minOpt s.deadlines with
  | none => rw [minOpt_none hm] at hd; simp at hd
  | some m =>
    have h1 := minOpt_le hm d hd
    have h2 := waitMs_pos (m - s.now)
    have h3 := waitMs_le (m - s.now)
    simp only []
    rw [if_neg (by omega)]
    exact ⟨_, rfl, by omega⟩

/-- obligation over the wake-up guard regenerated from ares_send_query(): when a newly enqueued query does *not* wake
    the event thread, some deadline that was already pending is no later than the new one (so the sleep already
    computed covers it) -/
theorem wakeOnSend_covers (d : Nat) (p : List Nat) (h : Cares.Generated.Ev.wakeOnSend d p = false) :
    ∃ x ∈ p, x ≤ d := by
  unfold Cares.Generated.Ev.wakeOnSend at h
  rw [List.all_eq_false] at h
  obtain ⟨x, hx, hlt⟩ := h
  simp only [decide_eq_true_eq] at hlt
  exact ⟨x, hx, by omega⟩

/-- the other direction: a query whose deadline is strictly earlier than every pending one - in particular the first query
    of an idle channel, whose event thread sleeps without a timeout - always wakes the thread (over the guard regenerated
    from ares_send_query()) -/
theorem wakeOnSend_earliest (d : Nat) (p : List Nat) (h : ∀ x ∈ p, d < x) :
    Cares.Generated.Ev.wakeOnSend d p = true := by
  unfold Cares.Generated.Ev.wakeOnSend
  rw [List.all_eq_true]
  intro x hx
  have := h x hx
  simp only [decide_eq_true_eq]
  omega

theorem wakeOnSend_idle (d : Nat) : Cares.Generated.Ev.wakeOnSend d [] = true :=
  wakeOnSend_earliest d [] (by simp)

/-- the event thread's own step can only *enter* the waiting state from `inTimeout` (with the timeout just
    computed) or stay in it unchanged -/
theorem et_pc_waiting (s : St) (u : Option Nat) (hu : (etStep s).pc = .waiting u) :
    (s.pc = .inTimeout ∧ u = sleepUntil s ∧ (etStep s).deadlines = s.deadlines ∧ (etStep s).now = s.now) ∨
    (s.pc = .waiting u ∧ etStep s = s) := by
  unfold etStep at hu ⊢
  cases hp : s.pc with
  | inTimeout =>
    rw [hp] at hu; simp only [etInTimeout, Pc.waiting.injEq] at hu
    exact Or.inl ⟨rfl, hu.symm, rfl, rfl⟩
  | waiting u' =>
    rw [hp] at hu; simp only [etWaiting] at hu
    split at hu
    · cases hu
    · rename_i hne
      rw [hp] at hu; simp only [Pc.waiting.injEq] at hu
      subst hu
      refine Or.inr ⟨rfl, ?_⟩
      simp only [etWaiting, hne, Bool.false_eq_true, ↓reduceIte]
  | _ =>
    -- from the other points the thread does not get to `waiting`
    rw [hp] at hu
    simp only [etProcUpdates, etWantTimeout, etWantPending, etWantProcess, etInProcess, etRelock, noteAskL,
      apply_ite St.pc, hp] at hu
    repeat' split at hu
    all_goals cases hu

/-- **no lost wake-up** (repaired tree): `Covered` is preserved by every step of every thread -/
theorem covered_step (s : St) (st : Step) (hw : s.wakeOnEarliest = true) (h : Covered s) :
    Covered (step s st) := by
  intro u hu
  cases st with
  | tick ms =>
    have hu' : s.pc = .waiting u := hu
    rcases h u hu' with hwk | hc
    · exact Or.inl hwk
    · refine Or.inr ?_
      intro d hd
      obtain ⟨t, ht, hle⟩ := hc d hd
      refine ⟨t, ht, ?_⟩
      show t ≤ max d (s.now + ms) + 1
      omega
  | fdEvent => exact Or.inl rfl
  | clientSend d sc =>
    simp only [step, clientSend] at hu ⊢
    split at hu
    · rename_i h1; simp only [h1, ↓reduceIte]; exact h u hu
    · rename_i h1
      split at hu
      · rename_i h2; simp only [h1, h2, ↓reduceIte]; exact h u hu
      · rename_i h2
        simp only [h1, h2, ↓reduceIte, hw, Bool.true_and]
        have hu' : s.pc = .waiting u := hu
        rcases h u hu' with hwk | hc
        · exact Or.inl (by simp [hwk])
        · by_cases he : Cares.Generated.Ev.wakeOnSend d s.deadlines = true
          · exact Or.inl (by simp [he])
          · refine Or.inr ?_
            intro d' hd'
            have hd'' : d' = d ∨ d' ∈ s.deadlines := List.mem_cons.mp hd'
            rcases hd'' with h3 | h3
            · -- the new query did not wake the thread: some pending x ≤ d is already covered
              subst h3
              have hf : Cares.Generated.Ev.wakeOnSend d' s.deadlines = false := by
                cases hb : Cares.Generated.Ev.wakeOnSend d' s.deadlines
                · rfl
                · exact absurd hb he
              obtain ⟨x, hx, hlt⟩ := wakeOnSend_covers d' s.deadlines hf
              obtain ⟨t, ht, hle⟩ := hc x hx
              refine ⟨t, ht, ?_⟩
              show t ≤ max d' s.now + 1
              omega
            · exact hc d' h3
  | client =>
    simp only [step, clientStep] at hu ⊢
    cases hc : s.cpc with
    | idle => rw [hc] at hu; simp only [] at hu ⊢; exact h u hu
    | inSend d sc =>
      rw [hc] at hu; simp only [] at hu ⊢
      split
      · split
        · rename_i h1 h2; simp only [h1, h2, ↓reduceIte] at hu; exact h u hu
        · rename_i h1 h2; simp only [h1, h2, ↓reduceIte] at hu; exact h u hu
      · rename_i h1; simp only [h1] at hu; exact h u hu
    | inUpdate d => exact Or.inl rfl
  | et =>
    have hu' : (etStep s).pc = .waiting u := hu
    show (etStep s).wake = true ∨ ∀ d ∈ (etStep s).deadlines, ∃ t, u = some t ∧ t ≤ max d (etStep s).now + 1
    rcases et_pc_waiting s u hu' with ⟨_, hu2, hd, hn⟩ | ⟨hp, heq⟩
    · refine Or.inr ?_
      intro d hdm
      rw [hd] at hdm
      obtain ⟨t, ht, hle⟩ := sleepUntil_covers s d hdm
      exact ⟨t, by rw [hu2, ht], by rw [hn]; exact hle⟩
    · rw [heq]; exact h u hp

theorem wakeOnEarliest_step (s : St) (st : Step) : (step s st).wakeOnEarliest = s.wakeOnEarliest := by
  cases st with
  | tick ms => rfl
  | fdEvent => rfl
  | clientSend d sc => simp only [step, clientSend, apply_ite St.wakeOnEarliest, ite_self]
  | client =>
    simp only [step, clientStep]; cases s.cpc <;> simp only [apply_ite St.wakeOnEarliest, ite_self]
  | et =>
    simp only [step, etStep]
    cases s.pc <;> simp only [etProcUpdates, etWantTimeout, etInTimeout, etWaiting, etWantPending, etWantProcess,
      etInProcess, etRelock, noteAskL, apply_ite St.wakeOnEarliest, ite_self]

/-- **C07 (event thread), every interleaving**: on the repaired tree the event thread never sleeps past a
    pending deadline without a wake-up pending, whatever the client threads do and whenever -/
theorem sleep_covers_deadlines (s : St) (steps : List Step) (hw : s.wakeOnEarliest = true) (h : Covered s) :
    Covered (run s steps) := by
  induction steps generalizing s with
  | nil => exact h
  | cons st rest ih =>
    simp only [run, List.foldl_cons]
    exact ih (step s st) (by rw [wakeOnEarliest_step]; exact hw) (covered_step s st hw h)

/-- the initial state (thread about to process its first updates) is covered -/
theorem covered_init : Covered ({} : St) := by
  intro u hu; cases hu

/-- **F11 (pinned tree), kernel-checked**: without the wake in ares_send_query a query sent on an already
    watched connection (no socket-state change) leaves the event thread asleep with no timeout -/
theorem pinned_loses_wake :
    let s := run { wakeOnEarliest := false } [.et, .et, .et, .clientSend 150 false, .client]
    s.pc = .waiting none ∧ s.wake = false ∧ s.deadlines = [150] := by decide

theorem pinned_not_covered :
    ¬ Covered (run { wakeOnEarliest := false } [.et, .et, .et, .clientSend 150 false, .client]) := by
  intro h
  have hs := pinned_loses_wake
  simp only [] at hs
  obtain ⟨hpc, hwk, hdl⟩ := hs
  rcases h none hpc with h1 | h2
  · rw [hwk] at h1; cases h1
  · obtain ⟨t, ht, _⟩ := h2 150 (by rw [hdl]; simp)
    cases ht

-- non-vacuity: the same schedule on the repaired tree leaves a wake pending
example :
    let s := run {} [.et, .et, .et, .clientSend 150 false, .client]
    s.pc = .waiting none ∧ s.wake = true := by decide

/-! ### C11: lock order and wait-empty -/

/-- lock discipline: the event thread holds its mutex `M` only while processing updates (where it never
    asks for the channel lock `L`); a client thread takes `M` only inside `L` -/
def LockInv (s : St) : Prop :=
  (s.etHoldsM = true → s.pc = .procUpdates) ∧
  (s.cpc ≠ .idle → s.cHoldsL = true) ∧
  (s.cHoldsM = true → ∃ d, s.cpc = .inUpdate d)

theorem lockInv_init : LockInv ({} : St) := by
  refine ⟨fun _ => rfl, fun h => absurd rfl h, fun h => by cases h⟩

theorem noteAskL_id (s : St) (h : s.etHoldsM = false) : noteAskL s = s := by
  unfold noteAskL; simp [h]

theorem etHoldsM_false_of (s : St) (h1 : s.etHoldsM = true → s.pc = .procUpdates) (hp : s.pc ≠ .procUpdates) :
    s.etHoldsM = false := by
  cases hm : s.etHoldsM
  · rfl
  · exact absurd (h1 hm) hp

theorem lockInv_step (s : St) (st : Step) (h : LockInv s) : LockInv (step s st) := by
  obtain ⟨h1, h2, h3⟩ := h
  cases st with
  | tick ms => exact ⟨h1, h2, h3⟩
  | fdEvent => exact ⟨h1, h2, h3⟩
  | clientSend d sc =>
    simp only [step, clientSend]
    split
    · exact ⟨h1, h2, h3⟩
    · split
      · exact ⟨h1, h2, h3⟩
      · rename_i hidle _
        have hcm : s.cHoldsM = false := by
          cases hm : s.cHoldsM
          · rfl
          · obtain ⟨d', hd'⟩ := h3 hm
            simp [hd'] at hidle
        exact ⟨h1, fun _ => rfl, fun hm => (by simp only [] at hm; rw [hcm] at hm; cases hm)⟩
  | client =>
    simp only [step, clientStep]
    cases hc : s.cpc with
    | idle => exact ⟨h1, h2, h3⟩
    | inSend d sc =>
      simp only []
      have hl : s.cHoldsL = true := h2 (by rw [hc]; simp)
      split
      · split
        · exact ⟨h1, fun _ => hl, fun _ => ⟨d, rfl⟩⟩
        · exact ⟨h1, h2, h3⟩
      · refine ⟨h1, fun hn => absurd rfl hn, ?_⟩
        intro hm
        obtain ⟨d', hd'⟩ := h3 hm
        rw [hc] at hd'; cases hd'
    | inUpdate d =>
      exact ⟨h1, fun hn => absurd rfl hn, fun hm => (by cases hm)⟩
  | et =>
    -- the event thread touches none of the client's fields
    have frame : (etStep s).cpc = s.cpc ∧ (etStep s).cHoldsL = s.cHoldsL ∧ (etStep s).cHoldsM = s.cHoldsM := by
      simp only [etStep]
      cases s.pc <;> simp only [etProcUpdates, etWantTimeout, etInTimeout, etWaiting, etWantPending, etWantProcess,
        etInProcess, etRelock, noteAskL, apply_ite St.cpc, apply_ite St.cHoldsL, apply_ite St.cHoldsM, ite_self, and_self]
    show LockInv (etStep s)
    refine ⟨?_, by rw [frame.1, frame.2.1]; exact h2, by rw [frame.1, frame.2.2]; exact h3⟩
    simp only [etStep]
    cases hp : s.pc with
    | procUpdates =>
      simp only [etProcUpdates]
      split
      · exact h1
      · split <;> exact fun hm => (by cases hm)
    | relock =>
      simp only [etRelock]
      split
      · exact fun _ => rfl
      · exact fun hm => (by have := h1 hm; rw [hp] at this; cases this)
    | exited => exact fun hm => (by have := h1 hm; rw [hp] at this; cases this)
    | _ =>
      -- elsewhere it does not hold `M` and does not take it
      have hm0 := etHoldsM_false_of s h1 (by rw [hp]; simp)
      simp only [etWantTimeout, etInTimeout, etWaiting, etWantPending, etWantProcess, etInProcess, noteAskL_id s hm0]
      repeat (first | exact fun hm => Bool.noConfusion (hm0.symm.trans hm) | split)

theorem violations_step (s : St) (st : Step) (h : LockInv s) :
    (step s st).lockOrderViolations = s.lockOrderViolations := by
  obtain ⟨h1, _, _⟩ := h
  cases st with
  | tick ms => rfl
  | fdEvent => rfl
  | clientSend d sc => simp only [step, clientSend, apply_ite St.lockOrderViolations, ite_self]
  | client =>
    simp only [step, clientStep]; cases s.cpc <;> simp only [apply_ite St.lockOrderViolations, ite_self]
  | et =>
    simp only [step, etStep]
    cases hp : s.pc with
    | wantTimeout | wantProcess =>
      have hm0 := etHoldsM_false_of s h1 (by rw [hp]; simp)
      simp only [etWantTimeout, etWantProcess, noteAskL_id s hm0, apply_ite St.lockOrderViolations, ite_self]
    | _ =>
      simp only [etProcUpdates, etInTimeout, etWaiting, etWantPending, etInProcess, etRelock,
        apply_ite St.lockOrderViolations, ite_self]

/-- **C11 lock order**: no thread ever asks for the channel lock while holding the event-thread mutex
    (the only nesting is channel lock → event mutex), in every interleaving -/
theorem lock_order_acyclic (s : St) (steps : List Step) (h : LockInv s) :
    LockInv (run s steps) ∧ (run s steps).lockOrderViolations = s.lockOrderViolations := by
  induction steps generalizing s with
  | nil => exact ⟨h, rfl⟩
  | cons st rest ih =>
    have hstep := lockInv_step s st h
    obtain ⟨hi, hv⟩ := ih (step s st) hstep
    have hr : run s (st :: rest) = run (step s st) rest := rfl
    rw [hr]
    exact ⟨hi, by rw [hv, violations_step s st h]⟩

/-- **C11 no lock-order deadlock**: the event thread never blocks while holding its mutex — whenever it holds
    `M` its next step is enabled and releases `M` — so a client waiting for `M` (inside `L`) always gets it -/
theorem et_releases_mutex (s : St) (h : LockInv s) (hm : s.etHoldsM = true) :
    (step s .et).etHoldsM = false := by
  have hp := h.1 hm
  simp only [step, etStep, hp, etProcUpdates, hm, Bool.not_true, Bool.false_eq_true, ↓reduceIte]
  split <;> rfl

/-- **C11 wait-empty**: `ares_queue_wait_empty` evaluates its loop condition under the channel lock; it
    reports success only when it saw no outstanding request and had not timed out -/
theorem wait_empty_sound (queries : Nat) (timedOut : Bool) :
    waitEmptyReturnsSuccess queries timedOut = true → queries = 0 := by
  unfold waitEmptyReturnsSuccess
  intro h
  simp only [Bool.and_eq_true, beq_iff_eq] at h
  exact h.1

end Cares.C07b
