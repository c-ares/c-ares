import CaresLemmas.ChanPolicyWritesBodies
import CaresLemmas.ChanPolicyDeadline
import CaresLemmas.ChanPolicyProgress
import CaresLemmas.ChanPolicyTx
import CaresLemmas.ChanPolicyCalc
/-!
# C06 — Retries are bounded, policy-conforming, and every query terminates (channel state machine)

Model: the channel model `Cares.Chan` (`bodySendQuery` = `ares_send_query`, `bodyRequeue` = `ares_requeue_query`,
`bodyProcessAnswer` = `process_answer` incl. `ares_cookie_validate`, `issue_might_be_edns`/`rewrite_without_edns`, the
truncation branch, `bodyFlushRequeue` = the deferred-requeue flush of `read_answers`, `bodyProcessTimeouts` =
`process_timeouts`).  The arithmetic of `ares_calc_query_timeout` (shift / overflow) is `CaresProps/C06a.lean`.

* `writes_bounded` — for every fuel, call and state satisfying the accounting invariant (`PreC`, `CaresLemmas/ChanPolicyWritesCalls.lean`: `CInv` with the write credit the
  call comes with — none for an API-level call, `writes_bounded_call`), in the
  resulting state no query's frame has been handed to connections (`writeLog`) more than
  `max 1 (servers × tries) + 5` times: `servers × tries` counted tries, three BADCOOKIE resends, one EDNS downgrade,
  one UDP→TCP upgrade.  The invariant `CInv` (`CaresLemmas/ChanPolicyWrites*.lean`) pays every write and every
  pending deferred-requeue entry from the potential `try budget + cookie_try_count + (edns cleared) + (using_tcp)`,
  and shows `cookie_try_count ≤ 3` (a query with `using_tcp` is only attached to TCP connections and carries no
  cookie, so neither the BADCOOKIE nor the truncation branch can fire again).
  The statement relies on the F9 repair (`process_answer` drops replies that do not arrive on the query's current
  connection): on the pinned tree every duplicate truncated/BADCOOKIE reply caused one more, uncounted resend.
  *Named hypothesis* `FreshDraws` / `CInv.newObs`: the 16-bit draws offered to `generate_unique_qid` during an API
  call are pairwise distinct and distinct from the ids of live queries and pending requeue entries (otherwise a stale
  deferred-requeue entry — they are looked up by query id — can re-send a *new* query that drew the same id).
* `writes_bounded_init`, `writes_bounded_step` — the invariant holds for a fresh channel and is re-established for the
  next API call by a fresh observation; clock advances, queued replies, scripted faults do not touch it
  (`CInv.ofSameProj`, `CaresLemmas/ChanPolicyWritesSt.lean`).
* `transmissions_le_writes` — per query, the transmissions the virtual server has seen never outnumber the writes
  (`TInv`: transmissions + frames still queued in out buffers ≤ writes; connection descriptors are distinct).
* `deadline_within_policy`, `jitter_within_policy` — each attempt waits at least the base timeout
  (`St.serverTimeout`) and, when a maximum is configured, at most that maximum; an observed jittered deadline outside
  the admitted interval is flagged as an observation fault by `settle`.
* `deadline_agrees_calc`, `calc_deadline_accepted` — agreement with the arithmetic model of `ares_calc_query_timeout`
  (`Proto.Timeout.calcWith` / `calcQueryTimeout`, C06a): the first pass waits exactly what `calcWith` returns; from
  the second pass on, for `timeplus < 2²³` ms, the admitted interval is exactly the set of values `calcWith` takes
  for jitter amounts up to half of `timeplus`, every 16-bit draw of the tree's function (exact binary32 jitter) lies
  in it, the draw 0 yields its upper end, and `settle` accepts such a deadline without an observation fault.
* `timeouts_make_progress` — `process_timeouts` returns with no expired entry left (unless it reports a model fault or
  runs out of fuel); each expiry re-sends with `try_count + 1 < servers × tries` or ends the query.
-/
namespace Cares.C06
open Cares.Chan

theorem writes_bounded (fuel : Nat) (c : Call) (s : St) (tr ns : Nat) (h : PreC tr ns c s) :
    let r := (exec fuel c s).1
    r.outOfFuel = false →
      r.cfg.tries = tr ∧ r.servers.length = ns ∧ ∀ k, r.writeLog.count k ≤ max 1 (ns * tr) + 5 := by
  intro r hf
  have hc := exec_c fuel c s h
  exact ⟨(CInv.cfg_eq hc hf).1, (CInv.cfg_eq hc hf).2, fun k => CInv.count_le hc hf k⟩

/-- the usual case `servers × tries ≥ 1`: at most `servers × tries + 5` -/
theorem writes_bounded' (fuel : Nat) (c : Call) (s : St) (tr ns : Nat) (h : PreC tr ns c s) (hpos : 0 < ns * tr)
    (hf : (exec fuel c s).1.outOfFuel = false) (k : Nat) :
    (exec fuel c s).1.writeLog.count k ≤ ns * tr + 5 := by
  have := (writes_bounded fuel c s tr ns h hf).2.2 k
  omega

/-- the invariant holds for a fresh channel … -/
theorem writes_bounded_init (s : St) (hq : s.qs = []) (hb : s.byQid = []) (hr : s.requeueArr = [])
    (hw : s.writeLog = []) (hc : s.conns = []) (ht : ∀ v ∈ s.servers, v.tcpConn = none)
    (hrnd : FreshDraws s.obs.rnd2) : CInv s.cfg.tries s.servers.length none none s :=
  CInv.init s hq hb hr hw hc ht hrnd

/-- … every top-level API call (any procedure other than the internal `sendQuery` / `requeue`) keeps it … -/
theorem writes_bounded_call (fuel : Nat) (c : Call) (s : St) (tr ns : Nat) (h : CInv tr ns none none s)
    (hc : (∀ a k, c ≠ .sendQuery a k) ∧ (∀ k st i r d, c ≠ .requeue k st i r d)) :
    CInv tr ns none none (exec fuel c s).1 := by
  apply exec_c
  cases c <;> first | exact h | (exfalso; first | exact hc.1 _ _ rfl | exact hc.2 _ _ _ _ _ rfl)

/-- … and a fresh observation re-establishes it for the next call -/
theorem writes_bounded_step (s : St) (o : Obs) (tr ns : Nat) (h : CInv tr ns none none s) (hrnd : FreshDraws o.rnd2)
    (hq : ∀ q ∈ s.qs, q.qid ∉ o.rnd2) (hr : ∀ e ∈ s.requeueArr, e.1 ∉ o.rnd2) :
    CInv tr ns none none { s with obs := o } :=
  CInv.newObs s o h hrnd hq hr

/-- the counters behind the bound, for a live query: the cookie resends never exceed `COOKIE_RESEND_MAX = 3`, and
    writes + pending deferred entries are paid for by the potential -/
theorem live_query_accounting (s : St) (tr ns : Nat) (h : CInv tr ns none none s) (hf : s.outOfFuel = false)
    (q : Query) (hq : q ∈ s.qs) :
    q.cookieTry ≤ 3 ∧
    s.writeLog.count q.key + (s.requeueArr.countP fun e => e.1 == q.qid) ≤
      max 1 (min (q.tryCount + 1) (ns * tr)) + q.cookieTry + (if q.edns then 0 else 1) + (if q.usingTcp then 1 else 0) := by
  rcases h with h | hok
  · rw [hf] at h; cases h
  · have := hok.acct q hq
    rw [cr1_none] at this
    refine ⟨hok.ck3 q hq, ?_⟩
    have e : potP (cproj s) q = max 1 (min (q.tryCount + 1) (ns * tr)) + q.cookieTry + (if q.edns then 0 else 1) +
        (if q.usingTcp then 1 else 0) := by
      unfold potP bud
      rw [hok.htries, hok.hnsrv]
    rw [← e]
    exact this

/-- **transmissions_le_writes**: the invariant `TInv` (transmissions + queued frames ≤ writes, per key) holds for a
    fresh channel, is kept by every procedure run, and bounds the transmissions by the writes -/
theorem transmissions_le_writes (fuel : Nat) (c : Call) (s : St) (h : TInv s) (k : Nat) :
    TInv (exec fuel c s).1 ∧
    ((exec fuel c s).1.txs.filter (·.key == k)).length ≤ (exec fuel c s).1.writeLog.count k := by
  refine ⟨exec_t fuel c s h, ?_⟩
  have := exec_tx_le_writes fuel c s h k
  have e : ∀ l : List Tx, (l.filter (·.key == k)).length = (l.map (·.key)).count k := by
    intro l
    induction l with
    | nil => rfl
    | cons t r ih =>
      simp only [List.filter_cons, List.map_cons, List.count_cons]
      by_cases ht : t.key == k
      · simp only [ht, ↓reduceIte, List.length_cons, ih]
      · simp only [ht, Bool.false_eq_true, ↓reduceIte, ih, Nat.add_zero]
  rw [e]; exact this

theorem transmissions_le_writes_init (s : St) (ht : s.txs = []) (hc : s.conns = []) : TInv s := TInv.init s ht hc

/-- together: no query is transmitted more than `servers × tries + 5` times -/
theorem transmissions_bounded (fuel : Nat) (c : Call) (s : St) (tr ns : Nat) (h : PreC tr ns c s) (ht : TInv s)
    (hf : (exec fuel c s).1.outOfFuel = false) (k : Nat) :
    ((exec fuel c s).1.txs.filter (·.key == k)).length ≤ max 1 (ns * tr) + 5 :=
  Nat.le_trans (transmissions_le_writes fuel c s ht k).2 ((writes_bounded fuel c s tr ns h hf).2.2 k)

/-- **deadline_within_policy** (the deadline computation of `ares_send_query`, see `bodySendQuery_eq`) -/
theorem deadline_within_policy (s : St) (srvNow : Server) (tryCount : Nat) :
    (sqDeadline s srvNow tryCount).2.now = s.now ∧
    match (sqDeadline s srvNow tryCount).1 with
    | .at d => s.now + s.serverTimeout srvNow ≤ d ∧ (s.cfg.maxtimeout ≠ 0 → d ≤ s.now + s.cfg.maxtimeout)
    | .pending lo hi =>
      s.now + s.serverTimeout srvNow ≤ lo ∧ lo ≤ hi ∧ (s.cfg.maxtimeout ≠ 0 → hi ≤ s.now + s.cfg.maxtimeout)
    | .none => False :=
  Cares.Chan.deadline_within_policy s srvNow tryCount

/-- the base timeout itself: at least 250 ms unless the cap (`maxtimeout`, else 5000 ms) is lower, never above it -/
theorem base_timeout_bounds (s : St) (v : Server) :
    min 250 (timeoutCap s.cfg) ≤ s.serverTimeout v ∧ s.serverTimeout v ≤ timeoutCap s.cfg :=
  ⟨serverTimeout_ge s v, serverTimeout_le_cap s v⟩

/-- **jitter_within_policy**: `settle` takes an observed jittered deadline only from the admitted interval; otherwise
    it logs an observation fault -/
theorem jitter_within_policy (s : St) (k : Nat) (q : Query) (lo hi : Nat) (hq : s.query? k = some q)
    (hd : q.deadline = .pending lo hi) :
    (settleStep s k).obsFaults.length > s.obsFaults.length ∨
    ∃ v, lo ≤ v ∧ v ≤ hi ∧ (settleStep s k).dl? k = some (.at v) :=
  settleStep_within s k q lo hi hq hd

theorem timeouts_make_progress (fuel : Nat) (s : St) (hb : BT s) :
    let r := (exec fuel .processTimeouts s).1
    r.outOfFuel = false → r.modelFaults.length = s.modelFaults.length →
    BT r ∧
    (∀ k ∈ r.byTimeout, ∀ q, r.query? k = some q → expired r.now q.deadline = false) ∧
    (∀ k q, s.query? k = some q → expired s.now q.deadline = true →
      k ∉ r.byTimeout ∧ (r.query? k = none ∨ r.dl? k = some .none ∨ k ∈ r.pendingOrder)) :=
  expired_are_processed fuel s hb

/-- the measure: each processed expiry counts a try; a query is re-sent only while `try_count < servers × tries`,
    so it can expire at most `servers × tries` times before it is ended -/
theorem expiry_counts_a_try (go : Call → St → St × Ret) (key : Nat) (st : Status) (rec : Option Reply) (s : St)
    (q : Query) (hq : s.query? key = some q) :
    (∃ s' q', s'.query? key = some q' ∧ q'.tryCount = q.tryCount + 1 ∧
        q'.tryCount < s.servers.length * s.cfg.tries ∧ q'.noRetries = false ∧ q'.timeouts = q.timeouts ∧
        bodyRequeue go key st true rec false s = go (.sendQuery none key) s') ∨
    (∃ s' es, bodyRequeue go key st true rec false s = ((go (.endQuery none key es rec) s').1, .timeout)) :=
  requeue_progress go key st rec s q hq

/-! ## non-vacuity: concrete runs (kernel-evaluated) -/

def exServers : List Server := [{ id := 0, addr := "a" }]
def exSt : St :=
  { alive := true, cfg := { tries := 2, timeout := 1000 }, servers := exServers,
    obs := { rnd2 := [7, 9, 4, 11, 12, 13] } }
def exSpec : ReqSpec := { name := "6578", qtype := 1 }
def exSent : St := (exec 60 (.sendNolock none false false exSpec (.user 1) []) exSt).1.settle
def tcReply : Reply := { id := 7, name := "6578", qtype := 1, qclass := 1, rcode := 0, tc := true, len := 20 }

/-- the start state satisfies the invariant (so `writes_bounded` applies to every run from it) -/
example : CInv 2 1 none none exSt :=
  CInv.init exSt rfl rfl rfl rfl rfl (by decide) (by unfold FreshDraws; decide)

/-- nine copies of a truncated reply, read in one wake-up: one TCP resend, the other eight replies are dropped
    (the query is no longer attached to the UDP connection).  On the pinned tree this run wrote the frame ten
    times — more than `servers × tries + 5 = 7`. -/
example :
    let r := (exec 200 (.processRead 100)
      (exSent.modSock 100 fun v => { v with rx := List.replicate 9 tcReply })).1
    r.writeLog = [0, 0] ∧ r.outOfFuel = false ∧ r.modelFaults = [] ∧
    r.qs.map (fun q => (q.tryCount, q.usingTcp, q.conn)) = [(0, true, some 101)] := by decide

/-- EDNS downgrade followed by the TCP upgrade: two non-counting resends, `try_count` still 0 -/
example :
    let s1 := (exec 60 (.sendNolock none false false { exSpec with edns := true } (.user 1) []) exSt).1.settle
    let formerr : Reply := { id := 7, name := "6578", qtype := 1, qclass := 1, rcode := 1, len := 20 }
    let s2 := (exec 200 (.processRead 100) (s1.modSock 100 fun v => { v with rx := [formerr] })).1.settle
    let s3 := (exec 200 (.processRead 100) (s2.modSock 100 fun v => { v with rx := [tcReply] })).1.settle
    s3.writeLog = [0, 0, 0] ∧ s3.qs.map (fun q => (q.edns, q.usingTcp, q.tryCount)) = [(false, true, 0)] ∧
    s3.outOfFuel = false ∧ s3.modelFaults = [] := by decide

/-- the start state satisfies `TInv`; after the send one transmission for one write -/
example : TInv exSt := TInv.init exSt rfl rfl
example : exSent.txs.map (·.key) = [0] ∧ exSent.writeLog = [0] := by decide

/-- the deadline of the first attempt is exactly `now + timeout`; with `try_count = 1` and one server it is jittered
    inside `[now + 1000, now + 2000]` -/
example : (sqDeadline exSt exServers.head! 0).1 = .at 1000 ∧
    (sqDeadline exSt exServers.head! 1).1 = .pending 1000 2000 := by decide

open Cares.Proto.Timeout Cares.Generated.Proto in
/-- **deadline_agrees_calc.**  `T` = the base timeout of the server (`ares_metrics_server_timeout`), `n` = number of
    servers (positive: a server was chosen), `tp` = the channel model's doubled and capped `timeplus`.
    * First pass (`try_count < n`): the deadline is exactly `now + calcWith …`, whatever the shift flavour and jitter.
    * Later passes, **for `tp < 2²³` ms**: the deadline is `.pending (now + lo) (now + hi)` with `lo = max T (tp − tp/2)`,
      `hi = max T tp`, and
      (i) for every 16-bit draw `r` the value `calcQueryTimeout T maxtimeout try_count n r` of the tree under check
          (guarded shift, exact binary32 jitter) lies in `[lo, hi]`;
      (ii) the draw `0` yields `hi`;
      (iii) `[lo, hi]` is exactly the set of values of `calcWith` over the jitter amounts `d ≤ tp/2`.
    The bound is needed for (i): for larger `tp` the binary32 roundings can take away one unit more than `tp/2`
    (C06a's `jitterOk` allows `tp/2 + tp/2²⁴ + tp/2⁴⁹`); the values before the jitter agree as long as `tp ≤ 2⁶³ − 1`
    (`preJitter_eq_chan`). -/
theorem deadline_agrees_calc (s : St) (srvNow : Server) (tryCount : Nat) (hn : 0 < s.servers.length) :
    let T := s.serverTimeout srvNow
    let n := s.servers.length
    let mx := s.cfg.maxtimeout
    let tp := chanTimeplus T mx (tryCount / n)
    (tryCount / n = 0 → ∀ g jit,
      (sqDeadline s srvNow tryCount).1 = .at (s.now + (calcWith g jit T mx tryCount n).timeplus)) ∧
    (0 < tryCount / n → tp < 2 ^ 23 →
      (sqDeadline s srvNow tryCount).1 = .pending (s.now + chanLo T tp) (s.now + chanHi T tp) ∧
      (∀ r, r ≤ USHRT_MAX →
        chanLo T tp ≤ (calcQueryTimeout T mx tryCount n r).timeplus ∧
        (calcQueryTimeout T mx tryCount n r).timeplus ≤ chanHi T tp) ∧
      (calcQueryTimeout T mx tryCount n 0).timeplus = chanHi T tp ∧
      (∀ v, (chanLo T tp ≤ v ∧ v ≤ chanHi T tp) ↔
        ∃ d, d ≤ tp / 2 ∧ (calcWith true (fun _ => d) T mx tryCount n).timeplus = v)) := by
  intro T n mx tp
  have hT : 0 < T := by
    have h1 := serverTimeout_ge s srvNow
    have h2 : 0 < timeoutCap s.cfg := by
      unfold timeoutCap
      split
      · rename_i h
        have : s.cfg.maxtimeout ≠ 0 := by simpa using h
        omega
      · omega
    show 0 < s.serverTimeout srvNow
    omega
  have hcapT : mx ≠ 0 → T ≤ mx := by
    intro hm
    have := serverTimeout_le_cap s srvNow
    unfold timeoutCap at this
    rw [if_pos (by simpa using hm)] at this
    exact this
  constructor
  · intro hr g jit
    obtain ⟨h1, h2⟩ := calcWith_first_pass g jit T mx tryCount n hn hr hcapT
    have hr' : tryCount / s.servers.length = 0 := hr
    rw [sqDeadline_eq, if_neg (show ¬ tryCount / s.servers.length > 0 by omega), h1]
    show Deadline.at (s.now + max (chanTimeplus T mx (tryCount / n)) T) = _
    rw [h2]
  · intro hr htp
    have e3 : (2 : Nat) ^ 23 = 8388608 := by decide
    have hfit : chanTimeplus T mx (tryCount / n) ≤ MAX_TIMEPLUS := by
      rw [max_timeplus_val]
      have : tp < 8388608 := by rw [← e3]; exact htp
      show tp ≤ _
      omega
    have hg : (CALC_SHIFT_GUARDED == 1) = true := by decide
    have hval : ∀ jit : Nat → Nat, jit tp ≤ tp / 2 →
        (calcWith true jit T mx tryCount n).timeplus = max T (tp - jit tp) := by
      intro jit hj
      exact calcWith_jittered jit T mx tryCount n hn hT hr hfit (Nat.le_trans hj (Nat.div_le_self _ _))
    refine ⟨?_, ?_, ?_, ?_⟩
    · rw [sqDeadline_eq, if_pos hr]
    · intro r hr16
      have hj : jitterExact tp r ≤ tp / 2 := jitterExact_le_half tp r hr16 htp
      have e : (calcQueryTimeout T mx tryCount n r).timeplus = max T (tp - jitterExact tp r) := by
        unfold calcQueryTimeout; rw [hg]; exact hval _ hj
      rw [e]
      exact (chan_interval_iff T tp _).2 ⟨_, hj, rfl⟩
    · have e : (calcQueryTimeout T mx tryCount n 0).timeplus = max T (tp - jitterExact tp 0) := by
        unfold calcQueryTimeout; rw [hg]; exact hval _ (by rw [jitterExact_zero]; exact Nat.zero_le _)
      rw [e, jitterExact_zero]
      rfl
    · intro v
      rw [chan_interval_iff]
      constructor
      · rintro ⟨d, hd, rfl⟩
        exact ⟨d, hd, hval (fun _ => d) hd⟩
      · rintro ⟨d, hd, rfl⟩
        exact ⟨d, hd, hval (fun _ => d) hd⟩

open Cares.Proto.Timeout Cares.Generated.Proto in
/-- **calc_deadline_accepted**: a query whose jittered deadline was set by `sqDeadline` and for which the observation
    reports the remaining time `calcQueryTimeout …` of *some* 16-bit draw is settled to exactly that deadline, and
    `settle` logs no observation fault (converse direction of `jitter_within_policy`) -/
theorem calc_deadline_accepted (s0 : St) (srvNow : Server) (tryCount : Nat) (hn : 0 < s0.servers.length)
    (hr : 0 < tryCount / s0.servers.length)
    (htp : chanTimeplus (s0.serverTimeout srvNow) s0.cfg.maxtimeout (tryCount / s0.servers.length) < 2 ^ 23)
    (s : St) (k : Nat) (q : Query) (hq : s.query? k = some q) (hnow : s.now = s0.now)
    (hd : q.deadline = (sqDeadline s0 srvNow tryCount).1)
    (r id : Nat) (hr16 : r ≤ USHRT_MAX)
    (ho : s.obs.dls.find? (·.1 == q.qid) = some (id,
      ((calcQueryTimeout (s0.serverTimeout srvNow) s0.cfg.maxtimeout tryCount s0.servers.length r).timeplus : Int))) :
    (settleStep s k).obsFaults = s.obsFaults ∧
    (settleStep s k).dl? k = some (.at (s.now +
      (calcQueryTimeout (s0.serverTimeout srvNow) s0.cfg.maxtimeout tryCount s0.servers.length r).timeplus)) := by
  obtain ⟨hpend, hin, _, _⟩ := (deadline_agrees_calc s0 srvNow tryCount hn).2 hr htp
  rw [hpend] at hd
  have hv : (Int.ofNat s.now + ((calcQueryTimeout (s0.serverTimeout srvNow) s0.cfg.maxtimeout tryCount
      s0.servers.length r).timeplus : Int)).toNat =
      s.now + (calcQueryTimeout (s0.serverTimeout srvNow) s0.cfg.maxtimeout tryCount s0.servers.length r).timeplus := by
    show ((s.now : Int) + _).toNat = _
    omega
  have := settleStep_accepts s k q _ _ id _ hq hd ho
    (by rw [hv, hnow]; exact Nat.add_le_add_left (hin r hr16).1 _)
    (by rw [hv, hnow]; exact Nat.add_le_add_left (hin r hr16).2 _)
  rw [hv] at this
  exact this

open Cares.Proto.Timeout in
/-- non-vacuity: second pass with one server, base 1000 ms: the interval is `[1000, 2000]`; the draws 0, 65535 and
    12345 of the tree's function give 2000 (upper end), 1000 (lower end) and a value in between; at `tp = 2²³ − 1` the
    extreme draw still takes away exactly `⌊tp/2⌋` -/
example : (sqDeadline exSt exServers.head! 1).1 = .pending (exSt.now + chanLo 1000 2000) (exSt.now + chanHi 1000 2000) ∧
    chanLo 1000 2000 = 1000 ∧ chanHi 1000 2000 = 2000 ∧ chanTimeplus 1000 0 1 = 2000 ∧
    (calcQueryTimeout 1000 0 1 1 0).timeplus = 2000 ∧ (calcQueryTimeout 1000 0 1 1 65535).timeplus = 1000 ∧
    (calcQueryTimeout 1000 0 1 1 12345).timeplus = 1812 ∧
    jitterExact (2 ^ 23 - 1) 65535 = (2 ^ 23 - 1) / 2 := by decide +kernel

end Cares.C06
