import CaresModel.Generated.HostCb
import CaresModel.Chan.Client
/-!
# C13 — the completion decision of ares_getaddrinfo

Over the decision chain that tools/gen_hostcb.py regenerates from host_callback() in /repo/src/lib/ares_getaddrinfo.c on
every run (CaresModel/Generated/HostCb.lean).

* cancel / destroy end the request with that status and nothing else (no partial result);
* once an allocation failure was recorded for the request it ends with ARES_ENOMEM (F50-C14): a lookup never reports
  success while an accepted answer's addresses were lost;
* success is only reported with at least one address, and only when the last answer was converted (or carried no
  address records, or was malformed while another answer had given addresses);
* going on to the next candidate name happens only while no address is known;
* an address already known is never discarded by a failing sibling sub-request (`address_known_succeeds`), a no-data answer
  of an earlier candidate is remembered (`nodata_is_sticky`), and the final status is never invented (`finish_status_origin`);
* on the domain the channel model exercises (no allocation failures; the conversion yields success or no-data) the
  generated chain IS the hand-written model's chain: `gaiOnCb` is `gaiCbPre` followed by the generated decision
  (`gaiOnCb_follows_generated`), so the end-to-end theorems of C13b / C12c about the model's getaddrinfo client speak
  about the decision logic the C source has today.
-/

namespace Cares.C13c
open Cares.Chan Cares.Generated.HostCb

/-- different, stated in both orientations, for `simp` to decide a comparison whichever way round the chain writes it -/
private abbrev Ne2 (a b : Status) : Prop := ¬a = b ∧ ¬b = a

private theorem ne2 {a b : Status} (h : ¬a = b) : Ne2 a b := ⟨h, Ne.symm h⟩

/-- a partition of the inputs of the decision chain by the truth of the comparisons it may make (it does not mention
    the chain) -/
private theorem chain_cases {P : Prop} (status addinfo : Status) (nodes nomem single : Bool)
    (destroyed : status = .destruction → P) (cancelled : status = .cancelled → P)
    (lost : Ne2 status .destruction → Ne2 status .cancelled → nomem = true → P)
    (foundBad : Ne2 status .destruction → Ne2 status .cancelled → nomem = false → nodes = true →
      addinfo = .badresp → P)
    (foundOk : Ne2 status .destruction → Ne2 status .cancelled → nomem = false → nodes = true → addinfo = .ok → P)
    (foundNodata : Ne2 status .destruction → Ne2 status .cancelled → nomem = false → nodes = true →
      addinfo = .nodata → P)
    (foundFailed : Ne2 status .destruction → Ne2 status .cancelled → nomem = false → nodes = true →
      Ne2 addinfo .badresp → Ne2 addinfo .ok → Ne2 addinfo .nodata → P)
    (emptyNodata : Ne2 status .destruction → Ne2 status .cancelled → nomem = false → nodes = false →
      addinfo = .nodata → P)
    (emptyFailed : Ne2 status .destruction → Ne2 status .cancelled → nomem = false → nodes = false →
      Ne2 addinfo .ok → Ne2 addinfo .nodata → P)
    (stNodata : Ne2 status .destruction → Ne2 status .cancelled → nomem = false → nodes = false → addinfo = .ok →
      status = .nodata → P)
    (stNotfound : Ne2 status .destruction → Ne2 status .cancelled → nomem = false → nodes = false → addinfo = .ok →
      status = .notfound → P)
    (stServfail : Ne2 status .destruction → Ne2 status .cancelled → nomem = false → nodes = false → addinfo = .ok →
      single = true → status = .servfail → P)
    (stRefused : Ne2 status .destruction → Ne2 status .cancelled → nomem = false → nodes = false → addinfo = .ok →
      single = true → status = .refused → P)
    (stOther : Ne2 status .destruction → Ne2 status .cancelled → nomem = false → nodes = false → addinfo = .ok →
      single = true → Ne2 status .nodata → Ne2 status .notfound → Ne2 status .servfail → Ne2 status .refused → P)
    (multi : Ne2 status .destruction → Ne2 status .cancelled → nomem = false → nodes = false → addinfo = .ok →
      single = false → Ne2 status .nodata → Ne2 status .notfound → P) : P := by
  by_cases h1 : status = .destruction
  · exact destroyed h1
  by_cases h2 : status = .cancelled
  · exact cancelled h2
  have h1 := ne2 h1
  have h2 := ne2 h2
  cases nomem with
  | true => exact lost h1 h2 rfl
  | false =>
  cases nodes with
  | true =>
    by_cases hb : addinfo = .badresp
    · exact foundBad h1 h2 rfl rfl hb
    by_cases ho : addinfo = .ok
    · exact foundOk h1 h2 rfl rfl ho
    by_cases hd : addinfo = .nodata
    · exact foundNodata h1 h2 rfl rfl hd
    · exact foundFailed h1 h2 rfl rfl (ne2 hb) (ne2 ho) (ne2 hd)
  | false =>
    by_cases hd : addinfo = .nodata
    · exact emptyNodata h1 h2 rfl rfl hd
    by_cases ho : ¬addinfo = .ok
    · exact emptyFailed h1 h2 rfl rfl (ne2 ho) (ne2 hd)
    have ho := Decidable.of_not_not ho
    by_cases h5 : status = .nodata
    · exact stNodata h1 h2 rfl rfl ho h5
    by_cases h6 : status = .notfound
    · exact stNotfound h1 h2 rfl rfl ho h6
    cases single with
    | false => exact multi h1 h2 rfl rfl ho rfl (ne2 h5) (ne2 h6)
    | true =>
      by_cases h7 : status = .servfail
      · exact stServfail h1 h2 rfl rfl ho rfl h7
      by_cases h8 : status = .refused
      · exact stRefused h1 h2 rfl rfl ho rfl h8
      · exact stOther h1 h2 rfl rfl ho rfl (ne2 h5) (ne2 h6) (ne2 h7) (ne2 h8)

theorem cancel_no_partial (status addinfo : Status) (nodes nomem single : Bool) (nodata : Nat)
    (h : status = .destruction ∨ status = .cancelled) :
    (final status addinfo nodes nomem single nodata).1 = .finish status := by
  rcases h with h | h <;> simp [final, h]

theorem nomem_reported (status addinfo : Status) (nodes single : Bool) (nodata : Nat)
    (h1 : status ≠ .destruction) (h2 : status ≠ .cancelled) :
    (final status addinfo nodes true single nodata).1 = .finish .nomem := by
  simp [final, ne2 h1, ne2 h2]

theorem success_has_address (status addinfo : Status) (nodes nomem single : Bool) (nodata : Nat)
    (hparse : status = .ok → addinfo = .ok → nodes = true)
    (h : (final status addinfo nodes nomem single nodata).1 = .finish .ok) : nodes = true := by
  revert h hparse
  apply chain_cases status addinfo nodes nomem single <;> intros <;> subst_vars <;> simp_all [final, Ne2]

theorem success_is_complete (status addinfo : Status) (nodes nomem single : Bool) (nodata : Nat)
    (h : (final status addinfo nodes nomem single nodata).1 = .finish .ok) :
    nomem = false ∧ (addinfo = .ok ∨ addinfo = .nodata ∨ addinfo = .badresp) := by
  revert h
  apply chain_cases status addinfo nodes nomem single <;> intros <;> subst_vars <;> simp_all [final, Ne2]

theorem next_only_without_address (status addinfo s : Status) (nodes nomem single : Bool) (nodata : Nat)
    (h : (final status addinfo nodes nomem single nodata).1 = .next s) :
    nodes = false ∧ nomem = false ∧ status ≠ .destruction ∧ status ≠ .cancelled := by
  revert h
  apply chain_cases status addinfo nodes nomem single <;> intros <;> subst_vars <;> simp_all [final, Ne2] <;>
    subst_vars <;> simp

theorem nodata_count_step (status addinfo : Status) (nodes nomem single : Bool) (nodata : Nat) :
    nodata ≤ (final status addinfo nodes nomem single nodata).2 ∧
    (final status addinfo nodes nomem single nodata).2 ≤ nodata + 1 := by
  apply chain_cases status addinfo nodes nomem single <;> intros <;> subst_vars <;> simp_all [final, Ne2]

/-- an address already obtained is never thrown away: whatever the sub-request's own status was (timeout, servfail, ... on
    the other address family), once an address is known and nothing was lost to an allocation failure the request succeeds
    (`nodes_true` with `hn` is the argument `nodes` of `final` at `true`: an address is known) -/
theorem address_known_succeeds (status addinfo : Status) (nodes_true : Bool) (single : Bool) (nodata : Nat)
    (hn : nodes_true = true) (h1 : status ≠ .destruction) (h2 : status ≠ .cancelled)
    (ha : addinfo = .ok ∨ addinfo = .nodata ∨ addinfo = .badresp) :
    (final status addinfo nodes_true false single nodata).1 = .finish .ok := by
  subst hn
  rcases ha with ha | ha | ha <;> subst ha <;> simp [final, ne2 h1, ne2 h2]

/-- a no-data answer seen for an earlier candidate is remembered: once the counter is non-zero, running out of candidates
    reports ARES_ENODATA, not the (less specific) status of the last candidate -/
theorem nodata_is_sticky (status addinfo s : Status) (nodes nomem single : Bool) (nodata : Nat) (hpos : 0 < nodata)
    (h : (final status addinfo nodes nomem single nodata).1 = .next s) : s = .nodata := by
  have hne : nodata ≠ 0 := by omega
  revert h
  apply chain_cases status addinfo nodes nomem single <;> intros <;> subst_vars <;> simp_all [final, Ne2]

/-- the status a request ends with is never invented: it is the sub-request's status, the conversion's status, success, or
    out-of-memory -/
theorem finish_status_origin (status addinfo s : Status) (nodes nomem single : Bool) (nodata : Nat)
    (h : (final status addinfo nodes nomem single nodata).1 = .finish s) :
    s = status ∨ s = addinfo ∨ s = .ok ∨ s = .nomem := by
  revert h
  apply chain_cases status addinfo nodes nomem single <;> intros <;> subst_vars <;> simp_all [final, Ne2]

/-- the hand-written channel model's completion chain (`gaiOnCb`, after the last sub-request of a candidate) -/
def modelFinal (st addinfo : Status) (nodes single : Bool) (nodata : Nat) : Act × Nat :=
  if st == .destruction || st == .cancelled then (.finish st, nodata)
  else if addinfo != .ok && addinfo != .nodata then (.finish addinfo, nodata)
  else if nodes then (.finish .ok, nodata)
  else if st == .notfound || st == .nodata || addinfo == .nodata then
    let nodata := if st == .nodata || addinfo == .nodata then nodata + 1 else nodata
    (.next (if nodata != 0 then .nodata else st), nodata)
  else if (st == .servfail || st == .refused) && single then
    (.next (if nodata != 0 then .nodata else st), nodata)
  else (.finish st, nodata)

theorem final_agrees_model (status addinfo : Status) (nodes single : Bool) (nodata : Nat)
    (ha : addinfo = .ok ∨ addinfo = .nodata) :
    final status addinfo nodes false single nodata = modelFinal status addinfo nodes single nodata := by
  revert ha
  apply chain_cases status addinfo nodes false single <;> intros <;> subst_vars <;> simp_all [final, modelFinal, Ne2]

/-- the part of `gaiOnCb` before the completion chain: status of the sub-request, conversion of its answer -/
def gaiCbPre (c : Client) (st0 : Status) (timeouts : Nat) (rec : Option Reply) : Client × Status × Status × List ClientAct :=
  let st : Status := if st0 != .ok then st0 else
    match rec with
    | some r => replyToStatus r.rcode r.an
    | none => st0
  let c := { c with timeouts := c.timeouts + timeouts, remaining := c.remaining - 1 }
  let (c, addinfo, acts) : Client × Status × List ClientAct :=
    match st, rec with
    | .ok, some r =>
      if r.an == 0 then (c, .nodata, []) else
      let isA := r.qtype == 1
      let isAAAA := r.qtype == 28
      if !isA && !isAAAA then
        let nodes := (List.range r.an).map fun i => s!"{answerAddr 1 r.mark i}/{r.ttls.getD i (r.ttls.getLastD 300)}"
        let c := { c with addrs := c.addrs ++ nodes, hasV4 := true,
                          aiName := if hexLower c.aiName == hexLower r.name && c.aiName != "" then c.aiName else r.name }
        (c, .ok, [])
      else
        let nodes := (List.range r.an).map fun i => s!"{answerAddr r.qtype r.mark i}/{r.ttls.getD i (r.ttls.getLastD 300)}"
        let c := { c with addrs := c.addrs ++ nodes, hasV4 := c.hasV4 || isA,
                          aiName := if hexLower c.aiName == hexLower r.name && c.aiName != "" then c.aiName else r.name }
        let other := if r.id == c.qidA then c.qidAAAA else c.qidA
        (c, .ok, if c.hasV4 && c.remaining != 0 then [.noRetry other] else [])
    | _, _ => (c, .ok, [])
  (c, st, addinfo, acts)

/-- the completion chain of `gaiOnCb`, verbatim, as a function of what precedes it -/
def gaiFinish (cfg : Cfg) (c : Client) (st addinfo : Status) (acts : List ClientAct) : Client × List ClientAct :=
  if c.remaining != 0 then (c, acts) else
  if st == .destruction || st == .cancelled then (c, acts ++ [.finish st c.timeouts "ai="])
  else if addinfo != .ok && addinfo != .nodata then (c, acts ++ [.finish addinfo c.timeouts "ai="])
  else if !c.addrs.isEmpty then (c, acts ++ [.finish .ok c.timeouts (gaiDigest c)])
  else if st == .notfound || st == .nodata || addinfo == .nodata then
    let c := if st == .nodata || addinfo == .nodata then { c with nodataCnt := c.nodataCnt + 1 } else c
    let (c, a) := gaiNextLookup cfg 8 c (if c.nodataCnt != 0 then .nodata else st)
    (c, acts ++ a)
  else if (st == .servfail || st == .refused) && labelCnt c.lastName == 1 then
    let (c, a) := gaiNextLookup cfg 8 c (if c.nodataCnt != 0 then .nodata else st)
    (c, acts ++ a)
  else (c, acts ++ [.finish st c.timeouts "ai="])

theorem gaiOnCb_split (cfg : Cfg) (c : Client) (st0 : Status) (timeouts : Nat) (rec : Option Reply) :
    gaiOnCb cfg c st0 timeouts rec =
      gaiFinish cfg (gaiCbPre c st0 timeouts rec).1 (gaiCbPre c st0 timeouts rec).2.1
        (gaiCbPre c st0 timeouts rec).2.2.1 (gaiCbPre c st0 timeouts rec).2.2.2 := by
  unfold gaiOnCb gaiCbPre gaiFinish
  rfl

theorem gaiFinish_modelFinal (cfg : Cfg) (c : Client) (st addinfo : Status) (acts : List ClientAct) :
    gaiFinish cfg c st addinfo acts =
      if c.remaining != 0 then (c, acts) else
      match modelFinal st addinfo (!c.addrs.isEmpty) (labelCnt c.lastName == 1) c.nodataCnt with
      | (.finish s, _) => (c, acts ++ [.finish s c.timeouts (if s == .ok && !c.addrs.isEmpty then gaiDigest c else "ai=")])
      | (.next s, n) =>
        let r := gaiNextLookup cfg 8 { c with nodataCnt := n } s
        (r.1, acts ++ r.2) := by
  unfold gaiFinish modelFinal
  by_cases h0 : c.remaining != 0
  · simp [h0]
  · simp only [h0]
    by_cases h1 : (st == .destruction || st == .cancelled) = true
    · simp [h1]; rcases (by simpa using h1 : st = .destruction ∨ st = .cancelled) with h | h <;> subst h <;> simp
    · simp only [h1]
      by_cases h2 : (addinfo != .ok && addinfo != .nodata) = true
      · have : (addinfo == .ok) = false := by simp at h2; simp [h2.1]
        simp [h2, this]
      · simp only [h2]
        by_cases h3 : (!c.addrs.isEmpty) = true
        · simp [h3]
        · simp only [h3]
          by_cases h4 : (st == .notfound || st == .nodata || addinfo == .nodata) = true
          · simp only [h4]
            by_cases h5 : (st == .nodata || addinfo == .nodata) = true
            · simp [h5]
            · simp [h5]
          · simp only [h4]
            by_cases h6 : ((st == .servfail || st == .refused) && labelCnt c.lastName == 1) = true
            · simp [h6]
            · simp only [h6]
              simp

theorem gaiCbPre_addinfo (c : Client) (st0 : Status) (timeouts : Nat) (rec : Option Reply) :
    (gaiCbPre c st0 timeouts rec).2.2.1 = .ok ∨ (gaiCbPre c st0 timeouts rec).2.2.1 = .nodata := by
  unfold gaiCbPre
  simp only []
  repeat' split
  all_goals simp

/-- the model's getaddrinfo client decides through the chain generated from the C source -/
theorem gaiOnCb_follows_generated (cfg : Cfg) (c : Client) (st0 : Status) (timeouts : Nat) (rec : Option Reply) :
    gaiOnCb cfg c st0 timeouts rec =
      (let p := gaiCbPre c st0 timeouts rec
       let c' := p.1
       if c'.remaining != 0 then (c', p.2.2.2) else
       match final p.2.1 p.2.2.1 (!c'.addrs.isEmpty) false (labelCnt c'.lastName == 1) c'.nodataCnt with
       | (.finish s, _) =>
         (c', p.2.2.2 ++ [.finish s c'.timeouts (if s == .ok && !c'.addrs.isEmpty then gaiDigest c' else "ai=")])
       | (.next s, n) =>
         let r := gaiNextLookup cfg 8 { c' with nodataCnt := n } s
         (r.1, p.2.2.2 ++ r.2)) := by
  rw [gaiOnCb_split, gaiFinish_modelFinal]
  simp only [final_agrees_model _ _ _ _ _ (gaiCbPre_addinfo c st0 timeouts rec)]

/-! non-vacuity: concrete points of the generated chain -/
example : (final .ok .ok true false false 0).1 = .finish .ok := by decide
example : (final .ok .nomem true false false 0).1 = .finish .nomem := by decide
example : (final .timeout .ok true true false 0).1 = .finish .nomem := by decide
example : (final .cancelled .ok true true false 0).1 = .finish .cancelled := by decide
example : final .notfound .ok false false false 0 = (.next .notfound, 0) := by decide
example : final .ok .nodata false false false 0 = (.next .nodata, 1) := by decide
example : (final .servfail .ok false false true 2).1 = .next .nodata := by decide
example : (final .servfail .ok false false false 2).1 = .finish .servfail := by decide
example : (final .timeout .ok true false false 0).1 = .finish .ok := by decide   -- address_known_succeeds: sibling timed out
example : (final .notfound .ok false false false 1).1 = .next .nodata := by decide   -- nodata_is_sticky

end Cares.C13c
