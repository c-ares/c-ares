import CaresLemmas.LegacyAddr
import CaresLemmas.LegacySort
import CaresLemmas.LegacyPtr
/-!
# C13 — address lookups return exactly the addresses the answers contain (pure part)

Property theorems for the pure conversions; the end-to-end lookups (merge of the A and AAAA sub-queries,
hosts file, lookup order, the names actually queried) are tied by the channel simulator, which imports
`Cares.AddrInfo.addrinfoOfAnswer` (characterised by `addrinfoOfAnswer_spec`) and `merge_appends`.

* `addrs_exact` / `addrs_multiset` — the nodes made from an answer are exactly its A/AAAA records in class
  IN, in answer order, each with the port and the record TTL: none invented, duplicated or dropped.
  (`ares_parse_into_addrinfo` does **not** compare owner names with the CNAME chain — issue #683 in the
  source — so "for the followed CNAME chain" means: all address records of the answer section.)
* `hostent_addrs_family`, `addrttl_family_capacity` — the conversions keep exactly the requested family, in
  order (and at most the offered capacity).
* `sort_is_permutation`, `sort_is_sorted` (sortlist insertion sort, proved directly on the array algorithm),
  `sortaddrinfo_is_permutation` (RFC 6724 sort: for *every* permutation `qsort` may return, the relinked list
  is that permutation of the input), `relink_walk`.
* `localhost_addrs`, `fake_addrs`; `fake_family_partial` + `fake_family_fails` (an IPv4 literal is returned
  for an AF_INET6-only request).
* `ptr_name_correct`, `ptr_name_injective`, `reverse_returns_ptr_targets`.
-/
namespace Cares.C13
open Cares.Legacy Cares.AddrInfo


/-- answers in class IN, in answer order -/
def inAnswers (r : LRec) : List RR := r.answers.filter (fun rr => rr.cls = clsIN)

/-- the address record an answer carries, as (family, address, port, ttl) -/
def addrRecord (port : Nat) (rr : RR) : Option AddrNode :=
  match rr.data with
  | .a x => some { family := afINET, addr := x, port := port, ttl := toI32 rr.ttl }
  | .aaaa x => some { family := afINET6, addr := x, port := port, ttl := toI32 rr.ttl }
  | _ => none

/-- the A/AAAA records of the answer section -/
def answerAddrs (port : Nat) (r : LRec) : List AddrNode := (inAnswers r).filterMap (addrRecord port)

def isCnameRR (rr : RR) : Bool := match rr.data with | .cname _ => true | _ => false

private theorem nodeOf_eq (port : Nat) (r : LRec) : r.answers.filterMap (nodeOf port) = answerAddrs port r :=
  filterMap_keep _ (nodeOf port) _ (fun ⟨_, _, _, d⟩ => by unfold nodeOf; rw [ite_not]; cases d <;> rfl) r.answers


/-- `ares_parse_into_addrinfo` on a fresh addrinfo: SUCCESS gives exactly the address records of the
    answer, in order, with port and TTL; the only other outcome is ENODATA with nothing added -/
theorem addrs_exact (r : LRec) (q : Bytes) (qs : List Bytes) (hq : r.questions = q :: qs) (cn : Bool) (port : Nat) :
    (parseIntoAddrinfo r cn port {}).1 = .success ∧ (parseIntoAddrinfo r cn port {}).2.nodes = answerAddrs port r
    ∨ (parseIntoAddrinfo r cn port {}).1 = .enodata ∧ (parseIntoAddrinfo r cn port {}).2 = {} := by
  rw [parseIntoAddrinfo_fresh r q qs hq cn port]
  split
  · exact Or.inl ⟨rfl, nodeOf_eq port r⟩
  · exact Or.inr ⟨rfl, rfl⟩

/-- multiset form: every (family, address, port, ttl) occurs in the result as often as in the answer -/
theorem addrs_multiset (r : LRec) (q : Bytes) (qs : List Bytes) (hq : r.questions = q :: qs) (cn : Bool) (port : Nat)
    (h : (parseIntoAddrinfo r cn port {}).1 = .success) (n : AddrNode) :
    (parseIntoAddrinfo r cn port {}).2.nodes.count n = (answerAddrs port r).count n := by
  rcases addrs_exact r q qs hq cn port with ⟨_, h2⟩ | ⟨h1, _⟩
  · rw [h2]
  · rw [h] at h1; cases h1

/-- what the simulator imports -/
theorem addrinfoOfAnswer_spec (r : LRec) (q : Bytes) (qs : List Bytes) (hq : r.questions = q :: qs)
    (cn : Bool) (port : Nat) :
    addrinfoOfAnswer r port cn =
      if usable cn r.answers then .ok (answerAddrs port r, r.answers.filterMap cnameOf) else .error .enodata := by
  unfold addrinfoOfAnswer
  rw [parseIntoAddrinfo_fresh r q qs hq cn port]
  by_cases hu : usable cn r.answers = true
  · simp [hu, nodeOf_eq]
  · simp [hu]

/-- merging a further answer (second sub-query): on SUCCESS the new nodes and cnames are appended after
    what is already there, otherwise (ENODATA) the addrinfo is unchanged -/
theorem merge_appends (r : LRec) (q : Bytes) (qs : List Bytes) (hq : r.questions = q :: qs) (cn : Bool) (port : Nat)
    (ai : AddrInfo) :
    ((parseIntoAddrinfo r cn port ai).1 = .success ∧
      (parseIntoAddrinfo r cn port ai).2.nodes = ai.nodes ++ answerAddrs port r ∧
      (parseIntoAddrinfo r cn port ai).2.cnames = ai.cnames ++ r.answers.filterMap cnameOf)
    ∨ ((parseIntoAddrinfo r cn port ai).1 = .enodata ∧ (parseIntoAddrinfo r cn port ai).2 = ai) := by
  rw [parseIntoAddrinfo_closed r q qs hq cn port ai, ← nodeOf_eq]
  split
  · exact Or.inl ⟨rfl, rfl, rfl⟩
  · exact Or.inr ⟨rfl, rfl⟩


theorem hostent_addrs_family (ai : AddrInfo) (family : Nat) (h : Hostent)
    (hh : addrinfo2hostent ai family = (.success, some h)) :
    h.addrs = (ai.nodes.filter (fun n => n.family = h.addrtype)).map (·.addr) ∧
    (family ≠ afUNSPEC → h.addrtype = family) ∧
    (family = afUNSPEC → ∃ n, ai.nodes.head? = some n ∧ h.addrtype = n.family) := by
  unfold addrinfo2hostent at hh
  simp only at hh
  generalize hfam : (if family = afUNSPEC then (ai.nodes.head?.map (·.family)).getD family else family) = fam at hh
  split at hh
  · simp at hh
  · rename_i hvalid
    split at hh
    · simp at hh
    · simp only [Prod.mk.injEq, Option.some.injEq, true_and] at hh
      rw [← hh]
      refine ⟨rfl, ?_, ?_⟩
      · intro hne; simp only [hne, ↓reduceIte] at hfam; exact hfam.symm
      · intro he
        simp only [he, ↓reduceIte] at hfam
        cases hn : ai.nodes.head? with
        | none =>
          simp only [hn, Option.map_none, Option.getD_none] at hfam
          exfalso; apply hvalid; subst hfam; constructor <;> decide
        | some n =>
          simp only [hn, Option.map_some, Option.getD_some] at hfam
          exact ⟨n, rfl, hfam.symm⟩

theorem addrttl_family_capacity (ai : AddrInfo) (family req : Nat) :
    (addrinfo2addrttl ai family req).2.length ≤ req ∧
    ((addrinfo2addrttl ai family req).1 = .success →
      (addrinfo2addrttl ai family req).2.map (·.1) =
        ((ai.nodes.filter (fun n => n.family = family)).map (·.addr)).take req) := by
  refine ⟨addrinfo2addrttl_length_le ai family req, ?_⟩
  rw [addrinfo2addrttl_eq]
  split
  · intro h; cases h
  · intro _; simp [List.map_take, ttlEntry, Function.comp_def]


/-- `sort_addresses` / `sort6_addresses` (the array insertion sort, as coded) permute the addresses -/
theorem sort_is_permutation {α : Type} (ind : α → Nat) (l : List α) : (sortAddresses ind l).Perm l :=
  (sortAddresses_spec ind l).1

/-- … and really sort: afterwards the addresses are in ascending order of their sortlist index
    (`ind` = index of the first matching sortlist entry, `nsort` when none matches) -/
theorem sort_is_sorted {α : Type} (ind : α → Nat) (l : List α) (i j : Nat) (a b : α) (hij : i < j)
    (ha : (sortAddresses ind l)[i]? = some a) (hb : (sortAddresses ind l)[j]? = some b) : ind a ≤ ind b := by
  obtain ⟨hi, rfl⟩ := List.getElem?_eq_some_iff.mp ha
  obtain ⟨hj, rfl⟩ := List.getElem?_eq_some_iff.mp hb
  exact List.pairwise_iff_getElem.mp (sortAddresses_spec ind l).2 i j hi hj hij

/-- the relink loop of `ares_sortaddrinfo`: walking the list afterwards yields exactly the array order -/
theorem relink_walk (elems : List Nat) (links : Links) (hn : elems.Nodup) (hb : ∀ e ∈ elems, e < links.length) :
    walk (relink elems links).2 elems.length (relink elems links).1 = elems := by
  unfold relink
  exact relink_walk_aux elems links hn hb elems.length (Nat.le_refl _)

/-- `ares_sortaddrinfo`: whatever permutation `perm` of the element array `qsort` returns, the resulting
    list is that permutation of the input nodes (status SUCCESS), and on failure the list is unchanged -/
theorem sortaddrinfo_is_permutation (nodes : List AddrNode) (specs : List SrcSpec) (perm : List Nat)
    (hp : perm.Perm (List.range nodes.length)) :
    (sortAddrinfoWith nodes specs perm).2.Perm nodes := by
  unfold sortAddrinfoWith
  split
  · exact List.Perm.refl _
  · split
    · exact List.Perm.refl _
    · simp only
      have hn : perm.Nodup := (List.Perm.nodup_iff hp).mpr List.nodup_range
      have hb : ∀ e ∈ perm, e < (List.replicate nodes.length (none : Option Nat)).length := by
        intro e he
        have := (List.Perm.mem_iff hp).mp he
        simpa using this
      have hlen : perm.length = nodes.length := by rw [List.Perm.length_eq hp]; simp
      have hw := relink_walk perm (List.replicate nodes.length none) hn hb
      rw [hlen] at hw
      unfold relink at hw ⊢
      simp only at hw ⊢
      rw [hw]
      have := List.Perm.filterMap (fun i => nodes[i]?) hp
      rw [range_filterMap_getElem?] at this
      exact this

/-- the executable model (`sortAddrinfo`, with an insertion sort standing in for `qsort`) is an instance:
    its output is a permutation of the nodes -/
theorem model_sort_is_permutation (nodes : List AddrNode) (specs : List SrcSpec) :
    (sortAddrinfo nodes specs).2.1.Perm nodes := by
  unfold sortAddrinfo
  cases h : mkElems nodes specs 0 with
  | none => simp only; split <;> exact List.Perm.refl _
  | some elems =>
    simp only
    apply sortaddrinfo_is_permutation
    have h1 := (isort_perm rfc6724Compare elems).map (·.order)
    rw [mkElems_order nodes specs 0 elems h] at h1
    rw [List.range_eq_range']
    exact h1


/-- `ares_addrinfo_localhost` on an addrinfo without nodes: ::1 and/or 127.0.0.1 for the requested family,
    with the port, TTL 0 -/
theorem localhost_addrs (name : Bytes) (port family : Nat) (ai : AddrInfo) (hn : ai.nodes = [])
    (hf : family = afINET ∨ family = afINET6 ∨ family = afUNSPEC) :
    (addrinfoLocalhost name port family ai).1 = .success ∧
    (addrinfoLocalhost name port family ai).2.nodes =
      (if family = afUNSPEC ∨ family = afINET6 then
        [{ family := afINET6, addr := loopback6, port := port, ttl := 0 }] else []) ++
      (if family = afUNSPEC ∨ family = afINET then
        [{ family := afINET, addr := loopback4, port := port, ttl := 0 }] else []) := by
  unfold addrinfoLocalhost
  rcases hf with h | h | h <;> subst h <;> simp [hn, hasFamily, afINET, afINET6, afUNSPEC]

/-- a literal gives exactly one node: the address `inet_pton` read, with the port, TTL 0 -/
theorem fake_addrs (name : Bytes) (port family flags : Nat) (p4 p6 : Option Bytes) (ai : AddrInfo)
    (h : fakeAddrinfo name port family flags p4 p6 {} = some ai) :
    ∃ n, ai.nodes = [n] ∧ n.port = port ∧ n.ttl = 0 ∧
      ((n.family = afINET ∧ p4 = some n.addr) ∨ (n.family = afINET6 ∧ p6 = some n.addr)) := by
  unfold fakeAddrinfo at h
  simp only at h
  split at h
  · simp at h
  · rename_i n hn
    simp only [List.nil_append, Option.some.injEq] at h
    refine ⟨n, by rw [← h], ?_⟩
    split at hn
    · rename_i n4 h4
      simp only [Option.some.injEq] at hn
      subst hn
      split at h4
      · split at h4
        · cases p4 with
          | none => simp at h4
          | some a => simp only [Option.map_some, Option.some.injEq] at h4; subst h4; simp
        · simp at h4
      · simp at h4
    · split at hn
      · cases p6 with
        | none => simp at hn
        | some a => simp only [Option.map_some, Option.some.injEq] at hn; subst hn; simp
      · simp at hn

/-  Full statement ("restricted to the requested family"):

      theorem fake_family (h : fakeAddrinfo name port family flags p4 p6 {} = some ai) (hf : family ≠ afUNSPEC) :
          ∀ n ∈ ai.nodes, n.family = family

    FALSE on the tree for an IPv4 literal requested with AF_INET6 (`fake_family_fails`); it holds when the
    name does not look like a dotted quad or the family is not AF_INET6: -/
theorem fake_family_partial (name : Bytes) (port family flags : Nat) (p4 p6 : Option Bytes) (ai : AddrInfo)
    (h : fakeAddrinfo name port family flags p4 p6 {} = some ai) (hf : family = afINET ∨ family = afINET6)
    (hx : ¬ (family = afINET6 ∧ looksV4 name = true ∧ p4.isSome = true)) :
    ∀ n ∈ ai.nodes, n.family = family := by
  unfold fakeAddrinfo at h
  simp only at h
  split at h
  · simp at h
  · rename_i n hn
    simp only [List.nil_append, Option.some.injEq] at h
    intro m hm
    rw [← h] at hm
    simp only [List.mem_singleton] at hm
    subst hm
    split at hn
    · rename_i n4 h4
      simp only [Option.some.injEq] at hn
      subst hn
      split at h4
      · split at h4
        · rename_i hl
          cases p4 with
          | none => simp at h4
          | some a =>
            simp only [Option.map_some, Option.some.injEq] at h4
            subst h4
            rcases hf with hf | hf
            · exact hf.symm
            · exact absurd ⟨hf, hl, rfl⟩ hx
        · simp at h4
      · simp at h4
    · split at hn
      · rename_i h6
        cases p6 with
        | none => simp at hn
        | some a =>
          simp only [Option.map_some, Option.some.injEq] at hn
          subst hn
          rcases hf with hf | hf
          · subst hf; rcases h6 with h6 | h6 <;> cases h6
          · exact hf.symm
      · simp at hn

/-- kernel-checked counterexample: "1.2.3.4" requested with AF_INET6 gives an AF_INET node -/
theorem fake_family_fails :
    (fakeAddrinfo [49, 46, 50, 46, 51, 46, 52] 80 afINET6 0 (some [1, 2, 3, 4]) none {}).map
      (fun ai => ai.nodes.map (·.family)) = some [afINET] := by decide


/-- the reverse-map name `ares_dns_addr_to_ptr` builds reads back, by RFC 1035 §3.5 (octets reversed, decimal,
    `in-addr.arpa`) / RFC 3596 §2.5 (nibbles reversed, hex, `ip6.arpa`), as the very same address -/
theorem ptr_name_correct (family : Nat) (addr : Bytes)
    (h : (family = afINET ∧ addr.length = 4) ∨ (family = afINET6 ∧ addr.length = 16)) :
    (addrToPtr family addr).bind parsePtrName = some (family, addr) := by
  rcases h with ⟨rfl, hl⟩ | ⟨rfl, hl⟩
  · exact ptr_v4 addr hl
  · exact ptr_v6 addr hl

/-- hence different addresses are never mapped to the same reverse name -/
theorem ptr_name_injective (f1 f2 : Nat) (a1 a2 : Bytes)
    (h1 : (f1 = afINET ∧ a1.length = 4) ∨ (f1 = afINET6 ∧ a1.length = 16))
    (h2 : (f2 = afINET ∧ a2.length = 4) ∨ (f2 = afINET6 ∧ a2.length = 16))
    (he : addrToPtr f1 a1 = addrToPtr f2 a2) : f1 = f2 ∧ a1 = a2 := by
  have e1 := ptr_name_correct f1 a1 h1
  have e2 := ptr_name_correct f2 a2 h2
  rw [he, e2] at e1
  simp only [Option.some.injEq, Prod.mk.injEq] at e1
  exact ⟨e1.1.symm, e1.2.symm⟩

def ptrTarget : RData → Option Bytes
  | .ptr d => some d
  | _ => none

/-- `ares_parse_ptr_reply_dnsrec`: the host names returned are exactly the targets of the PTR answers in
    class IN, in order (`h_name` = the last one); the address handed in is handed back; ENODATA iff none -/
theorem reverse_returns_ptr_targets (r : LRec) (q : Bytes) (qs : List Bytes) (hq : r.questions = q :: qs)
    (addr : Option Bytes) (addrlen family : Nat) :
    parsePtrReply r addr addrlen family =
      let names := (inAnswers r).filterMap (fun rr => ptrTarget rr.data)
      match names.getLast? with
      | none => (.enodata, none)
      | some last => (.success, some { name := some last, aliases := names, addrtype := family,
                                       length := addrlen, addrs := addr.toList }) := by
  rw [parsePtrReply_closed r q qs hq, filterMap_keep _ ptrOf (fun rr => ptrTarget rr.data)
    (fun rr => by unfold ptrOf; rw [ite_not]; cases rr.data <;> rfl)]
  rfl

/-! ## non-vacuity -/

def sample : LRec :=
  { questions := [[119]],
    answers := [
      { name := [119], cls := 1, ttl := 100, data := .cname [99] },
      { name := [99], cls := 1, ttl := 300, data := .a [1, 2, 3, 4] },
      { name := [99], cls := 3, ttl := 300, data := .a [9, 9, 9, 9] },
      { name := [99], cls := 1, ttl := 7, data := .aaaa [0, 0, 0, 0, 0, 0, 0, 0, 0, 0, 0, 0, 0, 0, 0, 1] } ] }

example : addrinfoOfAnswer sample 80 =
    .ok ([{ family := 2, addr := [1, 2, 3, 4], port := 80, ttl := 300 },
          { family := 10, addr := [0, 0, 0, 0, 0, 0, 0, 0, 0, 0, 0, 0, 0, 0, 0, 1], port := 80, ttl := 7 }],
         [{ ttl := 100, alias := some [119], name := some [99] }]) := by rfl

example : addrToPtr afINET [192, 0, 2, 1] =
    some [49, 46, 50, 46, 48, 46, 49, 57, 50, 46, 105, 110, 45, 97, 100, 100, 114, 46, 97, 114, 112, 97] := by
  decide  -- "1.2.0.192.in-addr.arpa"

example : sortAddresses (fun x : Nat => x % 10) [23, 11, 42, 31, 5] = [11, 31, 42, 23, 5] := by decide

example : (sortAddrinfoWith
    [{ family := 2, addr := [1, 1, 1, 1], port := 0, ttl := 0 }, { family := 2, addr := [2, 2, 2, 2], port := 0, ttl := 0 }]
    [.noSrc, .noSrc] [1, 0]).2.map (·.addr) = [[2, 2, 2, 2], [1, 1, 1, 1]] := by decide

end Cares.C13
