import CaresLemmas.DnsShape
import CaresLemmas.DnsName
/-!
# C02 — DNS message parsers are total and memory-safe on arbitrary bytes

The property theorems (helper lemmas: `CaresLemmas/DnsSafe.lean`, `DnsName.lean`, `DnsShape.lean`), their non-vacuity
examples, and `parseName_msgMin` for the examples.

The model (`CaresModel/Dns/{Bytes,Name,Parse}.lean`) follows `ares_buf.c` (reader half),
`ares_dns_name.c` (parse side), `ares_dns_multistring.c`, `ares_dns_parse.c`, the validity checks of
`ares_dns_record.c`/`ares_dns_mapping.c` and the legacy `ares_expand_name` / `ares_expand_string`
in explicit-check style: every raw C read (`ptr[i]`, `memcpy`) outside `[0, data_len)` and every
unguarded `size_t` subtraction that would wrap is a modelled **fault**, never a totalised default.

* **Totality**: every definition is accepted by Lean as a total function of *any* `Array UInt8`
  without fuel; the compression loop is well-founded recursion on
  `(min label_start pos, data_len − pos)` (`Cares.Dns.nameLoop`), the string-array and option loops
  on `data_len − pos`.  (That these are definitions and not `partial`/fuelled ones is audited by the
  check.)
* **Compression pointers** go strictly backwards, never loop, and every position they set is inside the buffer:
  `ptr_strictly_backward`, `ptr_targets_strictly_decreasing`, `name_iterations_le`, `name_set_position_in_bounds`.
* **No fault** (no raw read outside the buffer, no wrapping subtraction): `no_oob`, `expand_name_no_oob`,
  `expand_string_no_oob`.
* **Success with a fully formed record or an error with none**: `result_shape`, `result_or_error`.
* **Cursor invariant** of every reader operation: `reader_cursor_inv`.

C-level memory safety, leaks and UB are *observed* under ASan/UBSan/LSan by the correspondence
harness on the generated inputs; they are not what these theorems prove (the claim is partial in
that sense and says so in MANIFEST).
-/
namespace Cares.C02
open Cares.Dns Cares.Generated

/-- Every pointer followed while decoding a name (`(position of the pointer, target, label_start at
    that moment)`) goes **strictly below the lowest position visited so far** (`label_start`), which
    itself is at or below the pointer and at or below where the name started: decoding never runs
    forward and never returns to a position it has been at. -/
theorem ptr_strictly_backward (bs : Bytes) (isHost : Bool) (pos : Nat) :
    ∀ j ∈ (parseNameRun bs isHost pos).jumps, j.2.1 < j.2.2 ∧ j.2.2 ≤ j.1 ∧ j.2.2 ≤ pos := by
  obtain ⟨new, e, hj, _⟩ := nameLoop_jumps bs isHost pos pos 0 [] 0 []
  intro j hjm
  unfold parseNameRun at hjm
  rw [e, List.append_nil] at hjm
  have := hj j hjm
  unfold JumpOk at this
  omega

/-- successive pointer targets are strictly decreasing (the list is most-recent-first), hence no
    target is ever visited twice: pointers cannot loop -/
theorem ptr_targets_strictly_decreasing (bs : Bytes) (isHost : Bool) (pos : Nat) :
    (parseNameRun bs isHost pos).jumps.Pairwise (fun newer older => newer.2.1 < older.2.1) := by
  obtain ⟨new, e, _, hp⟩ := nameLoop_jumps bs isHost pos pos 0 [] 0 []
  unfold parseNameRun
  rw [e, List.append_nil]
  exact hp

/-- a bound on the number of loop iterations of `ares_dns_name_parse`, for every input (the runs
    that end in an error included): at most `pos` pointer hops, each followed by at most
    `data_len` label steps -/
theorem name_iterations_le (bs : Bytes) (isHost : Bool) (pos : Nat) (h : pos ≤ bs.size) :
    (parseNameRun bs isHost pos).iters ≤ (bs.size + 1) * (bs.size + 1) := by
  have := nameLoop_iters bs isHost pos pos 0 [] 0 []
  unfold parseNameRun
  have hm : min pos pos = pos := by omega
  rw [hm] at this
  have h1 : pos * (bs.size + 1) ≤ bs.size * (bs.size + 1) := Nat.mul_le_mul_right _ h
  have h2 : (bs.size + 1) * (bs.size + 1) = bs.size * (bs.size + 1) + (bs.size + 1) := by
    rw [Nat.add_mul, Nat.one_mul]
  omega

/-- `ares_dns_parse`: for **every** byte string and **every** flag word the model never performs a
    raw read outside the supplied buffer and never evaluates an unguarded `size_t` subtraction that
    would wrap (`orig_len − ares_buf_len`, `remaining_len − ares_buf_len`, `data_len − offset`). -/
theorem no_oob (bs : Bytes) (flags : Nat) : ∀ k, parse bs flags ≠ .fault k :=
  fun k => parse_no_fault bs flags k

/-- `ares_expand_name(abuf + off, abuf, alen, …)` for every buffer and every offset -/
theorem expand_name_no_oob (abuf : Bytes) (off : Nat) : ∀ k, expandName abuf off ≠ .fault k :=
  fun k => expandName_no_fault abuf off k

/-- `ares_expand_string(abuf + off, abuf, alen, …)` for every buffer and every offset -/
theorem expand_string_no_oob (abuf : Bytes) (off : Nat) : ∀ k, expandString abuf off ≠ .fault k :=
  fun k => expandString_no_fault abuf off k

/-- A successful parse returns a fully formed record (`Rec.WF`, `CaresLemmas/DnsShape.lean`): the
    section lengths equal the header counts (exactly one question), every RR carries exactly the keys
    `ares_dns_rr_get_keys` lists for its type, in that order, each set (non-NULL) and of the datatype
    `ares_dns_rr_key_datatype` gives for the key (with the numeric ranges of u8/u16/u32 and the
    4/16-byte address lengths), type and class pass `ares_dns_rec_type_isvalid` /
    `ares_dns_class_isvalid`, opcode and rcode are valid.  The table facts used
    (`scriptTable_ok`: generated field scripts vs. generated key/datatype tables) are `decide`
    obligations over the regenerated tables. -/
theorem result_shape (bs : Bytes) (flags : Nat) (r : Rec) (h : parse bs flags = .ok r) :
    ∃ hd o, parseHeader bs 0 = .ok hd o ∧ r.WF hd := by
  obtain ⟨_, _, o, hr⟩ := parse_eq_ok.1 h
  exact ((post_parseMsg flags).ok hr).2.2

/-- "success with a full result or an error with none": the outcome is one of these two, never the
    third (fault) -/
theorem result_or_error (bs : Bytes) (flags : Nat) :
    (∃ r hd o, parse bs flags = .ok r ∧ parseHeader bs 0 = .ok hd o ∧ r.WF hd) ∨
      (∃ e, parse bs flags = .err e) := by
  cases h : parse bs flags with
  | ok r =>
    obtain ⟨hd, o, h1, h2⟩ := result_shape bs flags r h
    exact Or.inl ⟨r, hd, o, rfl, h1, h2⟩
  | err e => exact Or.inr ⟨e, rfl⟩
  | fault k => exact (no_oob bs flags k h).elim

/-- Every reader operation the decoders use, started with the cursor inside `[0, data_len]`, never
    faults and on success leaves the cursor at or after where it was and still inside
    `[0, data_len]` (`SafeAt`) — including `ares_dns_name_parse`, whose cursor moves backwards
    internally but ends after the first pointer, and the field-script steps, whose
    `orig_len − ares_buf_len` subtraction needs `orig_len` to be the remaining length at an earlier
    cursor. -/
theorem reader_cursor_inv (bs : Bytes) (off : Nat) (h : off ≤ bs.size) :
    (∀ n, SafeAt bs (consume bs n) off) ∧ SafeAt bs (fetchByte bs) off ∧ SafeAt bs (fetchBe16 bs) off ∧
    SafeAt bs (fetchBe32 bs) off ∧ (∀ n, SafeAt bs (fetchBytes bs n) off) ∧
    (∀ n, SafeAt bs (fetchStrDup bs n) off) ∧ (∀ n v, SafeAt bs (parseDnsBinstr bs n v) off) ∧
    (∀ n v, SafeAt bs (parseMultistring bs n v) off) ∧ (∀ isHost, SafeAt bs (parseName bs isHost) off) ∧
    (∀ origLen rdlength kind, bs.size - off ≤ origLen → SafeAt bs (parseField bs origLen rdlength kind) off) ∧
    (∀ flags sect, SafeAt bs (parseRR bs flags sect) off) :=
  ⟨fun n => safe_consume n h, safe_fetchByte h, (post_fetchBe16 h).safe, (post_fetchBe32 h).safe,
   fun n => (post_fetchBytes n h).safe, fun n => safe_fetchStrDup n h, fun n v => (post_parseDnsBinstr n v h).safe,
   fun n v => (post_parseMultistring n v h).safe, fun isHost => safe_parseName isHost h,
   fun origLen rdlength kind ho => (post_parseField origLen rdlength kind h ho).safe,
   fun flags sect => (post_parseRR flags sect h).safe⟩

/-- every position the compression loop moves the cursor to (`ares_buf_set_position(buf, offset)`) is
    inside the buffer whenever the name started inside it -/
theorem name_set_position_in_bounds (bs : Bytes) (isHost : Bool) (pos : Nat) (h : pos ≤ bs.size) :
    ∀ j ∈ (parseNameRun bs isHost pos).jumps, j.2.1 < bs.size := by
  intro j hj
  have := ptr_strictly_backward bs isHost pos j hj
  omega

/-- smallest accepted message: header, question `. IN A`, no records -/
def msgMin : Bytes := #[0x12, 0x34, 0x81, 0x80, 0, 1, 0, 0, 0, 0, 0, 0, 0, 0, 1, 0, 1]

theorem parseName_msgMin : parseName msgMin false 12 = .ok [] 13 := by
  unfold parseName parseNameRun
  rw [nameLoop_end (by decide) (by decide)]
  rfl

/-- the success branch of `result_shape` / `result_or_error` is inhabited -/
example : parse msgMin 0 = .ok ⟨0x1234, 25, 0, 0, [⟨[], 1, 1⟩], [], [], []⟩ := by
  have hh : parseHeader msgMin 0 = .ok ⟨0x1234, 25, 0, 0, 1, 0, 0, 0⟩ 12 := by decide
  have hq : parseQd msgMin 12 = .ok ⟨[], 1, 1⟩ 17 := by
    unfold parseQd
    rw [P.bind_ok parseName_msgMin]
    decide
  unfold parse
  rw [if_neg (by decide), if_neg (by decide)]
  unfold parseMsg
  rw [P.bind_ok hh]
  simp only
  rw [if_neg (by decide), if_neg (by decide), P.bind_ok hq]
  decide

/-- the error branch is inhabited too (truncated header) -/
example : parse #[0x12, 0x34] 0 = .err .ebadresp := by decide

/-- a message whose answer owner is `a` + pointer to the question name `b` at offset 12 -/
def msgPtr : Bytes :=
  #[0, 1, 0x81, 0x80, 0, 1, 0, 1, 0, 0, 0, 0,  1, 98, 0,  0, 1, 0, 1,
    1, 97, 0xc0, 12,  0, 1, 0, 1, 0, 0, 0, 60, 0, 4, 1, 2, 3, 4]

/-- the pointer theorems talk about something: this run follows exactly one pointer, from 21 to 12,
    when `label_start` was 19 -/
example : (parseNameRun msgPtr false 19).jumps = [(21, 12, 19)] ∧
    (parseNameRun msgPtr false 19).out = .ok [97, 46, 98] 23 := by
  unfold parseNameRun
  rw [nameLoop_label (by decide) (by decide) (by decide) (by decide) (by decide)]
  have e1 : (19 + 1 + msgPtr[19].toNat) = 21 := by decide
  rw [e1, nameLoop_ptr (by decide) (by decide) (by decide)]
  have e2 : ptrOffset msgPtr[21] msgPtr[21 + 1] = 12 := by decide
  rw [e2, nameLoop_label (by decide) (by decide) (by decide) (by decide) (by decide)]
  have e3 : (12 + 1 + msgPtr[12].toNat) = 14 := by decide
  rw [e3, nameLoop_end (by decide) (by decide)]
  decide

/-- a pointer to itself is rejected by evaluation (no fuel needed) -/
example : (parseNameRun #[0xc0, 0] false 0).out = .err .ebadname := by
  unfold parseNameRun
  rw [nameLoop_ptr_reject (by decide) (by decide) (by decide)]

end Cares.C02
