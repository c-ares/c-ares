import CaresProps.C19
/-!
# C14 — any single allocation failure is survived cleanly: the container layer

The property theorems (proved from the container lemma files; `CaresProps.C19` is imported for the operation
language of the non-vacuity example only).  The container models take an allocation oracle (`Cares.Dsa.Oracle`: which allocation
calls return NULL; `allocOk : Bool` for the array, whose operations allocate at most once).  Each theorem says,
for **every** oracle — i.e. whichever allocation fails, if any: the operation either reports success and has
its specified effect, or reports failure (`nomem` / `false`) with the abstract value unchanged; in both cases the
representation invariant holds afterwards, so the container stays usable and destroyable.

Whole-channel scenarios (the `allocfail` streams over `harness/h_sim.c`) are the other part of C14; see notes/C14.md.
-/
namespace Cares.C14
open Cares Cares.Dsa Cares.Generated

section Arr
open Cares.Dsa.Arr

/-- `ares_array_set_size`: the members are never touched (whether the reallocation succeeds, fails or is not
    needed) and the invariant holds -/
theorem arr_setSize_preserves (a : Arr) (size : Nat) (ok : Bool) (h : a.Inv) :
    (a.setSize size ok).2.Inv ∧ (a.setSize size ok).2.abs = a.abs := by
  unfold setSize
  by_cases h1 : size = 0 ∨ size < a.cnt
  · rw [if_pos h1]; exact ⟨h, rfl⟩
  · rw [if_neg h1]
    simp only
    by_cases h2 : roundSize size ≤ a.alloc
    · rw [if_pos h2]; exact ⟨h, rfl⟩
    · rw [if_neg h2]
      cases ok with
      | false => exact ⟨h, rfl⟩
      | true =>
        simp only [Bool.not_true, Bool.false_eq_true, ↓reduceIte]
        exact ⟨⟨by have := h.1; simp only [List.length_append]; omega, h.2⟩, abs_grow a h _⟩

/-- **`alloc_failure_atomic` for `ares_array_set_size`**: when the allocation fails, either the call reports
    `ARES_ENOMEM` and the array is bit-for-bit what it was, or no allocation was needed and the call behaves as if
    memory were available -/
theorem arr_setSize_alloc_failure_atomic (a : Arr) (size : Nat) :
    a.setSize size false = (.nomem, a) ∨ a.setSize size false = a.setSize size true := by
  unfold setSize
  by_cases h1 : size = 0 ∨ size < a.cnt
  · right; simp only [h1, ↓reduceIte]
  · simp only [h1, ↓reduceIte]
    by_cases h2 : roundSize size ≤ a.alloc
    · right; simp only [h2, ↓reduceIte]
    · left; simp only [h2, ↓reduceIte, Bool.not_false]

/-- **`alloc_failure_atomic` for `ares_array_insert_at`** (and the insert_first/last/…data variants built on it) -/
theorem arr_insertAt_alloc_failure_atomic (a : Arr) (idx v : Nat) :
    a.insertAt idx v false = (.nomem, a) ∨ a.insertAt idx v false = a.insertAt idx v true := by
  unfold insertAt
  by_cases hi : idx > a.cnt
  · right; simp only [hi, ↓reduceIte]
  · simp only [hi, ↓reduceIte]
    rcases arr_setSize_alloc_failure_atomic a (a.cnt + 1) with e | e
    · left; rw [e]
    · right; rw [e]

/-- failure or not, an insert leaves a well-formed array whose contents are the old ones or the old ones with
    the new member: nothing else can happen -/
theorem arr_insertAt_alloc_outcomes (a : Arr) (idx v : Nat) (ok : Bool) (h : a.Inv) (hi : idx ≤ a.cnt) :
    ((a.insertAt idx v ok).1 = .nomem ∧ (a.insertAt idx v ok).2 = a) ∨
    ((a.insertAt idx v ok).1 = .ok ∧ (a.insertAt idx v ok).2.Inv ∧ (a.insertAt idx v ok).2.abs = a.abs.insertIdx idx v) := by
  obtain ⟨a', e, i', r⟩ := insertAt_spec a idx v h hi
  cases ok with
  | true => right; rw [e]; exact ⟨rfl, i', r⟩
  | false =>
    rcases arr_insertAt_alloc_failure_atomic a idx v with e2 | e2
    · left; rw [e2]; exact ⟨rfl, rfl⟩
    · right; rw [e2, e]; exact ⟨rfl, i', r⟩

end Arr

section HTable
open Cares.Dsa.HTable
variable {K V : Type}

/-- **`alloc_failure_atomic` for `ares_htable_expand`**: the bucket array, the llist pointer array and
    `num_collisions` llists are obtained *before* any node is moved, so for every oracle the expansion either
    completes (invariant kept, every key → value association kept, nothing lost) or reports failure with the table
    exactly as it was -/
theorem ht_expand_alloc_failure_atomic (ops : HOps K) (hl : Lawful ops) (t : HTable K V) (o : Oracle) (h : Inv ops t) :
    ((expand ops t o).1 = true ∧ Inv ops (expand ops t o).2.1 ∧ (∀ q, abs ops (expand ops t o).2.1 q = abs ops t q) ∧
        (expand ops t o).2.1.numKeys = t.numKeys) ∨
    ((expand ops t o).1 = false ∧ (expand ops t o).2.1 = t) := by
  rcases expand_any consts_ok ops hl t o h with ⟨e, x, _⟩ | ⟨e, u, _⟩
  · exact Or.inl ⟨e, x.inv, abs_of_entries_perm ops hl t _ x.perm x.inv.uniq, x.nkeys⟩
  · exact Or.inr ⟨e, u⟩

/-- `expand_prealloc_suffices`: with at least Σ (len − 1) pre-allocated llists (that is what `num_collisions`
    holds) the move loop never needs one more, so it cannot fail half way -/
theorem expand_prealloc_suffices (ops : HOps K) (size : Nat) (bs : List (Option (List (K × V)))) (x : XS K V)
    (hx : XInv ops size x) (hs : 0 < size) (hpre : (bs.map bcoll).sum ≤ x.pre) :
    (moveAll ops size bs x).2 = none :=
  Cares.C19.ht_expand_prealloc_suffices ops size bs x hx hs hpre

/-- **`alloc_failure_atomic` for `ares_htable_insert`**, for every oracle: the invariant holds afterwards; on
    success the key maps to the new value (all other keys unchanged); on failure *every* key maps to what it
    mapped to before and the key count is unchanged -/
theorem ht_insert_alloc_failure_atomic (ops : HOps K) (hl : Lawful ops) (t : HTable K V) (k : K) (v : V) (o : Oracle)
    (h : Inv ops t) :
    Inv ops (insert ops t k v o).2.1 ∧
      ((insert ops t k v o).1 = true →
        (∀ q, abs ops (insert ops t k v o).2.1 q = if ops.eq q k then some (k, v) else abs ops t q) ∧
        (insert ops t k v o).2.1.numKeys = (if (abs ops t k).isSome then t.numKeys else t.numKeys + 1)) ∧
      ((insert ops t k v o).1 = false →
        (∀ q, abs ops (insert ops t k v o).2.1 q = abs ops t q) ∧ (insert ops t k v o).2.1.numKeys = t.numKeys) :=
  let r := insert_any consts_ok ops hl t k v o h
  ⟨r.inv, fun e => ⟨r.maps e, r.nkeys e⟩, r.fail⟩

/-- the typed tables (`ares_htable_szvp/strvp/asvp/vpvp/vpstr/dict_insert`): the wrapper first allocates its
    bucket object (and copies of key / value) and then calls `ares_htable_insert`; whichever allocation fails, the
    invariant holds and every key maps to what it mapped to before, with the key count unchanged -/
theorem ht_wrapInsert_alloc_failure_atomic (ops : HOps K) (hl : Lawful ops) (pre : Nat) (t : HTable K V) (k : K) (v : V)
    (o : Oracle) (h : Inv ops t) :
    Inv ops (wrapInsert ops pre t k v o).2.1 ∧
      ((wrapInsert ops pre t k v o).1 = false →
        (∀ q, abs ops (wrapInsert ops pre t k v o).2.1 q = abs ops t q) ∧
        (wrapInsert ops pre t k v o).2.1.numKeys = t.numKeys) := by
  unfold wrapInsert
  cases hp : o.nextN pre with
  | mk b o1 =>
    cases b with
    | false => exact ⟨h, fun _ => ⟨fun _ => rfl, rfl⟩⟩
    | true =>
      have r := insert_any consts_ok ops hl t k v o1 h
      exact ⟨r.inv, r.fail⟩

end HTable

section Buf
open Cares.Buf

/-- **`alloc_failure_atomic` for `ares_buf_ensure_space`**, for every oracle: the unread and the tagged bytes are
    never changed (the buffer may have been compacted, which is not observable through them), the invariant
    holds, and the only failure is `ARES_ENOMEM` -/
theorem buf_ensureSpace_alloc_failure_atomic (b : Buf) (needed : Nat) (o : Oracle) (h : b.Inv) (hc : b.isConst = false) :
    (b.ensureSpace needed o).2.1.Inv ∧ (b.ensureSpace needed o).2.1.remaining = b.remaining ∧
      (b.ensureSpace needed o).2.1.tagged = b.tagged ∧
      ((b.ensureSpace needed o).1 = .ok ∨ (b.ensureSpace needed o).1 = .nomem) ∧
      (o.AllOk → (b.ensureSpace needed o).1 = .ok) := by
  obtain ⟨p, sh, i', _, hst, _, hok, _⟩ := ensureSpace_spec consts_ok b needed o h hc
  exact ⟨i', sh.remaining, sh.tagged h i', hst, fun ho => (hok ho).1⟩

/-- **`alloc_failure_atomic` for `ares_buf_append`**, for every oracle: either the call reports success and the
    unread bytes are the old ones followed by the new data, or it reports `ARES_ENOMEM` and the unread bytes are
    exactly the old ones; the invariant holds in both cases -/
theorem buf_append_alloc_failure_atomic (b : Buf) (data : List Nat) (o : Oracle) (h : b.Inv) (hc : b.isConst = false)
    (hd : data ≠ []) :
    (b.append data o).2.1.Inv ∧
      (((b.append data o).1 = .ok ∧ (b.append data o).2.1.remaining = b.remaining ++ data) ∨
       ((b.append data o).1 = .nomem ∧ (b.append data o).2.1.remaining = b.remaining)) :=
  let r := append_remaining consts_ok b data o h hc hd
  ⟨r.1, r.2.1⟩

end Buf

-- non-vacuity: a failing growth of a full table leaves every key in place, and the next insert succeeds
example :
    let ops : HOps Nat := { hash := fun k => k, eq := fun a b => a == b }
    let puts := (List.range 12).map (fun i => Cares.C19.HtOp.put i (i + 100))
    let t := (Cares.C19.htRun ops (HTable.empty : HTable Nat Nat) puts).2
    let r := HTable.insert ops t 12 112 (Oracle.ok.failNth 1)
    r.1 = false ∧ r.2.1.size = 16 ∧ HTable.get ops r.2.1 3 = some (3, 103) ∧
      (HTable.insert ops r.2.1 12 112 Oracle.ok).1 = true := by
  decide +kernel

end Cares.C14
