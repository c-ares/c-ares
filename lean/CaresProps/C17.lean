import CaresLemmas.CookieTrace
import CaresLemmas.CookieValidate
/-!
# C17 — DNS cookies follow the RFC 7873 client state machine

Model: `Cares.Proto.Cookie.apply` / `validate` (`ares_cookie_apply` / `ares_cookie_validate`, `src/lib/ares_cookie.c`),
constants and the `timeval_is_set` / `ares_addr_equal(AF_UNSPEC)` tables regenerated from the tree under check.
Histories: `World`, `Ev = advance | send | recv`, `step`, `run`, `Reach` (`CaresLemmas/CookieTrace.lean`): all finite
sequences of sends (`ares_cookie_apply`), responses (`ares_cookie_validate` on a request that was sent earlier) and
arbitrary time advances, starting from a freshly created server.

Every clause of the property is stated for all reachable states / all histories:

* `never_on_tcp`                         — no cookie is ever attached on TCP (and one the caller supplied is removed);
* `client_cookie_stable`                 — across any run of events that contains no reset, no source-address change and
                                            no rotation, every cookie put on the wire has the same client part;
* `echo_latest_server_cookie`            — after a response with a valid server cookie for the current client cookie,
                                            every later cookie carries exactly that server cookie (until a newer one);
* `supported_requires_cookie`            — SUPPORTED ⇒ a response to a cookie-bearing request is accepted iff it carries
                                            a valid cookie (and is not BADCOOKIE);
* `regression_bounded`, `regression_not_before` — the dropping ends with the first request sent at least
                                            `COOKIE_REGRESSION_TIMEOUT_MS` after the *first* such drop, and not earlier;
* `badcookie_at_most_three_then_tcp`     — whatever the server does, a query is re-sent because of BADCOOKIE at most
                                            `COOKIE_RESEND_MAX` times, and from the third on it travels over TCP;
* `never_cookie_server_is_used_without`  — a server that never returns a cookie never reaches SUPPORTED, none of its
                                            responses is dropped, and after the first one no cookie is sent during the
                                            retry period;
* `bad_client_part_dropped`, `length_8_to_40_only`, `no_oob_read`, `apply_draws_le_one`.

On the pinned tree two table facts are false, which shows here as obligations that do not hold on it
(`timeval_is_set_ok`: F18; `addr_equal_unspec_ok`: F30-C17) and in the kernel-checked counterexamples at the end.
-/
namespace Cares.C17
open Cares.Proto.Cookie Cares.Generated.Proto

abbrev stepT := step timevalIsSet
abbrev runT := run timevalIsSet
abbrev ReachT := Reach timevalIsSet

/-! ## table facts of the tree under check (side conditions) -/

/-- F18: a time stamp is "set" unless both fields are zero -/
theorem timeval_is_set_ok : IsSetOk timevalIsSet := by
  intro tv
  simp only [timevalIsSet, isSetTable, TIMEVAL_IS_SET_10, TIMEVAL_IS_SET_01, TIMEVAL_IS_SET_11, TIMEVAL_IS_SET_00]
  by_cases h1 : tv.sec = 0 <;> by_cases h2 : tv.usec = 0 <;> simp [h1, h2]

/-- F30-C17: two unknown local addresses compare equal -/
theorem addr_equal_unspec_ok : ADDR_EQUAL_UNSPEC = 1 := by decide

/-- F30-C17 (second half): a reply only proves support while a client cookie is in use -/
theorem validate_learns_only_in_use : learnsWhenCleared = false := by decide

theorem cookie_constants :
    COOKIE_CLIENT_LEN = 8 ∧ COOKIE_SERVER_MAX = 32 ∧ COOKIE_RESEND_MAX = 3 ∧ 0 < COOKIE_REGRESSION_TIMEOUT_MS ∧
    COOKIE_REGRESSION_TIMEOUT_MS ≤ COOKIE_UNSUPPORTED_TIMEOUT_MS ∧
    COOKIE_UNSUPPORTED_TIMEOUT_MS < COOKIE_CLIENT_TIMEOUT_MS := by decide

theorem addr_equal_refl (a : Addr) (h : a.Wf) : addrEqual a a = true := by
  unfold addrEqual addrEqualWith
  rcases h with h | h | h <;> simp [h, AF_INET, AF_INET6, AF_UNSPEC, ADDR_EQUAL_UNSPEC]

/-- `ares_cookie_apply` on a TCP connection: whatever the state, the time and the request, the request leaves without
    COOKIE option (one supplied by the caller is deleted) and the per-server state is untouched -/
theorem never_on_tcp (c : CookieSt) (conn : Conn) (now : TimeVal) (fresh : Bytes) (req : ReqOpt)
    (h : conn.tcp = true) :
    cookieOf (apply c conn now fresh req).req = none ∧ (apply c conn now fresh req).ck = c := by
  cases req with
  | none => simp [apply, applyWith, cookieOf]
  | some x => simp [apply, applyWith, h, cookieOf]

/-- … and so in every history: the world after a TCP send records "no cookie on the wire" -/
theorem never_on_tcp_step (w : World) (conn : Conn) (fresh : Bytes) (req : ReqOpt) (h : conn.tcp = true) :
    (stepT w (.send conn fresh req)).sent = none :: w.sent ∧ (stepT w (.send conn fresh req)).ck = w.ck := by
  have := never_on_tcp w.ck conn w.now fresh req h
  unfold apply at this
  simp only [stepT, step, this.1, this.2, and_self]

/-- a regression reset is due: the server was known to support cookies, a response without cookie has been dropped,
    and that was at least the regression period ago -/
def regressionDue (c : CookieSt) (now : TimeVal) : Bool :=
  c.state = .supported && timevalIsSet c.unsupportedTs && expired c.unsupportedTs now COOKIE_REGRESSION_TIMEOUT_MS

/-- cookies are in use for this server -/
def InUse (c : CookieSt) : Prop := c.state = .generated ∨ c.state = .supported

/-- nothing calls for a new client cookie: cookies are in use, the source address is the one the cookie was made
    for, the cookie is younger than a day, no regression reset is due -/
def Stable (c : CookieSt) (conn : Conn) (now : TimeVal) : Prop :=
  InUse c ∧ addrEqual conn.selfIp c.clientIp = true ∧ rotationDue c now = false ∧ regressionDue c now = false

/-- single step: in a stable situation the request leaves with `client ++ server` and nothing changes, no randomness
    is consumed -/
theorem apply_stable (c : CookieSt) (conn : Conn) (now : TimeVal) (fresh : Bytes) (x : Option Bytes)
    (ht : conn.tcp = false) (h : Stable c conn now) :
    apply c conn now fresh (some x) = ⟨c, some (some (c.client ++ c.server)), 0⟩ := by
  obtain ⟨hs, hip, hrot, hreg⟩ := h
  have h1 : regress timevalIsSet c now = c := by
    unfold regress; unfold regressionDue at hreg; simp [hreg]
  have hnu : c.state ≠ .unsupported := by rcases hs with hs | hs <;> simp [hs]
  have hni : c.state ≠ .initial := by rcases hs with hs | hs <;> simp [hs]
  have h2 : quiet c now = false := by simp [quiet, hnu]
  have h3 : relearn c = c := by simp [relearn, hnu]
  have h4 : genInitial c conn now fresh = c := by simp [genInitial, hni]
  have h5 : ipChanged c conn = false := by simp [ipChanged, hip]
  have h6 : genIp c conn now fresh = c := by simp [genIp, h5]
  have h7 : genRotate c conn now fresh = c := by simp [genRotate, hrot]
  simp [apply, applyWith, ht, h1, h2, h3, h4, h5, h6, h7, hni, hrot]

/-- an event that gives the client no reason to change its cookie: time passing; a send over TCP or without EDNS
    (no-ops); a UDP send in a stable situation; any response except the one that makes the client conclude the server
    does not support cookies (the state reset GENERATED → UNSUPPORTED) -/
def QuietEv (w : World) : Ev → Prop
  | .advance _ => True
  | .send conn _ req => req = none ∨ conn.tcp = true ∨ Stable w.ck conn w.now
  | .recv q rq resp rcode => (validate w.ck q rq resp rcode w.now).ck.state ≠ .unsupported

def QuietRun (w : World) : List Ev → Prop
  | [] => True
  | e :: es => QuietEv w e ∧ QuietRun (stepT w e) es

instance (c : CookieSt) : Decidable (InUse c) := by unfold InUse; infer_instance
instance (c : CookieSt) (conn : Conn) (now : TimeVal) : Decidable (Stable c conn now) := by
  unfold Stable; infer_instance
instance (w : World) (e : Ev) : Decidable (QuietEv w e) := by cases e <;> unfold QuietEv <;> infer_instance
instance decQuietRun : ∀ (es : List Ev) (w : World), Decidable (QuietRun w es)
  | [], _ => isTrue trivial
  | e :: es, w => by
    unfold QuietRun
    exact @instDecidableAnd _ _ _ (decQuietRun es _)

/-- a quiet send leaves the cookie state alone and puts no cookie, or the stored one, on the wire -/
private theorem quiet_send (w : World) (conn : Conn) (fresh : Bytes) (req : ReqOpt)
    (hq : req = none ∨ conn.tcp = true ∨ Stable w.ck conn w.now) :
    (applyWith timevalIsSet w.ck conn w.now fresh req).ck = w.ck ∧
      (cookieOf (applyWith timevalIsSet w.ck conn w.now fresh req).req = none ∨
       cookieOf (applyWith timevalIsSet w.ck conn w.now fresh req).req = some (w.ck.client ++ w.ck.server)) := by
  cases req with
  | none => exact ⟨rfl, .inl rfl⟩
  | some x =>
    by_cases ht : conn.tcp = true
    · simp [applyWith, ht, cookieOf]
    · have := apply_stable w.ck conn w.now fresh x (by simpa using ht) ((hq.resolve_left (by simp)).resolve_left ht)
      unfold apply at this
      simp [this, cookieOf]

theorem quiet_step (w : World) (e : Ev) (hw : InUse w.ck) (hl : w.ck.client.length = 8) (hq : QuietEv w e) :
    (stepT w e).ck.client = w.ck.client ∧ InUse (stepT w e).ck ∧
    ∀ b, some b ∈ (stepT w e).sent → some b ∈ w.sent ∨ b.take 8 = w.ck.client := by
  cases e with
  | advance us => exact ⟨rfl, hw, fun b hb => Or.inl hb⟩
  | send conn fresh req =>
    obtain ⟨h1, h2⟩ := quiet_send w conn fresh req hq
    simp only [stepT, step, h1]
    refine ⟨trivial, hw, ?_⟩
    intro b hb; simp only [List.mem_cons] at hb
    rcases hb with hb | hb
    · rcases h2 with h2 | h2 <;> rw [h2] at hb <;> cases hb
      right; rw [← hl]; exact List.take_left' rfl
    · exact Or.inl hb
  | recv q rq resp rcode =>
    simp only [stepT, step]
    have hc := validate_ck_cases timevalIsSet w.ck q rq resp rcode w.now
    simp only [] at hc
    have hq' : (validateWith timevalIsSet w.ck q rq resp rcode w.now).ck.state ≠ .unsupported := hq
    refine ⟨?_, ?_, fun b hb => Or.inl hb⟩
    · rcases hc with hc | ⟨a, r, _, _, _, hc⟩ | ⟨_, hc, _⟩ | ⟨_, hc, _⟩
      · rw [hc]
      · rw [hc, learnG_inUse _ _ _ hw]; exact learn_client _ _ _
      · rw [hc]
      · rw [hc] at hq'; simp at hq'
    · rcases hc with hc | ⟨a, r, _, _, _, hc⟩ | ⟨hs, hc, _⟩ | ⟨_, hc, _⟩
      · rw [hc]; exact hw
      · rw [hc, learnG_inUse _ _ _ hw]; right; exact learn_state _ _ _
      · rw [hc]; right; exact hs
      · rw [hc] at hq'; simp at hq'

/-- **client cookie stable.**  Start from any state in which cookies are in use.  Across *every* sequence of events
    that contains no reset (GENERATED → UNSUPPORTED on a cookie-less answer, regression reset), no change of source
    address and no daily rotation — arbitrary time advances, arbitrary responses, TCP and non-EDNS traffic in between —
    the client cookie stays what it was, and every cookie put on the wire during the run starts with it. -/
theorem client_cookie_stable (es : List Ev) : ∀ (w : World), InUse w.ck → w.ck.client.length = 8 → QuietRun w es →
    (runT w es).ck.client = w.ck.client ∧ InUse (runT w es).ck ∧
    ∀ b, some b ∈ (runT w es).sent → some b ∈ w.sent ∨ b.take 8 = w.ck.client := by
  induction es with
  | nil => intro w hw _ _; exact ⟨rfl, hw, fun b hb => Or.inl hb⟩
  | cons e es ih =>
    intro w hw hl hq
    obtain ⟨h1, h2, h3⟩ := quiet_step w e hw hl hq.1
    obtain ⟨i1, i2, i3⟩ := ih (stepT w e) h2 (by rw [h1]; exact hl) hq.2
    refine ⟨by rw [← h1]; exact i1, i2, ?_⟩
    intro b hb
    rcases i3 b hb with hb | hb
    · exact h3 b hb
    · right; rw [← h1]; exact hb

/-- the causes that do allow a new client cookie, read off the code: if a UDP request with EDNS leaves with a client
    part different from the stored one, then cookies were not in use (first use, or learning again after the
    unsupported period), or the source address differs, or the cookie is a day old, or a regression reset was due -/
theorem client_cookie_changes_only_for_cause (c : CookieSt) (conn : Conn) (now : TimeVal) (fresh : Bytes)
    (x : Option Bytes) (ht : conn.tcp = false)
    (hne : (apply c conn now fresh (some x)).ck.client ≠ c.client) :
    ¬ InUse c ∨ addrEqual conn.selfIp c.clientIp = false ∨ rotationDue c now = true ∨ regressionDue c now = true := by
  by_cases h1 : InUse c
  · by_cases h2 : addrEqual conn.selfIp c.clientIp = true
    · by_cases h3 : rotationDue c now = false
      · by_cases h4 : regressionDue c now = false
        · exact absurd (by rw [apply_stable c conn now fresh x ht ⟨h1, h2, h3, h4⟩]) hne
        · right; right; right; simpa using h4
      · right; right; left; simpa using h3
    · right; left; simpa using h2
  · left; exact h1

/-- the random values drawn by the sends of a history -/
def freshOf : List Ev → List Bytes
  | [] => []
  | .send _ fresh _ :: es => fresh :: freshOf es
  | _ :: es => freshOf es

/-- `F` covers the client cookie in use and every client part put on the wire so far -/
def FreshInv (F : List Bytes) (w : World) : Prop :=
  (InUse w.ck → w.ck.client ∈ F) ∧ ∀ b, some b ∈ w.sent → b.take 8 ∈ F

theorem freshInv_mono (F G : List Bytes) (w : World) (hs : ∀ x ∈ F, x ∈ G) (h : FreshInv F w) : FreshInv G w :=
  ⟨fun hu => hs _ (h.1 hu), fun b hb => hs _ (h.2 b hb)⟩

theorem fresh_step (F : List Bytes) (w : World) (e : Ev) (hwf : w.ck.Wf) (he : EvOk w e) (h : FreshInv F w) :
    FreshInv (freshOf [e] ++ F) (stepT w e) := by
  cases e with
  | advance us => exact h
  | send conn fresh req =>
    simp only [freshOf, List.cons_append, List.nil_append, stepT, step]
    have hc := applyWith_cases timevalIsSet w.ck conn w.now fresh req
    simp only [] at hc
    have hnone : ∀ b, some b ∈ (none :: w.sent) → b.take 8 ∈ fresh :: F := by
      intro b hb
      simp only [List.mem_cons] at hb
      rcases hb with hb | hb
      · cases hb
      · exact List.mem_cons_of_mem _ (h.2 b hb)
    rcases hc with ⟨h1, h2⟩ | ⟨_, h1, h2⟩
    · rw [h1, h2]; exact ⟨fun hu => List.mem_cons_of_mem _ (h.1 hu), hnone⟩
    · have hcl : (applyCore timevalIsSet w.ck conn w.now fresh).client ∈ fresh :: F := by
        rcases applyCore_client timevalIsSet w.ck conn w.now fresh with hc | ⟨hu, hc⟩
        · rw [hc]; exact List.mem_cons_self
        · rw [hc]; exact List.mem_cons_of_mem _ (h.1 hu)
      have hlen := (wf_applyCore timevalIsSet w.ck conn w.now fresh hwf he.1).client_len
      rw [h2, h1]
      refine ⟨fun _ => hcl, ?_⟩
      intro b hb
      simp only [List.mem_cons, Option.some.injEq] at hb
      rcases hb with hb | hb
      · subst b  -- by name: `subst hb` would first normalise the right-hand side
        have : ((applyCore timevalIsSet w.ck conn w.now fresh).client ++
                (applyCore timevalIsSet w.ck conn w.now fresh).server).take 8 =
               (applyCore timevalIsSet w.ck conn w.now fresh).client := by
          rw [show (8 : Nat) = (applyCore timevalIsSet w.ck conn w.now fresh).client.length from hlen.symm]
          exact List.take_left' rfl
        rw [this]; exact hcl
      · exact List.mem_cons_of_mem _ (h.2 b hb)
  | recv q rq resp rcode =>
    simp only [freshOf, List.nil_append, stepT, step]
    have hc := validate_ck_cases timevalIsSet w.ck q rq resp rcode w.now
    simp only [] at hc
    refine ⟨?_, h.2⟩
    rcases hc with hc | ⟨a, r, _, _, _, hc⟩ | ⟨hs, hc, _⟩ | ⟨_, hc, _⟩
    · rw [hc]; exact h.1
    · rw [hc]
      by_cases hu : InUse w.ck
      · rw [learnG_inUse _ _ _ hu, learn_client]; exact fun _ => h.1 hu
      · have : learnG w.ck a r = w.ck := by
          unfold learnG
          have h1 : ¬ w.ck.state = .generated := fun hh => hu (Or.inl hh)
          have h2 : ¬ w.ck.state = .supported := fun hh => hu (Or.inr hh)
          simp [validate_learns_only_in_use, h1, h2]
        rw [this]; exact h.1
    · rw [hc]; exact fun _ => h.1 (Or.inr hs)
    · rw [hc]; intro hu; rcases hu with hu | hu <;> simp at hu

theorem freshOf_mem (e : Ev) (es : List Ev) (F : List Bytes) (x : Bytes)
    (hx : x ∈ freshOf es ++ (freshOf [e] ++ F)) : x ∈ freshOf (e :: es) ++ F := by
  cases e with
  | advance _ => simpa [freshOf] using hx
  | recv _ _ _ _ => simpa [freshOf] using hx
  | send c f r =>
    simp only [freshOf, List.cons_append, List.nil_append, List.mem_append, List.mem_cons] at hx ⊢
    rcases hx with hx | hx | hx <;> simp [hx]

theorem fresh_run (es : List Ev) : ∀ (F : List Bytes) (w : World), Inv w → FreshInv F w → TraceOk timevalIsSet w es →
    FreshInv (freshOf es ++ F) (runT w es) := by
  induction es with
  | nil => intro F w _ h _; exact h
  | cons e es ih =>
    intro F w hi h ht
    have h1 := fresh_step F w e hi.wf ht.1 h
    have h2 := ih _ _ (step_inv timevalIsSet timeval_is_set_ok w e hi ht.1) h1 ht.2
    exact freshInv_mono _ _ _ (fun x hx => freshOf_mem e es F x hx) h2

/-- **the client cookie is always random.**  In every history every cookie put on the wire starts with 8 bytes that an
    earlier (or this) send of the history drew from the random number generator — never the all-zero content of a
    cleared state, never anything derived from a response. -/
theorem client_cookie_is_fresh (t0 : TimeVal) (h0 : StartOk t0) (es : List Ev)
    (ht : TraceOk timevalIsSet (World.init t0) es) :
    ∀ b, some b ∈ (runT (World.init t0) es).sent → b.take 8 ∈ freshOf es := by
  intro b hb
  have := fresh_run es [] (World.init t0) (inv_init t0 h0)
    ⟨by intro hu; rcases hu with hu | hu <;> simp [World.init, CookieSt.cleared] at hu, by simp [World.init]⟩ ht
  simpa using this.2 b hb

/-- a response with a valid server cookie for the *current* client cookie is remembered (and proves support) -/
theorem server_cookie_saved (c : CookieSt) (q : QState) (rq r : Bytes) (rcode : Nat) (now : TimeVal) (hu : InUse c)
    (hv : validFor (some rq) (some r) = true) (hc : rq.take 8 = c.client) :
    (validate c q (some rq) (some r) rcode now).ck.server = r.drop 8 ∧
    (validate c q (some rq) (some r) rcode now).ck.state = .supported ∧
    (validate c q (some rq) (some r) rcode now).ck.client = c.client := by
  simp only [validFor, Bool.and_eq_true, decide_eq_true_eq, beq_iff_eq] at hv
  obtain ⟨⟨h1, h2⟩, hp⟩ := hv
  have hl : learnG c rq r = { c with state := .supported, unsupportedTs := .zero, server := r.drop 8 } := by
    rw [learnG_inUse _ _ _ hu]; unfold learn; simp [COOKIE_CLIENT_LEN, hc]
  unfold validate
  by_cases hr : rcode = RCODE_BADCOOKIE
  · subst hr; rw [validate_server_badcookie _ _ _ _ _ _ h1 h2 hp, hl]; exact ⟨rfl, rfl, rfl⟩
  · rw [validate_server_ok _ _ _ _ _ _ _ h1 h2 hp hr, hl]; exact ⟨rfl, rfl, rfl⟩

/-- an event that neither resets the client cookie nor brings a newer server cookie for it -/
def EchoQuietEv (w : World) : Ev → Prop
  | .recv q rq resp rcode => QuietEv w (.recv q rq resp rcode) ∧
      ¬ (validFor rq resp = true ∧ ∃ b, rq = some b ∧ b.take 8 = w.ck.client)
  | e => QuietEv w e

def EchoQuietRun (w : World) : List Ev → Prop
  | [] => True
  | e :: es => EchoQuietEv w e ∧ EchoQuietRun (stepT w e) es

theorem echoQuiet_quiet (w : World) (e : Ev) (h : EchoQuietEv w e) : QuietEv w e := by
  cases e with
  | advance _ => exact h
  | send _ _ _ => exact h
  | recv _ _ _ _ => exact h.1

theorem echo_step (w : World) (e : Ev) (hs : w.ck.state = .supported) (hq : EchoQuietEv w e) :
    (stepT w e).ck.server = w.ck.server ∧ (stepT w e).ck.state = .supported := by
  cases e with
  | advance us => exact ⟨rfl, hs⟩
  | send conn fresh req =>
    simp only [stepT, step, (quiet_send w conn fresh req hq).1]
    exact ⟨trivial, hs⟩
  | recv q rq resp rcode =>
    simp only [stepT, step]
    have hc := validate_ck_cases timevalIsSet w.ck q rq resp rcode w.now
    simp only [] at hc
    rcases hc with hc | ⟨a, r, ha, hr, hv, hc⟩ | ⟨_, hc, _⟩ | ⟨hg, _, _⟩
    · rw [hc]; exact ⟨rfl, hs⟩
    · rw [hc, learnG_inUse _ _ _ (Or.inr hs)]
      refine ⟨?_, learn_state _ _ _⟩
      unfold learn; simp only []
      split
      · rename_i heq
        exfalso
        apply hq.2
        refine ⟨hv, a, ha, ?_⟩
        simp only [beq_iff_eq, COOKIE_CLIENT_LEN] at heq
        exact heq.symm
      · rfl
    · rw [hc]; exact ⟨rfl, hs⟩
    · rw [hg] at hs; cases hs

theorem echo_run (es : List Ev) : ∀ (w : World), w.ck.state = .supported → EchoQuietRun w es →
    (runT w es).ck.server = w.ck.server ∧ (runT w es).ck.state = .supported := by
  induction es with
  | nil => intro w hs _; exact ⟨rfl, hs⟩
  | cons e es ih =>
    intro w hs hq
    obtain ⟨h1, h2⟩ := echo_step w e hs hq.1
    obtain ⟨i1, i2⟩ := ih (stepT w e) h2 hq.2
    exact ⟨by rw [← h1]; exact i1, i2⟩

theorem echoQuietRun_quietRun (es : List Ev) : ∀ w, EchoQuietRun w es → QuietRun w es := by
  induction es with
  | nil => intro _ _; trivial
  | cons e es ih => intro w h; exact ⟨echoQuiet_quiet w e h.1, ih _ h.2⟩

/-- **echo of the latest server cookie.**  Take any state `w` and a response carrying a valid server cookie `s` for the
    client cookie currently in use.  After *any* further sequence of events without reset, source-address change,
    rotation or a newer server cookie, the next UDP request with EDNS leaves with exactly `client ++ s`. -/
theorem echo_latest_server_cookie (w : World) (q : QState) (rq r : Bytes) (rcode : Nat) (es : List Ev)
    (hl : w.ck.client.length = 8) (hu : InUse w.ck)
    (hv : validFor (some rq) (some r) = true) (hc : rq.take 8 = w.ck.client)
    (hq : EchoQuietRun (stepT w (.recv q (some rq) (some r) rcode)) es)
    (conn : Conn) (fresh : Bytes) (x : Option Bytes) (ht : conn.tcp = false)
    (hst : Stable (runT (stepT w (.recv q (some rq) (some r) rcode)) es).ck conn
            (runT (stepT w (.recv q (some rq) (some r) rcode)) es).now) :
    let w' := runT (stepT w (.recv q (some rq) (some r) rcode)) es
    (apply w'.ck conn w'.now fresh (some x)).req = some (some (w.ck.client ++ r.drop 8)) := by
  intro w'
  obtain ⟨s1, s2, s3⟩ := server_cookie_saved w.ck q rq r rcode w.now hu hv hc
  have e1 : (stepT w (.recv q (some rq) (some r) rcode)).ck = (validate w.ck q (some rq) (some r) rcode w.now).ck := rfl
  obtain ⟨r1, _⟩ := echo_run es _ (by rw [e1]; exact s2) hq
  obtain ⟨c1, _, _⟩ := client_cookie_stable es _ (Or.inr (by rw [e1]; exact s2)) (by rw [e1, s3]; exact hl)
    (echoQuietRun_quietRun es _ hq)
  rw [apply_stable w'.ck conn w'.now fresh x ht hst]
  simp only [w']
  rw [r1, c1, e1, s1, s3]

/-- **supported requires cookie.**  In the SUPPORTED state a response to a request that carried a cookie is accepted
    if and only if it carries a valid cookie (8..40 bytes, the client part we sent, at least one server byte) and is
    not a BADCOOKIE error; everything else — no cookie, bare client cookie, wrong client part, bad length — is dropped. -/
theorem supported_requires_cookie (c : CookieSt) (q : QState) (rq : Bytes) (resp : Option Bytes) (rcode : Nat)
    (now : TimeVal) (hs : c.state = .supported) :
    (validate c q (some rq) resp rcode now).verdict = .accept ↔
      (validFor (some rq) resp = true ∧ rcode ≠ RCODE_BADCOOKIE) := by
  have h := validateWith_case timevalIsSet c q (some rq) resp rcode now
  unfold validate
  generalize validateWith timevalIsSet c q (some rq) resp rcode now = o at h ⊢
  cases h with
  | badlen _ r _ hb => simp [validFor_badlen rq r hb]
  | badclient _ _ _ _ _ hp => simp [validFor, hp]
  | serverOk _ _ _ h1 h2 hp hr => simp [validFor, h1, h2, hp, hr]
  | noServer _ _ _ hn hr => simp [noServerOut_ck_verdict, hs, validFor_noserver rq resp hn]
  | _ => simp

/-- **… for at most the regression period from the first such drop.**  In every reachable state in which the server
    is SUPPORTED and responses have been dropped for lacking a cookie, the first of them at `t0`: the first UDP request
    with EDNS that is sent `COOKIE_REGRESSION_TIMEOUT_MS` or more after `t0` resets the state — a fresh client cookie,
    no server cookie, state GENERATED — and from GENERATED a cookie-less response is accepted
    (`generated_accepts_cookieless`). -/
theorem regression_bounded (w : World) (hr : ReachT w) (t0 : TimeVal) (hs : w.ck.state = .supported)
    (hd : w.firstDrop = some t0) (he : expired t0 w.now COOKIE_REGRESSION_TIMEOUT_MS = true)
    (conn : Conn) (fresh : Bytes) (x : Option Bytes) (ht : conn.tcp = false) (hw : conn.selfIp.Wf) :
    let o := apply w.ck conn w.now fresh (some x)
    o.ck.state = .generated ∧ o.ck.client = fresh ∧ o.ck.server = [] ∧ o.req = some (some fresh) := by
  intro o
  have inv := reach_inv timevalIsSet timeval_is_set_ok w hr
  have hu : w.ck.unsupportedTs = t0 := by rw [inv.sup_ts hs, hd]; rfl
  have hset : timevalIsSet w.ck.unsupportedTs = true := by
    rw [hu]; exact isSet_of_sec _ timeval_is_set_ok t0 (inv.drop_sec t0 hd)
  have h1 : regress timevalIsSet w.ck w.now = CookieSt.cleared := by
    unfold regress; rw [hu] at hset ⊢; simp [hs, hset, he]
  have hip : addrEqual conn.selfIp conn.selfIp = true := addr_equal_refl _ hw
  simp only [o, apply, applyWith, ht, h1]
  simp [quiet, relearn, genInitial, genIp, genRotate, ipChanged, rotationDue, CookieSt.cleared, generate, hip]

/-- … and not before: while no drop has happened, or less than the regression period has passed since the first one,
    a send leaves the server SUPPORTED -/
theorem regression_not_before (w : World) (hr : ReachT w) (hs : w.ck.state = .supported)
    (hd : w.firstDrop = none ∨ ∃ t0, w.firstDrop = some t0 ∧ expired t0 w.now COOKIE_REGRESSION_TIMEOUT_MS = false)
    (conn : Conn) (fresh : Bytes) (req : ReqOpt) :
    (apply w.ck conn w.now fresh req).ck.state = .supported := by
  have inv := reach_inv timevalIsSet timeval_is_set_ok w hr
  have h1 : regress timevalIsSet w.ck w.now = w.ck := by
    unfold regress
    rcases hd with hd | ⟨t0, hd, he⟩
    · have hu : w.ck.unsupportedTs = .zero := by rw [inv.sup_ts hs, hd]; rfl
      rw [hu, isSet_zero _ timeval_is_set_ok]; simp
    · have hu : w.ck.unsupportedTs = t0 := by rw [inv.sup_ts hs, hd]; rfl
      rw [hu, he]; simp
  have hc := applyWith_cases timevalIsSet w.ck conn w.now fresh req
  simp only [] at hc
  unfold apply
  rcases hc with ⟨h2, _⟩ | ⟨_, h2, _⟩
  · rw [h2]; exact hs
  · rw [h2]
    unfold applyCore
    rw [genRotate_state, genIp_state, h1]
    simp [relearn, genInitial, hs]

/-- from GENERATED (no response has proven support yet) a response without server cookie is accepted, and the client
    concludes the server does not support cookies -/
theorem generated_accepts_cookieless (c : CookieSt) (q : QState) (rq : Bytes) (resp : Option Bytes) (rcode : Nat)
    (now : TimeVal) (hs : c.state = .generated) (hn : NoServer rq resp) (hr : rcode ≠ RCODE_BADCOOKIE) :
    (validate c q (some rq) resp rcode now).verdict = .accept ∧
    (validate c q (some rq) resp rcode now).ck.state = .unsupported := by
  unfold validate
  rw [validate_noserver _ _ _ _ _ _ _ hn hr]
  simp [noServerOut_ck_verdict, hs]

/-- a BADCOOKIE response that carries a cookie with our client part: dropped, the query is re-sent without counting
    a try, `cookie_try_count` goes up by one and from `COOKIE_RESEND_MAX` on the query switches to TCP -/
theorem badcookie_step (c : CookieSt) (q : QState) (rq r : Bytes) (now : TimeVal) (h1 : 8 ≤ r.length)
    (h2 : r.length ≤ 40) (hp : rq.take 8 = r.take 8) :
    let o := validate c q (some rq) (some r) RCODE_BADCOOKIE now
    o.verdict = .drop ∧ o.requeue = true ∧ o.q.cookieTry = q.cookieTry + 1 ∧
    o.q.usingTcp = (q.usingTcp || decide (q.cookieTry + 1 ≥ COOKIE_RESEND_MAX)) := by
  intro o
  simp only [o, validate]
  by_cases h8 : r.length = 8
  · rw [validate_noserver_badcookie_some _ _ _ _ _ _ h8 hp]; simp [bump]
  · rw [validate_server_badcookie _ _ _ _ _ _ (by omega) h2 hp]; simp [bump]

/-- a response never causes a cookie resend unless it is a BADCOOKIE error answering a request that carried a cookie -/
theorem requeue_only_badcookie (c : CookieSt) (q : QState) (rq resp : Option Bytes) (rcode : Nat) (now : TimeVal)
    (h : (validate c q rq resp rcode now).requeue = true) : rcode = RCODE_BADCOOKIE ∧ rq.isSome ∧ resp.isSome := by
  have hc := validateWith_case timevalIsSet c q rq resp rcode now
  unfold validate at h
  generalize validateWith timevalIsSet c q rq resp rcode now = o at h hc
  cases hc with
  | serverBad | bareBad => exact ⟨rfl, rfl, rfl⟩
  | noServer => rw [(noServerOut_rest ..).2.1] at h; cases h
  | _ => cases h

/-- one round of a query's life: the cookie state of the server it is sent to (arbitrary: other queries and time may
    have changed it), the local address, the instant, the random bytes, and the server's reply -/
structure Round where
  c : CookieSt
  ip : Addr
  now : TimeVal
  fresh : Bytes
  resp : Option Bytes
  rcode : Nat

/-- a query's life as far as cookies go: it is written with `ares_cookie_apply` over the transport `using_tcp`
    dictates, the reply goes through `ares_cookie_validate`; if that re-queues the query the next round follows.
    The value is the number of re-sends caused. -/
def resends : QState → ReqOpt → List Round → Nat
  | _, _, [] => 0
  | q, req, r :: rs =>
    let a := apply r.c ⟨r.ip, q.usingTcp⟩ r.now r.fresh req
    let v := validate a.ck q (cookieOf a.req) r.resp r.rcode r.now
    if v.requeue then 1 + resends v.q a.req rs else 0

theorem resends_bound (rs : List Round) : ∀ (q : QState) (req : ReqOpt),
    (COOKIE_RESEND_MAX ≤ q.cookieTry → q.usingTcp = true) →
    resends q req rs ≤ COOKIE_RESEND_MAX - min q.cookieTry COOKIE_RESEND_MAX := by
  induction rs with
  | nil => intro q req _; simp [resends]
  | cons r rs ih =>
    intro q req hq
    simp only [resends]
    split
    · rename_i hrq
      obtain ⟨hbc, hsome, hresp⟩ := requeue_only_badcookie _ _ _ _ _ _ hrq
      -- the request carried a cookie, hence it did not travel over TCP, hence fewer than RESEND_MAX tries so far
      have hnt : q.usingTcp = false := by
        by_cases ht : q.usingTcp = true
        · have := (never_on_tcp r.c ⟨r.ip, q.usingTcp⟩ r.now r.fresh req ht).1
          rw [this] at hsome; cases hsome
        · simpa using ht
      have hlt : q.cookieTry < COOKIE_RESEND_MAX := by
        by_cases h : COOKIE_RESEND_MAX ≤ q.cookieTry
        · rw [hq h] at hnt; cases hnt
        · omega
      have hq' : (validate (apply r.c ⟨r.ip, q.usingTcp⟩ r.now r.fresh req).ck q
                   (cookieOf (apply r.c ⟨r.ip, q.usingTcp⟩ r.now r.fresh req).req) r.resp r.rcode r.now).q = bump q :=
        ((validateWith_counters ..).1 hrq).2.1
      have := ih (bump q) (apply r.c ⟨r.ip, q.usingTcp⟩ r.now r.fresh req).req (by
        intro h; simp only [bump] at h ⊢; simp [h])
      rw [hq']
      simp only [bump] at this ⊢
      have hc := cookie_constants.2.2.1
      omega
    · omega

/-- **BADCOOKIE: at most three resends** (this theorem is the bound; "then TCP" is `badcookie_then_tcp`).  Whatever the
    server answers, whatever else happens to the server's cookie state in between, a query causes at most
    `COOKIE_RESEND_MAX` (= 3) cookie resends. -/
theorem badcookie_at_most_three_then_tcp (req : ReqOpt) (rs : List Round) :
    resends ⟨0, false⟩ req rs ≤ COOKIE_RESEND_MAX := by
  have := resends_bound rs ⟨0, false⟩ req (by intro h; simp [COOKIE_RESEND_MAX] at h)
  simpa using this

/-- `k` BADCOOKIE responses in a row -/
def bumpN : Nat → QState → QState
  | 0, q => q
  | k + 1, q => bumpN k (bump q)

/-- **… then TCP**: after the `COOKIE_RESEND_MAX`-th BADCOOKIE the query uses TCP (where no cookie is sent, `never_on_tcp`) -/
theorem badcookie_then_tcp (q : QState) (k : Nat) :
    (bumpN k q).cookieTry = q.cookieTry + k ∧
    ((bumpN k q).usingTcp = true ↔ (q.usingTcp = true ∨ (1 ≤ k ∧ COOKIE_RESEND_MAX ≤ q.cookieTry + k))) := by
  induction k generalizing q with
  | zero => simp [bumpN]
  | succ k ih =>
    simp only [bumpN]
    obtain ⟨h1, h2⟩ := ih (bump q)
    refine ⟨by rw [h1]; simp only [bump]; omega, ?_⟩
    have hb : (bump q).cookieTry = q.cookieTry + 1 := rfl
    have hbt : (bump q).usingTcp = true ↔ (q.usingTcp = true ∨ COOKIE_RESEND_MAX ≤ q.cookieTry + 1) := by
      simp [bump]
    rw [h2, hbt, hb]
    by_cases hu : q.usingTcp = true
    · simp [hu]
    · have hf : (q.usingTcp = true) = False := by simp [hu]
      simp only [hf, false_or]
      omega

/-- no response in the history carries a COOKIE option -/
def NoCookieEver : List Ev → Prop
  | [] => True
  | .recv _ _ resp _ :: es => resp = none ∧ NoCookieEver es
  | _ :: es => NoCookieEver es

theorem not_supported_step (w : World) (e : Ev) (hs : w.ck.state ≠ .supported)
    (he : ∀ q rq resp rcode, e = .recv q rq resp rcode → resp = none) : (stepT w e).ck.state ≠ .supported := by
  cases e with
  | advance us => exact hs
  | send conn fresh req =>
    simp only [stepT, step]
    have hc := applyWith_cases timevalIsSet w.ck conn w.now fresh req
    simp only [] at hc
    rcases hc with ⟨h2, _⟩ | ⟨_, h2, _⟩
    · rw [h2]; exact hs
    · rw [h2]; intro h; exact hs (applyCore_sup _ _ _ _ _ h).1
  | recv q rq resp rcode =>
    simp only [stepT, step]
    have hn := he q rq resp rcode rfl
    subst hn
    have hc := validate_ck_cases timevalIsSet w.ck q rq none rcode w.now
    simp only [] at hc
    rcases hc with hc | ⟨_, _, _, hr, _⟩ | ⟨h, _⟩ | ⟨_, hc, _⟩
    · rw [hc]; exact hs
    · cases hr
    · exact absurd h hs
    · rw [hc]; simp

/-- In every history in which no response carries a cookie the server never becomes SUPPORTED, hence
    (`never_cookie_server_is_used_without`) none of its responses is dropped for lacking one -/
theorem never_cookie_server_never_supported (es : List Ev) : ∀ (w : World), w.ck.state ≠ .supported →
    NoCookieEver es → (runT w es).ck.state ≠ .supported := by
  induction es with
  | nil => intro w hs _; exact hs
  | cons e es ih =>
    intro w hs hn
    cases e with
    | advance us => exact ih _ (not_supported_step w _ hs (by intro _ _ _ _ h; cases h)) hn
    | send conn fresh req => exact ih _ (not_supported_step w _ hs (by intro _ _ _ _ h; cases h)) hn
    | recv q rq resp rcode =>
      exact ih _ (not_supported_step w _ hs (by intro _ _ _ _ h; cases h; exact hn.1)) hn.2

/-- outside SUPPORTED a response without COOKIE option is accepted unless it is a BADCOOKIE error (which without a
    cookie is illegal and dropped) -/
theorem cookieless_accepted_unless_supported (c : CookieSt) (q : QState) (rq : Option Bytes) (rcode : Nat)
    (now : TimeVal) (hs : c.state ≠ .supported) (hr : rcode ≠ RCODE_BADCOOKIE) :
    (validate c q rq none rcode now).verdict = .accept := by
  unfold validate
  cases rq with
  | none => rw [validate_noreq]; intro r h; cases h
  | some b =>
    rw [validate_noserver _ _ _ _ _ _ _ (Or.inl rfl) hr, (noServerOut_ck_verdict ..).2, if_neg hs]

/-- **a server that never returns cookies is used without them.**  After every history in which no response carried a
    cookie, a response without COOKIE option (other than a BADCOOKIE error) is accepted -/
theorem never_cookie_server_is_used_without (t0 : TimeVal) (es : List Ev) (hn : NoCookieEver es)
    (q : QState) (rq : Option Bytes) (rcode : Nat) (hr : rcode ≠ RCODE_BADCOOKIE) :
    let w := runT (World.init t0) es
    (validate w.ck q rq none rcode w.now).verdict = .accept := by
  intro w
  exact cookieless_accepted_unless_supported _ _ _ _ _
    (never_cookie_server_never_supported es _ (by simp [World.init, CookieSt.cleared]) hn) hr

/-- once the client has concluded that the server does not support cookies, requests leave without cookie until the
    retry timer (the regression constant, as coded) has expired -/
theorem unsupported_sends_no_cookie (c : CookieSt) (conn : Conn) (now : TimeVal) (fresh : Bytes) (req : ReqOpt)
    (hs : c.state = .unsupported) (he : expired c.unsupportedTs now COOKIE_REGRESSION_TIMEOUT_MS = false) :
    cookieOf (apply c conn now fresh req).req = none ∧ (apply c conn now fresh req).ck = c := by
  cases req with
  | none => simp [apply, applyWith, cookieOf]
  | some x =>
    by_cases ht : conn.tcp = true
    · simp [apply, applyWith, ht, cookieOf]
    · have h1 : regress timevalIsSet c now = c := by unfold regress; simp [hs]
      simp [apply, applyWith, ht, h1, quiet, hs, he, cookieOf]

/-- **bad client part dropped**: a response whose first 8 cookie bytes are not the client cookie of the request it
    answers is dropped and changes nothing -/
theorem bad_client_part_dropped (c : CookieSt) (q : QState) (rq r : Bytes) (rcode : Nat) (now : TimeVal)
    (hp : rq.take 8 ≠ r.take 8) :
    let o := validate c q (some rq) (some r) rcode now
    o.verdict = .drop ∧ o.ck = c ∧ o.q = q ∧ o.requeue = false := by
  intro o
  simp only [o, validate]
  by_cases hb : r.length < 8 ∨ 40 < r.length
  · rw [validate_badlen _ _ _ _ _ _ _ hb]; exact ⟨rfl, rfl, rfl, rfl⟩
  · rw [validate_badclient _ _ _ _ _ _ _ (by omega) (by omega) hp]; exact ⟨rfl, rfl, rfl, rfl⟩

/-- **only lengths 8..40**: a response cookie shorter than 8 or longer than 40 bytes is dropped and changes nothing,
    whatever request it answers -/
theorem length_8_to_40_only (c : CookieSt) (q : QState) (rq : Option Bytes) (r : Bytes) (rcode : Nat) (now : TimeVal)
    (h : r.length < 8 ∨ 40 < r.length) :
    validate c q rq (some r) rcode now = ⟨c, q, .drop, false, false⟩ :=
  validate_badlen _ _ _ _ _ _ _ h

/-- a cookie put on the wire always has 8..40 bytes, so the 8-byte comparisons never read past a request cookie -/
theorem no_oob_read (w : World) (hr : ReachT w) (q : QState) (rq resp : Option Bytes) (rcode : Nat)
    (hreq : rq ∈ w.sent) : (validate w.ck q rq resp rcode w.now).oob = false := by
  have inv := reach_inv timevalIsSet timeval_is_set_ok w hr
  have hoob : ∀ b x, some b = rq → oobOf b x = false := by
    intro b x hb; subst hb; have := (inv.sent_len b hreq).1; simp [oobOf]; omega
  have hc := validateWith_case timevalIsSet w.ck q rq resp rcode w.now
  unfold validate
  generalize validateWith timevalIsSet w.ck q rq resp rcode w.now = o at hc ⊢
  cases hc with
  | badlen | noreq | bareBadNone => rfl
  | noServer => rw [(noServerOut_rest ..).2.2]; exact hoob _ _ rfl
  | _ => exact hoob _ _ rfl

/-- `ares_cookie_apply` draws random bytes at most once per call (so modelling "the 8 fresh bytes" as one argument
    loses nothing) -/
theorem apply_draws_le_one (c : CookieSt) (conn : Conn) (now : TimeVal) (fresh : Bytes) (req : ReqOpt)
    (hw : conn.selfIp.Wf) : (apply c conn now fresh req).draws ≤ 1 := by
  cases req with
  | none => simp [apply, applyWith]
  | some x =>
    by_cases ht : conn.tcp = true
    · simp [apply, applyWith, ht]
    · simp only [apply, applyWith, ht, Bool.false_eq_true, ↓reduceIte]
      split
      · simp
      · simp only []
        have hip : addrEqual conn.selfIp conn.selfIp = true := addr_equal_refl _ hw
        generalize hc2 : relearn (regress timevalIsSet c now) = c2
        by_cases hi : c2.state = .initial
        · -- generated now: address equal to itself, time stamp is now: neither of the other two fire
          have h3 : genInitial c2 conn now fresh = { generate c2 conn now fresh with state := .generated } := by
            simp [genInitial, hi]
          have h4 : ipChanged (genInitial c2 conn now fresh) conn = false := by
            rw [h3]; simp [ipChanged, generate, hip]
          have h5 : genIp (genInitial c2 conn now fresh) conn now fresh = genInitial c2 conn now fresh := by
            simp [genIp, h4]
          have h6 : rotationDue (genIp (genInitial c2 conn now fresh) conn now fresh) now = false := by
            rw [h5, h3]; simp [rotationDue]
          simp [hi, h4, h6]
        · have h3 : genInitial c2 conn now fresh = c2 := by simp [genInitial, hi]
          rw [h3]
          by_cases h4 : ipChanged c2 conn = true
          · have h5 : genIp c2 conn now fresh = generate (clearServer c2) conn now fresh := by simp [genIp, h4]
            have h6 : rotationDue (genIp c2 conn now fresh) now = false := by
              rw [h5]
              simp only [rotationDue, generate, clearServer, Bool.and_eq_false_imp]
              intro _
              simp only [expired, diffMs]
              simp only [Nat.lt_irrefl, ↓reduceIte, Int.sub_self]
              have : (now.usec + 1000000 - now.usec) / 1000 = 1000 := by omega
              rw [this]; decide
            simp [hi, h4, h6]
          · have h4' : ipChanged c2 conn = false := by simpa using h4
            simp only [hi, h4', ↓reduceIte, Bool.false_eq_true]
            split <;> simp

/-! ## the pinned tree (kernel-checked counterexamples) and non-vacuity -/

section Examples
def ip4 : Addr := ⟨AF_INET, [10, 0, 0, 100]⟩
def udp : Conn := ⟨ip4, false⟩
def c1 : Bytes := [1, 2, 3, 4, 5, 6, 7, 8]
def c2 : Bytes := [9, 9, 9, 9, 9, 9, 9, 9]
def srv : Bytes := [0xaa, 0xbb, 0xcc, 0xdd, 0xee, 0xff, 0, 0x11]

/-- a history on whole-second instants: support proven at 1000 s, first cookie-less response dropped at 1000 s, a
    second one at 1060 s, and a request sent at 1121 s — more than the regression period after the first drop -/
def f18History : List Ev :=
  [.send udp c1 (some none), .recv ⟨0, false⟩ (some c1) (some (c1 ++ srv)) 0, .send udp c2 (some none),
   .recv ⟨0, false⟩ (some (c1 ++ srv)) none 0, .advance 60000000,
   .recv ⟨0, false⟩ (some (c1 ++ srv)) none 0, .advance 61000000]

/-- F18 on the pinned tree (`timeval_is_set` with `&&`): after that history the state is still SUPPORTED with the old
    client cookie, so the server's cookie-less responses keep being dropped beyond the regression period … -/
theorem c17_f18_pinned_regression_never_ends :
    let w := run timevalIsSetAnd (World.init ⟨1000, 0⟩) f18History
    w.firstDrop = some ⟨1000, 0⟩ ∧ expired ⟨1000, 0⟩ w.now COOKIE_REGRESSION_TIMEOUT_MS = true ∧
    (applyWith timevalIsSetAnd w.ck udp w.now c2 (some none)).ck.state = .supported ∧
    (applyWith timevalIsSetAnd w.ck udp w.now c2 (some none)).req = some (some (c1 ++ srv)) := by decide

/-- … while with the repaired `||` the same history ends the way `regression_bounded` says -/
example :
    let w := run timevalIsSetOr (World.init ⟨1000, 0⟩) f18History
    w.firstDrop = some ⟨1000, 0⟩ ∧
    (applyWith timevalIsSetOr w.ck udp w.now c2 (some none)).ck.state = .generated ∧
    (applyWith timevalIsSetOr w.ck udp w.now c2 (some none)).req = some (some c2) := by decide

/-- F30-C17 on the pinned tree: two unknown local addresses (AF_UNSPEC, what a connection has when the socket functions
    provide no `getsockname`) never compare equal, so every request regenerates the client cookie -/
theorem c17_f30_pinned_unspec_never_equal :
    addrEqualWith false ⟨AF_UNSPEC, []⟩ ⟨AF_UNSPEC, []⟩ = false ∧
    addrEqualWith true ⟨AF_UNSPEC, []⟩ ⟨AF_UNSPEC, []⟩ = true := by decide

/-- non-vacuity: the hypotheses of `regression_bounded` are satisfiable by a reachable state … -/
example : ∃ w, ReachT w ∧ w.ck.state = .supported ∧ w.firstDrop = some ⟨1000, 0⟩ ∧
    expired ⟨1000, 0⟩ w.now COOKIE_REGRESSION_TIMEOUT_MS = true :=
  ⟨runT (World.init ⟨1000, 0⟩) f18History, ⟨⟨1000, 0⟩, f18History, by decide, by decide, rfl⟩, by decide, by decide,
   by decide⟩

/-- … a quiet run with several sends exists (client cookie stable, server cookie echoed) … -/
example :
    let w := runT (World.init ⟨1000, 5⟩) [.send udp c1 (some none), .recv ⟨0, false⟩ (some c1) (some (c1 ++ srv)) 0]
    InUse w.ck ∧ QuietRun w [.advance 5000000, .send udp c2 (some none), .recv ⟨0, false⟩ (some (c1 ++ srv)) none 0,
                             .send udp c2 (some none)] ∧
    (runT w [.advance 5000000, .send udp c2 (some none)]).sent.head? = some (some (c1 ++ srv)) := by decide

/-- … and a BADCOOKIE loop really reaches three resends -/
example : resends ⟨0, false⟩ (some none)
    (List.replicate 5 ⟨⟨.supported, c1, ⟨2000, 0⟩, ip4, [], .zero⟩, ip4, ⟨2000, 0⟩, c2,
                       some (c1 ++ srv), RCODE_BADCOOKIE⟩) = 3 := by decide
end Examples

end Cares.C17
