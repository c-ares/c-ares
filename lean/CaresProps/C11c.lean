/-
C11 — `ares_queue_wait_empty()` reports success only when no request is outstanding, over the wait loop that
tools/gen_waitempty.py regenerates from /repo/src/lib/util/ares_threads.c on every run
(CaresModel/Generated/WaitEmpty.lean: one iteration of the timed and of the untimed branch as functions on
(status, left-by-break), plus the shape facts: loop condition = queue length, lock held around the loop, `return status`).

The loop is run over every sequence of observations (queue length seen by each evaluation of the loop condition - under
the channel lock - whether the remaining time was 0, what the condition-variable wait returned: woken, possibly
spuriously or by the notification of a queue that was empty only for a moment, or timed out):

* `wait_empty_sound`: ARES_SUCCESS is returned only when the last evaluation of the loop condition saw an empty queue;
* `wake_rechecks`: a waiter that is woken while requests are outstanding goes round again (an unconditional `break`
  after the wait would return with requests outstanding);
* `timeout_has_cause`: ARES_ETIMEOUT is returned only after a wait timed out or the remaining time reached 0;
* `untimed_only_success`: without a timeout the only result is ARES_SUCCESS;
* `empty_seen_returns` / `timeout_is_reported`: completeness of the timed loop - after any number of wake-ups the first empty
  queue seen gives ARES_SUCCESS, and the first expired wait with requests outstanding gives ARES_ETIMEOUT.
-/
import CaresModel.Generated.WaitEmpty
namespace Cares.C11c
open Cares.Chan Cares.Generated.WaitEmpty

structure Obs where
  /-- queue length seen by this evaluation of the loop condition (under the channel lock) -/
  len : Nat
  /-- the remaining time computed in this iteration is 0 -/
  tmsZero : Bool
  /-- result of the condition-variable wait: .ok = woken, .timeout = timed out -/
  waitRes : Status

/-- the loop of ares_queue_wait_empty: returned status, and the queue length seen by the last evaluation of the loop
condition (`none`: still waiting when the observations end) -/
def run (timed : Bool) : Status → List Obs → Status × Option Nat
  | st, [] => (st, none)
  | st, o :: os =>
    if o.len == 0 then (st, some 0) else
    let r := if timed then timedIter st o.tmsZero o.waitRes else untimedIter st o.waitRes
    if r.2 then (r.1, some o.len) else run timed r.1 os

theorem shape_ok : condIsQueueLen = true ∧ lockedAroundLoop = true ∧ returnsStatus = true ∧ initStatus = .ok := by
  decide

theorem timed_break_not_ok (st : Status) (z : Bool) (w : Status) :
    (timedIter st z w).2 = true → (timedIter st z w).1 ≠ .ok := by
  unfold timedIter
  cases z <;> simp <;> (repeat' split) <;> simp_all

theorem untimed_break_not_ok (st w : Status) :
    (untimedIter st w).2 = true → (untimedIter st w).1 ≠ .ok := by
  unfold untimedIter
  simp <;> (repeat' split) <;> simp_all

theorem wait_empty_sound (timed : Bool) (st : Status) (obs : List Obs) (n : Nat)
    (h : run timed st obs = (.ok, some n)) : n = 0 := by
  induction obs generalizing st with
  | nil => simp [run] at h
  | cons o os ih =>
    unfold run at h
    by_cases h0 : o.len == 0
    · simp [h0] at h; omega
    · simp only [h0] at h
      cases timed with
      | true =>
        simp only [if_true] at h
        by_cases hb : (timedIter st o.tmsZero o.waitRes).2 = true
        · simp [hb] at h
          exact absurd h.1 (timed_break_not_ok _ _ _ hb)
        · simp [hb] at h
          exact ih _ h
      | false =>
        simp only [Bool.false_eq_true, ↓reduceIte] at h
        by_cases hb : (untimedIter st o.waitRes).2 = true
        · simp [hb] at h
          exact absurd h.1 (untimed_break_not_ok _ _ hb)
        · simp [hb] at h
          exact ih _ h

/-- the function as called: ARES_SUCCESS only with an empty queue at the last check under the lock -/
theorem wait_empty_sound_call (timed : Bool) (obs : List Obs) (n : Nat)
    (h : run timed initStatus obs = (.ok, some n)) : n = 0 := wait_empty_sound timed initStatus obs n h

/-- woken (notified or spuriously) with requests outstanding and time left: the waiter goes round again -/
theorem wake_rechecks (o : Obs) (os : List Obs) (h0 : o.len ≠ 0) (hz : o.tmsZero = false) (hw : o.waitRes = .ok) :
    run true .ok (o :: os) = run true .ok os := by
  have : (o.len == 0) = false := by simp [h0]
  simp [run, this, timedIter, hz, hw]

theorem timed_timeout_cause (st : Status) (z : Bool) (w : Status) :
    (timedIter st z w).1 = .timeout → z = true ∨ w = .timeout := by
  unfold timedIter
  cases z <;> simp <;> (repeat' split) <;> simp_all

theorem timed_no_break_keeps (st : Status) (z : Bool) (w : Status) :
    (timedIter st z w).2 = false → (timedIter st z w).1 ≠ .timeout := by
  unfold timedIter
  cases z <;> simp <;> (repeat' split) <;> simp_all

theorem timeout_has_cause (st : Status) (obs : List Obs) (x : Option Nat) (hs : st ≠ .timeout)
    (h : run true st obs = (.timeout, x)) : ∃ o ∈ obs, o.tmsZero = true ∨ o.waitRes = .timeout := by
  induction obs generalizing st with
  | nil => simp [run] at h; exact absurd h.1 hs
  | cons o os ih =>
    unfold run at h
    by_cases h0 : o.len == 0
    · simp [h0] at h; exact absurd h.1 hs
    · simp only [h0, if_true] at h
      by_cases hb : (timedIter st o.tmsZero o.waitRes).2 = true
      · simp [hb] at h
        exact ⟨o, by simp, timed_timeout_cause _ _ _ h.1⟩
      · simp [hb] at h
        have hk := timed_no_break_keeps st o.tmsZero o.waitRes (by simpa using hb)
        obtain ⟨o', ho', hc⟩ := ih _ hk h
        exact ⟨o', by simp [ho'], hc⟩

theorem untimed_keeps (st w : Status) : untimedIter st w = (st, false) := by
  unfold untimedIter; simp

theorem untimed_only_success (obs : List Obs) (x : Option Nat) (s : Status)
    (h : run false initStatus obs = (s, x)) : s = .ok := by
  have key : ∀ (st : Status) (obs : List Obs), (run false st obs).1 = st := by
    intro st obs
    induction obs generalizing st with
    | nil => simp [run]
    | cons o os ih =>
      unfold run
      by_cases h0 : o.len == 0
      · simp [h0]
      · simp [h0, untimed_keeps, ih]
  have := key initStatus obs
  rw [h] at this
  simpa [initStatus] using this

/-- "woken with requests outstanding and time left" -/
def Woken (p : Obs) : Prop := p.len ≠ 0 ∧ p.tmsZero = false ∧ p.waitRes = .ok

/-- completeness: however often the waiter was woken in between, the first evaluation of the loop condition that sees an
    empty queue ends the call with ARES_SUCCESS (the waiter is not lost, and no stale status survives the wake-ups) -/
theorem empty_seen_returns (pre : List Obs) (o : Obs) (post : List Obs)
    (hpre : ∀ p ∈ pre, Woken p) (h0 : o.len = 0) :
    run true .ok (pre ++ o :: post) = (.ok, some 0) := by
  induction pre with
  | nil => simp [run, h0]
  | cons p ps ih =>
    have hp := hpre p (by simp)
    rw [List.cons_append, wake_rechecks p _ hp.1 hp.2.1 hp.2.2]
    exact ih (fun q hq => hpre q (by simp [hq]))

/-- the timeout is honoured: the first iteration in which the remaining time is 0 or the wait timed out, with requests
    still outstanding, ends the call with ARES_ETIMEOUT — the waiter does not go round again -/
theorem timeout_is_reported (pre : List Obs) (o : Obs) (post : List Obs)
    (hpre : ∀ p ∈ pre, Woken p) (h0 : o.len ≠ 0) (hc : o.tmsZero = true ∨ o.waitRes = .timeout) :
    run true .ok (pre ++ o :: post) = (.timeout, some o.len) := by
  induction pre with
  | nil =>
    have : (o.len == 0) = false := by simp [h0]
    rcases hc with hc | hc
    · simp [run, this, timedIter, hc]
    · cases hz : o.tmsZero <;> simp [run, this, timedIter, hc, hz]
  | cons p ps ih =>
    have hp := hpre p (by simp)
    rw [List.cons_append, wake_rechecks p _ hp.1 hp.2.1 hp.2.2]
    exact ih (fun q hq => hpre q (by simp [hq]))

/-! non-vacuity: notified, found the queue refilled, then timed out -/
example : run true .ok [⟨1, false, .ok⟩, ⟨1, false, .timeout⟩] = (.timeout, some 1) := by decide
example : run true .ok [⟨1, false, .ok⟩, ⟨0, false, .ok⟩] = (.ok, some 0) := by decide
example : run true .ok [⟨2, true, .ok⟩] = (.timeout, some 2) := by decide
example : run false .ok [⟨2, false, .ok⟩, ⟨1, false, .ok⟩, ⟨0, false, .ok⟩] = (.ok, some 0) := by decide
example : Woken ⟨3, false, .ok⟩ := by simp [Woken]
example : run true .ok ([⟨3, false, .ok⟩, ⟨2, false, .ok⟩] ++ ⟨1, false, .timeout⟩ :: []) = (.timeout, some 1) := by decide

end Cares.C11c
