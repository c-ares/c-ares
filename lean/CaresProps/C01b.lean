import CaresProps.C01
import CaresLemmas.ChanSockUnl
/-!
# C01 (continued) — `ares_destroy` leaves no connection behind

`destroy_completes_all` (`C01.lean`) ends with "every remaining connection is `unlinked`" (a connection an outer frame
is in the middle of closing legitimately stays in the store).  `exec_Unl` (`CaresLemmas/ChanSockUnl.lean`, the C10
slice) is the missing postcondition: unless fuel ran out, no procedure leaves a connection half-closed that was not
half-closed before.  Together: a completed *top-level* `ares_destroy` — called from a state without half-closed
connections, which is every state between API calls — leaves `conns = []`.

This lives in its own file because `CaresProps/C10.lean` imports `CaresProps/C01.lean` (for `Cares.C01.Inv`), and
`ChanSockUnl` belongs to the C10 slice: `C01.lean` itself must not import it.  (C10's `destroy_closes_all` has the same
conclusion but additionally needs the socket invariant `SInv none s` and fuel of the form `f + 3`.)
-/
namespace Cares.C01
open Cares.Chan

/-- unless fuel ran out, a call that is not in the middle of closing a connection (`closing call = []`: everything but
    `closeLoop`) and starts without half-closed connections ends without half-closed connections -/
theorem no_unlinked_after (fuel : Nat) (call : Call) (s : St) (hcl : closing call = [])
    (hu : ∀ c ∈ s.conns, c.unlinked = false) (hf : (exec fuel call s).1.outOfFuel = false) :
    ∀ c ∈ (exec fuel call s).1.conns, c.unlinked = false := by
  have hun : Unl [] (exec fuel call s).1 := by
    apply exec_Unl
    rw [hcl]
    intro _ c hc hcu
    rw [hu c hc] at hcu; cases hcu
  intro c hc
  cases hcu : c.unlinked with
  | false => rfl
  | true => have := hun hf c hc hcu; cases this

/-- **`destroy_leaves_no_connection`.**  A completed top-level `ares_destroy` (`Inv s`, no list walk in progress, no
    half-closed connection on entry, fuel not exhausted) leaves the connection table empty. -/
theorem destroy_leaves_no_connection (fuel : Nat) (s : St) (h : Inv s) (hl : s.listCopy = [])
    (hu : ∀ c ∈ s.conns, c.unlinked = false) (hf : (exec fuel .destroy s).1.outOfFuel = false) :
    (exec fuel .destroy s).1.conns = [] := by
  have hall := (destroy_completes_all fuel s h hl hf).2.2.2.2.2.2.1
  have hnone := no_unlinked_after fuel .destroy s rfl hu hf
  cases hc : (exec fuel .destroy s).1.conns with
  | nil => rfl
  | cons c rest =>
    have hm : c ∈ (exec fuel .destroy s).1.conns := by rw [hc]; exact List.mem_cons_self ..
    have h1 := hall c hm
    rw [hnone c hm] at h1; cases h1

/-- `destroy_completes_all` with its seventh conjunct strengthened to `conns = []` -/
theorem destroy_completes_all_strong (fuel : Nat) (s : St) (h : Inv s) (hl : s.listCopy = [])
    (hu : ∀ c ∈ s.conns, c.unlinked = false) (hf : (exec fuel .destroy s).1.outOfFuel = false) :
    Inv (exec fuel .destroy s).1 ∧
    (exec fuel .destroy s).1.modelFaults = s.modelFaults ∧
    (exec fuel .destroy s).1.doneToks.Nodup ∧
    (∀ q ∈ s.qs, q.key ∈ s.all → ∀ tok, q.owner = .user tok → tok ∈ (exec fuel .destroy s).1.doneToks) ∧
    (exec fuel .destroy s).1.all = [] ∧ (exec fuel .destroy s).1.byQid = [] ∧
    (exec fuel .destroy s).1.conns = [] ∧
    (exec fuel .destroy s).1.alive = false ∧ (exec fuel .destroy s).1.destroyed = true := by
  obtain ⟨a, b, c, d, e, f, _, g, i⟩ := destroy_completes_all fuel s h hl hf
  exact ⟨a, b, c, d, e, f, destroy_leaves_no_connection fuel s h hl hu hf, g, i⟩

/-- the hypothesis "no half-closed connection" holds of the fresh channel (no connection at all); `no_unlinked_after`
    keeps it over every completed call the driver makes (none of them is `closeLoop`), and so does whatever leaves
    `conns` alone -/
theorem no_unlinked_init (cfg : Cfg) (srvs : List Server) :
    ∀ c ∈ ({ cfg := cfg, alive := true, servers := srvs } : St).conns, c.unlinked = false :=
  fun _ h => nomatch h

/-! ### non-vacuity: the example run of `C01.lean` -/
namespace Example

/-- one connection (to the first server) with request 1 outstanding, not half-closed -/
theorem s1_conns : s1.settle.conns.map (fun c => (c.fd, c.unlinked, c.queries)) = [(100, false, [0])] := by
  decide +kernel

theorem s1_no_unlinked : ∀ c ∈ s1.settle.conns, c.unlinked = false := by
  intro c hc
  have : (c.fd, c.unlinked, c.queries) ∈ s1.settle.conns.map (fun c => (c.fd, c.unlinked, c.queries)) :=
    List.mem_map_of_mem hc
  rw [s1_conns] at this
  simp only [List.mem_cons, List.not_mem_nil, or_false, Prod.mk.injEq] at this
  exact this.2.1

/-- the theorem applies to the destroy of the example run (a connection with an outstanding request exists on entry) -/
example : sD.conns = [] :=
  destroy_leaves_no_connection fuel s1.settle (inv_settle run_inv.1) destroy_result.2.2.2.2.2.2.2.1
    s1_no_unlinked destroy_result.1

/-- … and the hypothesis is what `no_unlinked_after` re-establishes along the run: `s1` is reached by a completed
    `ares_send` from the fresh channel -/
example : ∀ c ∈ s1.conns, c.unlinked = false :=
  no_unlinked_after fuel call1 _ rfl (fun _ h => nomatch h) run_completes.1

end Example

end Cares.C01
