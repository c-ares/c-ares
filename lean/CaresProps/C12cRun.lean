import CaresProps.C12c
/-!
# C12c — non-vacuity: concrete channel runs to which the refinement theorems apply (all `decide +kernel`)

1. `Search`: one server, search list `a.com`, `ares_search("host", A)`: `host.a.com` → NXDOMAIN, then `host` → one
   address.  Three top-level calls (`clientStart`, two `processRead`).
2. `Sync`: no server at all, `ares_getaddrinfo("host", AF_UNSPEC)`: both sub-requests fail synchronously *inside*
   `runActs` — the first completion re-enters the client while the second `.sendSlot` of the outer frame is still
   pending (the re-entrant case); one top-level call.
3. `NonCausal`: a log (not a run) that replays but is not causal, and on which the fold theorem fails.
-/
namespace Cares.C12c.Example
open Cares.Chan Cares.Text Cares.Proto Cares.ClientWalk

def cfg : Cfg := { ndots := 1, domains := ["612e636f6d"] }
def conf : Config := { ndots := 1, domains := [[97, 46, 99, 111, 109]] }
def host : Name := [104, 111, 115, 116]
def spec : ReqSpec := { name := "686f7374", qtype := 1 }
def fuel : Nat := 60

theorem hyps : CfgMatches cfg conf ∧ Ser host ∧ hex host = "686f7374" ∧
    lookupHostaliases conf.noAliases conf.aliases host = .error .enotfound ∧
    isOnion (hex host) = false ∧ isLocalhost (hex host) = false ∧ isV4Literal (hex host) = false ∧ DnsFirst cfg :=
  ⟨⟨rfl, by decide, rfl, by decide⟩, by decide, by decide, rfl, by decide +kernel, by decide +kernel,
    host_not_literal, ⟨0, [], by decide, by decide⟩⟩

namespace Search

def s0 : St := { cfg := cfg, alive := true, servers := [{ id := 0, addr := "10.0.0.1" }] }
def call1 : Call := .clientStart "search" 1 [] spec 0
def t0 : St := { s0 with pendingToks := s0.pendingToks ++ [1] }
def s1 : St := (exec fuel call1 t0).1
-- no draws are scripted (`obs.rnd2 = []`), so `genQid` hands out its fallback ids `70000 + nextKey`: 70000, 70001
def r1 : Reply := { id := 70000, name := "686f73742e612e636f6d", qtype := 1, qclass := 1, rcode := 3, len := 40 }
def t1 : St := s1.settle.modSock 100 fun v => { v with rx := v.rx ++ [r1] }
def s2 : St := (exec fuel (.processRead 100) t1).1
def r2 : Reply := { id := 70001, name := "686f7374", qtype := 1, qclass := 1, rcode := 0, an := 1, ttls := [300], len := 40 }
def t2 : St := s2.settle.modSock 100 fun v => { v with rx := v.rx ++ [r2] }
def s3 : St := (exec fuel (.processRead 100) t2).1
def L1 : CLog := [] ++ (execC fuel call1 t0).2
def L2 : CLog := L1 ++ (execC fuel (.processRead 100) t1).2
def L : CLog := L2 ++ (execC fuel (.processRead 100) t2).2

/-- everything that is read off the evaluated run, evaluated once -/
theorem eval :
    ((exec fuel call1 t0).1.outOfFuel = false ∧ (exec fuel (.processRead 100) t1).1.outOfFuel = false ∧
      (exec fuel (.processRead 100) t2).1.outOfFuel = false) ∧
    (Causal 0 L ∧ CItem.start 0 "search" 1 [] spec 0 ∈ L ∧ L.length = 10 ∧
      (evsOf 0 L).map searchOutcome = [.enotfound, .success] ∧
      sentOf 0 L = [("686f73742e612e636f6d", 1), ("686f7374", 1)] ∧
      finsOf 0 L = [(.ok, 0, "rc=0,an=1,10.0.0.1/300")] ∧ s3.doneToks = [1] ∧ s3.modelFaults = []) ∧
    (evsOf 0 L).length = 2 ∧ (s3.clients.length = 0 ∧ s3.nextClient = 1) ∧
    ((evsOf 0 L).map (·.reply) = [some r1, some r2] ∧ s3.accepted = [(100, 0, r1), (100, 1, r2)]) := by
  decide +kernel

theorem run_completes : (exec fuel call1 t0).1.outOfFuel = false ∧ (exec fuel (.processRead 100) t1).1.outOfFuel = false ∧
    (exec fuel (.processRead 100) t2).1.outOfFuel = false := eval.1

theorem inv0 : Cares.C01.Inv s0 := Cares.C01.inv_init cfg _ (by decide) (by decide)

/-! the run under the C01 discipline (`RunI`): the token is accepted with `C01.callOk_accept`, the event-loop
calls are justified by `C01.callOk_loop`, `settle` and the arrival of a reply are environment steps -/
theorem runI0 : RunI s0 t0 [] := run_accept (run_start inv0) 1 (by decide) (by decide) (by decide)
theorem runI1 : RunI s0 s1 L1 :=
  run_call runI0 fuel call1 ⟨fun _ _ h => (by cases h), rfl⟩
    ((Cares.C01.callOk_accept inv0 1 (by decide) (by decide) (by decide)).2.2 "search" spec [] 0) run_completes.1
theorem runI1' : RunI s0 t1 L1 :=
  runI1.settle.env_sk (t' := t1) (St.modSock_clients ..) (St.modSock_cfg ..) (St.modSock_accepted ..) (St.modSock_cache ..)
    (sk_modSock _ _ _ (fun _ => rfl))
theorem runI2 : RunI s0 s2 L2 :=
  run_call runI1' fuel (.processRead 100) ⟨fun _ _ h => (by cases h), rfl⟩
    ((Cares.C01.callOk_loop (run_inv runI1')).1 100) run_completes.2.1
theorem runI2' : RunI s0 t2 L2 :=
  runI2.settle.env_sk (t' := t2) (St.modSock_clients ..) (St.modSock_cfg ..) (St.modSock_accepted ..) (St.modSock_cache ..)
    (sk_modSock _ _ _ (fun _ => rfl))
/-- the run, with every hypothesis of `causal_of_run` discharged -/
theorem runI : RunI s0 s3 L :=
  run_call runI2' fuel (.processRead 100) ⟨fun _ _ h => (by cases h), rfl⟩
    ((Cares.C01.callOk_loop (run_inv runI2')).1 100) run_completes.2.2

/-- the run: `clientStart`, NXDOMAIN for `host.a.com`, answer for `host` -/
theorem run : RunC s0 s3 L := runI.run

/-- what the log says: causal; two completions; the two candidates were asked in order; one user callback -/
theorem log_facts : Causal 0 L ∧ CItem.start 0 "search" 1 [] spec 0 ∈ L ∧ L.length = 10 ∧
    (evsOf 0 L).map searchOutcome = [.enotfound, .success] ∧
    sentOf 0 L = [("686f73742e612e636f6d", 1), ("686f7374", 1)] ∧
    finsOf 0 L = [(.ok, 0, "rc=0,an=1,10.0.0.1/300")] ∧ s3.doneToks = [1] ∧ s3.modelFaults = [] :=
  eval.2.1

/-- causality of the run is a consequence of the C01 discipline (it is also the first conjunct of `log_facts`,
    checked by evaluation) -/
example : Causal 0 L := causal_of_run runI 0 (Nat.le_refl 0)

/-- R1 applies to the run (all hypotheses discharged, no causality assumption) … -/
example : sentOf 0 L = (clientRun cfg 0 "search" 1 [] spec 0 (evsOf 0 L)).sent ∧
    finsOf 0 L = (clientRun cfg 0 "search" 1 [] spec 0 (evsOf 0 L)).fin.toList :=
  client_events_are_fold runI 0 (Nat.le_refl 0) "search" 1 [] spec 0 log_facts.2.1

/-- (the conditional form, with `Causal` taken from the evaluated log) -/
example : sentOf 0 L = (clientRun cfg 0 "search" 1 [] spec 0 (evsOf 0 L)).sent ∧
    finsOf 0 L = (clientRun cfg 0 "search" 1 [] spec 0 (evsOf 0 L)).fin.toList :=
  client_events_are_fold_partial run 0 (Nat.le_refl 0) inv0 log_facts.1 "search" 1 [] spec 0 log_facts.2.1

/-- … and so does R2: the names on the wire are `searchWalk`'s, the status is `searchWalk`'s -/
example : sentOf 0 L = tagNames 1 (searchWalk conf host [.enotfound, .success]).1 ∧
    (finsOf 0 L).map (fun f => stMap f.1) = [(searchWalk conf host [.enotfound, .success]).2] := by
  have h := search_over_channel runI 0 (Nat.le_refl 0) conf hyps.1 host hyps.2.1 hyps.2.2.2.1
    hyps.2.2.2.2.1 1 [] spec rfl 0 log_facts.2.1
  simp only [log_facts.2.2.2.1] at h
  refine ⟨h.1, ?_⟩
  rw [h.2, if_pos (by rw [eval.2.2.1]; decide +kernel)]

set_option maxRecDepth 100000 in
example : (searchWalk conf host [.enotfound, .success]) =
    ([[104, 111, 115, 116, 46, 97, 46, 99, 111, 109], host], .success) := by decide +kernel

/-- R1a (unconditional): the log replays; afterwards the client store is empty again -/
example : replay cfg ⟨[], 0, []⟩ L = some ⟨[], 1, []⟩ := by
  have h := (client_run_replays run).2
  have e := eval.2.2.2.1
  have : s3.clients = [] := List.eq_nil_of_length_eq_zero e.1
  rw [this, e.2] at h
  exact h

set_option maxRecDepth 100000 in
/-- the two replies handed to the client are the two entries of `accepted` -/
example : (evsOf 0 L).map (·.reply) = [some r1, some r2] ∧ s3.accepted = [(100, 0, r1), (100, 1, r2)] :=
  eval.2.2.2.2

/-- … as `client_replies_accepted` says -/
example : ∀ e ∈ evsOf 0 L, ∀ r, e.reply = some r → FromAcc s3.accepted r :=
  client_replies_accepted run (fun _ h => nomatch h) 0

end Search

namespace Sync

def s0 : St := { cfg := cfg, alive := true, servers := [] }
def call1 : Call := .clientStart "gai" 1 [] spec 0
def t0 : St := { s0 with pendingToks := s0.pendingToks ++ [1] }

/-- `clientStart` evaluated (the kernel cannot evaluate `String.splitOn` inside `isV4Literal`) -/
def start0 : Client × List ClientAct :=
  gaiNextLookup cfg 8
    { id := 0, kind := "gai", tok := 1, react := [], name := spec.name, family := 0,
      lookups := cfg.lookups.toList, names := searchNames cfg spec.name } .connrefused

theorem start_eval : clientStart cfg 0 "gai" 1 [] spec 0 = start0 := by
  unfold clientStart gaiStart start0
  have ho : isOnion spec.name = false := by decide +kernel
  simp [ho, show isV4Literal spec.name = false from host_not_literal]

def t0' : St := { t0 with clients := t0.clients ++ [start0.1], nextClient := 1 }

theorem call_eval : execC fuel call1 t0 =
    ((execC 59 (.runActs 0 start0.2) t0').1, .start 0 "gai" 1 [] spec 0 :: (execC 59 (.runActs 0 start0.2) t0').2) := by
  show bodyClientStartC (execC 59) "gai" 1 [] spec 0 t0 = _
  unfold bodyClientStartC
  show (_, CItem.start 0 "gai" 1 [] spec 0 :: _) = _
  rw [show clientStart t0.cfg t0.nextClient "gai" 1 [] spec 0 = start0 from start_eval]
  rfl

def s1 : St := (exec fuel call1 t0).1
def L : CLog := [] ++ (execC fuel call1 t0).2
def Lval : CLog :=
  [.start 0 "gai" 1 [] spec 0,
   .act 0 (.sendSlot { name := "686f73742e612e636f6d", qtype := 1 } 0),
   .cb 0 .noserver 0 none 0 0, .ret 0,                                  -- nested: the second `.sendSlot` is still pending
   .act 0 (.sendSlot { name := "686f73742e612e636f6d", qtype := 28 } 1),
   .cb 0 .noserver 0 none 0 0, .act 0 (.finish .noserver 0 "ai="), .rel 0, .ret 0,
   .ret 0]

theorem run_facts : (exec fuel call1 t0).1.outOfFuel = false ∧ L = Lval ∧ (exec fuel call1 t0).1.doneToks = [1] ∧
    (exec fuel call1 t0).1.modelFaults = [] := by
  have e : (exec fuel call1 t0).1 = (execC 59 (.runActs 0 start0.2) t0').1.1 := by
    rw [← execC_fst, call_eval]
  have e2 : L = .start 0 "gai" 1 [] spec 0 :: (execC 59 (.runActs 0 start0.2) t0').2 := by
    show [] ++ (execC fuel call1 t0).2 = _
    rw [call_eval]; rfl
  rw [e, e2]
  decide +kernel

theorem inv0 : Cares.C01.Inv s0 := Cares.C01.inv_init cfg _ (by decide) (by decide)

theorem runI : RunI s0 s1 L :=
  run_call (run_accept (run_start inv0) 1 (by decide) (by decide) (by decide)) fuel call1
    ⟨fun _ _ h => (by cases h), rfl⟩
    ((Cares.C01.callOk_accept inv0 1 (by decide) (by decide) (by decide)).2.2 "gai" spec [] 0) run_facts.1

theorem run : RunC s0 s1 L := runI.run

theorem log_facts : Causal 0 L ∧ CItem.start 0 "gai" 1 [] spec 0 ∈ L ∧
    evsOf 0 L = [{ st := .noserver, qids := some (0, 0) }, { st := .noserver, qids := some (0, 0) }] ∧
    sentOf 0 L = [("686f73742e612e636f6d", 1), ("686f73742e612e636f6d", 28)] ∧
    finsOf 0 L = [(.noserver, 0, "ai=")] := by
  rw [run_facts.2.1]
  decide +kernel

/-- R1 applies to the re-entrant run: the completion of the first sub-request is delivered while the second
    `.sendSlot` of the same frame has not been executed, and yet the flat fold describes the run -/
example : sentOf 0 L = (clientRun cfg 0 "gai" 1 [] spec 0 (evsOf 0 L)).sent ∧
    finsOf 0 L = (clientRun cfg 0 "gai" 1 [] spec 0 (evsOf 0 L)).fin.toList :=
  client_events_are_fold runI 0 (Nat.le_refl 0) "gai" 1 [] spec 0 log_facts.2.1

/-- the re-entrant run is causal because the channel is, not because the log was inspected -/
example : Causal 0 L := causal_of_run runI 0 (Nat.le_refl 0)

/-- R2 (gai) applies: one candidate group of two completions -/
example : sentOf 0 L = tagFam 0 (gaiWalk conf host [grpOutcome (evsOf 0 L)]).1 :=
  (gai_over_channel runI 0 (Nat.le_refl 0) conf hyps.1 host hyps.2.1 hyps.2.2.2.1 0
    (Or.inl rfl) hyps.2.2.2.2.1 hyps.2.2.2.2.2.2.1 hyps.2.2.2.2.2.1 hyps.2.2.2.2.2.2.2 1 [] spec rfl log_facts.2.1
    [evsOf 0 L] [] (by simp) (by rw [log_facts.2.2.1]; intro g hg; simp at hg; rw [hg]; rfl) (by decide)).1

/-- R2 (gai addresses) applies: the user callback got "no server" and an empty address list -/
example : ∀ st tm dg, (st, tm, dg) ∈ finsOf 0 L → st ≠ .ok → dg = "ai=" := fun st tm dg hfin =>
  (gai_addresses_over_channel runI 0 (Nat.le_refl 0) conf hyps.1 host hyps.2.1 hyps.2.2.2.1 0
    (Or.inl rfl) hyps.2.2.2.2.1 hyps.2.2.2.2.2.2.1 hyps.2.2.2.2.2.1 hyps.2.2.2.2.2.2.2 1 [] spec rfl log_facts.2.1
    [evsOf 0 L] [] (by simp) (by rw [log_facts.2.2.1]; intro g hg; simp at hg; rw [hg]; rfl) (by decide) st tm dg hfin).2

end Sync

/-! The causality hypothesis cannot be dropped from the pure theorem (`fold_of_replay`): here is a log that replays
(so it is a possible behaviour as far as `client_run_replays` can tell) but delivers a second completion for the
sub-request `host` — inside the user callback, before the record is released: the client logic finishes twice, while
`walkFrom` lets a finished client receive nothing more.  `Causal` excludes it (two sub-requests started, third
completion); the channel excludes it because a query is ended once: `causal_of_run`. -/
namespace NonCausal

def rNx : Reply := { id := 70000, name := "686f73742e612e636f6d", qtype := 1, qclass := 1, rcode := 3, len := 40 }
def rOk : Reply := { id := 70001, name := "686f7374", qtype := 1, qclass := 1, rcode := 0, an := 1, ttls := [300], len := 40 }
def fin : ClientAct := .finish .ok 0 "rc=0,an=1,10.0.0.1/300"

def Lbad : CLog :=
  [.start 0 "search" 1 [] spec 0,
   .act 0 (.send { name := "686f73742e612e636f6d", qtype := 1 }), .ret 0,
   .cb 0 .ok 0 (some rNx) 0 0, .act 0 (.send { name := "686f7374", qtype := 1 }), .ret 0,
   .cb 0 .ok 0 (some rOk) 0 0, .act 0 fin,
     .cb 0 .ok 0 (some rOk) 0 0, .act 0 fin, .rel 0, .ret 0,      -- the same completion again, inside the user callback
   .rel 0, .ret 0]

theorem facts : (replay cfg ⟨[], 0, []⟩ Lbad).map (fun r => (r.clients.length, r.next, r.stack.length)) = some (0, 1, 0) ∧
    ¬ Causal 0 Lbad ∧ (finsOf 0 Lbad).length = 2 ∧
    (clientRun cfg 0 "search" 1 [] spec 0 (evsOf 0 Lbad)).fin.toList.length = 1 := by
  decide +kernel

end NonCausal

end Cares.C12c.Example
