import CaresModel.Reinit
import CaresModel.Generated.ReinitProg
/-!
# C11 (clause: ares_reinit() / ares_destroy() cannot deadlock) — theorems over the `Reinit` transition system

The system: ANY number of caller threads (application threads, the configuration-change watcher of the event thread)
that each call ares_reinit() any number of times in any interleaving, every reload thread they create, and one
destroyer thread that calls ares_destroy() once; after that call no new ares_reinit() is started, calls in progress
run on.  `Reachable c s` quantifies over the number of callers (it is part of the initial state), so every theorem
below is for all N.

ares_reinit() joins the previous reload thread while it HOLDS the channel lock L.  That is safe only because the
reload thread resets `reinit_pending` at a point after which it never needs L again: a caller that saw
`reinit_pending == FALSE` joins a thread that can run to its end without L.  `NoLockAfterClear` is that condition as
a decidable check of the thread's program; `deadlock_free` proves, by an inductive invariant over ALL interleavings,
any number of callers and any number of ares_reinit() calls, that it suffices; `generated_prog_ok` is the obligation
that the program tools/gen_reinit.py extracted from the current ares_reinit_thread() satisfies it.
`regression_deadlocks` is a kernel-checked schedule showing what happens when the flag is reset in a locked section
at the START of the thread.

Invariants, in words:
  * `LInv` (every program): caller `i` owns L exactly at the program points where the code holds it (`appHolds`),
    likewise the destroyer (`dstHolds`);
  * `HInv` (given `Excl`): a reload thread the stored handle does not refer to has finished; a caller at `rSpawn`
    implies that there is no stored handle;
  * `Excl`: at most one caller is between its test of `reinit_pending` and the creation of the thread
    (from `LInv` when ares_reinit() keeps L there, from `Inv.spawnPend` in general);
  * `Inv` (given `NoLockAfterClear`): for each thread with remaining program `r` there is a flag `cl` ("has reset
    reinit_pending") such that `scan r (thread owns L) cl` holds, and if `cl = false` for the thread the handle
    refers to then `reinit_pending` is set and NO caller is at `rJoin`; the owner of L and the stored handle are
    existing threads; while some caller is between the test and the creation the flag stays set;
  * `DInv` (given `joinHoldsLock`): sys_up is reset exactly from `dMark` on, then no caller is past its test, and
    after ares_destroy()'s join there is no stored handle.
-/
namespace Cares.C11b
open Cares.Reinit

/-- `scan r held cl`: running the remaining program `r` from "L held = `held`, reinit_pending already reset = `cl`":
    lock only when L is not held and the flag has not been reset; unlock only when held; the reset only when held and
    only once; no `readConfig` (which needs L) after the reset; L not held at the end. -/
def scan : List ROp → Bool → Bool → Bool
  | [], held, _ => !held
  | .lock :: r, held, cl => !held && !cl && scan r true cl
  | .unlock :: r, held, cl => held && scan r false cl
  | .clearPending :: r, held, cl => held && !cl && scan r held true
  | .flush :: r, held, cl => scan r held cl
  | .readConfig :: r, held, cl => !cl && scan r held cl

/-- the decidable syntactic condition on a reload-thread program -/
def NoLockAfterClear (p : List ROp) : Bool := scan p false false

def holds (s : St) (k : Nat) : Bool := decide (s.owner = .thr k)

/-- what operation `op` of reload thread `k` does to the owner of L and to reinit_pending (`none`: blocked) -/
def opEff (k : Nat) (o : Owner) (pd : Bool) : ROp → Option (Owner × Bool)
  | .lock => if o = .free then some (.thr k, pd) else none
  | .unlock => some (if o = .thr k then .free else o, pd)
  | .clearPending => some (o, false)
  | .flush => some (o, pd)
  | .readConfig => if o = .free ∨ o = .thr k then some (o, pd) else none

theorem thrStep_cons {s : St} {k : Nat} {op : ROp} {rest : List ROp} (h : s.thrs[k]? = some (op :: rest)) :
    thrStep s k = (opEff k s.owner s.pending op).map fun e =>
      { s with thrs := s.thrs.set k rest, owner := e.1, pending := e.2 } := by
  simp only [thrStep, h]
  cases op <;> simp only [opEff] <;> (try split) <;> rfl

theorem opEff_owner {k : Nat} {o o' : Owner} {pd pd' : Bool} {op : ROp} (h : opEff k o pd op = some (o', pd')) :
    o' = o ∨ o = .free ∧ o' = .thr k ∨ o = .thr k ∧ o' = .free := by
  cases op <;> simp only [opEff] at h <;> (try split at h) <;> simp_all

theorem thrStep_some {s s' : St} {k : Nat} (h : thrStep s k = some s') :
    ∃ op rest, s.thrs[k]? = some (op :: rest) ∧ s'.thrs = s.thrs.set k rest ∧ s'.handle = s.handle ∧
      s'.pcs = s.pcs ∧ s'.dpc = s.dpc ∧ s'.sysUp = s.sysUp ∧
      (s'.owner = s.owner ∨ (s.owner = .free ∧ s'.owner = .thr k) ∨ (s.owner = .thr k ∧ s'.owner = .free)) := by
  cases hk : s.thrs[k]? with
  | none => simp [thrStep, hk] at h
  | some r =>
    cases r with
    | nil => simp [thrStep, hk] at h
    | cons op rest =>
      rw [thrStep_cons hk] at h
      obtain ⟨e, he, rfl⟩ := Option.map_eq_some_iff.mp h
      exact ⟨op, rest, rfl, rfl, rfl, rfl, rfl, rfl, opEff_owner he⟩

/-- `scan` follows the thread: after an enabled operation the rest of the program is accepted from the new lock state
    with the same flag - or the operation was the reset, made while holding L -/
theorem opEff_scan {k : Nat} {o o' : Owner} {pd pd' : Bool} {op : ROp} {rest : List ROp} {cl : Bool}
    (h : opEff k o pd op = some (o', pd')) (hs : scan (op :: rest) (decide (o = .thr k)) cl = true) :
    scan rest (decide (o' = .thr k)) cl = true ∧ pd' = pd ∨
      cl = false ∧ o = .thr k ∧ o' = o ∧ pd' = false ∧ scan rest true true = true := by
  revert hs
  cases op <;> simp only [opEff] at h <;> (try split at h) <;> cases h <;> simp +contextual [scan, *]

/-- a live thread is blocked only at `lock` (L taken) or at `readConfig` (L taken by somebody else) -/
theorem thr_enabled {c : Cfg} {s : St} {k : Nat} {op : ROp} {rest : List ROp} (hr : s.thrs[k]? = some (op :: rest))
    (hl : op = .lock → s.owner = .free) (hrc : op = .readConfig → s.owner = .free ∨ s.owner = .thr k) :
    ∃ s', step c s (.thr k) = some s' := by
  simp only [step, thrStep_cons hr]
  cases op <;> simp_all [opEff]

theorem free_enabled {c : Cfg} {s : St} {k : Nat} {op : ROp} {rest : List ROp} (hr : s.thrs[k]? = some (op :: rest))
    (hf : s.owner = .free) : ∃ s', step c s (.thr k) = some s' :=
  thr_enabled hr (fun _ => hf) (fun _ => .inl hf)

theorem getElem_opt_snoc {α : Type} {l : List α} {a r : α} {k : Nat} (h : (l ++ [a])[k]? = some r) :
    (k < l.length ∧ l[k]? = some r) ∨ (k = l.length ∧ r = a) := by
  rw [List.getElem?_append] at h
  split at h
  · exact Or.inl ⟨by assumption, h⟩
  · rename_i hlt
    right
    cases hk : k - l.length with
    | zero => rw [hk] at h; simp at h; exact ⟨by omega, h.symm⟩
    | succ n => rw [hk] at h; simp at h

theorem getElem_opt_set_cases {α : Type} {l : List α} {i j : Nat} {a r : α} (h : (l.set i a)[j]? = some r) :
    (j = i ∧ r = a ∧ i < l.length) ∨ (j ≠ i ∧ l[j]? = some r) := by
  rw [List.getElem?_set] at h
  split at h
  · rename_i hij
    split at h
    · left; simp at h; exact ⟨hij.symm, h.symm, by assumption⟩
    · simp at h
  · rename_i hij
    right; exact ⟨fun e => hij e.symm, h⟩

theorem getElem_opt_lt {α : Type} {l : List α} {i : Nat} {a : α} (h : l[i]? = some a) : i < l.length :=
  (List.getElem?_eq_some_iff.mp h).1

/-- between the test of reinit_pending and the creation of the new thread -/
def inRegion : APc → Bool
  | .rJoin | .rSpawn => true
  | _ => false

def inJoin : APc → Bool
  | .rJoin => true
  | _ => false

def NoneAt (f : APc → Bool) (pcs : List APc) : Prop :=
  ∀ (j : Nat) (q : APc), pcs[j]? = some q → f q = false

/-- at most one caller is between the test of reinit_pending and the creation of the new thread -/
def Excl (pcs : List APc) : Prop :=
  ∀ (i j : Nat) (p q : APc), pcs[i]? = some p → inRegion p = true → pcs[j]? = some q → inRegion q = true → i = j

theorem noneAt_set {f : APc → Bool} {pcs : List APc} {i : Nat} {p' : APc} (h : NoneAt f pcs) (hp' : f p' = false) :
    NoneAt f (pcs.set i p') := by
  intro j q hj
  rcases getElem_opt_set_cases hj with ⟨_, rfl, _⟩ | ⟨_, hj'⟩
  · exact hp'
  · exact h j q hj'

theorem noneAt_join_of_region {pcs : List APc} (h : NoneAt inRegion pcs) : NoneAt inJoin pcs := by
  intro j q hj
  have := h j q hj
  cases q <;> simp_all [inRegion, inJoin]

theorem excl_set_out {pcs : List APc} {i : Nat} {p' : APc} (h : Excl pcs) (hp' : inRegion p' = false) :
    Excl (pcs.set i p') := by
  intro a b p q ha hpa hb hqb
  rcases getElem_opt_set_cases ha with ⟨_, rfl, _⟩ | ⟨_, ha'⟩
  · rw [hp'] at hpa; cases hpa
  · rcases getElem_opt_set_cases hb with ⟨_, rfl, _⟩ | ⟨_, hb'⟩
    · rw [hp'] at hqb; cases hqb
    · exact h a b p q ha' hpa hb' hqb

theorem excl_set_stay {pcs : List APc} {i : Nat} {p p' : APc} (h : Excl pcs) (hpi : pcs[i]? = some p)
    (hr : inRegion p = true) : Excl (pcs.set i p') := by
  intro a b p1 q ha hpa hb hqb
  rcases getElem_opt_set_cases ha with ⟨rfl, _, _⟩ | ⟨hne, ha'⟩
  · rcases getElem_opt_set_cases hb with ⟨rfl, _, _⟩ | ⟨_, hb'⟩
    · rfl
    · exact h _ _ _ _ hpi hr hb' hqb
  · rcases getElem_opt_set_cases hb with ⟨rfl, _, _⟩ | ⟨_, hb'⟩
    · exact h _ _ _ _ ha' hpa hpi hr
    · exact h a b p1 q ha' hpa hb' hqb

theorem excl_set_enter {pcs : List APc} {i : Nat} {p' : APc} (h : NoneAt inRegion pcs) : Excl (pcs.set i p') := by
  intro a b p q ha hpa hb hqb
  rcases getElem_opt_set_cases ha with ⟨rfl, _, _⟩ | ⟨_, ha'⟩
  · rcases getElem_opt_set_cases hb with ⟨rfl, _, _⟩ | ⟨_, hb'⟩
    · rfl
    · rw [h _ _ hb'] at hqb; cases hqb
  · rw [h _ _ ha'] at hpa; cases hpa

/-- the one caller in the region leaves it: nobody is in the region afterwards -/
theorem noneAt_leave {pcs : List APc} {i : Nat} {p p' : APc} (h : Excl pcs) (hpi : pcs[i]? = some p)
    (hr : inRegion p = true) (hp' : inRegion p' = false) : NoneAt inRegion (pcs.set i p') := by
  intro j q hj
  rcases getElem_opt_set_cases hj with ⟨_, rfl, _⟩ | ⟨hne, hj'⟩
  · exact hp'
  · cases hq : inRegion q with
    | false => rfl
    | true => exact absurd (h _ _ _ _ hj' hq hpi hr) hne

def CallerLock (c : Cfg) (o : Owner) (pcs : List APc) : Prop :=
  ∀ i : Nat, o = .caller i ↔ ∃ p, pcs[i]? = some p ∧ appHolds c p = true

structure LInv (c : Cfg) (s : St) : Prop where
  callerLock : CallerLock c s.owner s.pcs
  dstLock : s.owner = .destroyer ↔ dstHolds c s.dpc = true

theorem callerLock_set {c : Cfg} {o o' : Owner} {pcs : List APc} {i : Nat} {p p' : APc}
    (h : CallerLock c o pcs) (hpi : pcs[i]? = some p)
    (h1 : o' = .caller i ↔ appHolds c p' = true)
    (h2 : ∀ j, j ≠ i → (o' = .caller j ↔ o = .caller j)) : CallerLock c o' (pcs.set i p') := by
  intro j
  by_cases hj : j = i
  · subst hj
    rw [h1]
    have hlt := getElem_opt_lt hpi
    simp [hlt]
  · rw [h2 j hj, h j]
    have hij : ¬ i = j := fun e => hj e.symm
    simp [hij]

theorem callerLock_owner {c : Cfg} {o o' : Owner} {pcs : List APc} (h : CallerLock c o pcs)
    (h2 : ∀ j, (o' = .caller j ↔ o = .caller j)) : CallerLock c o' pcs := by
  intro j; rw [h2 j]; exact h j

/-- a caller step keeps the lock discipline if it keeps the owner between two points that agree on holding L, takes
    the free lock to a point that holds it, or gives the lock up from a point that holds it to one that does not -/
private theorem linv_caller {c : Cfg} {s s' : St} {i : Nat} {p p' : APc} (hi : LInv c s) (hpi : s.pcs[i]? = some p)
    (hpcs : s'.pcs = s.pcs.set i p') (hdpc : s'.dpc = s.dpc)
    (ho : s'.owner = s.owner ∧ appHolds c p' = appHolds c p ∨
          s.owner = .free ∧ s'.owner = .caller i ∧ appHolds c p' = true ∨
          appHolds c p = true ∧ s'.owner = .free ∧ appHolds c p' = false) : LInv c s' := by
  obtain ⟨hcl, hdl⟩ := hi
  have hown : s.owner = .caller i ↔ appHolds c p = true := by rw [hcl i, hpi]; simp
  refine ⟨?_, ?_⟩
  · rw [hpcs]
    rcases ho with ⟨e, ha⟩ | ⟨hf, e, ha⟩ | ⟨hp, e, ha⟩
    · exact callerLock_set hcl hpi (by rw [e, ha]; exact hown) (fun j _ => by rw [e])
    · exact callerLock_set hcl hpi (by rw [e, ha]; simp) (fun j hj => by rw [e, hf]; simp [Ne.symm hj])
    · exact callerLock_set hcl hpi (by rw [e, ha]; simp)
        (fun j hj => by rw [e, hown.mpr hp]; simp [Ne.symm hj])
  · rw [hdpc, ← hdl]
    rcases ho with ⟨e, _⟩ | ⟨hf, e, _⟩ | ⟨hp, e, _⟩
    · rw [e]
    · rw [e, hf]; simp
    · rw [e, hown.mpr hp]; simp

/-- the same for a step of the destroyer -/
private theorem linv_dst {c : Cfg} {s s' : St} (hi : LInv c s) (hpcs : s'.pcs = s.pcs)
    (ho : s'.owner = s.owner ∧ dstHolds c s'.dpc = dstHolds c s.dpc ∨
          s.owner = .free ∧ s'.owner = .destroyer ∧ dstHolds c s'.dpc = true ∨
          dstHolds c s.dpc = true ∧ s'.owner = .free ∧ dstHolds c s'.dpc = false) : LInv c s' := by
  obtain ⟨hcl, hdl⟩ := hi
  refine ⟨?_, ?_⟩
  · rw [hpcs]
    rcases ho with ⟨e, _⟩ | ⟨hf, e, _⟩ | ⟨hp, e, _⟩
    · exact callerLock_owner hcl (fun j => by rw [e])
    · exact callerLock_owner hcl (fun j => by rw [e, hf]; simp)
    · exact callerLock_owner hcl (fun j => by rw [e, hdl.mpr hp]; simp)
  · rcases ho with ⟨e, ha⟩ | ⟨_, e, ha⟩ | ⟨_, e, ha⟩
    · rw [e, ha]; exact hdl
    · rw [e, ha]; simp
    · rw [e, ha]; simp

theorem replicate_idle {n i : Nat} {p : APc} (h : (List.replicate n APc.idle)[i]? = some p) : p = .idle := by
  have hlt := getElem_opt_lt h
  simp at hlt
  simp [hlt] at h
  exact h.symm

theorem linv_init (c : Cfg) (n w1 w2 : Nat) : LInv c (St.init n w1 w2) := by
  constructor
  · intro i
    simp only [St.init]
    constructor
    · intro h; cases h
    · rintro ⟨p, hp, hh⟩
      have := replicate_idle hp
      subst this
      simp [appHolds] at hh
  · simp [St.init, dstHolds]

/-- side conditions of `callerLock_set`; no proof uses it -/
macro "lock_side" hcl:ident i:ident : tactic =>
  `(tactic| first
    | (have h0 := $hcl $i; simp_all [appHolds]; done)
    | (intro j hj; have hji : ¬ $i = j := fun e => hj e.symm; have h0 := $hcl $i; have h1 := $hcl j
       simp_all [appHolds]; done)
    | (have h0 := $hcl $i; simp_all [appHolds, dstHolds]; done))

/-- case analysis over an enabled step: one row per branch of `step`, with its guard and the successor state -/
private theorem step_cases {c : Cfg} {s s' : St} {P : St → Prop} (st : Step) (h : step c s st = some s')
    (callReinit : ∀ i, s.pcs[i]? = some .idle → s.dpc = .idle → P { s with pcs := s.pcs.set i .rLock })
    (callDestroy : s.dpc = .idle → P { s with dpc := .dLock1 })
    (rLock : ∀ i, s.pcs[i]? = some .rLock → s.owner = .free →
      P { s with owner := .caller i, pcs := s.pcs.set i .rCheck })
    (rCheckOut : ∀ i, s.pcs[i]? = some .rCheck → (!s.sysUp || s.pending) = true →
      P { s with owner := .free, pcs := s.pcs.set i .idle })
    (rCheckHeld : ∀ i, s.pcs[i]? = some .rCheck → ¬(!s.sysUp || s.pending) = true → c.joinHoldsLock = true →
      P { s with pending := true, pcs := s.pcs.set i .rJoin })
    (rCheckFree : ∀ i, s.pcs[i]? = some .rCheck → ¬(!s.sysUp || s.pending) = true → ¬c.joinHoldsLock = true →
      P { s with pending := true, owner := .free, pcs := s.pcs.set i .rJoin })
    (rJoin : ∀ i, s.pcs[i]? = some .rJoin → joinable s = true →
      P { s with handle := none, pcs := s.pcs.set i .rSpawn })
    (rSpawn : ∀ i, s.pcs[i]? = some .rSpawn →
      P { s with thrs := s.thrs ++ [c.prog], handle := some s.thrs.length, pcs := s.pcs.set i .rUnlock })
    (rUnlockHeld : ∀ i, s.pcs[i]? = some .rUnlock → c.joinHoldsLock = true →
      P { s with owner := .free, pcs := s.pcs.set i .idle })
    (rUnlockFree : ∀ i, s.pcs[i]? = some .rUnlock → ¬c.joinHoldsLock = true → P { s with pcs := s.pcs.set i .idle })
    (spawnFail : ∀ i, s.pcs[i]? = some .rSpawn → P { s with pending := false, pcs := s.pcs.set i .rUnlock })
    (dLock1 : s.dpc = .dLock1 → s.owner = .free → P { s with owner := .destroyer, dpc := .dMark })
    (dMarkHeld : s.dpc = .dMark → c.destroyJoinHoldsLock = true → P { s with sysUp := false, dpc := .dWait })
    (dMarkFree : s.dpc = .dMark → ¬c.destroyJoinHoldsLock = true →
      P { s with sysUp := false, owner := .free, dpc := .dWait })
    (dWait : s.dpc = .dWait → idleBelow s s.waitCfg = true → P { s with dpc := .dJoin })
    (dJoin : s.dpc = .dJoin → joinable s = true →
      P { s with handle := none, dpc := if c.destroyJoinHoldsLock then .dClean else .dLock2 })
    (dLock2 : s.dpc = .dLock2 → s.owner = .free → P { s with owner := .destroyer, dpc := .dClean })
    (dClean : s.dpc = .dClean → P { s with owner := .free, dpc := .dWaitEv })
    (dWaitEv : s.dpc = .dWaitEv → idleBelow s s.waitEv = true → P { s with dpc := .done })
    (thr : ∀ k op rest o' pd', s.thrs[k]? = some (op :: rest) → opEff k s.owner s.pending op = some (o', pd') →
      P { s with thrs := s.thrs.set k rest, owner := o', pending := pd' })
    (cfgFail : ∀ k rest, s.thrs[k]? = some (.readConfig :: rest) → P { s with thrs := s.thrs.set k rest }) :
    P s' := by
  cases st <;> simp only [step, appStep, spawnFailStep, dstStep, cfgFailStep] at h
  case thr k =>
    cases hk : s.thrs[k]? with
    | none => simp [thrStep, hk] at h
    | some r =>
      cases r with
      | nil => simp [thrStep, hk] at h
      | cons op rest =>
        rw [thrStep_cons hk] at h
        obtain ⟨e, he, rfl⟩ := Option.map_eq_some_iff.mp h
        exact thr k op rest e.1 e.2 hk he
  all_goals repeat' split at h
  all_goals cases h
  · exact callReinit _ ‹_ ∧ _›.1 ‹_ ∧ _›.2
  · exact callDestroy ‹_›
  · exact rLock _ ‹_› ‹_›
  · exact rCheckOut _ ‹_› ‹_›
  · exact rCheckHeld _ ‹_› ‹_› ‹_›
  · exact rCheckFree _ ‹_› ‹_› ‹_›
  · exact rJoin _ ‹_› ‹_›
  · exact rSpawn _ ‹_›
  · exact rUnlockHeld _ ‹_› ‹_›
  · exact rUnlockFree _ ‹_› ‹_›
  · exact spawnFail _ ‹_›
  · exact spawnFail _ ‹_›
  · exact dLock1 ‹_› ‹_›
  · exact dMarkHeld ‹_› ‹_›
  · exact dMarkFree ‹_› ‹_›
  · exact dWait ‹_› ‹_›
  · have := dJoin ‹_› ‹_›; rwa [if_pos ‹_›] at this
  · have := dJoin ‹_› ‹_›; rwa [if_neg ‹_›] at this
  · exact dLock2 ‹_› ‹_›
  · exact dClean ‹_›
  · exact dWaitEv ‹_› ‹_›
  · exact cfgFail _ _ ‹_›

theorem linv_step (c : Cfg) {s s' : St} (st : Step) (hi : LInv c s) (h : step c s st = some s') : LInv c s' := by
  apply step_cases st h
  case callReinit | rJoin | rSpawn | spawnFail =>
    intro i hpi; intros; exact linv_caller hi hpi rfl rfl (.inl ⟨rfl, rfl⟩)
  case rLock => exact fun i hpi hf => linv_caller hi hpi rfl rfl (.inr (.inl ⟨hf, rfl, rfl⟩))
  case rCheckOut => exact fun i hpi _ => linv_caller hi hpi rfl rfl (.inr (.inr ⟨rfl, rfl, rfl⟩))
  case rCheckHeld => exact fun i hpi _ hj => linv_caller hi hpi rfl rfl (.inl ⟨rfl, hj⟩)
  case rCheckFree =>
    exact fun i hpi _ hj => linv_caller hi hpi rfl rfl (.inr (.inr ⟨rfl, rfl, Bool.eq_false_iff.mpr hj⟩))
  case rUnlockHeld => exact fun i hpi hj => linv_caller hi hpi rfl rfl (.inr (.inr ⟨hj, rfl, rfl⟩))
  case rUnlockFree =>
    exact fun i hpi hj => linv_caller hi hpi rfl rfl (.inl ⟨rfl, (Bool.eq_false_iff.mpr hj).symm⟩)
  case dLock1 | dLock2 => exact fun _ hf => linv_dst hi rfl (.inr (.inl ⟨hf, rfl, rfl⟩))
  case dMarkHeld => exact fun hd hj => linv_dst hi rfl (.inl ⟨rfl, by rw [hd]; exact hj⟩)
  case dMarkFree =>
    exact fun hd hj => linv_dst hi rfl (.inr (.inr ⟨by rw [hd]; rfl, rfl, Bool.eq_false_iff.mpr hj⟩))
  case dJoin =>
    intro hd _
    refine linv_dst hi rfl (.inl ⟨rfl, ?_⟩)
    rw [hd]
    show dstHolds c (if c.destroyJoinHoldsLock = true then _ else _) = c.destroyJoinHoldsLock
    cases c.destroyJoinHoldsLock <;> rfl
  case dClean => exact fun hd => linv_dst hi rfl (.inr (.inr ⟨by rw [hd]; rfl, rfl, rfl⟩))
  case callDestroy | dWait | dWaitEv => intro hd; intros; exact linv_dst hi rfl (.inl ⟨rfl, by rw [hd]; rfl⟩)
  case thr =>
    intro k op rest o' pd' _ he
    have h7 := opEff_owner he
    refine ⟨callerLock_owner hi.callerLock fun j => by rcases h7 with h7 | h7 | h7 <;> simp [h7], ?_⟩
    rw [← hi.dstLock]
    rcases h7 with h7 | h7 | h7 <;> simp [h7]
  case cfgFail => exact fun _ _ _ => ⟨hi.callerLock, hi.dstLock⟩

structure HInv (s : St) : Prop where
  retired : ∀ (k : Nat) (r : List ROp), s.thrs[k]? = some r → s.handle ≠ some k → r = []
  spawnHandle : ∀ i : Nat, s.pcs[i]? = some .rSpawn → s.handle = none

theorem hinv_init (n w1 w2 : Nat) : HInv (St.init n w1 w2) := by
  constructor
  · simp [St.init]
  · intro i hi
    simp only [St.init] at hi
    have := replicate_idle hi
    cases this

theorem joinable_handle {s : St} (h : joinable s = true) : ∀ k, s.handle = some k → s.thrs[k]? = some [] := by
  intro k hk
  unfold joinable at h
  rw [hk] at h
  simp only [] at h
  split at h
  · assumption
  · simp at h

theorem spawnHandle_set {pcs : List APc} {i : Nat} {p' : APc} {h : Option Nat}
    (hs : ∀ j : Nat, pcs[j]? = some .rSpawn → h = none) (hp' : p' ≠ .rSpawn) :
    ∀ j : Nat, (pcs.set i p')[j]? = some .rSpawn → h = none := by
  intro j hj
  rcases getElem_opt_set_cases hj with ⟨_, h1, _⟩ | ⟨_, hj'⟩
  · exact absurd h1.symm hp'
  · exact hs j hj'

theorem hinv_step (c : Cfg) {s s' : St} (st : Step) (hi : HInv s) (he : Excl s.pcs) (h : step c s st = some s') :
    HInv s' := by
  have hjoin : joinable s = true → ∀ (k : Nat) (r : List ROp), s.thrs[k]? = some r → r = [] := by
    intro hj k r hk
    by_cases hh : s.handle = some k
    · have := joinable_handle hj k hh
      rw [this] at hk; simp at hk; exact hk
    · exact hi.retired k r hk hh
  -- a thread that advances is the one the handle refers to
  have hadv : ∀ k op rest, s.thrs[k]? = some (op :: rest) →
      ∀ j r, (s.thrs.set k rest)[j]? = some r → s.handle ≠ some j → r = [] := by
    intro k op rest h1 j r hj hne
    rcases getElem_opt_set_cases hj with ⟨rfl, _, _⟩ | ⟨_, hj'⟩
    · cases hi.retired _ _ h1 hne
    · exact hi.retired _ _ hj' hne
  apply step_cases st h
  case rJoin => exact fun i _ hj => ⟨fun k r hk _ => hjoin hj k r hk, fun _ _ => rfl⟩
  case rSpawn =>
    intro i hsp
    refine ⟨?_, ?_⟩
    · intro k r hk hne
      rcases getElem_opt_snoc hk with ⟨_, h2⟩ | ⟨h1, _⟩
      · exact hi.retired k r h2 (by simp [hi.spawnHandle i hsp])
      · subst h1; simp at hne
    · intro j hj
      rcases getElem_opt_set_cases hj with ⟨_, h1, _⟩ | ⟨hne, hj'⟩
      · cases h1
      · exact absurd (he _ _ _ _ hj' rfl hsp rfl) hne
  case dJoin => exact fun _ hj => ⟨fun k r hk _ => hjoin hj k r hk, fun _ _ => rfl⟩
  case thr => exact fun k op rest _ _ h1 _ => ⟨hadv k op rest h1, hi.spawnHandle⟩
  case cfgFail => exact fun k rest h1 => ⟨hadv k _ rest h1, hi.spawnHandle⟩
  all_goals
    intros
    first
    | exact ⟨hi.retired, hi.spawnHandle⟩
    | exact ⟨hi.retired, spawnHandle_set hi.spawnHandle (by simp)⟩

/-- what the invariant says about reload thread `k` with remaining program `r` -/
def ThrOk (s : St) (k : Nat) (r : List ROp) : Prop :=
  ∃ cl, scan r (holds s k) cl = true ∧
    (cl = false → s.handle = some k → s.pending = true ∧ NoneAt inJoin s.pcs)

/-- while some caller is between its test of reinit_pending and the creation of the new thread, the flag is set -/
def SpawnPend (pd : Bool) (pcs : List APc) : Prop :=
  ∀ (j : Nat) (q : APc), pcs[j]? = some q → inRegion q = true → pd = true

structure Inv (s : St) : Prop where
  thrOk : ∀ (k : Nat) (r : List ROp), s.thrs[k]? = some r → ThrOk s k r
  ownerLt : ∀ k, s.owner = .thr k → k < s.thrs.length
  handleLt : ∀ h, s.handle = some h → h < s.thrs.length
  spawnPend : SpawnPend s.pending s.pcs
  excl : Excl s.pcs

theorem inv_init (n w1 w2 : Nat) : Inv (St.init n w1 w2) := by
  refine ⟨by simp [St.init], by simp [St.init], by simp [St.init], ?_, ?_⟩
  · intro j q hj hq
    simp only [St.init] at hj
    have := replicate_idle hj
    subst this; cases hq
  · intro i j p q hi hp
    simp only [St.init] at hi
    have := replicate_idle hi
    subst this; cases hp

theorem spawnPend_set_out {pd : Bool} {pcs : List APc} {i : Nat} {p' : APc} (h : SpawnPend pd pcs)
    (hp' : inRegion p' = false) : SpawnPend pd (pcs.set i p') := by
  intro j q hj hq
  rcases getElem_opt_set_cases hj with ⟨_, rfl, _⟩ | ⟨_, hj'⟩
  · rw [hp'] at hq; cases hq
  · exact h j q hj' hq

theorem thrOk_mono {s s' : St} (hthr : s'.thrs = s.thrs) (hown : ∀ k, holds s' k = holds s k)
    (hx : ∀ k, s'.handle = some k → s.handle = some k ∧
      (s.pending = true ∧ NoneAt inJoin s.pcs → s'.pending = true ∧ NoneAt inJoin s'.pcs))
    (h : ∀ (k : Nat) (r : List ROp), s.thrs[k]? = some r → ThrOk s k r) :
    ∀ (k : Nat) (r : List ROp), s'.thrs[k]? = some r → ThrOk s' k r := by
  intro k r hk
  rw [hthr] at hk
  obtain ⟨cl, h1, h2⟩ := h k r hk
  refine ⟨cl, by rw [hown]; exact h1, ?_⟩
  intro hcl hh
  obtain ⟨h3, h4⟩ := hx k hh
  exact h4 (h2 hcl h3)

/-- a caller step that ends outside the region and leaves threads, handle and flag alone -/
theorem inv_caller_out {s : St} {i : Nat} {p' : APc} {o' : Owner} (hi : Inv s) (hp' : inRegion p' = false)
    (ho : ∀ k, o' = .thr k ↔ s.owner = .thr k) : Inv { s with owner := o', pcs := s.pcs.set i p' } := by
  obtain ⟨hth, hol, hhl, hsp, hex⟩ := hi
  refine ⟨thrOk_mono (s := s) rfl ?_ ?_ hth, ?_, hhl, spawnPend_set_out hsp hp', excl_set_out hex hp'⟩
  · intro k; simp only [holds]; rw [decide_eq_decide]; exact ho k
  · intro k hk
    refine ⟨hk, fun ⟨a, b⟩ => ⟨a, noneAt_set b ?_⟩⟩
    cases p' <;> simp_all [inRegion, inJoin]
  · intro k hk; exact hol k ((ho k).mp hk)

theorem inv_caller_enter {s : St} {i : Nat} {o' : Owner} (hi : Inv s) (hpend : s.pending = false)
    (ho : ∀ k, o' = .thr k ↔ s.owner = .thr k) :
    Inv { s with pending := true, owner := o', pcs := s.pcs.set i .rJoin } := by
  obtain ⟨hth, hol, hhl, hsp, hex⟩ := hi
  refine ⟨?_, ?_, hhl, fun _ _ _ _ => rfl, excl_set_enter ?_⟩
  · intro k r hk
    obtain ⟨cl, h1, h2⟩ := hth k r hk
    refine ⟨cl, ?_, ?_⟩
    · simp only [holds] at h1 ⊢; rw [decide_eq_decide.mpr (ho k)]; exact h1
    · intro hcl hh
      have := (h2 hcl hh).1
      rw [hpend] at this; cases this
  · intro k hk; exact hol k ((ho k).mp hk)
  · intro j q hj
    cases hq : inRegion q with
    | false => rfl
    | true => have := hsp j q hj hq; rw [hpend] at this; cases this

theorem inv_caller_join {s : St} {i : Nat} (hi : Inv s) (hpi : s.pcs[i]? = some .rJoin) :
    Inv { s with handle := none, pcs := s.pcs.set i .rSpawn } := by
  obtain ⟨hth, hol, hhl, hsp, hex⟩ := hi
  have hpend : s.pending = true := hsp i _ hpi rfl
  refine ⟨?_, hol, by simp, fun _ _ _ _ => hpend, excl_set_stay hex hpi rfl⟩
  intro k r hk
  obtain ⟨cl, h1, _⟩ := hth k r hk
  exact ⟨cl, h1, by simp⟩

theorem inv_caller_spawn {c : Cfg} (hp : NoLockAfterClear c.prog = true) {s : St} {i : Nat} (hi : Inv s)
    (hpi : s.pcs[i]? = some .rSpawn) :
    Inv { s with thrs := s.thrs ++ [c.prog], handle := some s.thrs.length, pcs := s.pcs.set i .rUnlock } := by
  obtain ⟨hth, hol, hhl, hsp, hex⟩ := hi
  have hpend : s.pending = true := hsp i _ hpi rfl
  refine ⟨?_, ?_, by simp, spawnPend_set_out hsp rfl, excl_set_out hex rfl⟩
  · intro k r hk
    simp only [] at hk
    rcases getElem_opt_snoc hk with ⟨h1, h2⟩ | ⟨h1, h2⟩
    · obtain ⟨cl, h3, _⟩ := hth k r h2
      refine ⟨cl, h3, ?_⟩
      intro _ h5
      simp at h5
      omega
    · subst h1 h2
      refine ⟨false, ?_, fun _ _ => ⟨hpend, noneAt_join_of_region (noneAt_leave hex hpi rfl rfl)⟩⟩
      have hno : ¬ s.owner = .thr s.thrs.length := fun h6 => by have := hol _ h6; omega
      simp only [holds, hno, decide_false]
      exact hp
  · intro k hk
    have := hol k hk
    simp
    omega

theorem inv_caller_spawnFail {s : St} {i : Nat} (hh : HInv s) (hi : Inv s) (hpi : s.pcs[i]? = some .rSpawn) :
    Inv { s with pending := false, pcs := s.pcs.set i .rUnlock } := by
  obtain ⟨hth, hol, hhl, hsp, hex⟩ := hi
  have hnone : s.handle = none := hh.spawnHandle i hpi
  refine ⟨?_, hol, hhl, ?_, excl_set_out hex rfl⟩
  · intro k r hk
    obtain ⟨cl, h1, _⟩ := hth k r hk
    refine ⟨cl, h1, ?_⟩
    intro _ h2
    simp only [] at h2
    rw [hnone] at h2; cases h2
  · intro j q hj hq
    have := noneAt_leave (p' := .rUnlock) hex hpi rfl rfl j q hj
    rw [this] at hq; cases hq

theorem inv_dst {s : St} {o' : Owner} {su' : Bool} {h' : Option Nat} {d' : DPc} (hi : Inv s)
    (ho : ∀ k, o' = .thr k ↔ s.owner = .thr k) (hh : h' = s.handle ∨ h' = none) :
    Inv { s with owner := o', sysUp := su', handle := h', dpc := d' } := by
  obtain ⟨hth, hol, hhl, hsp, hex⟩ := hi
  refine ⟨thrOk_mono (s := s) rfl ?_ ?_ hth, ?_, ?_, hsp, hex⟩
  · intro k; simp only [holds]; rw [decide_eq_decide]; exact ho k
  · intro k hk
    simp only [] at hk
    rcases hh with hh | hh
    · rw [hh] at hk; exact ⟨hk, fun x => x⟩
    · rw [hh] at hk; cases hk
  · intro k hk; exact hol k ((ho k).mp hk)
  · intro h hk
    simp only [] at hk
    rcases hh with hh | hh
    · rw [hh] at hk; exact hhl h hk
    · rw [hh] at hk; cases hk

/-- frame lemma for a step of reload thread `k` (the thread the stored handle refers to) -/
theorem inv_thr {s : St} {k : Nat} {rest : List ROp} {o' : Owner} {p' : Bool}
    (hi : Inv s) (hhk : s.handle = some k)
    (ho : o' = s.owner ∨ s.owner = .free ∧ o' = .thr k ∨ s.owner = .thr k ∧ o' = .free)
    (hd : ThrOk { s with thrs := s.thrs.set k rest, owner := o', pending := p' } k rest)
    (he : SpawnPend p' s.pcs) :
    Inv { s with thrs := s.thrs.set k rest, owner := o', pending := p' } := by
  obtain ⟨hth, hol, hhl, hsp, hex⟩ := hi
  refine ⟨?_, ?_, by simpa using hhl, he, hex⟩
  · intro j r hj
    simp only [] at hj
    rcases getElem_opt_set_cases hj with ⟨rfl, rfl, _⟩ | ⟨hne, hj'⟩
    · exact hd
    · obtain ⟨cl, h1, _⟩ := hth j r hj'
      refine ⟨cl, ?_, ?_⟩
      · have hkj : ¬ k = j := fun e => hne e.symm
        simp only [holds] at h1 ⊢
        rcases ho with h | ⟨h, h'⟩ | ⟨h, h'⟩
        · rwa [h]
        all_goals simpa [h, h', hkj] using h1
      · intro _ h2
        simp only [] at h2
        rw [hhk] at h2
        simp at h2
        exact absurd h2.symm hne
  · intro j hj
    simp only [] at hj
    simp only [List.length_set]
    rcases ho with h | h | h
    · exact hol j (h ▸ hj)
    · rw [h.2] at hj; cases hj; exact hhl _ hhk
    · rw [h.2] at hj; cases hj

theorem inv_step (c : Cfg) (hp : NoLockAfterClear c.prog = true) {s s' : St} (st : Step)
    (hl : LInv c s) (hh : HInv s) (hi : Inv s) (h : step c s st = some s') : Inv s' := by
  have hown : ∀ i p, s.pcs[i]? = some p → appHolds c p = true → s.owner = .caller i :=
    fun i p hpi hp => (hl.callerLock i).mpr ⟨p, hpi, hp⟩
  have hdown : ∀ d, s.dpc = d → dstHolds c d = true → s.owner = .destroyer := fun d hd hp => hl.dstLock.mpr (hd ▸ hp)
  have hpend : ¬(!s.sysUp || s.pending) = true → s.pending = false := by
    intro hpass
    cases hq : s.pending with
    | false => rfl
    | true => simp [hq] at hpass
  -- a thread that can advance is the one the handle refers to
  have hlive : ∀ k op rest, s.thrs[k]? = some (op :: rest) → s.handle = some k := by
    intro k op rest hk
    apply Classical.byContradiction
    intro hne
    cases hh.retired _ _ hk hne
  apply step_cases st h
  case rLock => exact fun i _ hfree => inv_caller_out hi rfl (by simp [hfree])
  case rCheckOut => exact fun i hpi _ => inv_caller_out hi rfl (by simp [hown i _ hpi rfl])
  case rCheckHeld => exact fun i _ hpass _ => inv_caller_enter (o' := s.owner) hi (hpend hpass) (fun _ => Iff.rfl)
  case rCheckFree => exact fun i hpi hpass _ => inv_caller_enter hi (hpend hpass) (by simp [hown i _ hpi rfl])
  case rJoin => exact fun i hpi _ => inv_caller_join hi hpi
  case rSpawn => exact fun i hpi => inv_caller_spawn hp hi hpi
  case rUnlockHeld => exact fun i hpi hj => inv_caller_out hi rfl (by simp [hown i _ hpi (by simp [appHolds, hj])])
  case spawnFail => exact fun i hpi => inv_caller_spawnFail hh hi hpi
  case dLock1 | dLock2 => exact fun _ hfree => inv_dst (su' := s.sysUp) (h' := s.handle) hi (by simp [hfree]) (Or.inl rfl)
  case dMarkHeld => exact fun _ _ => inv_dst (o' := s.owner) (h' := s.handle) hi (fun _ => Iff.rfl) (Or.inl rfl)
  case dMarkFree => exact fun hpc _ => inv_dst (h' := s.handle) hi (by simp [hdown _ hpc rfl]) (Or.inl rfl)
  case dJoin => exact fun _ _ => inv_dst (o' := s.owner) (su' := s.sysUp) hi (fun _ => Iff.rfl) (Or.inr rfl)
  case dClean => exact fun hpc => inv_dst (su' := s.sysUp) (h' := s.handle) hi (by simp [hdown _ hpc rfl]) (Or.inl rfl)
  case callReinit | rUnlockFree => intros; exact inv_caller_out (o' := s.owner) hi rfl (fun _ => Iff.rfl)
  case callDestroy | dWait | dWaitEv =>
    intros
    exact inv_dst (o' := s.owner) (su' := s.sysUp) (h' := s.handle) hi (fun _ => Iff.rfl) (Or.inl rfl)
  case thr =>
    intro k op rest o' pd' hk he
    have hhk := hlive k op rest hk
    obtain ⟨cl, hsc, hcl⟩ := hi.thrOk k _ hk
    rcases opEff_scan he hsc with ⟨hsc', rfl⟩ | ⟨h2, hown, rfl, rfl, hsc'⟩
    · exact inv_thr hi hhk (opEff_owner he) ⟨cl, hsc', hcl⟩ hi.spawnPend
    · -- the reset: the thread had not reset the flag before, so nobody is between the test and the creation
      refine inv_thr hi hhk (.inl rfl) ⟨true, by simpa [holds, hown] using hsc', by simp⟩ ?_
      intro j q hj hq
      cases q <;> simp [inRegion] at hq
      · have := (hcl h2 hhk).2 j _ hj
        simp [inJoin] at this
      · have := hh.spawnHandle j hj
        rw [hhk] at this; cases this
  case cfgFail =>
    intro k rest hk
    obtain ⟨cl, hsc, hcl⟩ := hi.thrOk k _ hk
    simp [scan] at hsc
    exact inv_thr (o' := s.owner) (p' := s.pending) hi (hlive k _ rest hk) (.inl rfl) ⟨cl, hsc.2, hcl⟩ hi.spawnPend

theorem reachable_linv {c : Cfg} {s : St} (hr : Reachable c s) : LInv c s := by
  induction hr with
  | init n w1 w2 => exact linv_init c n w1 w2
  | step st _ h ih => exact linv_step c st ih h

theorem reachable_inv {c : Cfg} (hp : NoLockAfterClear c.prog = true) {s : St} (hr : Reachable c s) :
    LInv c s ∧ HInv s ∧ Inv s := by
  induction hr with
  | init n w1 w2 => exact ⟨linv_init c n w1 w2, hinv_init n w1 w2, inv_init n w1 w2⟩
  | step st _ h ih =>
    exact ⟨linv_step c st ih.1 h, hinv_step c st ih.2.1 ih.2.2.excl h, inv_step c hp st ih.1 ih.2.1 ih.2.2 h⟩

/-- when ares_reinit() joins and spawns under L, the lock alone keeps the callers apart - whatever the thread does -/
theorem excl_of_linv {c : Cfg} (hj : c.joinHoldsLock = true) {s : St} (hl : LInv c s) : Excl s.pcs := by
  intro i j p q hi hp hj' hq
  have h1 : s.owner = .caller i := (hl.callerLock i).mpr ⟨p, hi, by cases p <;> simp_all [inRegion, appHolds]⟩
  have h2 : s.owner = .caller j := (hl.callerLock j).mpr ⟨q, hj', by cases q <;> simp_all [inRegion, appHolds]⟩
  rw [h1] at h2
  cases h2; rfl

theorem reachable_hinv_locked {c : Cfg} (hj : c.joinHoldsLock = true) {s : St} (hr : Reachable c s) : HInv s := by
  induction hr with
  | init n w1 w2 => exact hinv_init n w1 w2
  | step st hr' h ih => exact hinv_step c st ih (excl_of_linv hj (reachable_linv hr')) h

theorem reachable_hinv {c : Cfg} (hc : c.joinHoldsLock = true ∨ NoLockAfterClear c.prog = true) {s : St}
    (hr : Reachable c s) : HInv s := by
  rcases hc with hc | hc
  · exact reachable_hinv_locked hc hr
  · exact (reachable_inv hc hr).2.1

/-- a reload thread that holds L can always take its next step -/
theorem holder_enabled {c : Cfg} {s : St} (hi : Inv s) {k : Nat} (hk : s.owner = .thr k) :
    ∃ s', step c s (.thr k) = some s' := by
  have hlt := hi.ownerLt k hk
  obtain ⟨r, hr⟩ : ∃ r, s.thrs[k]? = some r := ⟨s.thrs[k], by simp [hlt]⟩
  obtain ⟨cl, hsc, _⟩ := hi.thrOk k r hr
  cases r with
  | nil => simp [scan, holds, hk] at hsc
  | cons op rest =>
    refine thr_enabled hr ?_ (fun _ => .inr hk)
    rintro rfl
    simp [scan, holds, hk] at hsc

theorem not_joinable {s : St} (hhl : ∀ h, s.handle = some h → h < s.thrs.length) (hj : joinable s = false) :
    ∃ h op rest, s.handle = some h ∧ s.thrs[h]? = some (op :: rest) := by
  unfold joinable at hj
  cases hh : s.handle with
  | none => simp [hh] at hj
  | some h =>
    have hlt := hhl h hh
    obtain ⟨r, hr⟩ : ∃ r, s.thrs[h]? = some r := ⟨s.thrs[h], by simp [hlt]⟩
    cases r with
    | nil => simp [hh, hr] at hj
    | cons op rest => exact ⟨h, op, rest, rfl, hr⟩

/-- a caller inside ares_reinit() can step unless it waits for L or for the thread it joins -/
theorem caller_enabled {c : Cfg} {s : St} {i : Nat} {p : APc} (hpi : s.pcs[i]? = some p) (hne : p ≠ .idle)
    (hlk : p = .rLock → s.owner = .free) (hjn : p = .rJoin → joinable s = true) :
    ∃ s', step c s (.app i) = some s' := by
  simp only [step, appStep, hpi]
  cases p with
  | idle => exact absurd rfl hne
  | rLock => simp [hlk rfl]
  | rCheck =>
    simp only []
    split
    · exact ⟨_, rfl⟩
    · split <;> exact ⟨_, rfl⟩
  | rJoin => simp [hjn rfl]
  | rSpawn => exact ⟨_, rfl⟩
  | rUnlock =>
    simp only []
    split <;> exact ⟨_, rfl⟩

/-- the destroyer inside ares_destroy() can step unless it waits for L, for the watcher or for the thread it joins -/
theorem dst_enabled {c : Cfg} {s : St} (h1 : s.dpc ≠ .idle) (h2 : s.dpc ≠ .done)
    (hlk : s.dpc = .dLock1 ∨ s.dpc = .dLock2 → s.owner = .free) (hjn : s.dpc = .dJoin → joinable s = true)
    (hw1 : s.dpc = .dWait → idleBelow s s.waitCfg = true) (hw2 : s.dpc = .dWaitEv → idleBelow s s.waitEv = true) :
    ∃ s', step c s .destroy = some s' := by
  simp only [step, dstStep]
  cases hpc : s.dpc with
  | idle => exact absurd hpc h1
  | done => exact absurd hpc h2
  | dLock1 => simp [hlk (Or.inl hpc)]
  | dLock2 => simp [hlk (Or.inr hpc)]
  | dMark =>
    simp only []
    split <;> exact ⟨_, rfl⟩
  | dWait => simp [hw1 hpc]
  | dJoin => simp [hjn hpc]
  | dClean => exact ⟨_, rfl⟩
  | dWaitEv => simp [hw2 hpc]

theorem all_finished_joinable {s : St} (hhl : ∀ h, s.handle = some h → h < s.thrs.length)
    (hall : s.thrs.all (fun r => r.isEmpty) = true) : joinable s = true := by
  cases hj : joinable s with
  | true => rfl
  | false =>
    obtain ⟨h, op, rest, _, h2⟩ := not_joinable hhl hj
    have hm : (op :: rest) ∈ s.thrs := List.mem_iff_getElem?.mpr ⟨h, h2⟩
    have := List.all_eq_true.mp hall _ hm
    simp at this

theorem exists_live {s : St} (hall : s.thrs.all (fun r => r.isEmpty) = false) :
    ∃ (k : Nat) (op : ROp) (rest : List ROp), s.thrs[k]? = some (op :: rest) := by
  obtain ⟨r, hr, hne⟩ := List.all_eq_false.mp hall
  obtain ⟨k, hk⟩ := List.mem_iff_getElem?.mp hr
  cases r with
  | nil => exact absurd rfl hne
  | cons op rest => exact ⟨k, op, rest, hk⟩

theorem exists_busy {s : St} (hall : s.pcs.all (fun p => p == .idle) = false) :
    ∃ (i : Nat) (p : APc), s.pcs[i]? = some p ∧ p ≠ APc.idle := by
  obtain ⟨p, hp, hne⟩ := List.all_eq_false.mp hall
  obtain ⟨i, hi⟩ := List.mem_iff_getElem?.mp hp
  exact ⟨i, p, hi, by simpa using hne⟩

theorem idleBelow_of_all {s : St} (hall : s.pcs.all (fun p => p == .idle) = true) (n : Nat) : idleBelow s n = true := by
  simp only [idleBelow, List.all_eq_true]
  intro p hp
  exact List.all_eq_true.mp hall p (List.mem_of_mem_take hp)

def ownerStep : Owner → Option Step
  | .free => none
  | .caller i => some (.app i)
  | .destroyer => some .destroy
  | .thr k => some (.thr k)

/-- the thread a caller joins while holding L has reset reinit_pending, so it needs L no more and can step -/
private theorem joined_thread_enabled {c : Cfg} {s : St} (hi : Inv s) {i h : Nat} {op : ROp} {rest : List ROp}
    (hpi : s.pcs[i]? = some .rJoin) (hh : s.handle = some h)
    (hk : s.thrs[h]? = some (op :: rest)) : ∃ s', step c s (.thr h) = some s' := by
  obtain ⟨cl, hsc, hcl⟩ := hi.thrOk h _ hk
  have hclt : cl = true := by
    cases cl with
    | true => rfl
    | false => have := (hcl rfl hh).2 i _ hpi; simp [inJoin] at this
  subst hclt
  refine thr_enabled hk ?_ ?_ <;> rintro rfl <;> simp [scan] at hsc

/-- Whoever holds L can take its next step - except a caller that joins under L, and then the thread it joins can:
    that thread has reset reinit_pending, so it needs L no more. -/
theorem holder_progress {c : Cfg} (hd : c.destroyJoinHoldsLock = false) {s : St} (hl : LInv c s) (hi : Inv s)
    (hnf : s.owner ≠ .free) :
    (∃ st s', ownerStep s.owner = some st ∧ step c s st = some s') ∨
    (∃ i h s', s.owner = .caller i ∧ s.pcs[i]? = some .rJoin ∧ s.handle = some h ∧ step c s (.thr h) = some s') := by
  cases ho : s.owner with
  | free => exact absurd ho hnf
  | thr k => obtain ⟨s', h⟩ := holder_enabled (c := c) hi ho; exact Or.inl ⟨_, _, rfl, h⟩
  | caller i =>
    obtain ⟨p, hpi, hp⟩ := (hl.callerLock i).mp ho
    by_cases hjn : p = .rJoin → joinable s = true
    · obtain ⟨s', h⟩ := caller_enabled (c := c) hpi (by rintro rfl; simp [appHolds] at hp)
        (by rintro rfl; simp [appHolds] at hp) hjn
      exact Or.inl ⟨_, _, rfl, h⟩
    · obtain ⟨rfl, hj⟩ := Classical.not_imp.mp hjn
      obtain ⟨h, op, rest, h1, h2⟩ := not_joinable hi.handleLt (Bool.eq_false_iff.mpr hj)
      obtain ⟨s', h3⟩ := joined_thread_enabled (c := c) hi hpi h1 h2
      exact Or.inr ⟨i, h, s', rfl, hpi, h1, h3⟩
  | destroyer =>
    have hp := hl.dstLock.mp ho
    obtain ⟨s', h⟩ := dst_enabled (c := c) (s := s) (by intro e; simp [e, dstHolds] at hp)
      (by intro e; simp [e, dstHolds] at hp) (by intro e; rcases e with e | e <;> simp [e, dstHolds] at hp)
      (by intro e; simp [e, dstHolds, hd] at hp) (by intro e; simp [e, dstHolds, hd] at hp)
      (by intro e; simp [e, dstHolds] at hp)
    exact Or.inl ⟨_, _, rfl, h⟩

/-- the steps by which the environment starts a call (as opposed to a step of a thread that is inside a call, or of
    a reload thread) -/
def isCall : Step → Bool
  | .callReinit _ | .callDestroy => true
  | _ => false

/-- nothing is in progress: every caller is outside ares_reinit(), ares_destroy() has not been called or has
    returned, every reload thread has finished -/
def quiescent (s : St) : Bool :=
  (s.dpc == .idle || s.dpc == .done) && s.pcs.all (fun p => p == .idle) && s.thrs.all (fun r => r.isEmpty)

theorem ownerStep_not_call {o : Owner} {st : Step} (h : ownerStep o = some st) : isCall st = false := by
  cases o <;> simp [ownerStep] at h <;> subst h <;> rfl

theorem progress {c : Cfg} (hd : c.destroyJoinHoldsLock = false) {s : St} (hl : LInv c s)
    (hi : Inv s) : quiescent s = true ∨ ∃ st s', isCall st = false ∧ step c s st = some s' := by
  by_cases ho : s.owner = .free
  · cases hall : s.thrs.all (fun r => r.isEmpty) with
    | false =>
      obtain ⟨k, op, rest, hk⟩ := exists_live hall
      obtain ⟨s', h⟩ := thr_enabled (c := c) hk (fun _ => ho) (fun _ => .inl ho)
      exact Or.inr ⟨_, _, rfl, h⟩
    | true =>
      have hj := all_finished_joinable hi.handleLt hall
      cases hidle : s.pcs.all (fun p => p == .idle) with
      | false =>
        obtain ⟨i, p, hpi, hne⟩ := exists_busy hidle
        obtain ⟨s', h⟩ := caller_enabled (c := c) hpi hne (fun _ => ho) (fun _ => hj)
        exact Or.inr ⟨_, _, rfl, h⟩
      | true =>
        by_cases h1 : s.dpc = .idle
        · left; simp [quiescent, h1, hidle, hall]
        · by_cases h2 : s.dpc = .done
          · left; simp [quiescent, h2, hidle, hall]
          · obtain ⟨s', h⟩ := dst_enabled (c := c) h1 h2 (fun _ => ho) (fun _ => hj)
              (fun _ => idleBelow_of_all hidle _) (fun _ => idleBelow_of_all hidle _)
            exact Or.inr ⟨_, _, rfl, h⟩
  · rcases holder_progress hd hl hi ho with ⟨st, s', h0, h⟩ | ⟨_, h, s', _, _, _, h⟩
    · exact Or.inr ⟨_, _, ownerStep_not_call h0, h⟩
    · exact Or.inr ⟨_, _, rfl, h⟩

def Stuck (c : Cfg) (s : St) : Prop := ∀ st, step c s st = none

/-- the executable check `stuck` (over the finitely many candidate steps) is sound for `Stuck` -/
theorem stuck_sound {c : Cfg} {s : St} (h : stuck c s = true) : Stuck c s := by
  intro st
  by_cases hm : st ∈ candidates s
  · simpa using List.all_eq_true.mp h st hm
  · -- not a candidate: the index is out of range
    cases st <;> simp [candidates] at hm <;>
      simp [step, appStep, spawnFailStep, thrStep, cfgFailStep, List.getElem?_eq_none hm]

theorem reachable_run {c : Cfg} {s s' : St} (hr : Reachable c s) (sched : List Step) (h : run c s sched = some s') :
    Reachable c s' := by
  induction sched generalizing s with
  | nil => simp [run] at h; exact h ▸ hr
  | cons st r ih =>
    simp only [run] at h
    split at h
    · simp at h
    · rename_i s1 h1
      exact ih (Reachable.step st hr h1) h

/-- a schedule that the kernel runs into a state the executable check finds stuck and not terminated is a reachable
    deadlock -/
private theorem deadlock_witness {c : Cfg} {n : Nat} {sched : List Step}
    (h : ∃ s, run c (St.init n) sched = some s ∧ stuck c s = true ∧ terminated s = false) :
    ∃ s, run c (St.init n) sched = some s ∧ Reachable c s ∧ Stuck c s ∧ terminated s = false := by
  obtain ⟨s, h1, h2, h3⟩ := h
  exact ⟨s, h1, reachable_run (Reachable.init n 0 0) _ h1, stuck_sound h2, h3⟩

/-- Deadlock-freedom, for ANY number of caller threads.  For every thread program that satisfies the syntactic
    condition `NoLockAfterClear` (lock/unlock alternate and the thread ends without L; reinit_pending is reset exactly
    where L is held; after the reset there is neither a `lock` nor a `readConfig`, the two operations that need L),
    whether ares_reinit() joins and spawns holding L or not, and with ares_destroy() joining without L: in every
    state reachable - from an initial state with any number of caller threads - by any interleaving of any number
    of concurrent ares_reinit() calls, the reload threads and one ares_destroy(), either everything has terminated
    or some thread can step. -/
theorem deadlock_free (c : Cfg) (hp : NoLockAfterClear c.prog = true) (hd : c.destroyJoinHoldsLock = false)
    {s : St} (hr : Reachable c s) : terminated s = true ∨ ∃ st s', step c s st = some s' := by
  obtain ⟨hl, _, hi⟩ := reachable_inv hp hr
  rcases progress hd hl hi with hq | ⟨st, s', _, h⟩
  · by_cases h1 : s.dpc = .idle
    · exact Or.inr ⟨.callDestroy, _, by simp [step, h1]; rfl⟩
    · left
      simp only [quiescent, Bool.and_eq_true, Bool.or_eq_true, beq_iff_eq] at hq
      obtain ⟨⟨h2, h3⟩, h4⟩ := hq
      rcases h2 with h2 | h2
      · exact absurd h2 h1
      · simp [terminated, h2, h3, h4]
  · exact Or.inr ⟨_, _, h⟩

/-- The same without counting on the environment: a state is not "live" merely because somebody could still
    START a call (with N callers that would hide a deadlock among the threads that ARE inside a call).  In every
    reachable state either nothing is in progress (`quiescent`), or a thread that is inside ares_reinit() /
    ares_destroy() or a reload thread can take a step. -/
theorem deadlock_free_in_progress (c : Cfg) (hp : NoLockAfterClear c.prog = true)
    (hd : c.destroyJoinHoldsLock = false) {s : St} (hr : Reachable c s) :
    quiescent s = true ∨ ∃ st s', isCall st = false ∧ step c s st = some s' := by
  obtain ⟨hl, _, hi⟩ := reachable_inv hp hr
  exact progress hd hl hi

/-- Who waits for L waits for a thread that can move: whenever L is owned, its owner can take its next step - except
    a caller that joins under L, and then the reload thread it joins can (it needs L no more). -/
theorem lock_holder_progress (c : Cfg) (hp : NoLockAfterClear c.prog = true) (hd : c.destroyJoinHoldsLock = false)
    {s : St} (hr : Reachable c s) (hnf : s.owner ≠ .free) :
    (∃ st s', ownerStep s.owner = some st ∧ step c s st = some s') ∨
    (∃ i h s', s.owner = .caller i ∧ s.pcs[i]? = some .rJoin ∧ s.handle = some h ∧ step c s (.thr h) = some s') := by
  obtain ⟨hl, _, hi⟩ := reachable_inv hp hr
  exact holder_progress hd hl hi hnf

/-- the same, as "no reachable state is a deadlock" -/
theorem no_deadlock (c : Cfg) (hp : NoLockAfterClear c.prog = true) (hd : c.destroyJoinHoldsLock = false)
    {s : St} (hr : Reachable c s) : ¬ (Stuck c s ∧ terminated s = false) := by
  intro ⟨h1, h2⟩
  rcases deadlock_free c hp hd hr with h | ⟨st, s', h⟩
  · rw [h] at h2; cases h2
  · rw [h1 st] at h; cases h

/-- obligations over what tools/gen_reinit.py extracted from the current source -/
theorem generated_prog_ok : NoLockAfterClear Cares.Generated.Reinit.threadProg = true := by decide

theorem generated_destroy_ok : Cares.Generated.Reinit.destroyJoinHoldsLock = false := by decide

/-- the channel-lock calls of ares_init_by_sysconfig() are one balanced lock … unlock pair (or none): `readConfig`
    needs L only momentarily and returns without it -/
def balanced : List ROp → Bool → Bool
  | [], held => !held
  | .lock :: r, false => balanced r true
  | .unlock :: r, true => balanced r false
  | _, _ => false

theorem sysconfig_locks_balanced : balanced Cares.Generated.Reinit.sysconfigLocks false = true := by decide

/-- ares_reinit() called concurrently from any number of threads, and ares_destroy(), with the reload thread as it
    is in the source, cannot deadlock -/
theorem reinit_deadlock_free {s : St} (hr : Reachable Cares.Generated.Reinit.cfg s) :
    terminated s = true ∨ ∃ st s', step Cares.Generated.Reinit.cfg s st = some s' :=
  deadlock_free _ generated_prog_ok generated_destroy_ok hr

/-- The handle discipline (join the stored handle before it is overwritten) never leaves two live reload threads,
    provided the callers are kept apart between the test of reinit_pending and the creation of the thread: by L
    (`joinHoldsLock`, every program) or by the flag (`NoLockAfterClear`, every configuration).
    `two_live_threads_without_either` shows that one of the two is necessary. -/
theorem at_most_one_reload_thread {c : Cfg} (hc : c.joinHoldsLock = true ∨ NoLockAfterClear c.prog = true) {s : St}
    (hr : Reachable c s) {i j : Nat} {ri rj : List ROp}
    (hi : s.thrs[i]? = some ri) (hj : s.thrs[j]? = some rj) (hli : ri ≠ []) (hlj : rj ≠ []) : i = j := by
  have hh := reachable_hinv hc hr
  have h1 : s.handle = some i := Classical.byContradiction fun hne => hli (hh.retired i ri hi hne)
  have h2 : s.handle = some j := Classical.byContradiction fun hne => hlj (hh.retired j rj hj hne)
  rw [h1] at h2
  exact Option.some.inj h2

/-- … and a reload thread that is not the one the stored handle refers to has finished -/
theorem live_thread_is_handle {c : Cfg} (hc : c.joinHoldsLock = true ∨ NoLockAfterClear c.prog = true) {s : St}
    (hr : Reachable c s) {k : Nat} {r : List ROp} (hk : s.thrs[k]? = some r) (hl : r ≠ []) : s.handle = some k :=
  Classical.byContradiction fun hne => hl ((reachable_hinv hc hr).retired k r hk hne)

/-- at most one caller at a time is between its test of reinit_pending and the creation of the new thread -/
theorem one_caller_in_region {c : Cfg} (hc : c.joinHoldsLock = true ∨ NoLockAfterClear c.prog = true) {s : St}
    (hr : Reachable c s) {i j : Nat} {p q : APc} (hi : s.pcs[i]? = some p) (hj : s.pcs[j]? = some q)
    (hp : p = .rJoin ∨ p = .rSpawn) (hq : q = .rJoin ∨ q = .rSpawn) : i = j := by
  have he : Excl s.pcs := by
    rcases hc with hc | hc
    · exact excl_of_linv hc (reachable_linv hr)
    · exact (reachable_inv hc hr).2.2.excl
  exact he i j p q hi (by rcases hp with rfl | rfl <;> rfl) hj (by rcases hq with rfl | rfl <;> rfl)

/-- while a caller is between its test of reinit_pending and the creation of the new thread, the flag stays
    set (no old reload thread resets it late, and no other caller's failed ares_thread_create() either) -/
theorem pending_stable {c : Cfg} (hp : NoLockAfterClear c.prog = true) {s : St} (hr : Reachable c s)
    {i : Nat} {p : APc} (hi : s.pcs[i]? = some p) (h : p = .rJoin ∨ p = .rSpawn) : s.pending = true :=
  (reachable_inv hp hr).2.2.spawnPend i p hi (by rcases h with rfl | rfl <;> rfl)

/-- the channel lock is a mutex: two callers are never both at program points of ares_reinit() where L is held
    (every program, every configuration) -/
theorem lock_exclusive {c : Cfg} {s : St} (hr : Reachable c s) {i j : Nat} {p q : APc}
    (hi : s.pcs[i]? = some p) (hj : s.pcs[j]? = some q) (hp : appHolds c p = true) (hq : appHolds c q = true) :
    i = j := by
  have hl := reachable_linv hr
  have h1 := (hl.callerLock i).mpr ⟨p, hi, hp⟩
  have h2 := (hl.callerLock j).mpr ⟨q, hj, hq⟩
  rw [h1] at h2
  cases h2; rfl

/-! ### the wait in a join cannot be permanent (without an unfair scheduler) -/

/-- For the reload thread the stored handle refers to - the only thread anybody ever joins - in every reachable
    state: it has finished, or it can take its next step, or L is held by ANOTHER thread that can take ITS next step
    (so that one is not a caller waiting in its join, and the reload thread is not blocked behind a blocked thread).
    In particular this holds whenever a caller waits at `rJoin` or the destroyer at `dJoin`. -/
theorem join_progress (c : Cfg) (hp : NoLockAfterClear c.prog = true) (hd : c.destroyJoinHoldsLock = false)
    {s : St} (hr : Reachable c s) {h : Nat} {r : List ROp} (hh : s.handle = some h) (hk : s.thrs[h]? = some r) :
    r = [] ∨ (∃ s', step c s (.thr h) = some s') ∨
      (∃ st s', ownerStep s.owner = some st ∧ st ≠ .thr h ∧ step c s st = some s') := by
  obtain ⟨hl, _, hi⟩ := reachable_inv hp hr
  cases r with
  | nil => exact Or.inl rfl
  | cons op rest =>
    right
    by_cases ho : s.owner = .free
    · exact Or.inl (thr_enabled hk (fun _ => ho) (fun _ => .inl ho))
    · rcases holder_progress hd hl hi ho with ⟨st, s', h1, h2⟩ | ⟨_, h', s', _, _, h3, h4⟩
      · by_cases hst : st = .thr h
        · subst hst; exact Or.inl ⟨_, h2⟩
        · exact Or.inr ⟨st, s', h1, hst, h2⟩
      · rw [hh] at h3; cases h3
        exact Or.inl ⟨_, h4⟩

/-- Whenever a caller waits in its join, the reload thread it joins has finished or can take its next step: no caller
    is at `rJoin` before the thread has reset reinit_pending, and after the reset it needs L no more - whoever holds L.
    (Stated for ares_reinit() as it is in the tree, join under L; the proof does not use that hypothesis.) -/
theorem join_terminates (c : Cfg) (hp : NoLockAfterClear c.prog = true) (hj : c.joinHoldsLock = true)
    {s : St} (hr : Reachable c s) {i h : Nat} {r : List ROp} (hw : s.pcs[i]? = some .rJoin)
    (hh : s.handle = some h) (hk : s.thrs[h]? = some r) : r = [] ∨ ∃ s', step c s (.thr h) = some s' := by
  cases r with
  | nil => exact Or.inl rfl
  | cons op rest => exact Or.inr (joined_thread_enabled (reachable_inv hp hr).2.2 hw hh hk)

/-! ### after ares_destroy()'s join no reload thread is left - even with calls in progress -/

/-- program points of ares_reinit() after the test (L is held there when `joinHoldsLock`) -/
def inCrit : APc → Bool
  | .rJoin | .rSpawn | .rUnlock => true
  | _ => false

/-- ares_destroy() has reset sys_up -/
def marked : DPc → Bool
  | .idle | .dLock1 | .dMark => false
  | _ => true

/-- ares_destroy() is past its join -/
def afterJoin : DPc → Bool
  | .dLock2 | .dClean | .dWaitEv | .done => true
  | _ => false

private theorem appHolds_of_inCrit {c : Cfg} (hj : c.joinHoldsLock = true) {q : APc} (h : inCrit q = true) :
    appHolds c q = true := by
  cases q <;> first | exact hj | cases h

structure DInv (s : St) : Prop where
  up : s.sysUp = !marked s.dpc
  quiet : s.sysUp = false → NoneAt inCrit s.pcs
  joined : afterJoin s.dpc = true → s.handle = none

theorem dinv_init (n w1 w2 : Nat) : DInv (St.init n w1 w2) := by
  refine ⟨by simp [St.init, marked], by simp [St.init], by simp [St.init, afterJoin]⟩

theorem dinv_step (c : Cfg) (hj : c.joinHoldsLock = true) {s s' : St} (st : Step) (hl : LInv c s) (hi : DInv s)
    (h : step c s st = some s') : DInv s' := by
  obtain ⟨hup, hq, hjd⟩ := hi
  -- a caller past the test means sys_up is still set, and ares_destroy() is not past its join
  have hcrit : ∀ (i : Nat) (p : APc), s.pcs[i]? = some p → inCrit p = true → s.sysUp = true ∧ afterJoin s.dpc = false := by
    intro i p hpi hp
    have h1 : s.sysUp = true := by
      cases hs : s.sysUp with
      | true => rfl
      | false => have := hq hs i p hpi; rw [hp] at this; cases this
    refine ⟨h1, ?_⟩
    rw [hup] at h1
    cases hd : s.dpc <;> simp_all [marked, afterJoin]
  -- a caller step: `sysUp` and `dpc` stay
  have keep : ∀ s'' : St, s''.sysUp = s.sysUp → s''.dpc = s.dpc → (s.sysUp = false → NoneAt inCrit s''.pcs) →
      (afterJoin s.dpc = true → s''.handle = none) → DInv s'' := by
    intro s'' e1 e2 e3 e4
    exact ⟨by rw [e1, e2]; exact hup, by rw [e1]; exact e3, by rw [e2]; exact e4⟩
  have hup' : ∀ hs : s.sysUp = true, ∀ pcs' : List APc, s.sysUp = false → NoneAt inCrit pcs' := by
    intro hs _ hs'; rw [hs] at hs'; cases hs'
  -- a destroyer step between two points on the same side of the mark, and not across the join
  have move : ∀ (o : Owner) (d' : DPc), marked d' = marked s.dpc → (afterJoin d' = true → afterJoin s.dpc = true) →
      DInv { s with owner := o, dpc := d' } :=
    fun o d' hm ha => ⟨by show s.sysUp = !marked d'; rw [hm]; exact hup, hq, fun h => hjd (ha h)⟩
  apply step_cases st h
  case rCheckHeld =>
    intro i _ hpass _
    have hs : s.sysUp = true := by
      cases hs : s.sysUp with
      | true => rfl
      | false => simp [hs] at hpass
    exact keep _ rfl rfl (hup' hs _) hjd
  -- these two rows carry `¬ c.joinHoldsLock`, against `hj`
  case rCheckFree | rUnlockFree => exact fun _ _ => by simp [hj]
  case rJoin => exact fun i hpi _ => keep _ rfl rfl (hup' (hcrit i _ hpi rfl).1 _) (fun _ => rfl)
  case rSpawn =>
    intro i hpi
    obtain ⟨hs, ha⟩ := hcrit i _ hpi rfl
    exact keep _ rfl rfl (hup' hs _) (fun ha' => by rw [ha] at ha'; cases ha')
  case spawnFail => exact fun i hpi => keep _ rfl rfl (hup' (hcrit i _ hpi rfl).1 _) hjd
  case callReinit | rLock | rCheckOut | rUnlockHeld =>
    intros; exact keep _ rfl rfl (fun hs => noneAt_set (hq hs) rfl) hjd
  case dMarkHeld | dMarkFree =>
    -- the destroyer holds L, so no caller is past its test
    intro hpc _
    have ho : s.owner = .destroyer := hl.dstLock.mpr (by simp [hpc, dstHolds])
    refine ⟨by simp [marked], fun _ j q hjq => ?_, by simp [afterJoin]⟩
    cases hq' : inCrit q with
    | false => rfl
    | true =>
      have := (hl.callerLock j).mpr ⟨q, hjq, appHolds_of_inCrit hj hq'⟩
      rw [ho] at this; cases this
  case dJoin =>
    intro hpc _
    refine ⟨?_, hq, fun _ => rfl⟩
    show s.sysUp = !marked (if c.destroyJoinHoldsLock = true then _ else _)
    rw [hup, hpc]; cases c.destroyJoinHoldsLock <;> rfl
  case callDestroy | dLock1 | dWait | dLock2 | dClean | dWaitEv =>
    intro hpc; intros
    exact move _ _ (by rw [hpc]; rfl) (by rw [hpc]; decide)
  case thr => exact fun _ _ _ _ _ _ _ => ⟨hup, hq, hjd⟩
  case cfgFail => exact fun _ _ _ => ⟨hup, hq, hjd⟩

theorem reachable_dinv {c : Cfg} (hj : c.joinHoldsLock = true) {s : St} (hr : Reachable c s) : DInv s := by
  induction hr with
  | init n w1 w2 => exact dinv_init n w1 w2
  | step st hr' h ih => exact dinv_step c hj st (reachable_linv hr') ih h

/-- With ares_reinit() as it is in the tree (test, join and creation in ONE locked section), for every thread
    program: once ares_destroy() is past its join, there is no stored handle, every reload thread ever created has
    finished, and no caller is past its test of sys_up (so none will create another thread) - also when calls were
    in progress while ares_destroy() was called.  `upstream_thread_outlives_destroy`: not so when ares_reinit()
    unlocks before its join. -/
theorem destroy_joins_last_thread {c : Cfg} (hj : c.joinHoldsLock = true) {s : St} (hr : Reachable c s)
    (hd : s.dpc = .dLock2 ∨ s.dpc = .dClean ∨ s.dpc = .dWaitEv ∨ s.dpc = .done) :
    s.handle = none ∧ (∀ (k : Nat) (r : List ROp), s.thrs[k]? = some r → r = []) ∧
      (∀ (i : Nat) (p : APc), s.pcs[i]? = some p → p = .idle ∨ p = .rLock ∨ p = .rCheck) ∧ s.sysUp = false := by
  have hdi := reachable_dinv hj hr
  have hh := reachable_hinv_locked hj hr
  have ha : afterJoin s.dpc = true := by rcases hd with h | h | h | h <;> simp [h, afterJoin]
  have hn := hdi.joined ha
  have hs : s.sysUp = false := by
    rw [hdi.up]; rcases hd with h | h | h | h <;> simp [h, marked]
  refine ⟨hn, fun k r hk => hh.retired k r hk (by simp [hn]), ?_, hs⟩
  intro i p hpi
  have := hdi.quiet hs i p hpi
  cases p <;> simp_all [inCrit]

/-- … and while ares_destroy() is in its join (or anywhere after it has reset sys_up) no caller is in, or past, the
    join of ares_reinit(): the two `ares_thread_join(channel->reinit_thread)` never run concurrently -/
theorem destroy_join_exclusive {c : Cfg} (hj : c.joinHoldsLock = true) {s : St} (hr : Reachable c s)
    (hd : s.dpc = .dJoin) {i : Nat} {p : APc} (hi : s.pcs[i]? = some p) : p ≠ .rJoin ∧ p ≠ .rSpawn ∧ p ≠ .rUnlock := by
  have hdi := reachable_dinv hj hr
  have hs : s.sysUp = false := by rw [hdi.up, hd]; rfl
  have := hdi.quiet hs i p hi
  cases p <;> simp_all [inCrit]

/-! ### The regression: reinit_pending reset in a short locked section at the start of the thread -/

/-- ares_reinit_thread() of the regression variant, as gen_reinit.py extracts it -/
def regressionProg : List ROp := [.lock, .clearPending, .unlock, .readConfig, .lock, .flush, .unlock]

def regressionCfg : Cfg := { prog := regressionProg, joinHoldsLock := true, destroyJoinHoldsLock := false }

/-- ONE caller.  Its first ares_reinit() completes; the thread resets reinit_pending, reads the configuration and is
    about to take L again; the second ares_reinit() gets past the test and joins the thread while holding L; the
    destroyer has called ares_destroy() and waits for L as well -/
def regressionSchedule : List Step :=
  [.callReinit 0, .app 0, .app 0, .app 0, .app 0, .app 0, .thr 0, .thr 0, .thr 0, .thr 0,
   .callReinit 0, .app 0, .app 0, .callDestroy]

theorem regression_rejected : NoLockAfterClear regressionProg = false := by decide

theorem regression_deadlocks :
    ∃ s, run regressionCfg (St.init 1) regressionSchedule = some s ∧ Reachable regressionCfg s ∧
      Stuck regressionCfg s ∧ terminated s = false :=
  deadlock_witness (by decide)

/-- the same with THREE callers: caller 0 (say the application) started the reload; caller 1 (say the
    configuration-change watcher) gets past the test and joins under L; caller 2 and the destroyer wait for L -/
def regressionSchedule3 : List Step :=
  [.callReinit 0, .app 0, .app 0, .app 0, .app 0, .app 0, .thr 0, .thr 0, .thr 0, .thr 0,
   .callReinit 1, .callReinit 2, .callReinit 0, .app 1, .app 1, .callDestroy]

theorem regression_deadlocks_concurrent :
    ∃ s, run regressionCfg (St.init 3) regressionSchedule3 = some s ∧ Reachable regressionCfg s ∧
      Stuck regressionCfg s ∧ terminated s = false :=
  deadlock_witness (by decide)

/-- the same reload thread is fine when ares_reinit() joins without L (upstream shape): the deadlock needs both -/
theorem regression_needs_join_under_lock :
    run { regressionCfg with joinHoldsLock := false } (St.init 1) regressionSchedule ≠ none ∧
    (∀ s, run { regressionCfg with joinHoldsLock := false } (St.init 1) regressionSchedule = some s →
      stuck { regressionCfg with joinHoldsLock := false } s = false) := by decide

/-! ### ares_destroy() joining inside its locked section deadlocks with the reload thread as it is -/

/-- A fixed copy of the configuration tools/gen_reinit.py extracts from the tree.  The concrete runs below are about
    this copy, so that they do not move with the generated file; nothing checks that it still equals
    `Generated.Reinit.cfg` (it does as the tree stands).  Only `generated_prog_ok`, `generated_destroy_ok`,
    `sysconfig_locks_balanced` and `reinit_deadlock_free` speak of the generated file. -/
def refCfg : Cfg :=
  { prog := [.readConfig, .lock, .flush, .clearPending, .unlock], joinHoldsLock := true, destroyJoinHoldsLock := false }

def destroyLockedCfg : Cfg := { refCfg with destroyJoinHoldsLock := true }

def destroyLockedSchedule : List Step :=
  [.callReinit 0, .app 0, .app 0, .app 0, .app 0, .app 0, .thr 0, .callDestroy, .destroy, .destroy, .destroy]

theorem destroy_join_under_lock_deadlocks :
    ∃ s, run destroyLockedCfg (St.init 1) destroyLockedSchedule = some s ∧ Reachable destroyLockedCfg s ∧
      Stuck destroyLockedCfg s ∧ terminated s = false :=
  deadlock_witness (by decide)

/-! ### without L and without the flag discipline two concurrent callers do leave two live reload threads -/

/-- a thread that resets reinit_pending twice (not holding L), and ares_reinit() joining without L -/
def doubleClearCfg : Cfg := { prog := [.clearPending, .clearPending, .flush], joinHoldsLock := false, destroyJoinHoldsLock := false }

/-- caller 0 gets past the test after the first reset, caller 1 after the second; both find the old thread finished
    and both create a new one -/
def doubleClearSchedule : List Step :=
  [.callReinit 0, .app 0, .app 0, .app 0, .app 0, .app 0, .thr 0,
   .callReinit 0, .app 0, .app 0, .thr 0, .callReinit 1, .app 1, .app 1, .thr 0,
   .app 0, .app 1, .app 0, .app 1]

theorem two_live_threads_without_either :
    doubleClearCfg.joinHoldsLock = false ∧ NoLockAfterClear doubleClearCfg.prog = false ∧
    ∃ s, run doubleClearCfg (St.init 2) doubleClearSchedule = some s ∧ Reachable doubleClearCfg s ∧
      s.thrs[1]? = some doubleClearCfg.prog ∧ s.thrs[2]? = some doubleClearCfg.prog := by
  have h : ∃ s, run doubleClearCfg (St.init 2) doubleClearSchedule = some s ∧
      s.thrs[1]? = some doubleClearCfg.prog ∧ s.thrs[2]? = some doubleClearCfg.prog := by decide
  obtain ⟨s, h1, h2⟩ := h
  exact ⟨by decide, by decide, s, h1, reachable_run (Reachable.init 2 0 0) _ h1, h2⟩

/-! ### upstream shape: a call in progress can create a reload thread after ares_destroy() has joined -/

/-- caller 0 (not one ares_destroy() waits for) gets past the test and unlocks; ares_destroy() runs to its end (there
    is nothing to join yet); the caller creates the thread -/
def outliveSchedule : List Step :=
  [.callReinit 0, .app 0, .app 0, .callDestroy, .destroy, .destroy, .destroy, .destroy, .destroy, .destroy, .destroy,
   .app 0, .app 0, .app 0]

theorem upstream_thread_outlives_destroy :
    ∃ s, run { refCfg with joinHoldsLock := false } (St.init 1) outliveSchedule = some s ∧
      Reachable { refCfg with joinHoldsLock := false } s ∧ s.dpc = .done ∧ s.thrs = [refCfg.prog] := by
  have h : ∃ s, run { refCfg with joinHoldsLock := false } (St.init 1) outliveSchedule = some s ∧
      s.dpc = .done ∧ s.thrs = [refCfg.prog] := by decide
  obtain ⟨s, h1, h2⟩ := h
  exact ⟨s, h1, reachable_run (Reachable.init 1 0 0) _ h1, h2⟩

/-! ### Non-vacuity: concrete runs of the system with the program of the tree (`refCfg`) -/

/-- TWO callers whose ares_reinit() calls overlap: both have called; caller 0 holds L (at its test), caller 1 is
    blocked on L (`.app 1` is not enabled); caller 0 creates thread 0 and returns; caller 1 gets L, sees
    reinit_pending and returns; the thread runs; ares_destroy() joins it: everything terminated -/
example : (run refCfg (St.init 2) [.callReinit 0, .callReinit 1, .app 0]).map
    (fun s => (s.owner, s.pcs, step refCfg s (.app 1))) = some (.caller 0, [.rCheck, .rLock], none) := by decide

example : (run refCfg (St.init 2)
    [.callReinit 0, .callReinit 1, .app 0, .app 0, .app 0, .app 0, .app 0, .app 1, .app 1,
     .thr 0, .thr 0, .thr 0, .thr 0, .thr 0,
     .callDestroy, .destroy, .destroy, .destroy, .destroy, .destroy, .destroy, .destroy]).map
    (fun s => (terminated s, s.thrs.length, s.pending)) = some (true, 1, false) := by decide

/-- overlapping calls, second shape: caller 1 calls while thread 0 (created by caller 0) still holds L; it waits for
    L, then gets past the test (the thread has reset reinit_pending), joins the finished thread under L and creates
    thread 1 while caller 0 is inside a third call, blocked on L -/
def overlapSchedule : List Step :=
  [.callReinit 0, .app 0, .app 0, .app 0, .app 0, .app 0, .thr 0, .thr 0, .thr 0, .thr 0,
   .callReinit 1, .thr 0, .app 1, .app 1, .callReinit 0, .app 1, .app 1]

example : (run refCfg (St.init 2) overlapSchedule).map
    (fun s => (s.owner, s.pcs, (step refCfg s (.app 0)).isSome)) =
    some (.caller 1, [.rLock, .rUnlock], false) := by decide

example : (run refCfg (St.init 2) overlapSchedule).map (fun s => (s.handle, s.thrs)) =
    some (some 1, [[], refCfg.prog]) := by decide

/-- the tree's program followed by one more operation after its last unlock -/
def tailCfg : Cfg := { refCfg with prog := [.readConfig, .lock, .flush, .clearPending, .unlock, .flush] }

/-- a caller waits in its join UNDER L for a thread that is still running (with `refCfg` the thread's last operation
    is its unlock, so a join under L never has to wait; with `tailCfg` it does): the thread has reset
    reinit_pending and can proceed without L (`join_terminates`) -/
example : (run tailCfg (St.init 2)
    [.callReinit 0, .app 0, .app 0, .app 0, .app 0, .app 0, .thr 0, .thr 0, .thr 0, .thr 0, .thr 0,
     .callReinit 1, .app 1, .app 1]).map
    (fun s => (s.owner, s.pcs, s.thrs, (step tailCfg s (.app 1)).isSome, (step tailCfg s (.thr 0)).isSome)) =
    some (.caller 1, [.idle, .rJoin], [[.flush]], false, true) := by decide

/-- upstream shape (join without L): caller 0 waits in its join without L while caller 1 comes and goes -/
example : (run { refCfg with joinHoldsLock := false } (St.init 2)
    [.callReinit 0, .app 0, .app 0, .app 0, .app 0, .app 0, .thr 0, .thr 0, .thr 0, .thr 0,
     .callReinit 0, .callReinit 1, .thr 0, .app 0, .app 0, .app 1, .app 1]).map
    (fun s => (s.owner, s.pcs, s.pending)) = some (.free, [.rJoin, .idle], true) := by decide

/-- a call in progress when ares_destroy() is called runs on: it sees sys_up == FALSE and returns; ares_destroy()
    waits (at `dWait`, not enabled) for the watcher (caller 0, `waitCfg = 1`) to be outside ares_reinit() -/
example : (run refCfg (St.init 1 1 1)
    [.callReinit 0, .callDestroy, .destroy, .destroy]).map
    (fun s => (s.dpc, s.pcs, step refCfg s .destroy, step refCfg s (.callReinit 0))) =
    some (.dWait, [.rLock], none, none) := by decide

example : (run refCfg (St.init 1 1 1)
    [.callReinit 0, .callDestroy, .destroy, .destroy, .app 0, .app 0,
     .destroy, .destroy, .destroy, .destroy, .destroy]).map (fun s => (terminated s, s.thrs.length)) =
    some (true, 0) := by decide

/-- ares_destroy() is called while the reload thread is live and has to wait at its join (`.destroy` is not enabled
    there) until the thread has finished -/
example : (run refCfg (St.init 1)
    [.callReinit 0, .app 0, .app 0, .app 0, .app 0, .app 0, .thr 0, .callReinit 0, .app 0, .app 0,
     .callDestroy, .destroy, .destroy, .destroy]).map (fun s => (s.dpc, step refCfg s .destroy, s.thrs.length)) =
    some (.dJoin, none, 1) := by decide

example : (run refCfg (St.init 1)
    [.callReinit 0, .app 0, .app 0, .app 0, .app 0, .app 0, .thr 0, .callReinit 0, .app 0, .app 0,
     .callDestroy, .destroy, .destroy, .destroy, .thr 0, .thr 0, .thr 0, .thr 0,
     .destroy, .destroy, .destroy, .destroy]).map terminated = some true := by decide

/-- `Reachable` is inhabited beyond the initial states: a reachable state of `refCfg` with two reload threads -/
example : ∃ s, Reachable refCfg s ∧ s.thrs.length = 2 ∧ s.pcs = [.rLock, .rUnlock] := by
  have h : ∃ s, run refCfg (St.init 2)
      [.callReinit 0, .app 0, .app 0, .app 0, .app 0, .app 0, .thr 0, .thr 0, .thr 0, .thr 0,
       .callReinit 1, .thr 0, .app 1, .app 1, .callReinit 0, .app 1, .app 1] = some s ∧
      s.thrs.length = 2 ∧ s.pcs = [.rLock, .rUnlock] := by decide
  obtain ⟨s, h1, h2⟩ := h
  exact ⟨s, reachable_run (Reachable.init 2 0 0) _ h1, h2⟩

/-- other programs the condition accepts / rejects -/
example : NoLockAfterClear [.readConfig, .lock, .flush, .clearPending, .unlock] = true := by decide
example : NoLockAfterClear [.readConfig, .lock, .flush, .clearPending, .unlock, .flush] = true := by decide
example : NoLockAfterClear [.readConfig, .lock, .flush, .unlock, .clearPending] = false := by decide  -- flag reset without L
example : NoLockAfterClear [.lock, .clearPending, .unlock, .readConfig] = false := by decide
example : NoLockAfterClear [.readConfig, .lock, .clearPending] = false := by decide                  -- exits holding L

end Cares.C11b
