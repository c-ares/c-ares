/-
C07 — the time left until a deadline is never negative and never wrong, over `ares_timeval_remaining()` as
tools/gen_timeval.py regenerates it from /repo/src/lib/ares_timeout.c on every run
(CaresModel/Generated/Timeval.lean).  ares_timeout() (the hint given to the application), the event thread's sleep and
ares_queue_wait_empty() all go through this function.

For normalised times (0 ≤ usec < 1000000):
* `remaining_normalised`: the result is normalised and non-negative (no negative timeout hint, whatever the clock says);
* `remaining_value`: in microseconds it is exactly max(0, tout - now): never later than the deadline, never earlier;
* `remaining_expired` / `remaining_zero_iff`: an overdue (or due) deadline gives exactly (0, 0), and only such a deadline does;
* `remaining_reaches_deadline`: now + time left = deadline for a deadline not yet passed (sleeping it out lands on the deadline);
* `remaining_antitone_now` / `remaining_monotone_deadline`: the time left never grows as the clock advances and is ordered like
  the deadlines (the earliest deadline gives the shortest sleep);
* `sleep_ms_covers_deadline`: the event thread's millisecond expression (Generated/EvTimeout.lean) applied to the time left ends
  the sleep strictly after the deadline and at most 1 ms late;
* `remaining_after_elapsed`: asking again after d microseconds gives exactly max(0, left - d) — an early wake-up neither loses
  nor gains time.
-/
import CaresModel.Generated.Timeval
import CaresModel.Generated.EvTimeout
namespace Cares.C07c
open Cares.Generated.Timeval

def Norm (usec : Int) : Prop := 0 ≤ usec ∧ usec < 1000000

/-- microseconds of a (sec, usec) pair -/
def us (sec usec : Int) : Int := sec * 1000000 + usec

theorem remaining_normalised (ns nu ts tu : Int) (hn : Norm nu) (ht : Norm tu) :
    0 ≤ (remaining ns nu ts tu).1 ∧ Norm (remaining ns nu ts tu).2 := by
  unfold Norm at *
  unfold remaining
  simp only []
  split
  · simp
  · rename_i h
    simp only [Bool.or_eq_true, Bool.and_eq_true, decide_eq_true_eq, not_or, not_and] at h
    split <;> rename_i h2 <;> simp only [decide_eq_true_eq] at h2 <;> simp only [] <;> omega

theorem remaining_value (ns nu ts tu : Int) (hn : Norm nu) (ht : Norm tu) :
    us (remaining ns nu ts tu).1 (remaining ns nu ts tu).2 = max 0 (us ts tu - us ns nu) := by
  unfold Norm at *
  unfold remaining us
  simp only []
  split
  · rename_i h
    simp only [Bool.or_eq_true, Bool.and_eq_true, decide_eq_true_eq] at h
    simp only [Int.zero_mul, Int.add_zero]
    omega
  · rename_i h
    simp only [Bool.or_eq_true, Bool.and_eq_true, decide_eq_true_eq, not_or, not_and] at h
    split <;> rename_i h2 <;> simp only [decide_eq_true_eq] at h2 <;> simp only [] <;> omega

theorem remaining_expired (ns nu ts tu : Int) (hn : Norm nu) (ht : Norm tu) (h : us ts tu ≤ us ns nu) :
    remaining ns nu ts tu = (0, 0) := by
  have hv := remaining_value ns nu ts tu hn ht
  have hz := remaining_normalised ns nu ts tu hn ht
  unfold Norm us at *
  have : (remaining ns nu ts tu).1 = 0 ∧ (remaining ns nu ts tu).2 = 0 := by omega
  exact Prod.ext this.1 this.2

theorem remaining_zero_iff (ns nu ts tu : Int) (hn : Norm nu) (ht : Norm tu) :
    remaining ns nu ts tu = (0, 0) ↔ us ts tu ≤ us ns nu := by
  constructor
  · intro h
    have hv := remaining_value ns nu ts tu hn ht
    rw [h] at hv
    unfold us at *
    omega
  · exact remaining_expired ns nu ts tu hn ht

/-- sleeping exactly the time left lands exactly on the deadline (never before it, never past it) -/
theorem remaining_reaches_deadline (ns nu ts tu : Int) (hn : Norm nu) (ht : Norm tu) (h : us ns nu ≤ us ts tu) :
    us ns nu + us (remaining ns nu ts tu).1 (remaining ns nu ts tu).2 = us ts tu := by
  have hv := remaining_value ns nu ts tu hn ht
  omega

/-- as the clock advances the time left never grows: a later `now` cannot produce a longer sleep for the same deadline -/
theorem remaining_antitone_now (ns nu ns' nu' ts tu : Int) (hn : Norm nu) (hn' : Norm nu') (ht : Norm tu)
    (h : us ns nu ≤ us ns' nu') :
    us (remaining ns' nu' ts tu).1 (remaining ns' nu' ts tu).2 ≤ us (remaining ns nu ts tu).1 (remaining ns nu ts tu).2 := by
  have hv := remaining_value ns nu ts tu hn ht
  have hv' := remaining_value ns' nu' ts tu hn' ht
  omega

/-- an earlier deadline never gets the longer wait: the time left is monotone in the deadline, so taking the
    earliest deadline (ares_timeout's choice) gives the shortest sleep -/
theorem remaining_monotone_deadline (ns nu ts tu ts' tu' : Int) (hn : Norm nu) (ht : Norm tu) (ht' : Norm tu')
    (h : us ts tu ≤ us ts' tu') :
    us (remaining ns nu ts tu).1 (remaining ns nu ts tu).2 ≤ us (remaining ns nu ts' tu').1 (remaining ns nu ts' tu').2 := by
  have hv := remaining_value ns nu ts tu hn ht
  have hv' := remaining_value ns nu ts' tu' hn ht'
  omega

/-- after the clock has moved by `d` microseconds (to any normalised reading), the time left has shrunk by exactly
    min(d, what was left): waking early and asking again never loses or gains time -/
theorem remaining_after_elapsed (ns nu ns' nu' ts tu : Int) (hn : Norm nu) (hn' : Norm nu') (ht : Norm tu)
    (h : us ns nu ≤ us ns' nu') :
    us (remaining ns' nu' ts tu).1 (remaining ns' nu' ts tu).2 =
      max 0 (us (remaining ns nu ts tu).1 (remaining ns nu ts tu).2 - (us ns' nu' - us ns nu)) := by
  have hv := remaining_value ns nu ts tu hn ht
  have hv' := remaining_value ns' nu' ts tu hn' ht
  omega

/-- the two regenerated pieces composed as the event thread composes them: the millisecond value it hands to the backend
    (`timeoutMs`, re-extracted from ares_event_thread()) applied to the time left (`remaining`, re-extracted from
    ares_timeval_remaining()) wakes the thread strictly after the deadline (no spinning just before it) and at most one
    millisecond late, in microseconds, for every normalised clock reading and deadline -/
theorem sleep_ms_covers_deadline (ns nu ts tu : Int) (hn : Norm nu) (ht : Norm tu) :
    let r := remaining ns nu ts tu
    let ms : Int := (Cares.Generated.Ev.timeoutMs r.1.toNat r.2.toNat : Nat)
    max (us ts tu) (us ns nu) < us ns nu + ms * 1000 ∧ us ns nu + ms * 1000 ≤ max (us ts tu) (us ns nu) + 1000 := by
  have hv := remaining_value ns nu ts tu hn ht
  have hz := remaining_normalised ns nu ts tu hn ht
  unfold Norm us at *
  simp only [Cares.Generated.Ev.timeoutMs]
  omega

/-! non-vacuity, incl. a deadline in an earlier second with a larger microsecond part (a component-wise comparison of
    (sec, usec) gets this one wrong: a negative time left) -/
example : remaining 101 100000 100 800000 = (0, 0) := by decide
example : remaining 100 800000 101 100000 = (0, 300000) := by decide
example : remaining 100 100000 102 800000 = (2, 700000) := by decide
example : remaining 100 500000 100 500000 = (0, 0) := by decide
example : us 100 800000 + us (remaining 100 800000 101 100000).1 (remaining 100 800000 101 100000).2 = us 101 100000 := by decide

end Cares.C07c
