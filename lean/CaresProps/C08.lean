import CaresLemmas.QcacheInv
/-!
# C08 — The query cache only replays fresh, matching, successful answers

Model: `Cares.Proto.Qcache` (`src/lib/ares_qcache.c`: key, insert filter/TTL rules, expiry list + case-insensitive
table with possibly coexisting equal keys, fetch, flush; TTL exposure of `ares_dns_write` / `ares_dns_rr_get_ttl`).
Histories: `Op = insert now req resp | fetch now req | flush`, `runOps` from the empty cache; requests that are
*stored* are ones the library can put on the wire (`WireReq`: one question, no `|` in the name — `ares_dns_write`
validates question names —, valid opcode); requests that are *looked up* are arbitrary API records (`ApiReq`).

* `key_injective`            — key equality (as the case-insensitive table sees it) ⇔ same opcode, RD, CD, type, class and
                               name up to case and one trailing dot; needs the numeric key format (F13) and `decide`
                               facts over the regenerated opcode / `tolower` tables;
* `hit_sound`                — for every history: a hit returns a response that an earlier `insert` of the history
                               stored for a request of the same cache class, that is still fresh
                               (`now < insert + min max_ttl ttl`), has rcode NOERROR/NXDOMAIN and no TC;
* `max_ttl_zero_never_hits`, `flush_empties`, `no_dangling`;
* `ttl_visible_decremented`  — on a hit every TTL visible through the wire path and through `ares_dns_rr_get_ttl` is
                               `(ttl − (now − insert))⁺` (needs F12 repaired: `RR_GET_TTL_DECREMENTS = 1`).
-/
namespace Cares.C08
open Cares.Proto.Qcache Cares.Generated.Proto

/-! ## table facts of the tree under check (side conditions) -/

/-- F13: type and class enter the key as numbers -/
theorem key_format_numeric : QCACHE_KEY_FORMAT = 1 := by decide

/-- F12: `ares_dns_rr_get_ttl` applies the record's `ttl_decrement` -/
theorem rr_get_ttl_decrements : RR_GET_TTL_DECREMENTS = 1 := by decide

/-- the table's hash (`ares_tolower`) and its key equality (`strcasecmp`, libc `tolower` in the C locale) fold alike -/
theorem tolower_tables_agree : ARES_TOLOWER = LIBC_TOLOWER := by decide +kernel

theorem calcKey_numeric (r : Req) : calcKey r = calcKeyWith true r := by
  unfold calcKey; rw [key_format_numeric]; rfl

/-- **key injective.**  For a request `a` the library can have stored an answer for and any request record `b`:
    the table treats their keys as equal iff they agree in opcode, RD, CD and, question by question, in type, class and
    name ignoring case and one trailing dot. -/
theorem key_injective (a b : Req) (ha : WireReq a) (hb : ApiReq b) : tkey a = tkey b ↔ sameCacheClass a b := by
  unfold tkey
  rw [calcKey_numeric, calcKey_numeric]
  constructor
  · exact sameCacheClass_of_key_eq a b ha hb
  · rintro ⟨h1, h2, h3, h4⟩
    rw [lowerAll_calcKey, lowerAll_calcKey]
    unfold opPart flagPart
    rw [h1, h2, h3, h4]

theorem effTtl_eq_min (m : Nat) (r : Resp) : effTtl m r = min m (ttlOf r) := by
  unfold effTtl; split <;> omega

theorem insert_entries (c : Cache) (now : Int) (req : Req) (resp : Resp) (e : Entry)
    (he : e ∈ (insert c now req resp).1.expire) :
    e ∈ c.expire ∨ (e.insertTs = now ∧ e.req = req ∧ e.resp = resp) := by
  by_cases hok : (insert c now req resp).2 = .ok
  · rw [(insert_ok_shape c now req resp hok).2.2] at he
    rcases (mem_slistInsert _ _ _).mp he with rfl | he
    · right; exact ⟨rfl, rfl, rfl⟩
    · left; exact he
  · rw [insert_not_ok c now req resp hok] at he; left; exact he

theorem expire_entries (c : Cache) (now : Int) (e : Entry) (he : e ∈ (expire c now).expire) : e ∈ c.expire := by
  obtain ⟨pre, hpre⟩ := expireLoop_suffix now c.expire c.table
  rw [hpre]; exact List.mem_append_right _ he

/-- every entry of a reachable cache was stored by an `insert` of the history, at the instant and for the request and
    response it records -/
theorem entries_from_inserts (ops : List Op) : ∀ (c : Cache) (past : List Op),
    (∀ e ∈ c.expire, Op.insert e.insertTs e.req e.resp ∈ past) →
    ∀ e ∈ (runOps c ops).expire, Op.insert e.insertTs e.req e.resp ∈ past ++ ops := by
  induction ops with
  | nil => intro c past h e he; simpa using h e he
  | cons op ops ih =>
    intro c past h e he
    have := ih (stepOp c op) (past ++ [op]) (by
      intro x hx
      cases op with
      | insert now req resp =>
        rcases insert_entries c now req resp x hx with hx | ⟨h1, h2, h3⟩
        · exact List.mem_append_left _ (h x hx)
        · rw [h1, h2, h3]; simp
      | fetch now req =>
        simp only [stepOp, fetch_cache] at hx
        exact List.mem_append_left _ (h x (expire_entries c now x hx))
      | flush => simp [stepOp, flush] at hx) e he
    simpa using this

theorem fetch_hit (c : Cache) (now : Int) (req : Req) (e : Entry) (dec : Nat) (h : (fetch c now req).2 = .hit e dec) :
    e ∈ (expire c now).expire ∧ (tkey req, e.eid) ∈ (expire c now).table ∧
    dec = ((now - e.insertTs) % (2 ^ UINT_BITS : Nat)).toNat := by
  unfold fetch at h
  simp only [] at h
  split at h
  · cases h
  · rename_i id hid
    split at h
    · cases h
    · rename_i e' he'
      simp only [FetchResult.hit.injEq] at h
      obtain ⟨h1, h2⟩ := h
      subst h1
      have hm := List.mem_of_find?_eq_some he'
      have hp := List.find?_some he'
      simp only [decide_eq_true_eq] at hp
      exact ⟨hm, by rw [hp]; exact tableGet_some _ _ _ hid, h2.symm⟩

theorem hit_sound_inv (c : Cache) (hc : CInv c) (now : Int) (req : Req) (hreq : ApiReq req) (e : Entry) (dec : Nat)
    (h : (fetch c now req).2 = .hit e dec) :
    e ∈ c.expire ∧ sameCacheClass e.req req ∧ now < e.insertTs + (min c.maxTtl (ttlOf e.resp) : Nat) ∧
    (e.resp.rcode = RCODE_NOERROR ∨ e.resp.rcode = RCODE_NXDOMAIN) ∧ e.resp.tc = false := by
  obtain ⟨hm, ht, _⟩ := fetch_hit c now req e dec h
  have hc1 := cinv_expire c now hc
  obtain ⟨e', he', h1, h2⟩ := hc1.live _ _ ht
  have hee : e' = e := uniq_eq hc1.uniq he' hm h1
  subst hee
  have hok := hc1.ok e' hm
  have hmax : (expire c now).maxTtl = c.maxTtl := rfl
  have hk : tkey e'.req = tkey req := by
    unfold tkey; rw [← hok.key]; exact h2
  have hfresh := expireLoop_fresh now c.expire c.table hc.sorted e' hm
  have hcache := hok.cacheable
  simp only [cacheable, Bool.and_eq_true, Bool.not_eq_true', decide_eq_true_eq] at hcache
  refine ⟨expire_entries c now e' hm, (key_injective e'.req req hok.wire hreq).mp hk, ?_, hcache.1, hcache.2⟩
  have := hok.expire
  rw [hmax, effTtl_eq_min] at this
  omega

/-- **hit sound.**  For every history of inserts (of sendable requests), fetches and flushes on a cache with any
    `max_ttl`: if a fetch at `now` for request `req` is answered from the cache, then the answer is a response that an
    earlier `insert` of the history stored, at `e.insertTs`, for a request `e.req` of the same cache class as `req`;
    it is still fresh (`now < insert + min max_ttl (lifetime its own TTLs allow)`), its rcode is NOERROR or NXDOMAIN
    and it is not truncated. -/
theorem hit_sound (maxTtl : Nat) (ops : List Op) (hops : ∀ op ∈ ops, OpOk op) (now : Int) (req : Req)
    (hreq : ApiReq req) (e : Entry) (dec : Nat)
    (h : (fetch (runOps (Cache.empty maxTtl) ops) now req).2 = .hit e dec) :
    Op.insert e.insertTs e.req e.resp ∈ ops ∧ sameCacheClass e.req req ∧
    now < e.insertTs + (min maxTtl (ttlOf e.resp) : Nat) ∧
    (e.resp.rcode = RCODE_NOERROR ∨ e.resp.rcode = RCODE_NXDOMAIN) ∧ e.resp.tc = false := by
  have hc := cinv_run ops _ (cinv_empty maxTtl) hops
  obtain ⟨h1, h2, h3, h4, h5⟩ := hit_sound_inv _ hc now req hreq e dec h
  have hmax : ∀ (ops : List Op) (c : Cache), (runOps c ops).maxTtl = c.maxTtl := by
    intro ops
    induction ops with
    | nil => intro c; rfl
    | cons op ops ih =>
      intro c
      simp only [runOps]; rw [ih]
      cases op with
      | insert now req resp => exact insert_maxTtl c now req resp
      | fetch now req => simp only [stepOp, fetch_cache]; rfl
      | flush => rfl
  rw [hmax] at h3
  refine ⟨?_, h2, h3, h4, h5⟩
  have := entries_from_inserts ops (Cache.empty maxTtl) [] (by intro x hx; simp [Cache.empty] at hx) e h1
  simpa using this

/-- the table never points at a released entry (no use-after-free in `ares_qcache_fetch`) -/
theorem no_dangling (c : Cache) (hc : CInv c) (now : Int) (req : Req) (h : (fetch c now req).2 = .dangling) : False := by
  unfold fetch at h
  simp only [] at h
  split at h
  · cases h
  · rename_i id hid
    split at h
    · rename_i hnone
      have hc1 := cinv_expire c now hc
      obtain ⟨e', he', h1, _⟩ := hc1.live _ _ (tableGet_some _ _ _ hid)
      have := List.find?_eq_none.mp hnone e' he'
      simp [h1] at this
    · cases h

theorem effTtl_zero (r : Resp) : effTtl 0 r = 0 := by unfold effTtl; split <;> omega

theorem fetch_empty (m n : Nat) (now : Int) (req : Req) :
    (fetch ⟨m, n, [], []⟩ now req).2 = .miss ∧ (fetch ⟨m, n, [], []⟩ now req).1 = ⟨m, n, [], []⟩ := by
  simp [fetch, expire, expireLoop, tableGet]

/-- **max_ttl = 0 never hits**: in every history (no assumption on the requests at all) the cache stays empty and
    every fetch misses -/
theorem max_ttl_zero_never_hits (ops : List Op) (now : Int) (req : Req) :
    (fetch (runOps (Cache.empty 0) ops) now req).2 = .miss := by
  have key : ∀ (ops : List Op) (n : Nat), ∃ n', runOps ⟨0, n, [], []⟩ ops = ⟨0, n', [], []⟩ := by
    intro ops
    induction ops with
    | nil => intro n; exact ⟨n, rfl⟩
    | cons op ops ih =>
      intro n
      simp only [runOps]
      cases op with
      | insert now req resp =>
        have : stepOp ⟨0, n, [], []⟩ (.insert now req resp) = ⟨0, n, [], []⟩ := by
          simp only [stepOp, Cares.Proto.Qcache.insert, effTtl_zero, ↓reduceIte]
          split
          · rfl
          · split <;> rfl
        rw [this]; exact ih n
      | fetch now req =>
        have : stepOp ⟨0, n, [], []⟩ (.fetch now req) = ⟨0, n, [], []⟩ := (fetch_empty 0 n now req).2
        rw [this]; exact ih n
      | flush =>
        have : stepOp ⟨0, n, [], []⟩ .flush = ⟨0, n, [], []⟩ := by simp [stepOp, flush, flushLoop]
        rw [this]; exact ih n
  obtain ⟨n', hn⟩ := key ops 0
  unfold Cache.empty
  rw [hn]
  exact (fetch_empty 0 n' now req).1

/-- **flush empties**: after `ares_qcache_flush` on any reachable cache both the list and the table are empty, so
    every fetch misses until something new is stored -/
theorem flush_empties (c : Cache) (hc : CInv c) :
    (flush c).expire = [] ∧ (flush c).table = [] ∧ ∀ now req, (fetch (flush c) now req).2 = .miss := by
  have ht : (flush c).table = [] := by simp only [flush]; exact flushLoop_empty _ _ hc.live
  refine ⟨rfl, ht, ?_⟩
  intro now req
  have : flush c = ⟨c.maxTtl, c.nextId, [], []⟩ := by
    simp only [flush, flushLoop_empty _ _ hc.live]
  rw [this]
  exact (fetch_empty _ _ now req).1

theorem flush_empties_history (maxTtl : Nat) (ops : List Op) (hops : ∀ op ∈ ops, OpOk op) (now : Int) (req : Req) :
    (fetch (runOps (Cache.empty maxTtl) (ops ++ [.flush])) now req).2 = .miss := by
  have hrun : ∀ (ops : List Op) (c : Cache), runOps c (ops ++ [.flush]) = flush (runOps c ops) := by
    intro ops
    induction ops with
    | nil => intro c; rfl
    | cons op ops ih => intro c; exact ih _
  rw [hrun]
  exact (flush_empties _ (cinv_run ops _ (cinv_empty maxTtl) hops)).2.2 now req

/-- the TTL an application should see for a record cached `dec` seconds ago -/
def expectedTtl (ttl : Nat) (dec : Nat) : Nat := ttl - dec

/-- **TTLs visible are decremented.**  For every history in which time does not run backwards (every stored response
    was stored at or before `now`) and `max_ttl` is an `unsigned int`: on a hit, `ttl_decrement` is exactly the number
    of seconds the response has been cached, and for every resource record both the wire path (`ares_dns_write`:
    legacy buffer callbacks, `ares_dns_record_duplicate`) and `ares_dns_rr_get_ttl` (record API, addrinfo) show
    `(ttl − (now − insert))⁺`. -/
theorem ttl_visible_decremented (maxTtl : Nat) (hmax : maxTtl < 2 ^ UINT_BITS) (ops : List Op)
    (hops : ∀ op ∈ ops, OpOk op) (now : Int) (hmono : ∀ t rq rs, Op.insert t rq rs ∈ ops → t ≤ now)
    (req : Req) (hreq : ApiReq req) (e : Entry) (dec : Nat)
    (h : (fetch (runOps (Cache.empty maxTtl) ops) now req).2 = .hit e dec) :
    (dec : Int) = now - e.insertTs ∧
    ∀ rr ∈ e.resp.rrs, wireTtl dec rr.ttl = expectedTtl rr.ttl dec ∧ apiTtl dec rr.ttl = expectedTtl rr.ttl dec := by
  obtain ⟨h1, _, h3, _, _⟩ := hit_sound maxTtl ops hops now req hreq e dec h
  obtain ⟨_, _, hd⟩ := fetch_hit _ now req e dec h
  have hle := hmono _ _ _ h1
  have hlt : now - e.insertTs < (2 ^ UINT_BITS : Nat) := by
    have : (min maxTtl (ttlOf e.resp) : Nat) ≤ maxTtl := Nat.min_le_left _ _
    omega
  have hdec : (dec : Int) = now - e.insertTs := by
    rw [hd, Int.emod_eq_of_lt (by omega) hlt]
    omega
  refine ⟨hdec, ?_⟩
  intro rr _
  have hw : wireTtl dec rr.ttl = expectedTtl rr.ttl dec := by
    unfold wireTtl expectedTtl; split <;> omega
  refine ⟨hw, ?_⟩
  unfold apiTtl; rw [rr_get_ttl_decrements]; simpa using hw

/-! ## the pinned tree (kernel-checked counterexamples) and non-vacuity -/

section Examples

instance (a b : Req) : Decidable (sameCacheClass a b) := by unfold sameCacheClass; infer_instance

def nameEx : Chars := strChars "example.com"
def reqDS : Req := ⟨0, true, false, [⟨nameEx, 43, 1⟩]⟩
def reqDNSKEY : Req := ⟨0, true, false, [⟨nameEx, 48, 1⟩]⟩
def respEx : Resp := ⟨7, 0, false, [⟨1, 48, 300, 0⟩, ⟨1, 1, 100, 0⟩, ⟨3, 41, 0, 0⟩]⟩

/-- F13 on the pinned tree: with the mnemonic key format a DS (43) request has the key of a DNSKEY (48) request … -/
theorem c08_f13_pinned_key_collision :
    lowerAll (calcKeyWith false reqDS) = lowerAll (calcKeyWith false reqDNSKEY) ∧ ¬ sameCacheClass reqDS reqDNSKEY ∧
    lowerAll (calcKeyWith true reqDS) ≠ lowerAll (calcKeyWith true reqDNSKEY) := by decide +kernel

/-- F12 on the pinned tree: `ares_dns_rr_get_ttl` without the decrement shows TTL 100 after 3 s instead of 97 -/
theorem c08_f12_pinned_ttl_not_decremented : (100 : Nat) ≠ expectedTtl 100 3 ∧ wireTtl 3 100 = 97 := by decide

/-- result of a fetch as plain data: `(response id, ttl_decrement, TTLs through ares_dns_rr_get_ttl)` -/
def summary : FetchResult → Option (Nat × Nat × List Nat)
  | .hit e dec => some (e.resp.id, dec, e.resp.rrs.map fun rr => apiTtl dec rr.ttl)
  | _ => none

/-- non-vacuity: a history with a hit (other spelling of the name, trailing dot), the stale boundary, and a request of
    another type -/
example :
    let c := runOps (Cache.empty 3600) [.insert 100 reqDNSKEY respEx]
    summary (fetch c 103 ⟨0, true, false, [⟨strChars "EXAMPLE.com.", 48, 1⟩]⟩).2 = some (7, 3, [297, 97, 0]) ∧
    summary (fetch c 199 reqDNSKEY).2 = some (7, 99, [201, 1, 0]) ∧
    summary (fetch c 200 reqDNSKEY).2 = none ∧
    summary (fetch c 103 reqDS).2 = none := by decide +kernel

/-- a negative answer lives for `min(ttl, MINIMUM)` of the authority SOA -/
example :
    let neg : Resp := ⟨9, 3, false, [⟨2, 6, 50, 20⟩]⟩
    let c := runOps (Cache.empty 3600) [.insert 100 reqDS neg]
    summary (fetch c 119 reqDS).2 = some (9, 19, [31]) ∧ summary (fetch c 120 reqDS).2 = none := by decide +kernel

/-- two entries under one key: the table keeps the later one; when the *older* one expires the key is removed, so the
    later (still fresh) answer is no longer found — a miss, never a stale or wrong hit -/
example :
    let r1 : Resp := ⟨1, 0, false, [⟨1, 48, 10, 0⟩]⟩
    let r2 : Resp := ⟨2, 0, false, [⟨1, 48, 100, 0⟩]⟩
    let c := runOps (Cache.empty 3600) [.insert 100 reqDNSKEY r1, .insert 101 reqDNSKEY r2]
    summary (fetch c 105 reqDNSKEY).2 = some (2, 4, [96]) ∧ summary (fetch c 110 reqDNSKEY).2 = none := by
  decide +kernel

example : WireReq reqDNSKEY ∧ ApiReq reqDS := by
  refine ⟨⟨⟨_, rfl, by decide +kernel⟩, by decide⟩, ?_⟩
  unfold ApiReq; decide

end Examples

end Cares.C08
