import CaresLemmas.TextRanges
/-!
# C15 — configuration text is parsed robustly and line-independently

Property theorems only (helper lemmas live in `CaresLemmas/Text*.lean`).  All statements quantify over
ALL byte strings (`Bytes = List Nat`, a superset of the byte strings) and all configurations.

Model (`CaresModel/Text/*`): `ares_buf_split` as the C loop (`splitLoop`), `ares_sysconfig_process_buf`
as a fold of a line step over the split lines (`processBuf` / `foldLines`), the resolv.conf,
nsswitch.conf and netsvc.conf/svc.conf line callbacks, `ares_sysconfig_set_options`,
`ares_parse_sortlist`, `ares_sconfig_append_fromstr`, the hosts file and HOSTALIASES parsers.
The model follows the tree with the repairs of F15, F16, F30-C15, F31-C15, F32-C15; the pinned
behaviour is kept (`resolvLinePinned`, `setOptions false`) for the kernel-checked counterexamples at
the end of the file.
-/
namespace Cares.C15
open Cares.Text

/-- `ares_buf_split(buf, "\n", TRIM, 0)` — the loop model — yields exactly the trimmed non-empty
    sections of plain splitting at line feeds -/
theorem split_refines_spec (bs : Bytes) : lines bs = linesSpec bs := lines_eq_spec bs

/-- splitting into lines distributes over concatenation at a line feed -/
theorem lines_append (a b : Bytes) : lines (a ++ 10 :: b) = lines a ++ lines b := Cares.Text.lines_append a b

/-- nothing but success / ENOMEM escapes the resolv.conf line callback, whatever the line -/
theorem line_step_total (ifs : Ifaces) (s : SysConfig) (l : Bytes) :
    ∃ s', resolvLine ifs s l = (.success, s') ∨ resolvLine ifs s l = (.enomem, s') := by
  refine ⟨(resolvLine ifs s l).2, ?_⟩
  rcases resolvLine_status ifs s l with h | h
  · left; rw [← h]
  · right; rw [← h]

/-- a line that is junk by the explicit decidable predicate `isJunk` changes nothing -/
theorem junk_is_noop (ifs : Ifaces) (s : SysConfig) (l : Bytes) (h : isJunk l = true) :
    resolvLine ifs s l = (.success, s) := junk_noop ifs s l h

/-- junk lines anywhere in the sequence of lines do not change the result -/
theorem line_independence (ifs : Ifaces) (s : SysConfig) (pre junk post : List Bytes)
    (hj : ∀ l ∈ junk, isJunk l = true) :
    foldLines (resolvLine ifs) s (pre ++ junk ++ post) = foldLines (resolvLine ifs) s (pre ++ post) :=
  foldLines_independence _ s pre junk post (fun l hl a => junk_is_noop ifs a l (hj l hl))

/-- the same at byte level: `parse (pre ++ "\n" ++ junk ++ "\n" ++ post) = parse (pre ++ "\n" ++ post)`
    for every text `junk` all of whose lines are junk -/
theorem line_independence_bytes (ifs : Ifaces) (s : SysConfig) (pre junk post : Bytes)
    (hj : ∀ l ∈ lines junk, isJunk l = true) :
    processBuf (resolvLine ifs) s (pre ++ 10 :: (junk ++ 10 :: post)) =
      processBuf (resolvLine ifs) s (pre ++ 10 :: post) := by
  unfold processBuf
  rw [lines_append pre, lines_append junk, lines_append pre, ← List.append_assoc]
  exact line_independence ifs s _ _ _ hj

/-- nsswitch.conf and netsvc.conf / svc.conf callbacks never fail -/
theorem db_line_step_total (s : SysConfig) (l : Bytes) :
    (nsswitchLine s l).1 = .success ∧ (svcconfLine s l).1 = .success :=
  ⟨dbLine_status _ _ s l, dbLine_status _ _ s l⟩

theorem db_junk_is_noop (s : SysConfig) (l : Bytes) :
    (dbJunk 58 [32, 9] l = true → nsswitchLine s l = (.success, s)) ∧
    (dbJunk 61 [44] l = true → svcconfLine s l = (.success, s)) :=
  ⟨dbJunk_noop _ _ s l, dbJunk_noop _ _ s l⟩

theorem db_line_independence (s : SysConfig) (pre junk post : Bytes) :
    ((∀ l ∈ lines junk, dbJunk 58 [32, 9] l = true) →
      processBuf nsswitchLine s (pre ++ 10 :: (junk ++ 10 :: post)) = processBuf nsswitchLine s (pre ++ 10 :: post)) ∧
    ((∀ l ∈ lines junk, dbJunk 61 [44] l = true) →
      processBuf svcconfLine s (pre ++ 10 :: (junk ++ 10 :: post)) = processBuf svcconfLine s (pre ++ 10 :: post)) := by
  constructor <;> intro hj <;> unfold processBuf <;>
    rw [lines_append pre, lines_append junk, lines_append pre, ← List.append_assoc] <;>
    exact foldLines_independence _ s _ _ _ (fun l hl a => dbJunk_noop _ _ a l (hj l hl))

/-- hosts file: lines that contribute no entry can be inserted anywhere without changing the parsed file -/
theorem hosts_line_independence (pre junk post : Bytes)
    (hj : ∀ l ∈ rawSplit (· == 10) junk, hostsJunk l = true) :
    parseHosts (pre ++ 10 :: (junk ++ 10 :: post)) = parseHosts (pre ++ 10 :: post) :=
  parseHosts_independence pre junk post hj

/-- HOSTALIASES file: likewise, for every looked-up name -/
theorem aliases_line_independence (noAliases : Bool) (name pre junk post : Bytes)
    (hj : ∀ l ∈ lines junk, aliasJunk l = true) :
    lookupHostaliases noAliases (.file (pre ++ 10 :: (junk ++ 10 :: post))) name =
      lookupHostaliases noAliases (.file (pre ++ 10 :: post)) name :=
  aliases_independence noAliases name pre junk post hj

/-- documented ranges of every parsed number, for every file content and every environment:
    timeout unset or a whole number of seconds ≥ 1 (≤ UINT_MAX/1000 s), tries / ndots 32-bit,
    sortlist masks ≤ 32 (IPv4) / ≤ 128 (IPv6), ports ≤ 65535, interface names ≤ 15 bytes,
    lookups a duplicate-free string over {b, f} (≤ 2 letters) -/
theorem ranges (ifs : Ifaces) (f : SysFiles) (processResolv : Bool) (localdomain resOptions : Option Bytes) :
    rangesOk (initSysconfigFiles true ifs {} f processResolv).2 = true ∧
    rangesOk (initByEnvironment (initSysconfigFiles true ifs {} f processResolv).2 localdomain resOptions).2 = true := by
  have h0 : rangesOk ({} : SysConfig) = true := by decide
  have h1 := initSysconfigFiles_ranges ifs {} f processResolv h0
  exact ⟨h1, initByEnvironment_ranges _ _ _ h1⟩

/-- what `rangesOk` says, spelled out -/
theorem ranges_spelled (c : SysConfig) (h : rangesOk c = true) :
    (c.timeoutMs = 0 ∨ (1000 ≤ c.timeoutMs ∧ c.timeoutMs % 1000 = 0 ∧ c.timeoutMs ≤ 4294967000)) ∧
    c.tries < 4294967296 ∧ c.ndots < 4294967296 ∧
    (∀ p ∈ c.sortlist, (p.addr.isV6 = false → p.mask ≤ 32) ∧ p.mask ≤ 128) ∧
    (∀ l, c.sconfig = some l → ∀ x ∈ l, x.udp ≤ 65535 ∧ x.tcp ≤ 65535 ∧ x.iface.length ≤ 15) ∧
    (∀ l, c.lookups = some l → l.length ≤ 2 ∧ ∀ ch ∈ l, ch = 98 ∨ ch = 102) := by
  obtain ⟨h1, h2, h3, h4, h5, h6⟩ := (rangesOk_iff c).mp h
  refine ⟨h1, h2, h3, ?_, ?_, ?_⟩
  · exact fun p hp => (patOk_iff p).mp (List.all_eq_true.mp h4 p hp)
  · intro l hl x hx
    unfold listOk at h5
    rw [hl] at h5
    exact (sconfOk_iff x).mp (List.all_eq_true.mp h5 x hx)
  · intro l hl
    rw [hl] at h6
    exact lookupsOk_len l h6

/-- server-list strings (`ares_sconfig_append_fromstr`, any `ignore_invalid`): ports and interface names in range -/
theorem server_ranges (ifs : Ifaces) (str : Bytes) (ign : Bool) :
    ∀ x ∈ ((appendFromStr ifs none str ign).2.getD []), x.udp ≤ 65535 ∧ x.tcp ≤ 65535 ∧ x.iface.length ≤ 15 :=
  fun x hx => (sconfOk_iff x).mp (List.all_eq_true.mp (appendFromStr_ok ifs none str ign rfl) x hx)

/-- sortlist strings (`ares_parse_sortlist`): masks in range -/
theorem sortlist_ranges (str : Bytes) :
    ∀ p ∈ (parseSortlist str).2, (p.addr.isV6 = false → p.mask ≤ 32) ∧ p.mask ≤ 128 :=
  fun p hp => (patOk_iff p).mp (List.all_eq_true.mp (parseSortlist_ok str) p hp)

/-- fixed-size destinations (explicit-check style): whatever `ares_buf_tag_fetch_string` /
    `ares_strcpy` hand out fits the destination including its terminator — `option[32]`, `value[512]`
    of the resolv.conf callback, `ll_iface[16]` of `parse_nameserver` -/
theorem fixed_buffers_never_overflow :
    (∀ cap b r, fetchString cap b = .ok r → r.length + 1 ≤ cap) ∧
    (∀ cap s, 0 < cap → (strcpyTrunc cap s).length + 1 ≤ cap) ∧
    (∀ e s, parseNameserver e = .ok s → s.iface.length + 1 ≤ 16) ∧
    (∀ line o v raw, resolvSplit line = some (o, v, raw) → o.length + 1 ≤ 32) :=
  ⟨fun cap b r h => (fetchString_len cap b r h).2, fun cap s h => strcpyTrunc_len cap s h,
    fun e s h => Nat.succ_le_succ ((sconfOk_iff s).mp (parseNameserver_ok e s h)).2.2,
    fun line o v raw h => (resolvSplit_some line o v raw h).1⟩

/-! ## The pinned tree (kernel-checked counterexamples; replayed on the implementation by the harness) -/

/-- F16: `search ,` makes the pinned callback report ENOMEM (the whole file is then abandoned) -/
theorem pinned_search_comma_drops_config :
    (processBuf (resolvLinePinned none) {} [115, 101, 97, 114, 99, 104, 32, 44, 10]).1 = .enomem ∧
    (processBuf (resolvLine none) {} [115, 101, 97, 114, 99, 104, 32, 44, 10]) = (.success, {}) := by
  decide +kernel

/-- F30-C15: a malformed sortlist line erases the sortlist read before it -/
theorem pinned_sortlist_junk_erases :
    (processBuf (resolvLinePinned none) {}
      [115, 111, 114, 116, 108, 105, 115, 116, 32, 49, 48, 46, 48, 46, 48, 46, 48, 47, 56, 10, 115, 111, 114, 116, 108, 105, 115, 116, 32, 98, 111, 103, 117, 115, 33, 10]).2.sortlist = [] ∧
    (processBuf (resolvLine none) {}
      [115, 111, 114, 116, 108, 105, 115, 116, 32, 49, 48, 46, 48, 46, 48, 46, 48, 47, 56, 10, 115, 111, 114, 116, 108, 105, 115, 116, 32, 98, 111, 103, 117, 115, 33, 10]).2.sortlist =
      [{ addr := .v4 [10, 0, 0, 0], mask := 8 }] := by
  decide +kernel

/-- F32-C15: `timeout:4294968` wraps to 704 ms on the pinned tree, saturates after the repair -/
theorem pinned_timeout_wraps :
    (setOptions false {} [116, 105, 109, 101, 111, 117, 116, 58, 52, 50, 57, 52, 57, 54, 56]).2.timeoutMs = 704 ∧
    (setOptions true {} [116, 105, 109, 101, 111, 117, 116, 58, 52, 50, 57, 52, 57, 54, 56]).2.timeoutMs = 4294967000 := by
  decide +kernel

/-! ## Non-vacuity -/

/-- a file with a comment and a bogus line in the middle: both are junk, and the parse is what the
    valid directives say -/
example : isJunk [98, 111, 103, 117, 115, 32, 108, 105, 110, 101] = true ∧ isJunk [35, 32, 99] = true := by decide +kernel

example :
    (processBuf (resolvLine none) {}
      [111, 112, 116, 105, 111, 110, 115, 32, 110, 100, 111, 116, 115, 58, 51, 32, 114, 111, 116, 97, 116, 101, 10, 35, 32, 99, 10, 98, 111, 103, 117, 115, 32, 108, 105, 110, 101, 10, 115, 101, 97, 114, 99, 104, 32, 97, 46, 98, 32, 99, 46, 100, 10]) =
    (.success, { ndots := 3, rotate := true, domains := some [[97, 46, 98], [99, 46, 100]] }) := by
  decide +kernel

/-- `isJunk` is not trivially true: a valid directive is not junk -/
example : isJunk [115, 101, 97, 114, 99, 104, 32, 97, 46, 98] = false := by decide +kernel

end Cares.C15
