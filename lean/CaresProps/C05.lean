import CaresLemmas.ChanSockProv
/-!
# C05 — only an authentic, matching response can answer a query or enter the cache

Property theorems over the channel model (`Cares.Chan`, `lean/CaresModel/Chan/Core.lean`): `bodyProcessAnswer` is the
model of `process_answer` (ares_process.c), `bodyProcessRead` of `read_conn_packets` + `ares_conn_read`'s source check,
`St.cacheInsert` of `ares_qcache_insert`.  `accepted` is the ghost log of every `(fd, query key, response)` that passed
all checks; `Authentic s fd key r` (`CaresLemmas/ChanSockAccept.lean`) spells out the checks (helper lemmas:
`ChanSockAnswer.lean`, `ChanSockProv.lean`).

The procedures of the model are open-recursive (`bodyXxx go …`); statements about a single procedure are made for every
`go`, statements about whole runs for `exec fuel call s` at every fuel.
-/
namespace Cares.C05
open Cares Cares.Chan

/-! ## the acceptance decision -/

/-- **`process_answer` accepts exactly the authentic responses**: `acceptKey s fd r = some key` — the pure decision the
    model's `process_answer` implements — holds iff, in state `s`: `r` is neither empty nor garbage, `fd` is a live
    connection, the qid table maps `r.id` to `key`, `key` is a live query *assigned to connection `fd`*, type and class
    are equal, the names are equal exactly if 0x20 is on and the query went over UDP and equal up to ASCII case otherwise,
    and `ares_cookie_validate` accepts. -/
theorem accept_iff_authentic (s : St) (fd key : Nat) (r : Reply) :
    acceptKey s fd r = some key ↔ Authentic s fd key r :=
  ⟨acceptKey_authentic, acceptKey_of_authentic⟩

/-- **`accepted_authentic`** (single step).  For recursive calls that leave the log alone (i.e. for what
    `process_answer` does itself): the log grows by at most the one entry `(fd, key, r)` for the response it was given,
    and it does so only if that response is `Authentic` in the state `s` in which `process_answer` examined it. -/
theorem accepted_authentic (go : Call → St → St × Ret) (hgo : ∀ c s, (go c s).1.accepted = s.accepted)
    (fd : Nat) (r : Reply) (s : St) :
    (bodyProcessAnswer go fd r s).1.accepted = s.accepted ∨
      ∃ key, (bodyProcessAnswer go fd r s).1.accepted = s.accepted ++ [(fd, key, r)] ∧ Authentic s fd key r := by
  rw [bodyProcessAnswer_accepted go hgo]
  cases hk : acceptKey s fd r with
  | none => exact .inl (by simp)
  | some key => exact .inr ⟨key, rfl, acceptKey_authentic hk⟩

/-- … and no other procedure appends to the log -/
theorem only_process_answer_appends (go : Call → St → St × Ret) (hgo : ∀ c s, (go c s).1.accepted = s.accepted)
    (c : Call) (s : St) (hc : ∀ fd r, c ≠ .processAnswer fd r) : (execBody go c s).1.accepted = s.accepted :=
  execBody_accepted_frame go hgo c s hc

/-- **`accepted_is_append_only`** (whole runs): every procedure, run to completion with any fuel from any state, only
    extends the log -/
theorem accepted_is_append_only (fuel : Nat) (call : Call) (s : St) :
    s.accepted <+: (exec fuel call s).1.accepted :=
  (exec_AccOK fuel call s).2.1

/-- **`accepted_authentic`** (whole runs): every entry added during a run was `Authentic` in some state with the same
    configuration.  The state is existentially quantified (the proof takes the one in which `process_answer` examined the
    entry), so over whole runs this says of an entry only what `Authentic` says of the response alone — it is not
    empty/garbage, … —; that it answers a query of the run on its connection is the single-step pair above
    (`accepted_authentic`, `only_process_answer_appends`). -/
theorem accepted_authentic_run (fuel : Nat) (call : Call) (s : St) :
    ∀ e ∈ (exec fuel call s).1.accepted.drop s.accepted.length,
      ∃ s0 : St, s0.cfg = s.cfg ∧ Authentic s0 e.1 e.2.1 e.2.2 :=
  (exec_AccOK fuel call s).2.2

/-- **The response arrived on the connection the query is currently assigned to** (true since the repair of F9:
    `process_answer` now drops a response when `query->conn != conn`) -/
theorem accepted_on_assigned_conn (go : Call → St → St × Ret) (hgo : ∀ c s, (go c s).1.accepted = s.accepted)
    (fd key : Nat) (r : Reply) (s : St)
    (h : (bodyProcessAnswer go fd r s).1.accepted = s.accepted ++ [(fd, key, r)]) :
    ∃ q c, s.query? key = some q ∧ s.conn? fd = some c ∧ q.conn = some fd := by
  rw [bodyProcessAnswer_accepted go hgo] at h
  cases hk : acceptKey s fd r with
  | none => rw [hk] at h; simp at h
  | some k =>
    rw [hk] at h
    simp only [Option.map_some, Option.toList_some, List.append_cancel_left_eq, List.cons.injEq, Prod.mk.injEq,
      true_and, and_true] at h
    subst h
    have ha := acceptKey_authentic hk
    obtain ⟨q, hq⟩ := ha.live
    obtain ⟨c, hc⟩ := ha.conn
    exact ⟨q, c, hq, hc, ha.assigned q hq⟩

/-- a response on any other connection is ignored: the state is untouched -/
theorem reply_on_other_conn_ignored (go : Call → St → St × Ret) (fd : Nat) (r : Reply) (s : St) (c : Conn)
    (id key : Nat) (q : Query) (hc : s.conn? fd = some c) (hid : s.byQid.find? (·.1 == r.id) = some (id, key))
    (hq : s.query? key = some q) (hconn : q.conn ≠ some fd) : (bodyProcessAnswer go fd r s).1 = s :=
  bodyProcessAnswer_other_conn go fd r s c id key q hc hid hq hconn

/-- a response with an id no query has, or with a different question, is ignored: the state is untouched -/
theorem unknown_id_ignored (go : Call → St → St × Ret) (fd : Nat) (r : Reply) (s : St) (c : Conn)
    (hc : s.conn? fd = some c) (hid : s.byQid.find? (·.1 == r.id) = none) : (bodyProcessAnswer go fd r s).1 = s :=
  bodyProcessAnswer_unknown_id go fd r s c hc hid

theorem wrong_question_ignored (go : Call → St → St × Ret) (fd : Nat) (r : Reply) (s : St) (c : Conn)
    (id key : Nat) (q : Query) (hc : s.conn? fd = some c) (hid : s.byQid.find? (·.1 == r.id) = some (id, key))
    (hq : s.query? key = some q) (hs : sameQuestion s.cfg q r = false) : (bodyProcessAnswer go fd r s).1 = s :=
  bodyProcessAnswer_wrong_question go fd r s c id key q hc hid hq hs

/-- the case rule of `same_questions`: with 0x20 on, a UDP query's response whose name differs only in letter case is
    *not* the same question -/
theorem case_sensitive_under_0x20 (cfg : Cfg) (q : Query) (r : Reply) (h0 : cfg.dns0x20 = true)
    (hu : q.usingTcp = false) (hn : q.name ≠ r.name) : sameQuestion cfg q r = false := by
  simp [sameQuestion, h0, hu, hn]

/-! ## the source-address check -/

/-- **`wrong_source_never_processed`**: a datagram whose source address is not the server's is taken off the socket by
    `read_conn_packets` and is gone: control passes to `read_answers` in a state `s'` that differs from `s` only in the
    socket's receive queue (and the socket-call log) — it is in no connection's in_buf, so `process_answer` never
    sees it, and `accepted`, the queries, the servers and the cache are as before. -/
theorem wrong_source_never_processed (go : Call → St → St × Ret) (fd : Nat) (s : St) (c : Conn) (v : VSock)
    (r : Reply) (rest : List Reply) (hc : s.conn? fd = some c) (hv : s.sock? fd = some v)
    (hul : c.unlinked = false) (hudp : c.tcp = false) (hf : (s.fault "recvfrom").1 = none)
    (hrx : v.rx = r :: rest) (hw : r.wrongsrc = true) :
    ∃ s', bodyProcessRead go fd s = go (.readAnswers fd) s' ∧
      s'.conns = s.conns ∧ s'.accepted = s.accepted ∧ s'.qs = s.qs ∧ s'.cache = s.cache ∧
      s'.servers = s.servers ∧ s'.requeueArr = s.requeueArr ∧
      s'.socks = s.socks.map (fun x => if x.fd == fd then { x with rx := rest } else x) :=
  bodyProcessRead_wrong_source go fd s c v r rest hc hv hul hudp hf hrx hw

/-! ## what reaches callbacks and the cache -/

/-- **`only_accepted_replies_reach_callbacks`, part 1.**  `process_answer` hands on (to `ares_requeue_query` /
    `end_query`, which hand it to the callback) only the response `r` it was given, and only after recording
    `(fd, key, r)` in `accepted` with `acceptKey s fd r = some key`: its result does not depend on how recursive calls
    behave that carry any other response, or that are made in a state whose log lacks that entry. -/
theorem process_answer_hands_on_only_accepted (go go' : Call → St → St × Ret) (fd : Nat) (r : Reply) (s : St)
    (h : ∀ cl s', (cl.rec? = none ∨
        (cl.rec? = some r ∧ ∃ key, acceptKey s fd r = some key ∧ (fd, key, r) ∈ s'.accepted)) →
      go cl s' = go' cl s') :
    bodyProcessAnswer go fd r s = bodyProcessAnswer go' fd r s :=
  bodyProcessAnswer_calls go go' fd r s h

/-- **part 2.**  Every other procedure (`ares_requeue_query`, `end_query`, the callback dispatch, …) hands on only the
    response it was itself called with (`Call.rec?`), or none. -/
theorem other_procedures_hand_on_only_their_own (go go' : Call → St → St × Ret) (c : Call) (s : St)
    (hc : ∀ fd r, c ≠ .processAnswer fd r) (hs : ∀ a b d e f g, c ≠ .sendNolock a b d e f g)
    (h : ∀ cl s', (cl.rec? = none ∨ cl.rec? = c.rec?) → go cl s' = go' cl s') :
    execBody go c s = execBody go' c s :=
  execBody_calls go go' c s hc hs h

/-- **part 3.**  `ares_send_nolock` hands on only the record of a cache entry (TTLs reduced by the time cached) … -/
theorem send_hands_on_only_cache_entries (go go' : Call → St → St × Ret) (a : Option Nat) (b d : Bool)
    (spec : ReqSpec) (ow : Owner) (re : List Nat) (s : St)
    (h : ∀ cl s', (cl.rec? = none ∨
        ∃ e ∈ s.cache, ∃ dec, cl.rec? = some { e.reply with ttls := e.reply.ttls.map (· - dec) }) →
      go cl s' = go' cl s') :
    bodySendNolock go a b d spec ow re s = bodySendNolock go' a b d spec ow re s :=
  bodySendNolock_calls go go' a b d spec ow re s h

/-- **… and `cache_provenance`**: every cache entry's record is an accepted response, in every run (whole runs, any
    fuel) starting from a state where this holds — e.g. from an empty cache. -/
theorem cache_provenance (fuel : Nat) (call : Call) (s : St)
    (h : ∀ e ∈ s.cache, ∃ fd key, (fd, key, e.reply) ∈ s.accepted) :
    ∀ e ∈ (exec fuel call s).1.cache, ∃ fd key, (fd, key, e.reply) ∈ (exec fuel call s).1.accepted :=
  exec_CacheProv fuel call s h

/-! ## non-vacuity: concrete runs (kernel-evaluated) -/

/-- two servers, default options, one observed random id -/
def s0 : St := { alive := true, servers := [{ id := 0, addr := "a" }, { id := 1, addr := "b" }], obs := { rnd2 := [7] } }
/-- after `ares_send` of one A query -/
def s1 : St := (exec 50 (.sendNolock none false false { name := "", qtype := 1 } (.user 1) []) s0).1
def goodReply : Reply := { id := 7, name := "", qtype := 1, qclass := 1, rcode := 0, an := 1, ttls := [300] }
/-- a datagram arrives on the query's socket -/
def deliver (s : St) (fd : Nat) (r : Reply) : St :=
  (exec 50 (.processRead fd) (s.modSock fd fun v => { v with rx := v.rx ++ [r] })).1

/-- the genuine response is accepted and delivered -/
example : (deliver s1 100 goodReply).accepted = [(100, 0, goodReply)] ∧ (deliver s1 100 goodReply).doneToks = [1] := by
  decide
example : acceptKey s1 100 goodReply = some 0 := by decide
/-- wrong id, wrong type, wrong source address, empty, garbage: nothing is accepted, no callback -/
example : (deliver s1 100 { goodReply with id := 8 }).accepted = [] := by decide
example : (deliver s1 100 { goodReply with qtype := 28 }).accepted = [] := by decide
example : (deliver s1 100 { goodReply with wrongsrc := true }).accepted = [] ∧
    (deliver s1 100 { goodReply with wrongsrc := true }).doneToks = [] := by decide
example : (deliver s1 100 { goodReply with empty := true }).accepted = [] := by decide

/-- the scenario of finding F9 (repaired): the query times out (`settle` is the end-of-call bookkeeping of the driver
    that files the deadline) and is re-sent on a new connection (fd 101, second server); a late response on the first
    connection is no longer accepted, the response on the new one is -/
def s2 : St := ((exec 50 .processTimeouts { s1.settle with now := 5000 }).1).settle
example : (s2.query? 0).map (·.conn) = some (some 101) ∧ (s2.conn? 100).isSome = true := by decide
example : (deliver s2 100 goodReply).accepted = [] ∧ (deliver s2 100 goodReply).doneToks = [] := by decide
example : (deliver s2 101 goodReply).accepted = [(101, 0, goodReply)] := by decide

end Cares.C05
