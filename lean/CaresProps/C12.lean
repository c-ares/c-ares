import CaresLemmas.ProtoSearch
/-!
# C12 — search-list expansion follows resolv.conf semantics

Property theorems only.  `Cares.Proto.nameList` models `ares_search_name_list` (HOSTALIASES lookup,
eligibility, the ndots rule, `ares_cat_domain`), `searchLoop` / `gaiLoop` the fold that
`search_callback` (ares_search.c) and `next_lookup` / `host_callback` (ares_getaddrinfo.c) perform over
the per-candidate outcomes.  All statements hold for every name (any byte string), every `ndots`,
domain list, flag setting, alias file content and every outcome vector.

Dots are counted as the code (and glibc) counts them: every `.` byte, escaped or not.
The model follows the tree with the repair of F21; the pinned final-status rule is kept as
`searchWalkPinned` with its kernel-checked counterexample below.
-/
namespace Cares.C12
open Cares.Text Cares.Proto

/-- the candidate list when no alias applies and the name is eligible: the name as given first iff it
    has at least `ndots` dots, otherwise last; the search domains in configured order in between -/
theorem candidates_order (c : Config) (name : Name)
    (hal : lookupHostaliases c.noAliases c.aliases name = .error .enotfound) (hel : eligible c name = true) :
    nameList c name = .ok (if dots name ≥ c.ndots then name :: c.domains.map (catDomain name)
                           else c.domains.map (catDomain name) ++ [name]) := by
  unfold nameList
  rw [hal]
  simp only [hel, Bool.not_true, Bool.false_eq_true, ↓reduceIte, labelCnt, Nat.add_sub_cancel]
  by_cases h : dots name ≥ c.ndots
  · have : ¬ dots name < c.ndots := by omega
    simp [h, this]
  · have : dots name < c.ndots := by omega
    simp [h, this]

/-- only the name itself when it ends in a dot or searching is disabled (and no alias applies) -/
theorem only_name_when_not_eligible (c : Config) (name : Name)
    (hal : lookupHostaliases c.noAliases c.aliases name = .error .enotfound)
    (h : name.getLast? = some 46 ∨ c.noSearch = true) :
    nameList c name = .ok [name] := by
  unfold nameList
  rw [hal]
  have : eligible c name = false := by
    unfold eligible
    rcases h with h | h <;> simp [h]
  simp [this]

/-- only the alias when a host alias applies -/
theorem only_alias_when_alias_applies (c : Config) (name alias : Name)
    (hal : lookupHostaliases c.noAliases c.aliases name = .ok alias) :
    nameList c name = .ok [alias] := by
  unfold nameList; rw [hal]

/-- an alias can only apply to a name without dots, with aliases enabled and HOSTALIASES set -/
theorem alias_only_for_single_label (c : Config) (name alias : Name)
    (hal : lookupHostaliases c.noAliases c.aliases name = .ok alias) :
    dots name = 0 ∧ c.noAliases = false ∧ ∃ t, c.aliases = .file t := by
  unfold lookupHostaliases at hal
  split at hal
  · simp at hal
  · rename_i hna
    split at hal
    · simp at hal
    · rename_i hdot
      refine ⟨?_, by simpa using hna, ?_⟩
      · unfold dots
        rw [List.count_eq_zero]
        intro hm
        exact hdot (by simpa using hm)
      · split at hal
        · simp at hal
        · simp at hal
        · exact ⟨_, by assumption⟩

/-- every candidate list has at least one name -/
theorem candidates_nonempty (c : Config) (name : Name) (l : List Name) (h : nameList c name = .ok l) : l ≠ [] :=
  nameList_ne_nil c name l h

/-- the names sent are exactly the candidates up to and including the first one that yields data or a
    hard error (all of them when every candidate soft-fails) — for `ares_search` and for the
    `ares_getaddrinfo` walk -/
theorem sent_names (c : Config) (name : Name) (os : List Outcome) (names : List Name)
    (h : nameList c name = .ok names) :
    (searchWalk c name os).1 = takeUntilStop names os ∧ (gaiWalk c name os).1 = takeUntilStop names os := by
  have hne := candidates_nonempty c name names h
  unfold searchWalk gaiWalk
  rw [h]
  simp only [gaiLoop_eq names hne, searchLoop_spec true names hne, List.nil_append, and_self]

/-- the walk stops at the first candidate `i` whose outcome is data or a hard error: candidates
    `0 … i` were sent in order, nothing after it, and the final status is that candidate's outcome -/
theorem stops_at_first_data_or_hard_error (c : Config) (name : Name) (os : List Outcome) (names : List Name)
    (h : nameList c name = .ok names) (i : Nat) (hi : i < names.length)
    (hstop : soft names[i] (outcomeAt os i) = false)
    (hsoft : ∀ j (hj : j < i), soft (names[j]'(by omega)) (outcomeAt os j) = true) :
    searchWalk c name os = (names.take (i + 1), outcomeAt os i) ∧
    gaiWalk c name os = (names.take (i + 1), outcomeAt os i) := by
  have hne := candidates_nonempty c name names h
  have hst : stopAt names os = some i := (stopAt_spec names os i).mpr ⟨hi, hstop, hsoft⟩
  unfold searchWalk gaiWalk
  rw [h]
  simp only [gaiLoop_eq names hne, searchLoop_spec true names hne, takeUntilStop, hst, List.nil_append, and_self]

/-- when every candidate soft-fails all of them are sent and the result is "no data" if any candidate
    existed without data, else the last candidate's status -/
theorem final_status (c : Config) (name : Name) (os : List Outcome) (names : List Name)
    (h : nameList c name = .ok names)
    (hsoft : ∀ j (hj : j < names.length), soft names[j] (outcomeAt os j) = true) :
    let final := if anyNodata names.length os then Status.enodata else outcomeAt os (names.length - 1)
    searchWalk c name os = (names, final) ∧ gaiWalk c name os = (names, final) := by
  have hne := candidates_nonempty c name names h
  have hst : stopAt names os = none := (stopAt_none names os).mpr hsoft
  unfold searchWalk gaiWalk
  rw [h]
  simp only [gaiLoop_eq names hne, searchLoop_spec true names hne, takeUntilStop, hst, List.nil_append,
    Bool.false_or, ↓reduceIte, and_self]

theorem anyNodata_iff (n : Nat) (os : List Outcome) :
    anyNodata n os = true ↔ ∃ j, j < n ∧ outcomeAt os j = .enodata := by
  unfold anyNodata
  simp [List.any_eq_true]

/-! ## The pinned tree -/

/-- F21: with `host.a.com` answered NODATA and the single-label last candidate `host` answered SERVFAIL
    the pinned `search_callback` reports SERVFAIL, not NODATA; the repaired fold reports NODATA. -/
theorem pinned_final_status_f21 :
    let c : Config := { ndots := 1, domains := [[97, 46, 99, 111, 109]] }
    (searchWalkPinned c [104, 111, 115, 116] [.enodata, .eservfail]).2 = .eservfail ∧
    (searchWalk c [104, 111, 115, 116] [.enodata, .eservfail]) =
      ([[104, 111, 115, 116, 46, 97, 46, 99, 111, 109], [104, 111, 115, 116]], .enodata) := by
  decide +kernel

/-! ## Non-vacuity -/

/-- `host`, ndots 1, domains a.com b.com: host.a.com, host.b.com, host; NXDOMAIN, data → stops at the second -/
example :
    searchWalk { ndots := 1, domains := [[97, 46, 99, 111, 109], [98, 46, 99, 111, 109]] } [104, 111, 115, 116]
      [.enotfound, .success] =
    ([[104, 111, 115, 116, 46, 97, 46, 99, 111, 109], [104, 111, 115, 116, 46, 98, 46, 99, 111, 109]], .success) := by
  decide +kernel

/-- `x.y` with ndots 1 is tried as-is first -/
example :
    (nameList { ndots := 1, domains := [[97, 46, 99, 111, 109]] } [120, 46, 121]).toOption =
      some [[120, 46, 121], [120, 46, 121, 46, 97, 46, 99, 111, 109]] := by
  decide +kernel

/-- an alias file entry `host www.example.org` replaces the whole list -/
example :
    (nameList (Config.mk 1 [[97, 46, 99, 111, 109]] false false
                (AliasSrc.file [104, 111, 115, 116, 32, 119, 119, 119, 46, 101, 120, 97, 109, 112, 108, 101, 46, 111, 114, 103, 10]))
      [104, 111, 115, 116]).toOption = some [[119, 119, 119, 46, 101, 120, 97, 109, 112, 108, 101, 46, 111, 114, 103]] := by
  decide +kernel

end Cares.C12
