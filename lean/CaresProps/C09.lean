import CaresLemmas.ChanPolicyPicks
import CaresLemmas.ChanPolicyRank
import CaresLemmas.ChanPolicyProbe
import CaresLemmas.ChanPolicyProbeGuardRun
import CaresLemmas.ChanPolicyProbeEnd
import CaresLemmas.ChanPolicyProbeCountRun
import CaresLemmas.ChanPolicyProbeFlagRun
/-!
# C09 — Server selection follows the documented failover policy

Model: the channel model `Cares.Chan` (`CaresModel/Chan/Core.lean`): `St.sortedServers` (the `ares_slist` of servers,
`server_sort_cb`), `countBest` (`count_highest_prio_servers`), the choice in `bodySendQuery` (`ares_send_query`:
first, or `ares_random_server` among the best), `St.incFailures` / `St.setGood` (`server_increment_failures`,
`server_set_good`), `bodyProbe` (`ares_probe_failed_server`).  Free choices (the rotation draw, the probe lottery) come
from the observation `s.obs`; every theorem holds for all observations.

* `sortedServers_perm`, `sortedServers_sorted` — the priority list is a permutation of the configured servers sorted
  by `(failures, id)`; `sortedServers_strict`: strictly, when the ids are distinct.
* `picks_append_only`, `chosen_is_best` — for every fuel, call and state, the ghost pick log of the result extends the
  log of the start state, and every *new* entry `(key, chosen, requested, prio)` with `requested = false` (a fresh
  attempt, not a probe / same-server EDNS resend) satisfies `PickOk`: `prio` lists exactly the configured servers in
  priority order as they were at that moment, `chosen` has the minimal failure count among all of them, and without
  rotation it is the first such in configuration order (with rotation: one of the best, `sendQuery_choice`).
* `failure_demotes`, `success_restores` — effect of a failure / success on the order (distinct ids assumed).
* `probe_only_when_eligible`, `probe_request_flags`, `probe_never_resent` — probes go only to a server with
  failures whose retry time has passed, that is not being probed and is not the user's server, only when
  `retryChance ≠ 0`; they are `noRetries` requests that bypass the cache and are never re-sent.
* whole runs (`exec fuel call s`): `probe_only_failed_servers_run` — the run with an assertion at every creation of a
  probe query (`execG`: the server has failures, its retry time has passed, the triggering request went to another
  server) is the run without assertions: no assertion ever fails; `probe_noninterference_run` — the completion of a
  probe query removes that query and changes nothing else any request can observe (frame form);
  `one_probe_per_send_partial` — on a channel without compound requests one `ares_send_nolock` creates at most two
  queries (the request and one probe; a probe's own send: one) plus two per request started by a callback reaction
  meanwhile; `send_query_probes_once` (every `go`): `ares_send_query` enters the lottery at most once, last;
  `failure_releases_probe_pending`, `failed_probe_releases_pending` — a server's failure clears `probe_pending` (F48-C09).
* the probe's completion callback releases the flag (F49-C09, repaired: `server_probe_cb` gets the probed server as its
  argument and resets `probe_pending` on every way a probe query can end): `probe_callback_releases` (closed form of
  the callback); `probe_pending_has_probe` — for every fuel, call and state, a completed run keeps the invariant
  `ProbeInv`: *a server is flagged only while a query owned by `probe <its id>` is stored*;
  `cancel_releases_probes` — after a completed `ares_cancel` every query that was linked is gone and a flagged server
  has a probe created during the cancel (none, when the callbacks start no request: then every flag is down);
  `probe_early_failure_releases` — the early failures of the probe's own `ares_send_nolock` reset the flag at once.
-/
namespace Cares.C09
open Cares.Chan

/-- the priority list is a permutation of the configured servers -/
theorem sortedServers_perm (s : St) : s.sortedServers.Perm s.servers := Cares.Chan.sortedServers_perm s

/-- sorted by `(failures, id)` -/
theorem sortedServers_sorted (s : St) : s.sortedServers.Pairwise srvLe := Cares.Chan.sortedServers_sorted s

/-- strictly sorted when the configuration indices are distinct (they are: `ares_servers_update` numbers them) -/
theorem sortedServers_strict (s : St) (h : s.IdsNodup) : s.sortedServers.Pairwise srvLt :=
  Cares.Chan.sortedServers_strict h

/-- position in the list = number of strictly better servers -/
theorem position_eq_better (s : St) (h : s.IdsNodup) (v : Server) (hv : v ∈ s.servers) :
    s.sortedServers[(s.better v).length]? = some v := Cares.Chan.position_eq_better h hv

/-- the pick log is append-only, for every procedure, fuel and state -/
theorem picks_append_only (fuel : Nat) (c : Call) (s : St) : ∃ l, (exec fuel c s).1.picks = s.picks ++ l := by
  have h := (exec_pol (c0 := s.cfg) (n0 := s.now) (ids0 := s.servers.map Server.id) (p0 := s.picks) fuel c s
    ⟨⟨rfl, rfl, rfl⟩, [], by simp, by simp⟩).2
  obtain ⟨l, hl, _⟩ := h
  exact ⟨l, hl⟩

/-- **chosen_is_best**: every entry added to the pick log by any procedure run satisfies the failover policy
    (`PickOk`, with the configuration and the server identities of the start state — neither changes during a run:
    `exec_frame`). -/
theorem chosen_is_best (fuel : Nat) (c : Call) (s : St) :
    ∃ l, (exec fuel c s).1.picks = s.picks ++ l ∧ ∀ e ∈ l, PickOk s.cfg.rotate (s.servers.map (·.id)) e :=
  (exec_pol (c0 := s.cfg) (n0 := s.now) (ids0 := s.servers.map Server.id) (p0 := s.picks) fuel c s
    ⟨⟨rfl, rfl, rfl⟩, [], by simp, by simp⟩).2

/-- the frame used above: a run changes neither the configuration, nor the clock, nor the set of servers -/
theorem run_keeps_config (fuel : Nat) (c : Call) (s : St) :
    (exec fuel c s).1.cfg = s.cfg ∧ (exec fuel c s).1.now = s.now ∧
    (exec fuel c s).1.servers.map (·.id) = s.servers.map (·.id) :=
  exec_frame (c0 := s.cfg) (n0 := s.now) (ids0 := s.servers.map Server.id) fuel c s ⟨rfl, rfl, rfl⟩

/-- `PickOk` spelled out: the chosen server of a fresh attempt has the minimal failure count over all servers -/
theorem chosen_min_failures {rot : Bool} {ids : List Nat} {key chosen : Nat} {prio : List (Nat × Nat)}
    (h : PickOk rot ids (key, chosen, false, prio)) :
    (prio.map (·.1)).Perm ids ∧ ∃ f, (chosen, f) ∈ prio ∧ ∀ id f', (id, f') ∈ prio → f ≤ f' := by
  obtain ⟨hp, _, f, hm, hmin, _⟩ := h rfl
  exact ⟨hp, f, hm, fun id f' hm' => hmin (id, f') hm'⟩

/-- … and without rotation it is the first such in configuration order -/
theorem chosen_first_in_config_order {ids : List Nat} {key chosen : Nat} {prio : List (Nat × Nat)}
    (h : PickOk false ids (key, chosen, false, prio)) :
    ∃ f, (chosen, f) ∈ prio ∧ ∀ id, (id, f) ∈ prio → chosen ≤ id := by
  obtain ⟨_, _, f, hm, _, hfirst⟩ := h rfl
  exact ⟨f, hm, fun id hm' => hfirst rfl (id, f) hm' rfl⟩

/-- what `ares_send_query` logs, exactly: the priorities are those of the state it runs in, the server is a member
    of the priority list with the minimal failure count, the head of the list unless rotation is on, and with rotation
    its index is below `countBest` -/
theorem sendQuery_choice (s : St) (srv : Server) (s1 : St) (h : sqChoose none s = (some srv, s1)) :
    srv ∈ s.servers ∧ (∀ w ∈ s.servers, srv.failures ≤ w.failures) ∧
    (s.cfg.rotate = false → s.sortedServers.head? = some srv) ∧
    (s.cfg.rotate = true → ∃ i, i < countBest s.sortedServers ∧ s.sortedServers[i]? = some srv) := by
  obtain ⟨hm, hmin, hh⟩ := sqChoose_spec s srv s1 h
  refine ⟨mem_sortedServers.1 hm, fun w hw => hmin w (mem_sortedServers.2 hw), hh, ?_⟩
  intro hrot
  unfold sqChoose at h
  simp only [hrot, ↓reduceIte] at h
  split at h
  · simp at h
  · rename_i hn
    simp only [Prod.mk.injEq] at h
    refine ⟨_, Nat.mod_lt _ ?_, h.1⟩
    exact Nat.pos_of_ne_zero (by simpa using hn)

/-- **failure_demotes** (see `Cares.Chan.failure_demotes`) -/
theorem failure_demotes (s : St) (hn : s.IdsNodup) (id : Nat) (v : Server) (hv : s.server? id = some v) (tcp : Bool) :
    let s' := s.incFailures id tcp
    let v' := failedServer s v
    s'.IdsNodup ∧ v' ∈ s'.servers ∧ v'.failures = v.failures + 1 ∧
    (∀ w, w ∈ s'.servers ↔ w = v' ∨ (w ∈ s.servers ∧ w.id ≠ id)) ∧
    (s.better v).length ≤ (s'.better v').length ∧
    (∀ w ∈ s.servers, w.id ≠ id → w.failures ≤ v.failures → s'.precedes w v') ∧
    (∀ w ∈ s.servers, w.id ≠ id → s.precedes w v → s'.precedes w v') :=
  Cares.Chan.failure_demotes hn hv tcp

/-- **success_restores** (see `Cares.Chan.success_restores`) -/
theorem success_restores (s : St) (hn : s.IdsNodup) (id : Nat) (v : Server) (hv : s.server? id = some v) (tcp : Bool) :
    let s' := s.setGood id tcp
    let v' := goodServer v
    s'.IdsNodup ∧ v' ∈ s'.servers ∧ v'.failures = 0 ∧ (∀ w ∈ s'.servers, v'.failures ≤ w.failures) ∧
    (∀ w, w ∈ s'.servers ↔ w = v' ∨ (w ∈ s.servers ∧ w.id ≠ id)) ∧
    (s'.better v').length ≤ (s.better v).length ∧
    (∀ w ∈ s.servers, w.id ≠ id → (0 < w.failures ∨ id < w.id) → s'.precedes v' w) ∧
    (∀ w ∈ s'.servers, s'.precedes w v' → w.failures = 0 ∧ w.id < id) :=
  Cares.Chan.success_restores hn hv tcp

/-- **probe_only_when_eligible.**  `ares_probe_failed_server` either does nothing (but draw the lottery), or makes exactly
    one call: a `nocache`, `noretry` copy of the question, owned by `probe`, to a configured server that has failures,
    whose retry time has passed, that is not being probed and is not the server of the triggering request — and only
    with `retryChance ≠ 0`; it marks that server as being probed first. -/
theorem probe_only_when_eligible (go : Call → St → St × Ret) (srvId key : Nat) (s : St) :
    (bodyProbe go srvId key s = (s, .ok) ∨ bodyProbe go srvId key s = (s.draw2.2, .ok)) ∨
    ∃ q pv, s.query? key = some q ∧ pv ∈ s.servers ∧ 0 < pv.failures ∧ pv.probePending = false ∧
      pv.nextRetry ≤ s.now ∧ pv.id ≠ srvId ∧ s.cfg.retryChance ≠ 0 ∧
      bodyProbe go srvId key s =
        ((go (.sendNolock (some pv.id) true true
              { name := q.name, qtype := q.qtype, qclass := q.qclass, rd := q.rd, edns := q.edns } (.probe pv.id) [])
            (s.draw2.2.modServer pv.id fun v => { v with probePending := true })).1, .ok) :=
  Cares.Chan.probe_only_when_eligible go srvId key s

/-- a probe request bypasses the cache and is created with `no_retries` -/
theorem probe_request_flags (go : Call → St → St × Ret) (reqSrv : Option Nat) (spec : ReqSpec) (pid : Nat) (s : St) :
    (∃ st s0, s0.cache = s.cache ∧
      bodySendNolock go reqSrv true true spec (.probe pid) [] s =
        ((go (.callback (.probe pid) [] st 0 none) s0).1, st)) ∨
    (∃ s', s'.cache = s.cache ∧
      (∃ q, s'.qs = s.qs ++ [q] ∧ q.key = s.nextKey ∧ q.noRetries = true ∧ q.tryCount = 0) ∧
      bodySendNolock go reqSrv true true spec (.probe pid) [] s = go (.sendQuery reqSrv s.nextKey) s') :=
  sendNolock_probe_flags go reqSrv true spec (.probe pid) [] s

/-- … and a `no_retries` request is never re-sent: `ares_requeue_query` ends it -/
theorem probe_never_resent (go : Call → St → St × Ret) (key : Nat) (st : Status) (inc : Bool)
    (rec : Option Reply) (deferred : Bool) (s : St) (q : Query) (hq : s.query? key = some q)
    (hnr : q.noRetries = true) :
    ∃ s' es, bodyRequeue go key st inc rec deferred s = ((go (.endQuery none key es rec) s').1, .timeout) :=
  let ⟨s', es, _, _, _, _, e⟩ := requeue_noRetries_ends_frame go key st inc rec deferred s q hq hnr
  ⟨s', es, e⟩

/-! ## non-vacuity: concrete runs (kernel-evaluated) -/

/-- three servers, server 0 has one failure -/
def exServers : List Server :=
  [{ id := 0, addr := "a", failures := 1 }, { id := 1, addr := "b" }, { id := 2, addr := "c" }]
def exSt : St := { alive := true, servers := exServers, obs := { rnd2 := [7, 9, 4, 11], rnd1 := [5] } }
def exSpec : ReqSpec := { name := "6578", qtype := 1 }

/-- a fresh request without rotation goes to server 1 — the first of the two servers without failures — and the log
    records the priorities `[(1,0), (2,0), (0,1)]` -/
example : (exec 60 (.sendNolock none false false exSpec (.user 1) []) exSt).1.picks =
    [(0, 1, false, [(1, 0), (2, 0), (0, 1)])] := by decide

/-- with rotation the observed draw 5 selects index `5 % countBest = 1`: server 2, one of the two best -/
example : (exec 60 (.sendNolock none false false exSpec (.user 1) []) { exSt with cfg := { rotate := true } }).1.picks =
    [(0, 2, false, [(1, 0), (2, 0), (0, 1)])] := by decide

/-- `PickOk` is not vacuous: picking server 2 without rotation violates it (server 1 has the same failure count and
    a smaller index) … -/
example : ¬ PickOk false [0, 1, 2] (0, 2, false, [(1, 0), (2, 0), (0, 1)]) := by
  intro h
  obtain ⟨_, _, f, hm, hmin, hfirst⟩ := h rfl
  have hf : f = 0 := by
    have := hmin (1, 0) (by simp)
    simpa using this
  subst hf
  have := hfirst rfl (1, 0) (by simp) rfl
  simp at this

/-- … and so does picking the failed server 0 -/
example : ¬ PickOk true [0, 1, 2] (0, 0, false, [(1, 0), (2, 0), (0, 1)]) := by
  intro h
  obtain ⟨_, _, f, hm, hmin, _⟩ := h rfl
  have hf : f = 0 := by
    have := hmin (1, 0) (by simp)
    simpa using this
  subst hf
  simp at hm

/-- with `retryChance = 1` the same request also sends a probe: a second request (key 1) explicitly to the failed
    server 0, owned by `probe 0` (the callback's argument is the probed server), with `no_retries`; server 0 is marked
    as being probed -/
example :
    let r := (exec 60 (.sendNolock none false false exSpec (.user 1) []) { exSt with cfg := { retryChance := 1 } }).1
    r.picks = [(0, 1, false, [(1, 0), (2, 0), (0, 1)]), (1, 0, true, [(1, 0), (2, 0), (0, 1)])] ∧
    r.qs.map (fun q => (q.key, q.noRetries, q.owner)) = [(0, false, .user 1), (1, true, .probe 0)] ∧
    r.servers.map (fun v => (v.id, v.probePending)) = [(0, true), (1, false), (2, false)] ∧
    r.outOfFuel = false ∧ r.modelFaults = [] := by decide

/-- a failure of server 1 moves it behind server 0 (tie on failures, larger index); a success of server 0 restores it
    to the front -/
example : (exSt.incFailures 1 false).sortedServers.map (·.id) = [2, 0, 1] ∧
    (exSt.setGood 0 false).sortedServers.map (·.id) = [0, 1, 2] ∧ exSt.IdsNodup := by
  unfold St.IdsNodup; decide

/-- **probe_only_failed_servers_run.**  `execG` is `exec` with an assertion at the entry of every nested call
    (`guardGo`): a call `sendNolock … owner := probe pid` — the creation of a probe query — asserts `probeSendOk`
    and that `pid`, the callback's argument, is the server the probe is addressed to (spelled out by
    `probe_guard_spec` below), a call `probe srvId key` (`ares_probe_failed_server`) asserts `trigOk`;
    a failed assertion aborts the run the way running out of fuel does (`probe_guard_failure_is_visible`).
    For every fuel, every call whose own entry assertion holds — every call other than those two, in particular every
    API-level one (`probeGuard_api`) — and every state, the two runs are equal: no assertion fails.  In particular
    a run that does not run out of fuel completes without a failed assertion. -/
theorem probe_only_failed_servers_run (fuel : Nat) (c : Call) (s : St) (hc : ProbeGuard c s = true) :
    execG fuel c s = exec fuel c s ∧
    ((exec fuel c s).1.outOfFuel = false → (execG fuel c s).1.outOfFuel = false) := by
  have h := execG_eq_exec fuel c s hc
  exact ⟨h, fun hf => by rw [h]; exact hf⟩

/-- what is asserted when a probe query is created: probing is configured (`retryChance ≠ 0`); a server with the
    requested id has failures, its retry time has passed at this moment, and it has just been marked as being probed;
    the most recent server choice in the pick log — the request that triggered the probe — was an ordinary attempt
    (no server requested) at a *different* server, one that had no failures.  The probe itself is sent with
    `nocache`, `noretry`, no reactions, to that server explicitly, and its callback will release that same server
    (`pid = id`). -/
theorem probe_guard_spec (srv : Option Nat) (nocache noretry : Bool) (spec : ReqSpec) (pid : Nat) (react : List Nat)
    (s : St) (h : ProbeGuard (.sendNolock srv nocache noretry spec (.probe pid) react) s = true) :
    ∃ id, srv = some id ∧ pid = id ∧ nocache = true ∧ noretry = true ∧ react = [] ∧ s.cfg.retryChance ≠ 0 ∧
      (∃ v ∈ s.servers, v.id = id ∧ 0 < v.failures ∧ v.nextRetry ≤ s.now ∧ v.probePending = true) ∧
      ∃ key chosen prio, s.picks.getLast? = some (key, chosen, false, prio) ∧ chosen ≠ id ∧ (chosen, 0) ∈ prio :=
  probeGuard_spec srv nocache noretry spec pid react s h

/-- with distinct server indices (as `ares_servers_update` assigns them) the server found eligible is the one the
    probe is addressed to (`server? id`, what `ares_send_query` looks up for a requested server) -/
theorem probe_guard_server (id : Nat) (s : St) (hn : s.IdsNodup) (h : probeSendOk id s = true) :
    ∃ v, s.server? id = some v ∧ 0 < v.failures ∧ v.nextRetry ≤ s.now ∧ v.probePending = true :=
  probeSendOk_server id s hn h

/-- every call other than `probe` and a probe's `sendNolock` carries no assertion -/
theorem probeGuard_api (c : Call) (s : St) (h1 : ∀ a b, c ≠ .probe a b)
    (h2 : ∀ a b d e p f, c ≠ .sendNolock a b d e (.probe p) f) : ProbeGuard c s = true := by
  unfold ProbeGuard
  split
  · exact absurd rfl (h2 _ _ _ _ _ _)
  · exact absurd rfl (h1 _ _)
  · rfl

/-- a failed assertion sets the sticky flag `outOfFuel`, which the rest of the guarded run never clears -/
theorem probe_guard_failure_is_visible :
    (∀ go c s, ProbeGuard c s = false → (guardGo go c s).1.outOfFuel = true) ∧
    (∀ fuel c s, s.outOfFuel = true → (execG fuel c s).1.outOfFuel = true) :=
  ⟨guardGo_fail, execG_oof⟩

/-- **probe_noninterference_run** (frame form).  The completion of a probe query — `end_query` of a query owned by
    `probe`, with any status, any answer, from any state, run to its end — removes exactly that query from the store:
    every other query keeps all its fields; the pending and completed user tokens, the events, the query cache, the
    compound requests, the deferred-requeue array, the ghost logs and the fault logs are untouched (`SameOutcome`).
    (What a probe can do to other requests is confined to the servers' state — `probe_pending`, metrics — and to the
    connection it was attached to.  The stronger form "the user callbacks of a run do not depend on `retryChance`" is
    not a theorem of the model nor a property of the code: the lottery consumes random draws, and a probe whose
    write fails closes the connection it shares with other queries to that server — see the notes.) -/
theorem probe_noninterference_run (fuel : Nat) (srv : Option Nat) (key : Nat) (st : Status) (rec : Option Reply)
    (s : St) (q : Query) (pid : Nat) (hq : s.query? key = some q) (ho : q.owner = .probe pid) :
    let r := (exec fuel (.endQuery srv key st rec) s).1
    r.outOfFuel = false → r.qs = s.qs.filter (·.key != key) ∧ SameOutcome s r := by
  intro r hf
  by_cases h2 : fuel < 2
  · have := exec_endQuery_oof fuel h2 srv key st rec s q hq
    rw [this] at hf; cases hf
  · obtain ⟨n, rfl⟩ : ∃ n, fuel = n + 2 := ⟨fuel - 2, by omega⟩
    have e : r = endProbeSt pid srv key st rec q s := by
      show (exec (n + 2) (.endQuery srv key st rec) s).1 = _
      rw [exec_endQuery_probe n srv key st rec s q pid hq ho]
    rw [e]
    exact endProbeSt_frame pid srv key st rec q s

/-- … and the callback of a probe (`server_probe_cb`, whose argument is the probed server `pid`) does exactly one
    thing, whatever the status it is called with and whoever calls it (`end_query`, the walk of `ares_cancel` /
    `ares_destroy`, an early failure inside the probe's own `ares_send_nolock`): it resets `probe_pending` of every
    server record with id `pid`.  Every other server record is untouched, no flag is set, the ids keep their order, and
    nothing outside `servers` changes (`SameOutcome`, and literally: the result is `s` with that one field rewritten).
    (Repair of finding F49-C09: in the pinned C code the callback is a no-op, and a probe ended without `end_query`
    leaves the flag set for good.) -/
theorem probe_callback_releases (fuel : Nat) (pid : Nat) (react : List Nat) (st : Status) (timeouts : Nat)
    (rec : Option Reply) (s : St) :
    let r := exec (fuel + 1) (.callback (.probe pid) react st timeouts rec) s
    r = ({ s with servers := s.servers.map fun v => if v.id == pid then { v with probePending := false } else v }, .ok) ∧
    (∀ v ∈ r.1.servers, v.id = pid → v.probePending = false) ∧
    (∀ w : Server, w.id ≠ pid → (w ∈ r.1.servers ↔ w ∈ s.servers)) ∧
    (∀ v ∈ r.1.servers, v.probePending = true → ∃ w ∈ s.servers, w.id = v.id ∧ w.probePending = true) ∧
    r.1.servers.map (·.id) = s.servers.map (·.id) ∧ SameOutcome s r.1 := by
  intro r
  have e : r = (releaseProbe pid s, .ok) := exec_callback_probe fuel pid react st timeouts rec s
  obtain ⟨h1, h2, h3, h4⟩ := releaseProbe_spec pid s
  rw [e]
  exact ⟨rfl, h1, h2, h3, h4, SameOutcome.releaseProbe pid s⟩

/-- **failure_releases_probe_pending.**  `server_increment_failures` ends the server's probe episode: afterwards every
    server with that id has `probe_pending = false`, every other server is exactly as it was, and the ids (and their
    order) are unchanged.  (Finding F48-C09, repaired in `server_increment_failures`: the pinned C code cleared the
    flag only in `end_query(server ≠ NULL)`, and a failed probe is ended with `end_query(NULL)` — after one failed
    probe the server was never probed again.  Replay of the pinned run: `corpus/C09/failover.stuck-probe.txt`.) -/
theorem failure_releases_probe_pending (s : St) (id : Nat) (tcp : Bool) :
    let s' := s.incFailures id tcp
    (∀ v ∈ s'.servers, v.id = id → v.probePending = false) ∧
    (∀ w : Server, w.id ≠ id → (w ∈ s'.servers ↔ w ∈ s.servers)) ∧
    s'.servers.map (·.id) = s.servers.map (·.id) :=
  incFailures_probePending s id tcp

/-- **failed_probe_releases_pending.**  Every way a probe fails counts a failure of the probed server and then hands
    the probe to `ares_requeue_query` — the time-out (`process_timeouts`, first conjunct, for every `go`), a
    connection that cannot be opened or a write that fails (`ares_send_query`; ECONNREFUSED on the write goes through
    `handle_conn_error` first: run `exShare` in `C09Runs.lean`).  Second conjunct, for every fuel and state: the whole
    run of that `requeue` on a probe (owner `probe pid`, `no_retries`) leaves the servers as the failure left them
    except that the probe's callback resets `probe_pending` of the probed server `pid` too (since the repair of
    F49-C09; `id = pid` on these paths), so when it completes the failed and the probed server have
    `probe_pending = false` and `ares_probe_failed_server` (which skips servers with the flag set,
    `probe_only_when_eligible`) can probe again once the retry time has passed. -/
theorem failed_probe_releases_pending :
    (∀ (go : Call → St → St × Ret) (s : St) (key : Nat) (q : Query) (c : Conn),
      s.byTimeout.head? = some key → s.query? key = some q → expired s.now q.deadline = true →
      q.conn.bind s.conn? = some c →
      bodyProcessTimeouts go s = go .processTimeouts (go (.requeue key .timeout true none false)
        ((s.modQuery key fun q => { q with timeouts := q.timeouts + 1 }).incFailures c.srv q.usingTcp)).1) ∧
    (∀ (fuel key : Nat) (st : Status) (inc : Bool) (rec : Option Reply) (deferred : Bool) (s : St) (q : Query)
      (id pid : Nat) (tcp : Bool), s.query? key = some q → q.owner = .probe pid → q.noRetries = true →
      let s1 := s.incFailures id tcp
      let r := (exec fuel (.requeue key st inc rec deferred) s1).1
      r.outOfFuel = false →
        r.servers = s1.servers.map (fun v => if v.id == pid then { v with probePending := false } else v) ∧
        ∀ v ∈ r.servers, v.id = id ∨ v.id = pid → v.probePending = false) := by
  refine ⟨?_, ?_⟩
  · intro go s key q c hh hq he hc
    unfold bodyProcessTimeouts
    simp only [hh, hq, he, hc, Bool.not_true, Bool.false_eq_true, ↓reduceIte]
  · intro fuel key st inc rec deferred s q id pid tcp hq ho hnr s1 r hf
    have hsv : r.servers = (releaseProbe pid s1).servers :=
      exec_requeue_probe_frame fuel key st inc rec deferred s1 q pid
        ((query?_incFailures s id tcp key).trans hq) ho hnr hf
    refine ⟨hsv, fun v hv hid => ?_⟩
    rw [hsv] at hv
    obtain ⟨h1, h2, _, _⟩ := releaseProbe_spec pid s1
    by_cases hp : v.id = pid
    · exact h1 v hv hp
    · rcases hid with hid | hid
      · exact (incFailures_probePending s id tcp).1 v ((h2 v hp).1 hv) hid
      · exact absurd hid hp

/-- **probe_pending_has_probe.**  `ProbeInv s` (`= ProbeInvH none s`): every stored query has a key below the
    allocation counter, and every server flagged `probe_pending` has a stored query owned by `probe <its id>`.
    For every fuel, every call and every state: a completed run keeps it (and the key counter never decreases).
    `preHole c` is `none` for every call except the two that belong to a probe episode itself — the probe's own
    `ares_send_nolock` and the probe's completion callback, `preHole = some <probed server>`: those may be entered with
    the flag of *that* server set and no query for it (`ares_probe_failed_server` sets the flag first; `ares_cancel`
    releases the query before the callback) and they too leave with the full invariant: the query now exists, or
    `server_probe_cb` has reset the flag.  This is the repaired property behind F49-C09: before the repair a probe
    ended by `ares_cancel` or by an early failure of its `ares_send_nolock` left the flag set with no probe query
    anywhere, for good. -/
theorem probe_pending_has_probe (fuel : Nat) (c : Call) (s : St) (h : ProbeInvH (preHole c) s) :
    let r := (exec fuel c s).1
    r.outOfFuel = false → ProbeInv r ∧ s.nextKey ≤ r.nextKey :=
  exec_probeInv fuel c s h

/-- every call other than a probe's own send / callback needs (and keeps) the plain invariant -/
theorem preHole_api (c : Call) (h1 : ∀ a b d e p f, c ≠ .sendNolock a b d e (.probe p) f)
    (h2 : ∀ p a b d e, c ≠ .callback (.probe p) a b d e) : preHole c = none := by
  cases c
  case sendNolock a b d e o f =>
    cases o
    case probe p => exact absurd rfl (h1 a b d e p f)
    all_goals rfl
  case callback o a b d e =>
    cases o
    case probe p => exact absurd rfl (h2 p a b d e)
    all_goals rfl
  all_goals rfl

/-- **cancel_releases_probes.**  Start state: `CancelPre s` — `ProbeInv s`, the keys linked in `all` have been
    allocated (`< nextKey`), and every stored probe query is linked in `all` (the last two follow from C01's invariant
    between API calls: the stored queries are exactly the linked ones; the first is `probe_pending_has_probe`).  For every fuel: when `ares_cancel` completes
    without raising a model fault,
    * the invariant holds again;
    * every query that was linked in `all` — the probes in flight among them — has left the store;
    * a server that is flagged afterwards has a probe query created **during** the cancel (key `≥` the old `nextKey`):
      the only way is a completion callback that starts a new request, which may legitimately probe the server again;
    * so if no query was created during the cancel (`nextKey` unchanged) — in particular on a channel without compound
      requests whose callbacks make no API calls (`clients = []`, `reactions = []`) — **every** server has
      `probe_pending = false`: each server that had a probe in flight can be probed again.
    (`ares_destroy` walks the same loop: `bodyCancelLoop` is covered by `probe_pending_has_probe`.) -/
theorem cancel_releases_probes (fuel : Nat) (s : St) (hp : CancelPre s) :
    let r := (exec fuel .cancel s).1
    r.outOfFuel = false → r.modelFaults = s.modelFaults →
      ProbeInv r ∧ (∀ k ∈ s.all, r.query? k = none) ∧
      (∀ v ∈ r.servers, v.probePending = true →
        ∃ k q, s.nextKey ≤ k ∧ r.query? k = some q ∧ q.owner = .probe v.id) ∧
      (r.nextKey = s.nextKey → ∀ v ∈ r.servers, v.probePending = false) ∧
      (s.clients = [] → s.reactions = [] → ∀ v ∈ r.servers, v.probePending = false) := by
  intro r hf hm
  obtain ⟨hinv, hle, hgone, hflag⟩ := exec_cancel_probes fuel s hp hf hm
  have hno : r.nextKey = s.nextKey → ∀ v ∈ r.servers, v.probePending = false := by
    intro hnk v hv
    cases hpv : v.probePending with
    | false => rfl
    | true =>
      obtain ⟨k, q, hk, hq, _⟩ := hflag v hv hpv
      have := hinv.1 q (query?_mem hq)
      rw [query?_key hq] at this
      have hnk' : (exec fuel .cancel s).1.nextKey = s.nextKey := hnk
      omega
  refine ⟨hinv, hgone, hflag, hno, fun hc hr => hno ?_⟩
  -- without compound requests and reactions a cancel creates no query
  have h1 := exec_count s.nextKey s.reactSeq fuel .cancel s 0 ⟨rfl, hc, by omega⟩
  have h2 : r.reactSeq = s.reactSeq := (exec_reactSeq fuel .cancel s hr).2
  have h3 : r.nextKey + 0 + 2 * s.reactSeq ≤ s.nextKey + 2 * r.reactSeq := h1.2
  have hle' : s.nextKey ≤ r.nextKey := hle
  omega

/-- **probe_early_failure_releases.**  The early failures of the probe's own `ares_send_nolock` — no server
    configured, or the request does not serialise (`nocache = true` for a probe, `probe_only_when_eligible`; in the C
    code also every out-of-memory exit before the query is linked: all of them `goto done` → callback, no
    `end_query`) — run the owner's callback on the spot; for a probe that is `server_probe_cb(server pid)`: the result
    is the state after the id draw with `probe_pending` of server `pid` reset (closed form, any fuel ≥ 2), so the
    server can be probed again.  For every `go` the shape "`callback` of the owner, then return" is
    `probe_request_flags` (first disjunct); for whole runs that continue into `ares_send_query`,
    `probe_pending_has_probe` with `c := sendNolock … (.probe pid)`. -/
theorem probe_early_failure_releases (fuel : Nat) (srv : Option Nat) (nocache noretry : Bool) (spec : ReqSpec)
    (pid : Nat) (react : List Nat) (s : St) :
    let s0 := (genQid 70000 s).2
    let run := exec (fuel + 2) (.sendNolock srv nocache noretry spec (.probe pid) react) s
    (s0.servers.isEmpty = true → run = (releaseProbe pid s0, .noserver)) ∧
    (s0.servers.isEmpty = false → nocache = true → nameTextLen spec.name > 255 →
      run = (releaseProbe pid s0, .formerr)) ∧
    (∀ v ∈ (releaseProbe pid s0).servers, v.id = pid → v.probePending = false) ∧
    (releaseProbe pid s0).servers.map (·.id) = s.servers.map (·.id) := by
  intro s0 run
  obtain ⟨h1, h2⟩ := exec_sendNolock_probe_early fuel srv nocache noretry spec pid react s
  obtain ⟨h3, _, _, h4⟩ := releaseProbe_spec pid s0
  refine ⟨h1, h2, h3, ?_⟩
  rw [h4]
  obtain ⟨o, f, e⟩ := genQid_writes 70000 s
  show (genQid 70000 s).2.servers.map _ = _
  rw [e]

/- **one_probe_per_send** (full statement): for every fuel and state, the run of one `sendNolock` creates at most one
   probe query *of its own* — not counting the queries created by the requests that completion callbacks start during
   the run (each of those is a `sendNolock` of its own, with a probe of its own).  Proved below for channels without a
   compound request (`ares_search` / `ares_getaddrinfo`: `clients = []`), with the requests started by callback
   *reactions* accounted for through the model's counter `reactSeq`.  Missing for the general case: the requests a
   compound request starts from its completion callback are not counted anywhere in the model's state, so the
   created queries cannot be attributed to the send that caused them. -/
/-- **one_probe_per_send_partial.**  Queries are numbered by `nextKey`, requests started by callback reactions by
    `reactSeq`.  On a channel without compound requests the whole run of one `ares_send_nolock` — every retry,
    connection failure, close, cancel and callback it causes included — creates at most two queries for itself (the
    request and one probe; with a requested server, as for a probe's own send, only the request) plus at most two for
    each request a reaction started during the run.  Without configured reactions: at most two (one) queries. -/
theorem one_probe_per_send_partial (fuel : Nat) (rs : Option Nat) (nocache noretry : Bool) (spec : ReqSpec)
    (owner : Owner) (react : List Nat) (s : St) (hc : s.clients = []) :
    let r := (exec fuel (.sendNolock rs nocache noretry spec owner react) s).1
    r.clients = [] ∧
    r.nextKey + 2 * s.reactSeq ≤ s.nextKey + (if rs.isSome then 1 else 2) + 2 * r.reactSeq ∧
    (s.reactions = [] → r.nextKey ≤ s.nextKey + (if rs.isSome then 1 else 2)) := by
  intro r
  obtain ⟨h1, h2⟩ := exec_sendNolock_count fuel rs nocache noretry spec owner react s hc
  refine ⟨h1, h2, fun hr => ?_⟩
  have h3 : r.reactSeq = s.reactSeq := (exec_reactSeq fuel _ s hr).2
  have h2' : r.nextKey + 2 * s.reactSeq ≤ s.nextKey + snBudget rs + 2 * r.reactSeq := h2
  rw [h3] at h2'
  show r.nextKey ≤ s.nextKey + snBudget rs
  omega

/-- the budgets behind it (no compound request, no reaction): `ares_send_query` creates at most one query — a probe —
    and only for an untried query without a requested server; `ares_probe_failed_server` at most one -/
theorem send_query_budget (fuel : Nat) (rs : Option Nat) (srvId key : Nat) (s : St) (hc : s.clients = [])
    (hr : s.reactions = []) :
    (exec fuel (.sendQuery rs key) s).1.nextKey ≤ s.nextKey + sqBudget rs key s ∧
    (exec fuel (.probe srvId key) s).1.nextKey ≤ s.nextKey + 1 := by
  have h1 := (exec_count (s.nextKey + sqBudget rs key s) s.reactSeq fuel (.sendQuery rs key) s 0 ⟨hc, by omega⟩).2
  have h2 := (exec_count (s.nextKey + 1) s.reactSeq fuel (.probe srvId key) s 0 ⟨hc, by omega⟩).2
  rw [(exec_reactSeq fuel _ s hr).2] at h1 h2
  constructor <;> omega

/-- **send_query_probes_once** (for every `go`, no hypothesis): `ares_send_query` consults the probe lottery at most
    once, as its very last step, and only for a request without a requested server that has not been tried before.
    `noProbe go` is `go` with the lottery switched off: the body either never calls `probe`, or it is the body without
    lottery followed by exactly one call `go (.probe srvId key)`.  Together with `probe_only_when_eligible` (the lottery
    makes at most one `sendNolock`, with a requested server — which therefore never enters the lottery itself) this is
    the call structure behind `one_probe_per_send_partial`. -/
theorem send_query_probes_once (go : Call → St → St × Ret) (reqSrv : Option Nat) (key : Nat) (s : St) :
    bodySendQuery go reqSrv key s = bodySendQuery (noProbe go) reqSrv key s ∨
    (reqSrv = none ∧ (∃ q, s.query? key = some q ∧ q.tryCount = 0) ∧
      (bodySendQuery (noProbe go) reqSrv key s).2 = .ok ∧
      ∃ srvId, bodySendQuery go reqSrv key s =
        ((go (.probe srvId key) (bodySendQuery (noProbe go) reqSrv key s).1).1, .ok)) :=
  bodySendQuery_once go reqSrv key s

/-! ### non-vacuity of the run theorems (more concrete runs: `CaresProps/C09Runs.lean`) -/

def exStP : St := { exSt with cfg := { retryChance := 1 } }

/-- the guarded run of the example (probe created for server 0) completes: every assertion on the way evaluates to
    true, and the probe exists at the end -/
example :
    let r := (execG 60 (.sendNolock none false false exSpec (.user 1) []) exStP).1
    r.outOfFuel = false ∧ r.qs.map (fun q => (q.key, q.owner)) = [(0, .user 1), (1, .probe 0)] ∧ r.nextKey = 2 := by
  decide

end Cares.C09
