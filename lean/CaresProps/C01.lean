import CaresLemmas.ChanWfDestroy
/-!
# C01 — every request completes exactly once, whatever happens in between

Property theorems over the channel model `Cares.Chan` (`exec fuel call s`; see `CaresModel/Chan/Core.lean`).
Helper lemmas live in `CaresLemmas/ChanWf*.lean`.

* `Inv s` — the index / ownership / token invariant (`Wf`, `ChanWfDefs.lean`) together with the bookkeeping
  invariant of the compound requests (`DebtOk`).
* `CallOk s call` — what the caller of a procedure establishes (`Pre`): e.g. the key handed to `.sendQuery` is
  linked, the owner handed to `.sendNolock` holds a token that is pending and that no live object holds.
* All theorems are stated for every fuel and are about runs that did not run out of fuel
  (`(exec fuel call s).1.outOfFuel = false`): fuel is an artefact of the model (the C code has none), and a run
  cut short by it stops in the middle of a C function, where the invariant does not hold
  (`wf_not_unconditional` below is the kernel-checked witness).
* `ares_destroy` (`.destroy`) is never called by another procedure; it has its own theorem
  (`destroy_completes_all`), `CallOk s .destroy` is `False` by definition so that theorems 1–3 do not apply to it.
-/
namespace Cares.C01
open Cares.Chan

/-- the invariant of the channel between (and inside) API calls -/
def Inv (s : St) : Prop := Wf s ∧ DebtOk none (fun _ => 0) s.sk

/-- the precondition a caller of `call` establishes: the invariant, in the form the call is entered with
    (`CallOk.inv`), and what the call needs of its arguments -/
def CallOk (s : St) (call : Call) : Prop := Pre (fun _ => 0) s call

/-- `CallOk` contains the `Wf` half of `Inv` (the `DebtOk` half comes in a form that depends on the call).  Excepted
    are `requeue` and `endQuery`, which only other procedures call, with the query concerned already off its
    connection's list (`WfS … (some key)`), and `destroy` -/
theorem CallOk.inv {s : St} {call : Call} (h : CallOk s call) (hd : call ≠ .destroy)
    (hreq : ∀ k a b c e, call ≠ .requeue k a b c e) (hend : ∀ a k b c, call ≠ .endQuery a k b c) : Wf s := by
  unfold CallOk at h
  cases call <;> first
    | exact h.1
    | exact absurd rfl hd
    | exact absurd rfl (hreq _ _ _ _ _)
    | exact absurd rfl (hend _ _ _ _)

/-- **1. the invariant is preserved** by every procedure, for every fuel, including all the re-entrant API
    calls made by the user callbacks it runs -/
theorem wf_preserved (fuel : Nat) (call : Call) (s : St) (h : CallOk s call)
    (hf : (exec fuel call s).1.outOfFuel = false) : Inv (exec fuel call s).1 :=
  ⟨(good_exec fuel h hf).wf, (good_exec fuel h hf).debt⟩

/-- **2. no use after release / double release**: the library never goes on to use a query, connection or
    compound request it has released, and no index entry dangles (`modelFaults` records exactly these events) -/
theorem no_safety_fault (fuel : Nat) (call : Call) (s : St) (h : CallOk s call)
    (hf : (exec fuel call s).1.outOfFuel = false) : (exec fuel call s).1.modelFaults = s.modelFaults :=
  (good_exec fuel h hf).step.faults

/-- **3. no callback is invoked twice**, also when callbacks start requests or cancel -/
theorem cb_at_most_once (fuel : Nat) (call : Call) (s : St) (h : CallOk s call)
    (hf : (exec fuel call s).1.outOfFuel = false) : (exec fuel call s).1.doneToks.Nodup :=
  (wf_preserved fuel call s h hf).1.tok.dN

/-- the two token lists stay apart: a request that is still pending has not had its callback, and no token is
    pending twice -/
theorem tokens_accounted (fuel : Nat) (call : Call) (s : St) (h : CallOk s call)
    (hf : (exec fuel call s).1.outOfFuel = false) :
    (∀ t ∈ (exec fuel call s).1.pendingToks, t ∉ (exec fuel call s).1.doneToks) ∧
    (exec fuel call s).1.pendingToks.Nodup :=
  ⟨(wf_preserved fuel call s h hf).1.tok.disj, (wf_preserved fuel call s h hf).1.tok.pN⟩

/-- **4a. `ares_cancel` completes everything**: every request of the application that was outstanding (in
    `all_queries`) when `ares_cancel` was called has had its callback when it returns — also the requests that a
    callback run by the cancellation completed on another path, and whatever the callbacks started or cancelled
    meanwhile -/
theorem cancel_completes_all (fuel : Nat) (s : St) (h : Inv s)
    (hf : (exec fuel .cancel s).1.outOfFuel = false) :
    ∀ q ∈ s.qs, q.key ∈ s.all → ∀ tok, q.owner = .user tok → tok ∈ (exec fuel .cancel s).1.doneToks := by
  intro q hq hk tok ho
  refine (good_exec (c := .cancel) fuel h hf).post q.key hk tok ?_
  exact ho ▸ mem_qKO_of_mem hq

/-- **4b. `ares_destroy` completes everything and leaves nothing behind.**  Called between API calls (no
    `ares_cancel` walk in progress: `listCopy = []`), and if it does not run out of fuel: the invariant holds
    afterwards, no safety fault is recorded, no callback is made twice, every linked request of the application has
    had its callback, `all_queries` and the qid table are empty, every connection that was on a server's list is
    closed (what remains, if anything, are connections an outer frame was in the middle of closing — there are none
    between API calls), and the channel is marked dead (`alive = false`, `destroyed = true`): the driver makes no
    further calls on it, and a callback made with `destroyed = true` would emit `MON:cb-after-destroy`. -/
theorem destroy_completes_all (fuel : Nat) (s : St) (h : Inv s) (hl : s.listCopy = [])
    (hf : (exec fuel .destroy s).1.outOfFuel = false) :
    Inv (exec fuel .destroy s).1 ∧
    (exec fuel .destroy s).1.modelFaults = s.modelFaults ∧
    (exec fuel .destroy s).1.doneToks.Nodup ∧
    (∀ q ∈ s.qs, q.key ∈ s.all → ∀ tok, q.owner = .user tok → tok ∈ (exec fuel .destroy s).1.doneToks) ∧
    (exec fuel .destroy s).1.all = [] ∧ (exec fuel .destroy s).1.byQid = [] ∧
    (∀ c ∈ (exec fuel .destroy s).1.conns, c.unlinked = true) ∧
    (exec fuel .destroy s).1.alive = false ∧ (exec fuel .destroy s).1.destroyed = true := by
  obtain ⟨L0, hL0⟩ := LG.exists (cid := 0) s 0
  obtain ⟨hm, ha, hb, hc, hal, hde, hdone, -⟩ := exec_destroy fuel h.1 h.2 hl hL0 hf
  refine ⟨⟨hm.wf, hm.debt⟩, hm.step.faults, hm.wf.tok.dN, ?_, ha, hb, hc, hal, hde⟩
  intro q hq hk tok ho
  refine hdone q.key (h.1.i.allIdx q.key hk) tok ?_
  exact ho ▸ mem_qKO_of_mem hq

/-! ### how the driver establishes `CallOk` -/

/-- the procedures the event loop calls need nothing but the invariant -/
theorem callOk_loop {s : St} (h : Inv s) :
    (∀ fd, CallOk s (.processRead fd)) ∧ (∀ fd, CallOk s (.processWrite fd)) ∧ CallOk s .processTimeouts ∧
    (∀ l, CallOk s (.cleanupConns l)) ∧ CallOk s .cancel :=
  ⟨fun _ => h, fun _ => h, h, fun _ => h, h⟩

/-- accepting a request with a fresh token: the driver appends the token to `pendingToks`, then calls
    `ares_send` / `ares_query` / `ares_search` / `ares_getaddrinfo` -/
theorem callOk_accept {s : St} (h : Inv s) (tok : Nat) (hb : tok < 10000 + s.reactSeq)
    (hp : tok ∉ s.pendingToks) (hd : tok ∉ s.doneToks) :
    let s' : St := { s with pendingToks := s.pendingToks ++ [tok] }
    Inv s' ∧ (∀ spec react, CallOk s' (.sendNolock none false false spec (.user tok) react)) ∧
      (∀ kind spec react fam, CallOk s' (.clientStart kind tok react spec fam)) := by
  obtain ⟨hw, hdb⟩ := h
  have ht := hw.tok
  -- no live object holds the token
  have hq : ∀ p ∈ s.sk.qKO, p.1 ∈ s.sk.idx → p.2 ≠ .user tok := fun p hpm hpi ho =>
    hp (ht.tQ p hpm hpi tok ho).1
  have hc : ∀ c ∈ s.sk.clients, c.tok ≠ tok := fun c hcm he => by
    rcases ht.tK c hcm with hk | hk
    · exact hp (he ▸ hk)
    · exact hd (he ▸ hk)
  have hw' : WfS ({ s with pendingToks := s.pendingToks ++ [tok] } : St).sk none :=
    ⟨hw.q, hw.i, hw.t, hw.c, hw.s, hw.k, ht.expect (Nat.le_refl _) hb hp hd⟩
  have hdb' : DebtOk none (fun _ => 0) ({ s with pendingToks := s.pendingToks ++ [tok] } : St).sk :=
    ⟨hdb.fresh, fun c hcm hpe hx => by
      rcases List.mem_append.mp hpe with hpe | hpe
      · exact hdb.cnt c hcm hpe hx
      · exact absurd (List.mem_singleton.mp hpe) (hc c hcm)⟩
  have hof : ({ s with pendingToks := s.pendingToks ++ [tok] } : St).sk.OwnerFree (.user tok) :=
    ⟨List.mem_append.mpr (Or.inr (List.mem_singleton.mpr rfl)), hq, hc⟩
  exact ⟨⟨hw', hdb'⟩, fun _ _ => ⟨hw', hof, hdb'⟩, fun _ _ _ _ => ⟨hw', hof, hdb'⟩⟩

/-- everything else the driver does between calls (advancing the clock, queueing replies and socket faults on
    the virtual sockets, rendering the events) leaves the skeleton of the state alone -/
theorem inv_of_sk_eq {s s' : St} (h : s'.sk = s.sk) (hi : Inv s) : Inv s' := by
  unfold Inv Wf at *
  rw [h]; exact hi

/-- the by-timeout insertions the driver replays at the end of every operation (`St.settle`) keep the
    invariant -/
theorem inv_settle {s : St} (h : Inv s) : Inv s.settle := ⟨wf_settle h.1, debt_settle h.1 h.2⟩

/-! ### non-vacuity -/

/-- a freshly initialised channel (as built by the driver's `chan` line) satisfies the invariant -/
theorem inv_init (cfg : Cfg) (srvs : List Server) (hn : (srvs.map (·.id)).Nodup)
    (hc : ∀ v ∈ srvs, v.conns = [] ∧ v.tcpConn = none) :
    Inv { cfg := cfg, alive := true, servers := srvs } := by
  have nil_all : ∀ {α : Type} {P : α → Prop}, ∀ x ∈ ([] : List α), P x := fun _ h => nomatch h
  refine ⟨⟨⟨List.nodup_nil, nil_all⟩,
    ⟨nil_all, List.nodup_nil, nil_all, nil_all, List.nodup_nil, nil_all⟩,
    ⟨List.nodup_nil, nil_all, List.nodup_nil, nil_all⟩,
    ⟨List.nodup_nil, nil_all, nil_all, nil_all, nil_all, nil_all⟩,
    ⟨?_, ?_, ?_, ?_, fun _ _ _ h => nomatch h⟩,
    ⟨List.nodup_nil, nil_all⟩,
    ⟨List.nodup_nil, List.nodup_nil, nil_all, nil_all, nil_all, nil_all, nil_all, nil_all, nil_all⟩⟩,
    ⟨fun _ _ => rfl, nil_all⟩⟩
  · show ((srvs.map Server.sk).map (·.id)).Nodup
    rw [List.map_map]; exact hn
  · intro v hv
    obtain ⟨v0, hv0, rfl⟩ := List.mem_map.mp hv
    show v0.conns.Nodup
    rw [(hc v0 hv0).1]; exact List.nodup_nil
  · intro v hv fd hfd
    obtain ⟨v0, hv0, rfl⟩ := List.mem_map.mp hv
    have : v0.conns = [] := (hc v0 hv0).1
    change fd ∈ v0.conns at hfd
    rw [this] at hfd; cases hfd
  · intro v hv fd hfd
    obtain ⟨v0, hv0, rfl⟩ := List.mem_map.mp hv
    have : v0.tcpConn = none := (hc v0 hv0).2
    change v0.tcpConn = some fd at hfd
    rw [this] at hfd; cases hfd

namespace Example

def srvs : List Server := [{ id := 0, addr := "10.0.0.1" }, { id := 1, addr := "10.0.0.2" }]
def reacts : List (Nat × Reaction) := [(0, { kind := "send", name := "6262" }), (1, { kind := "cancel" })]
/-- two servers; reaction 0 starts a new request from inside a callback, reaction 1 calls `ares_cancel` -/
def s0 : St := { ({ alive := true, servers := srvs } : St) with reactions := reacts }
def fuel : Nat := 60
def call1 : Call := .sendNolock none false false { name := "6161", qtype := 1 } (.user 1) [0, 1]
/-- 1. the application sends a request (token 1) whose callback will run reactions 0 and 1 -/
def s1 : St := (exec fuel call1 { s0 with pendingToks := s0.pendingToks ++ [1] }).1
/-- 2. 2.5 s pass: the first attempt times out and the query is retried on the second server -/
def s2 : St := (exec fuel .processTimeouts { s1.settle with now := 2500 }).1
def reply : Reply := { id := 70000, name := "6161", qtype := 1, qclass := 1, rcode := 0, an := 1, ttls := [300], len := 40 }
/-- 3. the reply arrives: the callback of token 1 runs, starts request 10000 and then cancels the channel,
    which completes 10000 with `cancelled` -/
def s3 : St := (exec fuel (.processRead 101) (s2.settle.modSock 101 fun v => { v with rx := v.rx ++ [reply] })).1

example : Inv s0 := inv_of_sk_eq (s := { alive := true, servers := srvs }) rfl
  (inv_init {} srvs (by decide) (by decide))

theorem run_completes : s1.outOfFuel = false ∧ s2.outOfFuel = false ∧ s3.outOfFuel = false := by decide +kernel

/-- what the run does: both callbacks made exactly once, nothing pending, nothing live, no safety fault -/
theorem run_result : s3.doneToks = [1, 10000] ∧ s3.pendingToks = [] ∧ s3.modelFaults = [] ∧
    s3.qs.length = 0 ∧ s3.conns.length = 0 := by decide +kernel

/-- the hypotheses of the theorems hold along this run, so their conclusions do (non-vacuously) -/
theorem run_inv : Inv s1 ∧ Inv s2 ∧ Inv s3 := by
  have h0 : Inv s0 := inv_of_sk_eq (s := { alive := true, servers := srvs }) rfl
    (inv_init {} srvs (by decide) (by decide))
  have a1 := callOk_accept h0 1 (by decide) (by decide) (by decide)
  have i1 : Inv s1 := wf_preserved fuel call1 _ (a1.2.1 _ _) run_completes.1
  have i1' : Inv { s1.settle with now := 2500 } := inv_of_sk_eq (s := s1.settle) rfl (inv_settle i1)
  have i2 : Inv s2 := wf_preserved fuel .processTimeouts _ (callOk_loop i1').2.2.1 run_completes.2.1
  have i2' : Inv (s2.settle.modSock 101 fun v => { v with rx := v.rx ++ [reply] }) :=
    inv_of_sk_eq (sk_modSock _ _ _ (fun _ => rfl)) (inv_settle i2)
  have i3 : Inv s3 := wf_preserved fuel (.processRead 101) _ ((callOk_loop i2').1 101) run_completes.2.2
  exact ⟨i1, i2, i3⟩

/-- destroying the channel while request 1 is outstanding: its callback is made (with `destruction`), its
    reactions are not run, everything is released -/
def sD : St := (exec fuel .destroy s1.settle).1

theorem destroy_result : sD.outOfFuel = false ∧ sD.doneToks = [1] ∧ sD.pendingToks = [] ∧ sD.modelFaults = [] ∧
    sD.qs.length = 0 ∧ sD.conns.length = 0 ∧ sD.alive = false ∧ s1.settle.listCopy = [] ∧ s1.settle.all = [0] := by
  decide +kernel

/-- the destroy theorem applies to this run -/
example : Inv sD ∧ sD.doneToks.Nodup ∧ sD.all = [] :=
  have h := destroy_completes_all fuel s1.settle (inv_settle run_inv.1) destroy_result.2.2.2.2.2.2.2.1
    destroy_result.1
  ⟨h.1, h.2.2.1, h.2.2.2.2.1⟩

/-! #### fuel exhaustion really breaks the invariant

With fuel 1, `process_answer` takes the answered query off its connection's list and then "calls" `end_query`,
which runs out of fuel: the run stops inside the C function, with the query still naming a connection that no
longer lists it.  This is why the theorems above are about runs that complete. -/

def bad : St := (exec 1 (.processAnswer 101 reply) s2.settle).1

theorem bad_facts : bad.outOfFuel = true ∧ (0, some 101) ∈ bad.sk.qKC ∧ bad.sk.cFQ = [(100, []), (101, [])] := by
  decide +kernel

theorem wf_not_unconditional :
    ∃ fuel call s, CallOk s call ∧ ¬ Wf (exec fuel call s).1 := by
  refine ⟨1, .processAnswer 101 reply, s2.settle, ?_, ?_⟩
  · have hi := inv_settle run_inv.2.1
    refine ⟨hi.1, ?_, hi.2⟩
    show 101 ∈ s2.settle.sk.cFQ.map (·.1)
    decide +kernel
  · intro h
    obtain ⟨c, hc, h1, h2⟩ := h.c.qc (0, some 101) bad_facts.2.1 101 rfl
    have hl : c ∈ [(100, ([] : List Nat)), (101, [])] := bad_facts.2.2 ▸ hc
    simp only [List.mem_cons, List.not_mem_nil, or_false] at hl
    rcases hl with rfl | rfl
    · cases h1
    · rcases h2 with h2 | h2
      · cases h2
      · cases h2

end Example

end Cares.C01
