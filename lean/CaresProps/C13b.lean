import CaresLemmas.ClientWalkRun
/-!
# C13b — `ares_getaddrinfo` through the channel model returns exactly the addresses of the answers

The `gai` client of the channel model (`Cares.Chan.gaiStart` / `gaiOnCb` = `ares_getaddrinfo.c`: `next_lookup`,
`next_dns_lookup`, `host_callback`, `end_hquery`) run as the fold `ClientWalk.clientRun` over the completions
of its sub-requests, grouped by candidate as in `C12b.gai_client_walk` (`famCount fam` completions per
candidate, `tail` an incomplete group).

The user callback observes the digest `"ai=" ++ addr/ttl;… ++ name=…` (`gaiDigest`).  An answer is abstract in
the channel model (`Reply`: number of records `an`, TTLs, a marker that determines the address texts through
`answerAddr`); `replyNodes r` are its addresses in record order, `evNodes e` those a completion contributes:
`replyNodes` of its answer if the sub-request's status (after `ares_query`'s rcode conversion, `effSt`) is OK,
nothing otherwise.

The *winning* candidate is the last one `gaiWalk` walks (`C12b.gai_client_walk`); its completions are
`grps[walk.1.length - 1]`.  Order: the addresses appear in **arrival order of the completions** (for
AF_UNSPEC: the sub-request that completes first comes first, whether A or AAAA), inside one answer in record
order.  (`ares_sortaddrinfo` is not part of the channel model; C13 treats it.)
-/
namespace Cares.C13b
open Cares.Chan Cares.Text Cares.Proto Cares.ClientWalk

/-- the `.finish` of a `gai` run, described by the completions `win` of the candidate it finished on -/
theorem gai_finish (cfg : Cfg) (c : Config) (hm : CfgMatches cfg c) (name : Name) (hs : Ser name)
    (hal : lookupHostaliases c.noAliases c.aliases name = .error .enotfound)
    (fam : Nat) (hfam : fam = 0 ∨ fam = 2 ∨ fam = 10)
    (honion : isOnion (hex name) = false) (hlit : isV4Literal (hex name) = false)
    (hloc : isLocalhost (hex name) = false) (hdns : DnsFirst cfg)
    (id tok : Nat) (react : List Nat) (spec : ReqSpec) (hspec : spec.name = hex name)
    (grps : List (List Ev)) (tail : List Ev)
    (hlen : ∀ g ∈ grps, g.length = famCount fam) (htail : tail.length < famCount fam)
    (f : Chan.Status × Nat × String)
    (hfin : (clientRun cfg id "gai" tok react spec fam (grps.flatten ++ tail)).fin = some f) :
    let k := (gaiWalk c name (grps.map grpOutcome)).1.length - 1
    ∃ win, grps[k]? = some win ∧ FinOk f win :=
  (gai_run cfg c hm name hs hal fam hfam honion hlit hloc hdns id tok react spec hspec grps tail hlen htail).2.2 f hfin

/-- **G2 `gai_addresses_from_replies`.**  When the request finishes with status OK, the address list of its
    digest is exactly the concatenation, in arrival order, of the addresses of the answers with status OK
    that were delivered for the winning candidate — nothing invented, duplicated or dropped (the list is
    *equal*); and `name=` is `ai->name` as those answers set it. -/
theorem gai_addresses_from_replies (cfg : Cfg) (c : Config) (hm : CfgMatches cfg c) (name : Name) (hs : Ser name)
    (hal : lookupHostaliases c.noAliases c.aliases name = .error .enotfound)
    (fam : Nat) (hfam : fam = 0 ∨ fam = 2 ∨ fam = 10)
    (honion : isOnion (hex name) = false) (hlit : isV4Literal (hex name) = false)
    (hloc : isLocalhost (hex name) = false) (hdns : DnsFirst cfg)
    (id tok : Nat) (react : List Nat) (spec : ReqSpec) (hspec : spec.name = hex name)
    (grps : List (List Ev)) (tail : List Ev)
    (hlen : ∀ g ∈ grps, g.length = famCount fam) (htail : tail.length < famCount fam)
    (t : Nat) (dg : String)
    (hfin : (clientRun cfg id "gai" tok react spec fam (grps.flatten ++ tail)).fin = some (.ok, t, dg)) :
    ∃ win, grps[(gaiWalk c name (grps.map grpOutcome)).1.length - 1]? = some win ∧
      dg = addrDigest (win.flatMap evNodes) (win.foldl evAiName "") := by
  obtain ⟨win, hwin, hd, hst⟩ := gai_finish cfg c hm name hs hal fam hfam honion hlit hloc hdns id tok react spec
    hspec grps tail hlen htail _ hfin
  refine ⟨win, hwin, ?_⟩
  rcases hst with hst | ⟨hst, _⟩
  · show dg = _
    have : dg = grpDigest win := hd
    rw [this, grpDigest_of_ok win hst.symm]; rfl
  · exact absurd (show Chan.Status.ok = Chan.Status.nodata from hst) (by decide)

/-- addresses are reported only with status OK: every other final status comes with the empty list, even
    when sub-requests of the finishing candidate had delivered addresses -/
theorem gai_no_addresses_unless_ok (cfg : Cfg) (c : Config) (hm : CfgMatches cfg c) (name : Name) (hs : Ser name)
    (hal : lookupHostaliases c.noAliases c.aliases name = .error .enotfound)
    (fam : Nat) (hfam : fam = 0 ∨ fam = 2 ∨ fam = 10)
    (honion : isOnion (hex name) = false) (hlit : isV4Literal (hex name) = false)
    (hloc : isLocalhost (hex name) = false) (hdns : DnsFirst cfg)
    (id tok : Nat) (react : List Nat) (spec : ReqSpec) (hspec : spec.name = hex name)
    (grps : List (List Ev)) (tail : List Ev)
    (hlen : ∀ g ∈ grps, g.length = famCount fam) (htail : tail.length < famCount fam)
    (st : Chan.Status) (t : Nat) (dg : String)
    (hfin : (clientRun cfg id "gai" tok react spec fam (grps.flatten ++ tail)).fin = some (st, t, dg))
    (hne : st ≠ .ok) : dg = "ai=" := by
  obtain ⟨win, _, hd, hst⟩ := gai_finish cfg c hm name hs hal fam hfam honion hlit hloc hdns id tok react spec
    hspec grps tail hlen htail _ hfin
  rcases hst with hst | ⟨_, hd'⟩
  · have : dg = grpDigest win := hd
    rw [this]
    exact grpDigest_of_ne_ok win (fun h => hne (by have : st = grpStatus win := hst; rw [this, h]))
  · exact hd'

/-- **G2 `gai_no_partial_on_cancel`.**  A request that finishes cancelled / destroyed reports no address. -/
theorem gai_no_partial_on_cancel (cfg : Cfg) (c : Config) (hm : CfgMatches cfg c) (name : Name) (hs : Ser name)
    (hal : lookupHostaliases c.noAliases c.aliases name = .error .enotfound)
    (fam : Nat) (hfam : fam = 0 ∨ fam = 2 ∨ fam = 10)
    (honion : isOnion (hex name) = false) (hlit : isV4Literal (hex name) = false)
    (hloc : isLocalhost (hex name) = false) (hdns : DnsFirst cfg)
    (id tok : Nat) (react : List Nat) (spec : ReqSpec) (hspec : spec.name = hex name)
    (grps : List (List Ev)) (tail : List Ev)
    (hlen : ∀ g ∈ grps, g.length = famCount fam) (htail : tail.length < famCount fam)
    (st : Chan.Status) (t : Nat) (dg : String)
    (hfin : (clientRun cfg id "gai" tok react spec fam (grps.flatten ++ tail)).fin = some (st, t, dg))
    (hc : st = .cancelled ∨ st = .destruction) : dg = "ai=" :=
  gai_no_addresses_unless_ok cfg c hm name hs hal fam hfam honion hlit hloc hdns id tok react spec hspec grps tail
    hlen htail st t dg hfin (by rcases hc with rfl | rfl <;> decide)

/-- … and that is what happens whenever the candidate's last sub-request completes cancelled / destroyed:
    the candidate's outcome is that status (a hard one: the walk stops, `C12b.gai_client_walk`) whatever the
    earlier sub-requests delivered, and the digest is empty -/
theorem cancel_discards_collected (name : Name) (grp : List Ev) (e : Ev)
    (h : effSt e.st e.reply = .cancelled ∨ effSt e.st e.reply = .destruction) :
    grpStatus (grp ++ [e]) = effSt e.st e.reply ∧ grpDigest (grp ++ [e]) = "ai=" ∧
    soft name (grpOutcome (grp ++ [e])) = false := by
  have h1 := candOut_cancel (grpNodes (grp ++ [e])) (grpAiName (grp ++ [e])) e h
  have hs : grpStatus (grp ++ [e]) = effSt e.st e.reply := by simp [grpStatus, h1.1]
  refine ⟨hs, by simp [grpDigest, h1.2], ?_⟩
  unfold grpOutcome; rw [hs]
  rcases h with h | h <;> rw [h] <;> rfl

/-- the sub-requests are of the requested family only (A for AF_INET, AAAA for AF_INET6, both for AF_UNSPEC);
    the client itself does not filter answers — an answer is tied to its question by the channel
    (`same_address` / question check, C05/C09) — and an answer to a question of type `qt` contributes exactly
    its `an` records rendered as addresses of that type -/
theorem requested_family_only (fam : Nat) (n : String) :
    famSpecs fam n = if fam = 2 then [(n, 1)] else if fam = 10 then [(n, 28)] else [(n, 1), (n, 28)] := by
  unfold famSpecs
  by_cases h2 : fam = 2
  · simp [h2]
  · by_cases h10 : fam = 10 <;> simp [h2, h10]

theorem reply_nodes_family (r : Reply) (qt : Nat) (hq : r.qtype = qt) (hqt : qt = 1 ∨ qt = 28) :
    replyNodes r = (List.range r.an).map fun i =>
      s!"{answerAddr qt r.mark i}/{r.ttls.getD i (r.ttls.getLastD 300)}" := by
  unfold replyNodes
  rcases hqt with rfl | rfl <;> simp [hq]

/-- nothing invented, duplicated or dropped at the level of one answer: as many nodes as records -/
theorem reply_nodes_length (r : Reply) : (replyNodes r).length = r.an := by simp [replyNodes]

theorem evNodes_spec (e : Ev) :
    evNodes e = match e.reply with
      | some r => if effSt e.st e.reply = .ok then replyNodes r else []
      | none => [] := by
  unfold evNodes
  cases e.reply <;> simp

/-! ## Non-vacuity: `host`, ndots 1, domains `a.com b.com`, AF_UNSPEC -/

namespace Example
def cfg : Cfg := { ndots := 1, domains := ["612e636f6d", "622e636f6d"] }
def c : Config := { ndots := 1, domains := [[97, 46, 99, 111, 109], [98, 46, 99, 111, 109]] }
def host : Name := [104, 111, 115, 116]
def rep (qt rcode an : Nat) : Ev :=
  { st := .ok, reply := some { id := 0, name := "686f7374", qtype := qt, qclass := 1, rcode := rcode, an := an } }
def cancelled : Ev := { st := .cancelled }

/-- host.a.com: NXDOMAIN twice; host.b.com: the AAAA answer (1 record) arrives first, then the A answer
    (2 records): all three addresses, in arrival order -/
theorem run_ok : clientRun cfg 0 "gai" 7 [] { name := "686f7374", qtype := 1 } 0
      ([[rep 1 3 0, rep 28 3 0], [rep 28 0 1, rep 1 0 2]].flatten ++ []) =
    ⟨[("686f73742e612e636f6d", 1), ("686f73742e612e636f6d", 28), ("686f73742e622e636f6d", 1),
      ("686f73742e622e636f6d", 28)],
     some (.ok, 0, "ai=2001::1/300;10.0.0.1/300;10.0.0.2/300;name=host")⟩ := by
  refine (gai_run_eval cfg 0 7 [] { name := "686f7374", qtype := 1 } 0 _ rfl (by decide +kernel)
    host_not_literal).trans ?_
  decide +kernel

/-- the hypotheses of `gai_addresses_from_replies` hold on this run, and its conclusion is the digest above -/
example : ∃ win, [[rep 1 3 0, rep 28 3 0], [rep 28 0 1, rep 1 0 2]][
      (gaiWalk c host ([[rep 1 3 0, rep 28 3 0], [rep 28 0 1, rep 1 0 2]].map grpOutcome)).1.length - 1]? = some win ∧
    "ai=2001::1/300;10.0.0.1/300;10.0.0.2/300;name=host" = addrDigest (win.flatMap evNodes) (win.foldl evAiName "") :=
  gai_addresses_from_replies cfg c ⟨rfl, by decide, rfl, by decide⟩ host (by decide) rfl 0 (Or.inl rfl)
    (by decide +kernel) host_not_literal (by decide +kernel) ⟨0, [], by decide, by decide⟩ 0 7 []
    { name := "686f7374", qtype := 1 } (by decide) _ [] (by decide) (by decide) 0 _
    (by rw [run_ok])

example : addrDigest ([rep 28 0 1, rep 1 0 2].flatMap evNodes) ([rep 28 0 1, rep 1 0 2].foldl evAiName "") =
    "ai=2001::1/300;10.0.0.1/300;10.0.0.2/300;name=host" := by decide +kernel

/-- the A answer delivers two addresses, then the AAAA sub-request completes cancelled (`ares_cancel`):
    ECANCELLED and no address -/
example : clientRun cfg 0 "gai" 7 [] { name := "686f7374", qtype := 1 } 0 [rep 1 0 2, cancelled] =
    ⟨[("686f73742e612e636f6d", 1), ("686f73742e612e636f6d", 28)], some (.cancelled, 0, "ai=")⟩ := by
  refine (gai_run_eval cfg 0 7 [] { name := "686f7374", qtype := 1 } 0 _ rfl (by decide +kernel)
    host_not_literal).trans ?_
  decide +kernel

end Example

end Cares.C13b
